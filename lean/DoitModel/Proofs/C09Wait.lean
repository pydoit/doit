import DoitModel.Proofs.C09Flight
/-! # C09 — the wait sets are backed by `waiting_me`: an awaited task exists, knows its waiter, and is unfinished or
    still out at the runner; a parked node awaits something; `wait_select` is never set by the built-in runners

`InvE9` is proved operation by operation of the dispatcher, then for both runners at once through `DispMove`
(`Proofs/DispMove.lean`), along which "no cyclic error on an acyclic graph" is preserved as well. -/
namespace DoitModel.Run

variable {inp : RunInput}

/-- `_gen_node` has already been called for every member of the list being iterated that is not in `todo` any more -/
def SnapCreated (inp : RunInput) (s : Sys) (n : Name) (nd : Node) : Prop :=
  match nd.pc with
  | .calcIter todo => ∀ d ∈ nd.snapCalc, d ∈ todo ∨ created s d
  | .taskIter todo => ∀ d ∈ nd.snapTask, d ∈ todo ∨ created s d
  | .setupIter todo => ∀ d ∈ inp.setup n, d ∈ todo ∨ created s d
  | _ => True

/-- `w` waits for `d` and will be woken.  `d ∈ s.dispatched` covers the window between `process_task_result` (final status)
    and the `send` that wakes the waiters. -/
def Registered (s : Sys) (w d : Name) : Prop :=
  ∃ x, s.nodes d = some x ∧ w ∈ x.waitingMe ∧ (x.status.finished = false ∨ d ∈ s.dispatched)

/-- `e` only while the generator has not crashed: `send` ending in the failed assertion of `_update_waiting` has dropped
    `p` from `dispatched` while waiters still list it -/
structure InvE9 (inp : RunInput) (s : Sys) : Prop where
  nw : ∀ n nd, s.nodes n = some nd → nd.waitSelect = false
  w : ∀ w ∈ s.waiting, ∃ nd, s.nodes w = some nd ∧ (nd.waitRun ≠ [] ∨ nd.waitRunCalc ≠ [])
  sc : ∀ n nd, s.nodes n = some nd → SnapCreated inp s n nd
  e : s.susp ≠ some .crash → ∀ w nd d, s.nodes w = some nd → (d ∈ nd.waitRun ∨ d ∈ nd.waitRunCalc) → Registered s w d

theorem init_invE9 (inp : RunInput) : InvE9 inp (init inp) := by
  refine ⟨?_, ?_, ?_, ?_⟩
  · intro n nd h; simp [init] at h
  · intro w h; simp [init] at h
  · intro n nd h; simp [init] at h
  · intro _ w nd d h; simp [init] at h

theorem SnapCreated.mono {s s' : Sys} {n : Name} {a b : Node} (h : SnapCreated inp s n a) (k : Keeps s s')
    (e1 : b.pc = a.pc) (e2 : b.snapTask = a.snapTask) (e3 : b.snapCalc = a.snapCalc) : SnapCreated inp s' n b := by
  unfold SnapCreated at *
  rw [e1, e2, e3]
  cases hp : a.pc <;> simp only [hp] at h ⊢ <;>
    (intro d hd; rcases h d hd with x | x
     · exact Or.inl x
     · exact Or.inr (k d x))

structure SameW (a b : Node) : Prop where
  waitRun : b.waitRun = a.waitRun
  waitRunCalc : b.waitRunCalc = a.waitRunCalc
  waitingMe : b.waitingMe = a.waitingMe
  waitSelect : b.waitSelect = a.waitSelect
  status : b.status = a.status

/-- the node of `n` is replaced by, or created as, `x`; its status may change only while it is dispatched -/
theorem invE_update {s s' : Sys} {n : Name} {x : Node} (h : InvE9 inp s)
    (hnodes : ∀ k, s'.nodes k = if k = n then some x else s.nodes k)
    (hold : ∀ nd, s.nodes n = some nd → x.waitRun = nd.waitRun ∧ x.waitRunCalc = nd.waitRunCalc ∧
      x.waitingMe = nd.waitingMe ∧ x.waitSelect = nd.waitSelect ∧ (x.status = nd.status ∨ n ∈ s'.dispatched))
    (hnew : s.nodes n = none → x.waitRun = [] ∧ x.waitRunCalc = [] ∧ x.waitSelect = false)
    (hsc : SnapCreated inp s' n x)
    (hw : ∀ k ∈ s'.waiting, k ∈ s.waiting ∨ (k = n ∧ (x.waitRun ≠ [] ∨ x.waitRunCalc ≠ [])))
    (hd : ∀ k ∈ s.dispatched, k ∈ s'.dispatched) (hsu : s'.susp ≠ some .crash → s.susp ≠ some .crash) :
    InvE9 inp s' := by
  have keeps : Keeps s s' := by
    intro d ⟨y, hy⟩
    show ∃ z, s'.nodes d = some z
    rw [hnodes]
    by_cases e : d = n
    · rw [if_pos e]; exact ⟨x, rfl⟩
    · rw [if_neg e]; exact ⟨y, hy⟩
  have look : ∀ k y, s'.nodes k = some y → (k = n ∧ y = x) ∨ (k ≠ n ∧ s.nodes k = some y) := by
    intro k y hk
    rw [hnodes] at hk
    by_cases e : k = n
    · rw [if_pos e] at hk; cases hk; exact Or.inl ⟨e, rfl⟩
    · rw [if_neg e] at hk; exact Or.inr ⟨e, hk⟩
  have atn : s'.nodes n = some x := by rw [hnodes, if_pos rfl]
  refine ⟨?_, ?_, ?_, ?_⟩
  · intro k y hk
    rcases look k y hk with ⟨_, e⟩ | ⟨_, e⟩
    · rw [e]
      cases hn : s.nodes n with
      | none => exact (hnew hn).2.2
      | some nd => rw [(hold nd hn).2.2.2.1]; exact h.nw n nd hn
    · exact h.nw k y e
  · intro k hk
    rcases hw k hk with a | ⟨a, b⟩
    · obtain ⟨y, hy, hy2⟩ := h.w k a
      by_cases e : k = n
      · rw [e] at hy ⊢
        obtain ⟨o1, o2, _⟩ := hold y hy
        exact ⟨x, atn, by rw [o1, o2]; exact hy2⟩
      · exact ⟨y, by rw [hnodes, if_neg e, hy], hy2⟩
    · rw [a]; exact ⟨x, atn, b⟩
  · intro k y hk
    rcases look k y hk with ⟨e1, e2⟩ | ⟨_, e⟩
    · rw [e1, e2]; exact hsc
    · exact (h.sc k y e).mono keeps rfl rfl rfl
  · intro c k y d hk hd'
    have old : ∃ y0, s.nodes k = some y0 ∧ (d ∈ y0.waitRun ∨ d ∈ y0.waitRunCalc) := by
      rcases look k y hk with ⟨e1, e2⟩ | ⟨_, e⟩
      · rw [e1]; rw [e2] at hd'
        cases hn : s.nodes n with
        | none => obtain ⟨o1, o2, _⟩ := hnew hn; rw [o1, o2] at hd'; exact hd'.elim nofun nofun
        | some nd => obtain ⟨o1, o2, _⟩ := hold nd hn; exact ⟨nd, rfl, by rw [← o1, ← o2]; exact hd'⟩
      · exact ⟨y, e, hd'⟩
    obtain ⟨y0, hy0, hd0⟩ := old
    obtain ⟨z, hz, hz1, hz2⟩ := h.e (hsu c) k y0 d hy0 hd0
    by_cases e : d = n
    · rw [e] at hz hz2 ⊢
      obtain ⟨_, _, o3, _, o5⟩ := hold z hz
      refine ⟨x, atn, o3 ▸ hz1, ?_⟩
      rcases o5 with o5 | o5
      · exact hz2.imp (fun a => o5 ▸ a) (hd n)
      · exact Or.inr o5
    · exact ⟨z, by rw [hnodes, if_neg e, hz], hz1, hz2.imp id (hd d)⟩

theorem invE_setSame {s s' : Sys} {n : Name} {nd x : Node} (h : InvE9 inp s) (hn : s.nodes n = some nd)
    (hx : SameW nd x) (hsc : SnapCreated inp s' n x)
    (hnodes : ∀ k, s'.nodes k = if k = n then some x else s.nodes k)
    (hw : ∀ k ∈ s'.waiting, k ∈ s.waiting ∨ (k = n ∧ (x.waitRun ≠ [] ∨ x.waitRunCalc ≠ [])))
    (hd : ∀ k ∈ s.dispatched, k ∈ s'.dispatched) (hsu : s.susp ≠ some .crash) : InvE9 inp s' :=
  invE_update h hnodes
    (fun y e => by
      rw [hn] at e; cases e
      exact ⟨hx.waitRun, hx.waitRunCalc, hx.waitingMe, hx.waitSelect, Or.inl hx.status⟩)
    (fun e => by rw [hn] at e; cases e) hsc hw hd fun _ => hsu

theorem InvE9.same {s s' : Sys} (h : InvE9 inp s) (e1 : s'.nodes = s.nodes) (e2 : s'.waiting = s.waiting)
    (hc : s'.susp ≠ some .crash → s.susp ≠ some .crash ∧ ∀ k ∈ s.dispatched, k ∈ s'.dispatched) : InvE9 inp s' := by
  refine ⟨?_, ?_, ?_, ?_⟩
  · intro k y hk; rw [e1] at hk; exact h.nw k y hk
  · intro k hk; rw [e2] at hk; rw [e1]; exact h.w k hk
  · intro k y hk; rw [e1] at hk; exact (h.sc k y hk).mono (Keeps.of_eq e1) rfl rfl rfl
  · intro c k y d hk hd'
    rw [e1] at hk
    obtain ⟨z, hz, hz1, hz2⟩ := h.e (hc c).1 k y d hk hd'
    exact ⟨z, by rw [e1]; exact hz, hz1, hz2.imp id ((hc c).2 d)⟩

theorem InvE9.congr {s s' : Sys} (h : InvE9 inp s) (e1 : s'.nodes = s.nodes) (e2 : s'.waiting = s.waiting)
    (hd : ∀ k ∈ s.dispatched, k ∈ s'.dispatched) (hsu : s.susp ≠ some .crash) : InvE9 inp s' :=
  h.same e1 e2 fun _ => ⟨hsu, hd⟩

theorem invE_create {s s' : Sys} {t : Name} (anc : List Name) (h : InvE9 inp s) (ht : s.nodes t = none)
    (hnodes : ∀ k, s'.nodes k = if k = t then some (mkNode inp t anc) else s.nodes k)
    (hw : ∀ k ∈ s'.waiting, k ∈ s.waiting) (hd : ∀ k ∈ s.dispatched, k ∈ s'.dispatched)
    (hsu : s.susp ≠ some .crash) : InvE9 inp s' :=
  invE_update h hnodes (fun y e => by rw [ht] at e; cases e) (fun _ => ⟨rfl, rfl, rfl⟩) trivial
    (fun k a => Or.inl (hw k a)) hd fun _ => hsu

theorem sameW_pc (nd : Node) (pc' : PC) : SameW nd { nd with pc := pc' } := ⟨rfl, rfl, rfl, rfl, rfl⟩

theorem invE_genStep {s : Sys} {n : Name} {nd : Node} (d : Name) (pc' : PC) (h : InvE9 inp s)
    (hn : s.nodes n = some nd) (hcr : s.susp ≠ some .crash)
    (hsc : ∀ s', Keeps s s' → created s' d → SnapCreated inp s' n { nd with pc := pc' }) :
    InvE9 inp (genStep inp s n nd d pc') := by
  generalize hg : genStep inp s n nd d pc' = g
  cases genStep_spec hg with
  | fresh hdn =>
    have hne : d ≠ n := fun e => by rw [e, hn] at hdn; cases hdn
    have h1 : InvE9 inp (setNode s d (mkNode inp d (nd.anc ++ [d]))) :=
      invE_create (nd.anc ++ [d]) h hdn (fun k => rfl) (fun k a => a) (fun k a => a) hcr
    refine invE_setSame h1 (by rw [setNode_nodes, if_neg hne.symm, hn]) (sameW_pc nd pc')
      (hsc _ ((keeps_setNode _).trans (keeps_setNode _)) ⟨mkNode inp d (nd.anc ++ [d]), ?_⟩) (fun k => rfl) (fun k a => Or.inl a) (fun k a => a) hcr
    show (setNode (setNode s d _) n _).nodes d = _
    rw [setNode_nodes, if_neg hne, setNode_nodes, if_pos rfl]
  | cyclic _ _ => exact h.congr rfl rfl (fun k a => a) hcr
  | @known y hdn _ =>
    refine invE_setSame h hn (sameW_pc nd pc') (hsc _ (keeps_setNode _) ?_) (fun k => rfl) (fun k a => Or.inl a)
      (fun k a => a) hcr
    by_cases e : d = n
    · exact ⟨_, by rw [setNode_nodes, if_pos e]⟩
    · exact ⟨y, by rw [setNode_nodes, if_neg e, hdn]⟩

theorem addWaiting_same (x : Node) (m : Name) :
    (x.addWaiting m).waitRun = x.waitRun ∧ (x.addWaiting m).waitRunCalc = x.waitRunCalc ∧
    (x.addWaiting m).waitSelect = x.waitSelect ∧ (x.addWaiting m).status = x.status ∧
    (x.addWaiting m).pc = x.pc ∧ (x.addWaiting m).snapTask = x.snapTask ∧ (x.addWaiting m).snapCalc = x.snapCalc ∧
    (∀ k, k ∈ x.waitingMe → k ∈ (x.addWaiting m).waitingMe) ∧ m ∈ (x.addWaiting m).waitingMe := by
  unfold Node.addWaiting
  split
  · rename_i h; exact ⟨rfl, rfl, rfl, rfl, rfl, rfl, rfl, fun k a => a, h⟩
  · exact ⟨rfl, rfl, rfl, rfl, rfl, rfl, rfl, fun k a => by simp [a], by simp⟩

theorem waitNode_wait (inp : RunInput) (s : Sys) (nd : Node) (ds : List Name) (c : Bool) (pc' : PC) :
    (∀ d, d ∈ (waitNode inp s nd ds c pc').waitRun → d ∈ nd.waitRun ∨ (c = false ∧ d ∈ ds.filter (unfinished s))) ∧
    (∀ d, d ∈ (waitNode inp s nd ds c pc').waitRunCalc →
      d ∈ nd.waitRunCalc ∨ (c = true ∧ d ∈ ds.filter (unfinished s))) ∧
    (∀ d, d ∈ nd.waitRun → d ∈ (waitNode inp s nd ds c pc').waitRun) ∧
    (∀ d, d ∈ nd.waitRunCalc → d ∈ (waitNode inp s nd ds c pc').waitRunCalc) ∧
    (waitNode inp s nd ds c pc').waitingMe = nd.waitingMe := by
  obtain ⟨g, _, _⟩ := absorbDone_spec inp s c ds nd
  -- the new members go in front of the list chosen by `c`; the other list and `waiting_me` are as before
  cases c with
  | false =>
    have e1 : (waitNode inp s nd ds false pc').waitRun = ds.filter (unfinished s) ++ nd.waitRun := by
      rw [← g.waitRun]; rfl
    have e2 : (waitNode inp s nd ds false pc').waitRunCalc = nd.waitRunCalc := g.waitRunCalc
    refine ⟨fun d hd => ?_, fun d hd => Or.inl (e2 ▸ hd), fun d hd => e1 ▸ List.mem_append_right _ hd,
      fun d hd => e2 ▸ hd, g.waitingMe⟩
    rw [e1] at hd; exact (List.mem_append.mp hd).elim (fun a => Or.inr ⟨rfl, a⟩) Or.inl
  | true =>
    have e1 : (waitNode inp s nd ds true pc').waitRunCalc = ds.filter (unfinished s) ++ nd.waitRunCalc := by
      rw [← g.waitRunCalc]; rfl
    have e2 : (waitNode inp s nd ds true pc').waitRun = nd.waitRun := g.waitRun
    refine ⟨fun d hd => Or.inl (e2 ▸ hd), fun d hd => ?_, fun d hd => e2 ▸ hd,
      fun d hd => e1 ▸ List.mem_append_right _ hd, g.waitingMe⟩
    rw [e1] at hd; exact (List.mem_append.mp hd).elim (fun a => Or.inr ⟨rfl, a⟩) Or.inl

theorem invE_addWaitRun {s : Sys} {n : Name} {nd : Node} (ds : List Name) (c : Bool) (pc' : PC) (h : InvE9 inp s)
    (hn : s.nodes n = some nd) (hcr : s.susp ≠ some .crash) (hnw : n ∉ s.waiting) (hcre : ∀ d ∈ ds, created s d)
    (hsc : ∀ s' x, Keeps s s' → x.pc = pc' → x.snapTask = nd.snapTask → x.snapCalc = nd.snapCalc →
      SnapCreated inp s' n x) :
    InvE9 inp (addWaitRun inp s n nd ds c pc') := by
  obtain ⟨w1, w2, w3, w4, w5⟩ := waitNode_wait inp s nd ds c pc'
  have wf := waitNode_facts inp s nd ds c pc'
  generalize hx : waitNode inp s nd ds c pc' = x at w1 w2 w3 w4 w5 wf
  have hs' : addWaitRun inp s n nd ds c pc' = registerWaiting (setNode s n x) n (ds.filter (unfinished s)) := by
    unfold addWaitRun; rw [← hx]; rfl
  rw [hs']
  have nodes' : ∀ k, (registerWaiting (setNode s n x) n (ds.filter (unfinished s))).nodes k =
      match (if k = n then some x else s.nodes k) with
      | some y => if k ∈ ds.filter (unfinished s) then some (y.addWaiting n) else some y
      | none => none := by
    intro k; rw [registerWaiting_nodes]; rfl
  have look : ∀ k y', (registerWaiting (setNode s n x) n (ds.filter (unfinished s))).nodes k = some y' →
      ∃ y, (if k = n then some x else s.nodes k) = some y ∧ (y' = y ∨ y' = y.addWaiting n) := by
    intro k y' hk
    rw [nodes'] at hk
    cases hy : (if k = n then some x else s.nodes k) with
    | none => rw [hy] at hk; cases hk
    | some y =>
      rw [hy] at hk; dsimp only at hk
      by_cases c : k ∈ ds.filter (unfinished s)
      · rw [if_pos c] at hk; cases hk; exact ⟨y, rfl, Or.inr rfl⟩
      · rw [if_neg c] at hk; cases hk; exact ⟨_, rfl, Or.inl rfl⟩
  have keeps : Keeps s (registerWaiting (setNode s n x) n (ds.filter (unfinished s))) :=
    (keeps_setNode (s := s) (n := n) x).trans (keeps_registerWaiting _ _ _)
  -- existing node `d` afterwards: same status, larger `waitingMe`; it knows `n` if `d` is in the new wait list
  have after : ∀ d z, s.nodes d = some z → ∃ z', (registerWaiting (setNode s n x) n (ds.filter (unfinished s))).nodes d
      = some z' ∧ z'.status = z.status ∧ (∀ k, k ∈ z.waitingMe → k ∈ z'.waitingMe) ∧
      (d ∈ ds.filter (unfinished s) → n ∈ z'.waitingMe) := by
    intro d z hz
    have base : ∃ y, (if d = n then some x else s.nodes d) = some y ∧ y.status = z.status ∧
        y.waitingMe = z.waitingMe := by
      by_cases e : d = n
      · subst e; rw [hn] at hz; cases hz
        exact ⟨x, if_pos rfl, wf.status, w5⟩
      · exact ⟨z, by rw [if_neg e, hz], rfl, rfl⟩
    obtain ⟨y, hy, hy1, hy2⟩ := base
    rw [nodes', hy]; dsimp only
    obtain ⟨a1, a2, a3, a4, a5, a6, a7, a8, a9⟩ := addWaiting_same y n
    by_cases c : d ∈ ds.filter (unfinished s)
    · rw [if_pos c]
      exact ⟨_, rfl, by rw [a4, hy1], fun k hk => a8 k (by rw [hy2]; exact hk), fun _ => a9⟩
    · rw [if_neg c]
      exact ⟨_, rfl, hy1, fun k hk => by rw [hy2]; exact hk, fun hin => absurd hin c⟩
  refine ⟨?_, ?_, ?_, ?_⟩
  · intro k y' hk
    obtain ⟨y, hy, hyy⟩ := look k y' hk
    have base : y.waitSelect = false := by
      by_cases e : k = n
      · subst e; rw [if_pos rfl] at hy; cases hy; rw [wf.waitSelect]; exact h.nw k nd hn
      · rw [if_neg e] at hy; exact h.nw k y hy
    rcases hyy with e | e
    · rw [e]; exact base
    · rw [e, (addWaiting_same y n).2.2.1]; exact base
  · intro k hk
    have hk' : k ∈ s.waiting := hk
    obtain ⟨y0, hy0, hy2⟩ := h.w k hk'
    have hkn : k ≠ n := fun e => hnw (e ▸ hk')
    have hy : (if k = n then some x else s.nodes k) = some y0 := by rw [if_neg hkn, hy0]
    rw [nodes', hy]; dsimp only
    obtain ⟨a1, a2, _⟩ := addWaiting_same y0 n
    by_cases c : k ∈ ds.filter (unfinished s)
    · rw [if_pos c]; exact ⟨_, rfl, by rw [a1, a2]; exact hy2⟩
    · rw [if_neg c]; exact ⟨_, rfl, hy2⟩
  · intro k y' hk
    obtain ⟨y, hy, hyy⟩ := look k y' hk
    obtain ⟨a1, a2, a3, a4, a5, a6, a7, _⟩ := addWaiting_same y n
    by_cases e : k = n
    · subst e; rw [if_pos rfl] at hy; cases hy
      rcases hyy with e' | e'
      · rw [e']; exact hsc _ _ keeps wf.pc wf.snapTask wf.snapCalc
      · rw [e']; exact hsc _ _ keeps (a5.trans wf.pc) (a6.trans wf.snapTask) (a7.trans wf.snapCalc)
    · rw [if_neg e] at hy
      rcases hyy with e' | e'
      · rw [e']; exact (h.sc k y hy).mono keeps rfl rfl rfl
      · rw [e']; exact (h.sc k y hy).mono keeps a5 a6 a7
  · intro _ k y' d hk hd'
    obtain ⟨y, hy, hyy⟩ := look k y' hk
    have hdy : d ∈ y.waitRun ∨ d ∈ y.waitRunCalc := by
      rcases hyy with e | e
      · rw [e] at hd'; exact hd'
      · rw [e, (addWaiting_same y n).1, (addWaiting_same y n).2.1] at hd'; exact hd'
    -- old entry, or one of the new ones of `n`
    have cases3 : (∃ y0, s.nodes k = some y0 ∧ (d ∈ y0.waitRun ∨ d ∈ y0.waitRunCalc)) ∨
        (k = n ∧ d ∈ ds.filter (unfinished s)) := by
      by_cases e : k = n
      · subst e; rw [if_pos rfl] at hy; cases hy
        rcases hdy with a | a
        · rcases w1 d a with b | ⟨_, b⟩
          · exact Or.inl ⟨nd, hn, Or.inl b⟩
          · exact Or.inr ⟨rfl, b⟩
        · rcases w2 d a with b | ⟨_, b⟩
          · exact Or.inl ⟨nd, hn, Or.inr b⟩
          · exact Or.inr ⟨rfl, b⟩
      · rw [if_neg e] at hy; exact Or.inl ⟨y, hy, hdy⟩
    rcases cases3 with ⟨y0, hy0, hd0⟩ | ⟨e, hin⟩
    · obtain ⟨z, hz, hz1, hz2⟩ := h.e hcr k y0 d hy0 hd0
      obtain ⟨z', hz', st', wm', _⟩ := after d z hz
      refine ⟨z', hz', wm' k hz1, ?_⟩
      exact hz2.imp (fun a => st' ▸ a) id
    · subst e
      have hd1 := (List.mem_filter.mp hin)
      obtain ⟨z, hz⟩ := hcre d hd1.1
      obtain ⟨z', hz', st', _, reg'⟩ := after d z hz
      refine ⟨z', hz', reg' hin, Or.inl ?_⟩
      have hu : (!(stOf s d).finished) = true := hd1.2
      rw [st', ← stOf_some hz]
      cases hf : (stOf s d).finished with
      | false => rfl
      | true => rw [hf] at hu; cases hu

theorem wokenNode_waits (inp : RunInput) (pst : RS) (p : Name) (w : Node) :
    (wokenNode inp pst p w).waitingMe = w.waitingMe ∧
    (wokenNode inp pst p w).waitRun = w.waitRun.filter (· ≠ p) ∧
    (wokenNode inp pst p w).waitRunCalc =
      if p ∈ w.waitRunCalc then w.waitRunCalc.filter (· ≠ p) else w.waitRunCalc := by
  unfold wokenNode
  by_cases hc : p ∈ w.waitRunCalc
  · rw [if_pos hc, if_pos hc]; unfold deliver
    by_cases hg : pst.good = true
    · rw [if_pos hg]; exact ⟨rfl, rfl, rfl⟩
    · rw [if_neg hg]; exact ⟨rfl, rfl, rfl⟩
  · rw [if_neg hc, if_neg hc]; exact ⟨rfl, rfl, rfl⟩

/-- what `_update_waiting` may do to a node, as far as `InvE9` reads it -/
structure WaitLess (y y' : Node) : Prop where
  waitingMe : y'.waitingMe = y.waitingMe
  status : y'.status = y.status
  waitSelect : y'.waitSelect = y.waitSelect
  pc : y'.pc = y.pc
  snapTask : y'.snapTask = y.snapTask
  snapCalc : y'.snapCalc = y.snapCalc
  wr : ∀ d, d ∈ y'.waitRun → d ∈ y.waitRun
  wc : ∀ d, d ∈ y'.waitRunCalc → d ∈ y.waitRunCalc

theorem WaitLess.refl (y : Node) : WaitLess y y := ⟨rfl, rfl, rfl, rfl, rfl, rfl, fun _ b => b, fun _ b => b⟩

theorem WaitLess.trans {a b c : Node} (h1 : WaitLess a b) (h2 : WaitLess b c) : WaitLess a c :=
  ⟨h2.waitingMe.trans h1.waitingMe, h2.status.trans h1.status, h2.waitSelect.trans h1.waitSelect, h2.pc.trans h1.pc,
    h2.snapTask.trans h1.snapTask, h2.snapCalc.trans h1.snapCalc, fun d x => h1.wr d (h2.wr d x),
    fun d x => h1.wc d (h2.wc d x)⟩

structure RelW (s s' : Sys) : Prop where
  none : ∀ k, s.nodes k = none → s'.nodes k = none
  node : ∀ k y, s.nodes k = some y → ∃ y', s'.nodes k = some y' ∧ WaitLess y y'
  wait : ∀ k ∈ s'.waiting, k ∈ s.waiting ∧ ∀ y y', s.nodes k = some y → s'.nodes k = some y' →
    (y.waitRun ≠ [] ∨ y.waitRunCalc ≠ []) → (y'.waitRun ≠ [] ∨ y'.waitRunCalc ≠ [])
  disp : s'.dispatched = s.dispatched

theorem RelW.refl (s : Sys) : RelW s s :=
  ⟨fun _ a => a, fun k y a => ⟨y, a, .refl y⟩,
   fun k a => ⟨a, fun y y' e1 e2 b => by rw [e1] at e2; cases e2; exact b⟩, rfl⟩

theorem RelW.trans {a b c : Sys} (h1 : RelW a b) (h2 : RelW b c) : RelW a c := by
  refine ⟨fun k x => h2.none k (h1.none k x), ?_, ?_, h2.disp.trans h1.disp⟩
  · intro k y hy
    obtain ⟨y1, e1, w1⟩ := h1.node k y hy
    obtain ⟨y2, e2, w2⟩ := h2.node k y1 e1
    exact ⟨y2, e2, w1.trans w2⟩
  · intro k hk
    obtain ⟨k1, f1⟩ := h2.wait k hk
    obtain ⟨k0, f0⟩ := h1.wait k k1
    refine ⟨k0, ?_⟩
    intro y y' e e' ne
    obtain ⟨y1, e1, _⟩ := h1.node k y e
    exact f1 y1 y' e1 e' (f0 y y1 e e1 ne)

theorem wakeOne_relW (inp : RunInput) (s : Sys) (pst : RS) (p w : Name) (nd : Node) (hw : s.nodes w = some nd) :
    RelW s (wakeOne inp s pst p w nd) ∧
    (∀ y', (wakeOne inp s pst p w nd).nodes w = some y' → p ∉ y'.waitRun ∧ p ∉ y'.waitRunCalc) := by
  have u := wokenF_upd inp s pst p nd
  have gw := wokenF_grow inp s pst p nd
  obtain ⟨wm0, wr0, wc0⟩ := wokenNode_waits inp pst p nd
  have hwr := gw.waitRun.trans wr0
  have hwc := gw.waitRunCalc.trans wc0
  have nomem : ∀ l : List Name, p ∉ l.filter (· ≠ p) := fun l a => by simpa using (List.mem_filter.mp a).2
  -- `p` is gone from both sets of the woken node
  have gone : p ∉ (wokenF inp s pst p nd).waitRun ∧ p ∉ (wokenF inp s pst p nd).waitRunCalc := by
    rw [hwr, hwc]; refine ⟨nomem _, ?_⟩
    by_cases hc : p ∈ nd.waitRunCalc
    · rw [if_pos hc]; exact nomem _
    · rw [if_neg hc]; exact hc
  -- a node that is not ready keeps a non-empty wait set
  have stays : ¬ wokenReady p nd = true →
      (wokenF inp s pst p nd).waitRun ≠ [] ∨ (wokenF inp s pst p nd).waitRunCalc ≠ [] := by
    intro nr
    unfold wokenReady at nr
    rw [hwr, hwc]
    by_cases hc : p ∈ nd.waitRunCalc
    · rw [if_pos hc] at nr; exact absurd rfl nr
    · rw [if_neg hc] at nr ⊢
      simp only [Bool.and_eq_true, List.isEmpty_iff, not_and] at nr
      exact (Decidable.em _).imp_left nr |>.symm
  have nodes' : ∀ k, (wakeOne inp s pst p w nd).nodes k = if k = w then some (wokenF inp s pst p nd) else s.nodes k := by
    intro k; unfold wakeOne
    by_cases c : wokenReady p nd = true ∧ w ∈ s.waiting
    · rw [if_pos c]; rfl
    · rw [if_neg c]; rfl
  have waiting' : ∀ k ∈ (wakeOne inp s pst p w nd).waiting, k ∈ s.waiting ∧ (k = w → ¬ wokenReady p nd = true) := by
    intro k hk
    unfold wakeOne at hk
    by_cases c : wokenReady p nd = true ∧ w ∈ s.waiting
    · rw [if_pos c] at hk
      have := List.mem_filter.mp (show k ∈ s.waiting.filter (· ≠ w) from hk)
      exact ⟨this.1, fun e => absurd e (by simpa using this.2)⟩
    · rw [if_neg c] at hk
      exact ⟨hk, fun e r => c ⟨r, e ▸ hk⟩⟩
  refine ⟨⟨?_, ?_, ?_, ?_⟩, ?_⟩
  · intro k hk
    rw [nodes', if_neg (fun e => by rw [e, hw] at hk; cases hk), hk]
  · intro k y hy
    by_cases e : k = w
    · subst e; rw [hw] at hy; cases hy
      exact ⟨_, by rw [nodes', if_pos rfl], gw.waitingMe.trans wm0, u.status, u.waitSelect, u.pc, u.snapTask,
        u.snapCalc, u.wr', u.wc'⟩
    · exact ⟨y, by rw [nodes', if_neg e, hy], .refl y⟩
  · intro k hk
    obtain ⟨k0, nr⟩ := waiting' k hk
    refine ⟨k0, fun y y' e e' ne => ?_⟩
    rw [nodes'] at e'
    by_cases ekw : k = w
    · rw [if_pos ekw] at e'; cases e'; exact stays (nr ekw)
    · rw [if_neg ekw, e] at e'; cases e'; exact ne
  · unfold wakeOne
    by_cases c : wokenReady p nd = true ∧ w ∈ s.waiting
    · rw [if_pos c]; rfl
    · rw [if_neg c]; rfl
  · intro y' hy'
    rw [nodes', if_pos rfl] at hy'; cases hy'; exact gone

theorem updateWaiting_relW (inp : RunInput) (pst : RS) (p : Name) :
    ∀ (perm : List Name) (s s' : Sys), updateWaiting inp pst p s perm = some s' →
      RelW s s' ∧ ∀ k ∈ perm, ∀ y', s'.nodes k = some y' → p ∉ y'.waitRun ∧ p ∉ y'.waitRunCalc := by
  intro perm
  induction perm with
  | nil => intro s s' hs; simp only [updateWaiting] at hs; cases hs; exact ⟨RelW.refl s, fun k a => by cases a⟩
  | cons w ws ih =>
    intro s s' hs
    simp only [updateWaiting] at hs
    cases hw : s.nodes w with
    | none =>
      simp only [hw] at hs
      obtain ⟨r, g⟩ := ih s s' hs
      refine ⟨r, ?_⟩
      intro k hk y' hy'
      rcases List.mem_cons.mp hk with e | e
      · subst e; rw [r.none k hw] at hy'; cases hy'
      · exact g k e y' hy'
    | some nd =>
      simp only [hw] at hs
      split at hs
      · cases hs
      · obtain ⟨r1, g1⟩ := wakeOne_relW inp s pst p w nd hw
        obtain ⟨r2, g2⟩ := ih _ s' hs
        refine ⟨r1.trans r2, ?_⟩
        intro k hk y' hy'
        rcases List.mem_cons.mp hk with e | e
        · subst e
          obtain ⟨y1, e1, _⟩ := r1.node k nd hw
          obtain ⟨y2, e2, w2⟩ := r2.node k y1 e1
          rw [e2] at hy'; cases hy'
          have := g1 y1 e1
          exact ⟨fun a => this.1 (w2.wr p a), fun a => this.2 (w2.wc p a)⟩
        · exact g2 k e y' hy'

theorem InvE9.rpc {s : Sys} (h : InvE9 inp s) (r : RPC) : InvE9 inp { s with rpc := r } :=
  ⟨h.nw, h.w, h.sc, h.e⟩

theorem InvE9.crashed {s s' : Sys} (h : InvE9 inp s) (e1 : s'.nodes = s.nodes) (e2 : s'.waiting = s.waiting)
    (e3 : s'.susp = some .crash) : InvE9 inp s' :=
  h.same e1 e2 fun c => absurd e3 c

theorem sendHead_eq (s : Sys) (p : Name) (nd : Node) (h : nd.waitSelect = false) :
    sendHead s p nd = { s with dispatched := s.dispatched.filter (· ≠ p) } := by
  unfold sendHead; simp [h]

theorem invE_send {s s0 : Sys} {node : Option Name} {perm : List Name} (h : InvE9 inp s)
    (hcr : s.susp ≠ some .crash) (hs : send inp s node perm = some s0) : InvE9 inp s0 := by
  cases send_spec hs with
  | first => exact ⟨h.nw, h.w, h.sc, fun _ => h.e hcr⟩
  | lost _ => exact h.crashed rfl rfl rfl
  | keyError _ _ _ => exact h.crashed rfl rfl rfl
  | assertion hn _ _ _ _ => rw [sendHead_eq s _ _ (h.nw _ _ hn)]; exact h.crashed rfl rfl rfl
  | @running p nd hn _ hrun =>
    -- `p` leaves `dispatched` but is not finished
    rw [sendHead_eq s p nd (h.nw p nd hn)]
    refine ⟨h.nw, h.w, h.sc, fun _ k y d hk hd => ?_⟩
    obtain ⟨z, hz, hz1, hz2⟩ := h.e hcr k y d hk hd
    refine ⟨z, hz, hz1, ?_⟩
    by_cases e : d = p
    · subst e; rw [hn] at hz; cases hz; left; rw [hrun]; rfl
    · exact hz2.imp id fun a => List.mem_filter.mpr ⟨a, by simpa using e⟩
  | @woken p nd s2 hn _ _ hperm hu =>
    obtain ⟨r, gone⟩ := updateWaiting_relW inp nd.status p perm _ s2 hu
    rw [sendHead_eq s p nd (h.nw p nd hn)] at r
    have pre : ∀ k y', s2.nodes k = some y' → ∃ y, s.nodes k = some y ∧ WaitLess y y' := by
      intro k y' hk
      cases hy : s.nodes k with
      | none => rw [r.none k hy] at hk; cases hk
      | some y =>
        obtain ⟨y2, e2, rest⟩ := r.node k y hy
        rw [e2] at hk; cases hk
        exact ⟨y, rfl, rest⟩
    have keeps : Keeps s s2 := fun d ⟨y, hy⟩ => (r.node d y hy).imp fun _ a => a.1
    refine ⟨?_, ?_, ?_, ?_⟩
    · intro k y' hk
      obtain ⟨y, hy, a⟩ := pre k y' hk
      rw [a.waitSelect]; exact h.nw k y hy
    · intro k hk
      obtain ⟨k0, f0⟩ := r.wait k hk
      obtain ⟨y, hy, ne⟩ := h.w k k0
      obtain ⟨y2, e2, _⟩ := r.node k y hy
      exact ⟨y2, e2, f0 y y2 hy e2 ne⟩
    · intro k y' hk
      obtain ⟨y, hy, a⟩ := pre k y' hk
      exact (h.sc k y hy).mono keeps a.pc a.snapTask a.snapCalc
    · intro _ k y' d hk hd
      obtain ⟨y, hy, a⟩ := pre k y' hk
      obtain ⟨z, hz, hz1, hz2⟩ := h.e hcr k y d hy (hd.imp (a.wr d) (a.wc d))
      by_cases e : d = p
      · -- `k` was woken: `p` is gone from its wait sets
        subst e
        rw [hn] at hz; cases hz
        have := gone k (hperm.mem_iff.mpr hz1) y' hk
        exact (hd.elim this.1 this.2).elim
      · obtain ⟨z2, ez2, b⟩ := r.node d z hz
        refine ⟨z2, ez2, b.waitingMe ▸ hz1, hz2.imp (fun a => b.status ▸ a) fun a => ?_⟩
        show d ∈ s2.dispatched
        rw [r.disp]; exact List.mem_filter.mpr ⟨a, by simpa using e⟩

theorem InvE9.frame {s s' : Sys} (h : InvE9 inp s) (e1 : s'.nodes = s.nodes) (e2 : s'.waiting = s.waiting)
    (e3 : s'.dispatched = s.dispatched) (e4 : s'.susp = s.susp) : InvE9 inp s' :=
  h.same e1 e2 fun c => ⟨e4 ▸ c, fun k a => e3 ▸ a⟩

theorem invE_status {s s' : Sys} {n : Name} {nd : Node} (st' : RS) (h : InvE9 inp s) (hn : s.nodes n = some nd)
    (hdn : n ∈ s.dispatched) (e1 : s'.nodes = (setNode s n { nd with status := st' }).nodes)
    (e2 : s'.waiting = s.waiting) (e3 : s'.dispatched = s.dispatched) (e4 : s'.susp = s.susp) : InvE9 inp s' := by
  have keeps : Keeps s s' := fun d hd => by
    show ∃ z, s'.nodes d = some z
    rw [e1]; exact keeps_setNode _ d hd
  exact invE_update h (congrFun e1)
    (fun y e => by rw [hn] at e; cases e; exact ⟨rfl, rfl, rfl, rfl, Or.inr (e3 ▸ hdn)⟩)
    (fun e => by rw [hn] at e; cases e) ((h.sc n nd hn).mono keeps rfl rfl rfl) (fun k a => Or.inl (e2 ▸ a))
    (fun k a => e3 ▸ a) fun c => e4 ▸ c

theorem NodeMove.sameW {n : Name} {nd x : Node} {perm : List Name} (hm : NodeMove inp n nd perm x) : SameW nd x := by
  cases hm <;> exact ⟨rfl, rfl, rfl, rfl, rfl⟩

theorem NodeMove.snapCreated {n : Name} {nd x : Node} {perm : List Name} (hm : NodeMove inp n nd perm x) (s : Sys) :
    SnapCreated inp s n x := by
  cases hm with
  | loopTop _ _ => exact fun d hd => Or.inl hd
  | setupGo _ _ => exact fun d hd => Or.inl hd
  | _ => trivial

theorem created_next {s s' : Sys} {d : Name} {ds l : List Name} (h : ∀ x ∈ l, x ∈ d :: ds ∨ created s x)
    (k : Keeps s s') (cd : created s' d) : ∀ x ∈ l, x ∈ ds ∨ created s' x := fun x hx =>
  match h x hx with
  | .inl a => (List.mem_cons.mp a).elim (fun b => Or.inr (b ▸ cd)) Or.inl
  | .inr a => Or.inr (k x a)

theorem NodeStep.invE {s s' : Sys} {n : Name} {nd : Node} {perm : List Name} (hs : NodeStep inp s n nd perm s')
    (h : InvE9 inp s) (hn : s.nodes n = some nd) (hcr : s.susp ≠ some .crash) (hnw : n ∉ s.waiting)
    (ha4 : nd.pc.yielded1 = true → nd.status ≠ .none) : InvE9 inp s' := by
  have hsc := h.sc n nd hn
  unfold SnapCreated at hsc
  have park : ∀ {w : Prop}, w → ∀ k ∈ s.waiting ++ [n], k ∈ s.waiting ∨ (k = n ∧ w) := fun hw k hk =>
    (List.mem_append.mp hk).imp id fun a => ⟨List.mem_singleton.mp a, hw⟩
  cases hs with
  | move hm =>
    exact invE_setSame h hn hm.sameW (hm.snapCreated _) (fun k => rfl) (fun k a => Or.inl a) (fun k a => a) hcr
  | park hp =>
    cases hp with
    | deps _ _ _ hwait =>
      exact invE_setSame h hn (sameW_pc nd .loopTop) trivial (fun k => rfl) (park hwait) (fun k a => a) hcr
    | select hpc _ hst => exact absurd hst (ha4 (hpc ▸ rfl))
    | setup _ hwait =>
      exact invE_setSame h hn (sameW_pc nd .self2) trivial (fun k => rfl) (park (Or.inl hwait)) (fun k a => a) hcr
  | yield1 _ =>
    exact invE_setSame h hn (sameW_pc nd .afterSelf1) trivial (fun k => rfl) (fun k a => Or.inl a)
      (fun k a => (mem_addDispatched s n k).mpr (Or.inl a)) hcr
  | yield2 _ =>
    exact invE_setSame h hn (sameW_pc nd .afterSelf2) trivial (fun k => rfl) (fun k a => Or.inl a)
      (fun k a => (mem_addDispatched s n k).mpr (Or.inl a)) hcr
  | calcGen hpc | taskGen hpc | setupGen hpc =>
    rw [hpc] at hsc; exact invE_genStep _ _ h hn hcr fun _ k cd => created_next hsc k cd
  | calcWait hpc =>
    rw [hpc] at hsc
    refine invE_addWaitRun _ _ _ h hn hcr hnw (fun d hd => (hsc d hd).elim nofun id) fun s2 x _ e1 e2 _ => ?_
    unfold SnapCreated; rw [e1]; exact fun d hd => Or.inl (e2 ▸ hd)
  | taskWait hpc | setupWait hpc =>
    rw [hpc] at hsc
    refine invE_addWaitRun _ _ _ h hn hcr hnw (fun d hd => (hsc d hd).elim nofun id) fun s2 x _ e1 _ _ => ?_
    unfold SnapCreated; rw [e1]; trivial
  | done _ => exact h.congr rfl rfl (fun k a => a) hcr

theorem dtick_invE {s s' : Sys} {perm : List Name} (h : InvE9 inp s) (hsu : s.susp = none) (h1 : Inv1 inp s)
    (ha4 : ∀ n nd, s.nodes n = some nd → nd.pc.yielded1 = true → nd.status ≠ .none)
    (hs : dtick inp s perm = some s') : InvE9 inp s' := by
  have hcr : s.susp ≠ some .crash := by rw [hsu]; nofun
  cases dtick_spec hs with
  | lost _ _ => exact h.crashed rfl rfl rfl
  | node hc hn hns => exact hns.invE h hn hcr (h1.q3 _ hc).2 (ha4 _ _ hn)
  | create _ _ _ hnone => exact invE_create [_] h hnone (fun k => rfl) (fun k a => a) (fun k a => a) hcr
  | _ => exact h.congr rfl rfl (fun k a => a) hcr

theorem DispMove.invE {s s' : Sys} (m : DispMove inp s s') (h : InvE9 inp s) (hC : InvC s) (hF : InvF s)
    (hH : s.halt ≠ .none → s.rpc = .fin ∨ s.rpc = .halted) (h1 : Inv1 inp s)
    (ha4 : ∀ n nd, s.nodes n = some nd → nd.pc.yielded1 = true → nd.status = .none →
      s.susp = some (.node n) ∧ awaiting s) : InvE9 inp s' := by
  cases m with
  | frame e1 e2 e3 e4 _ => exact h.frame e1 e2 e3 e4
  | send hr hs r =>
    -- the runner is about to call `send`: the generator has not crashed
    have hcr : s.susp ≠ some .crash := by
      intro e
      rcases hC.cr e with a | a
      · rcases hr with b | ⟨_, b⟩ <;> rcases a with a | ⟨_, a⟩ <;> (rw [b] at a; cases a)
      · rcases hr with b | ⟨_, b⟩ <;> rcases hH a with a | a <;> (rw [b] at a; cases a)
    exact (invE_send h hcr hs).rpc r
  | dtick _ hsu hs =>
    exact dtick_invE h hsu h1 (fun n nd hn hy hst => by have := (ha4 n nd hn hy hst).1; rw [hsu] at this; cases this) hs
  | status st' hn hat e1 e2 e3 e4 _ =>
    refine invE_status st' h hn ?_ e1 e2 e3 e4
    rcases hat with ⟨_, a⟩ | a | ⟨_, a⟩
    · exact hC.ds _ a
    · exact hF.sx _ a
    · exact hF.di _ (Or.inr (Or.inr (Or.inr a)))

theorem DispMove.haltRpc {s s' : Sys} (m : DispMove inp s s') (ih : s.halt ≠ .none → s.rpc = .fin ∨ s.rpc = .halted) :
    s'.halt ≠ .none → s'.rpc = .fin ∨ s'.rpc = .halted := by
  -- from a position other than `fin` / `halted`, with `halt` unchanged, there is nothing to show
  have busy : ∀ {r : RPC}, s.rpc = r → r ≠ .fin → r ≠ .halted → s'.halt = s.halt → s'.halt ≠ .none →
      s'.rpc = .fin ∨ s'.rpc = .halted :=
    fun e n1 n2 eh x => ((ih (eh ▸ x)).elim (fun a => n1 (e ▸ a)) (fun a => n2 (e ▸ a))).elim
  cases m with
  | frame _ _ _ _ e5 =>
    rcases e5 with ⟨eh, er⟩ | ⟨er, _⟩
    · exact fun x => er (ih (eh ▸ x))
    · exact fun _ => Or.inl er
  | send hr hs r =>
    obtain ⟨⟨_, _, _, _, _, _, _, _, eh, _⟩, _⟩ := send_outer hs
    rcases hr with b | ⟨_, b⟩ <;> exact busy b nofun nofun eh
  | dtick haw _ hs =>
    obtain ⟨_, _, _, _, _, _, _, _, eh, _⟩ := dtick_outer hs
    rcases haw with b | ⟨_, b⟩ <;> exact busy b nofun nofun eh
  | status _ _ hat _ _ _ _ eh =>
    rcases hat with ⟨b | ⟨_, b⟩, _⟩ | b | ⟨b, _⟩ <;> exact busy b nofun nofun eh

theorem reach_invE {s : Sys} (hser : inp.runner = .serial) (h : Reach inp s) : InvE9 inp s := by
  induction h with
  | init => exact init_invE9 inp
  | @next s0 s1 c hp hs ih =>
    cases c with
    | main perm =>
      exact (serialStep_dispMove hs).invE ih (reach_invC hp) (reach_invF hp) (reach_invS hser hp).hl (reach_inv2 hp).inv1
        (reach_invL hp).a4
    | take w => cases hs
    | done w => cases hs

/-- where `_check_deadlock` would raise, every parked node awaits a parked node: impossible on a ranked graph -/
theorem no_deadlock_shape {rank : Name → Nat} {s : Sys} (hrk : Ranked inp rank) (hN : AllN inp rank s)
    (hE : InvE9 inp s) (hD : InvD inp s) (hsu : s.susp = none) (hc : s.cur = none) (hrd : s.ready = [])
    (hdp : s.dispatched = [])
    (hnone : ∀ n nd, s.nodes n = some nd → nd.pc.yielded1 = true → nd.status ≠ .none)
    (hrun : ∀ n nd, s.nodes n = some nd → nd.status = .run → nd.pc.inSetup = true) : s.waiting = [] := by
  apply waiting_descent hrk hN
  intro w hw
  obtain ⟨nd, hn, ne⟩ := hE.w w hw
  have pick : ∃ d, d ∈ nd.waitRun ∨ d ∈ nd.waitRunCalc := by
    rcases ne with a | a
    · obtain ⟨d, hd⟩ := List.exists_mem_of_ne_nil _ a; exact ⟨d, Or.inl hd⟩
    · obtain ⟨d, hd⟩ := List.exists_mem_of_ne_nil _ a; exact ⟨d, Or.inr hd⟩
  obtain ⟨d, hd⟩ := pick
  obtain ⟨z, hz, _, hz2⟩ := hE.e (by rw [hsu]; simp) w nd d hn hd
  have hunf : z.status.finished = false := by
    rcases hz2 with a | a
    · exact a
    · rw [hdp] at a; cases a
  have hpc : z.pc ≠ .done := by
    intro e
    cases hst : z.status with
    | none => exact hnone d z hz (by rw [e]; rfl) hst
    | run => have := hrun d z hz hst; rw [e] at this; cases this
    | utd => rw [hst] at hunf; cases hunf
    | ign => rw [hst] at hunf; cases hunf
    | ok => rw [hst] at hunf; cases hunf
    | fail => rw [hst] at hunf; cases hunf
  refine ⟨nd, hn, d, hd, ?_⟩
  rcases hD.a2 d z hz hpc with a | a | a
  · rw [hrd] at a; cases a
  · exact a
  · rw [hc] at a; cases a

/-- `hrun`: a node in status `run` is out at the runner or in its setup stage -/
theorem DispMove.no_cyclic {rank : Name → Nat} {s s' : Sys} (m : DispMove inp s s') (hrk : Ranked inp rank)
    (hN : AllN inp rank s) (hE : InvE9 inp s) (hD : InvD inp s)
    (ha4 : ∀ n nd, s.nodes n = some nd → nd.pc.yielded1 = true → nd.status = .none →
      s.susp = some (.node n) ∧ awaiting s)
    (hrun : awaiting s → s.susp = none → s.dispatched = [] → ∀ n nd, s.nodes n = some nd → nd.status = .run →
      nd.pc.inSetup = true)
    (ih : (∀ d, s.susp ≠ some (.cyclic d)) ∧ s.halt ≠ .cyclic) :
    (∀ d, s'.susp ≠ some (.cyclic d)) ∧ s'.halt ≠ .cyclic := by
  obtain ⟨ih1, ih2⟩ := ih
  cases m with
  | frame _ _ _ e4 e5 =>
    refine ⟨fun d => e4 ▸ ih1 d, ?_⟩
    rcases e5 with ⟨eh, _⟩ | ⟨_, eh | ⟨d, hd⟩⟩
    · exact eh ▸ ih2
    · rw [eh]; nofun
    · exact absurd hd (ih1 d)
  | send _ hs r =>
    obtain ⟨⟨_, _, _, _, _, _, _, _, eh, _⟩, su⟩ := send_outer hs
    refine ⟨fun d e => ?_, fun e => ih2 (eh ▸ e)⟩
    have e' : _ = some (DOut.cyclic d) := e
    rcases su with a | a <;> (rw [a] at e'; cases e')
  | dtick haw hsu hs =>
    obtain ⟨_, _, _, _, _, _, _, _, eh, _⟩ := dtick_outer hs
    refine ⟨fun d e => ?_, eh ▸ ih2⟩
    obtain ⟨c1, c2, _, c4, c5⟩ := dtick_cyclic_shape hrk hN hsu hs d e
    exact c4 (no_deadlock_shape hrk hN hE hD hsu c1 c2 c5
      (fun n nd hn hy hst => by have := (ha4 n nd hn hy hst).1; rw [hsu] at this; cases this) (hrun haw hsu c5))
  | status _ _ _ _ _ _ e4 e5 => exact ⟨fun d => e4 ▸ ih1 d, e5 ▸ ih2⟩

theorem serial_no_cyclic {rank : Name → Nat} {s : Sys} (hser : inp.runner = .serial) (hrk : Ranked inp rank)
    (h : Reach inp s) : (∀ d, s.susp ≠ some (.cyclic d)) ∧ s.halt ≠ .cyclic := by
  induction h with
  | init => exact ⟨nofun, nofun⟩
  | @next s0 s1 c hp hs ih =>
    cases c with
    | take w => cases hs
    | done w => cases hs
    | main perm =>
      have hL := reach_invL hp
      refine (serialStep_dispMove hs).no_cyclic hrk (reach_allN hrk hp) (reach_invE hser hp) hL.d hL.a4 ?_ ih
      intro haw hsu _ n nd hn hst
      rcases hL.a5 n nd hn hst with a | ⟨_, _, a | ⟨_, a, _⟩⟩
      · rcases haw with b | ⟨_, b⟩ <;> (rw [a] at b; cases b)
      · exact a
      · rw [hsu] at a; cases a

theorem preach_haltRpc {s : Sys} (h : PReach inp s) : s.halt ≠ .none → s.rpc = .fin ∨ s.rpc = .halted := by
  induction h with
  | init => exact fun e => absurd rfl e
  | @next s0 s1 c _ hs ih => exact (pstep_dispMove hs).haltRpc ih

theorem preach_invE {s : Sys} (h : PReach inp s) : InvE9 inp s := by
  induction h with
  | init => exact init_invE9 inp
  | @next s0 s1 c hp hs ih =>
    exact (pstep_dispMove hs).invE ih (preach_invC hp) (preach_invF hp) (preach_haltRpc hp) (preach_inv hp).1.inv1
      (preach_invP hp).a4

theorem parallel_no_cyclic {rank : Name → Nat} {s : Sys} (hrk : Ranked inp rank)
    (h : PReach inp s) : (∀ d, s.susp ≠ some (.cyclic d)) ∧ s.halt ≠ .cyclic := by
  induction h with
  | init => exact ⟨nofun, nofun⟩
  | @next s0 s1 c hp hs ih =>
    have hP := preach_invP hp
    refine (pstep_dispMove hs).no_cyclic hrk (preach_allN hrk hp) (preach_invE hp) hP.d hP.a4 ?_ ih
    intro _ hsu hdp n nd hn hst
    rcases hP.a5 n nd hn hst with a | ⟨_, _, a | ⟨_, a, _⟩⟩
    · have := (preach_invF hp).di n a; rw [hdp] at this; cases this
    · exact a
    · rw [hsu] at a; cases a

end DoitModel.Run
