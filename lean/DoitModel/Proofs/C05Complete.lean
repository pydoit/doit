import DoitModel.Proofs.C05Fuel
import DoitModel.Proofs.RunAcct
/-! # C05 (c): the monitor `monC05ContinueComplete` holds on the trace of every run of the model that ended normally

The closure the monitor computes from the trace (`closureOf`) is LARGER than `RunCl` of `Proofs/RunLive2.lean`: it also
follows the setup edges of a task whose first `select_task` pass said "run" but which was then reported `unmet` /
ignored / "args error" in the second pass (no `go`).  `InvE` (`Proofs/C05Just.lean`) shows that such a task went through
the setup stage, so its setup-tasks have nodes, and at a quiescent end every node has exactly one terminal report. -/
namespace DoitModel.Run

structure EndFacts (inp : RunInput) (s : Sys) : Prop where
  allDone : ∀ k x, s.nodes k = some x → x.pc = .done
  processed : ∀ t, created s t → cTerm s t = 1
  selC : ∀ t ∈ inp.sel, created s t
  a1 : ∀ n nd, s.nodes n = some nd → NodeA s nd

/-- `a4`, `a6`: the fields of `InvL` / `InvP`; `nrun`: a done node is not in flight -/
theorem endFacts_of {inp : RunInput} {s : Sys} (hD : InvD inp s) (h3 : Inv3 inp s) (hsu : s.susp = some .stopIter)
    (a4 : ∀ n nd, s.nodes n = some nd → nd.pc.yielded1 = true → nd.status = .none →
      s.susp = some (.node n) ∧ awaiting s)
    (nrun : ∀ n nd, s.nodes n = some nd → nd.pc = .done → nd.status ≠ .run)
    (a6 : ∀ n, (stOf s n).finished = true → cTerm s n ≥ 1) : EndFacts inp s := by
  obtain ⟨q1, q2, q3, q4⟩ := hD.a7 hsu
  have allDone : ∀ k x, s.nodes k = some x → x.pc = .done := by
    intro k x hx
    refine Decidable.byContradiction fun hne => ?_
    have := hD.a2 k x hx hne
    rw [q1, q2, q4] at this
    rcases this with a | a | a <;> cases a
  refine ⟨allDone, ?_, ?_, hD.a1⟩
  · intro t ⟨x, hx⟩
    have hpc := allDone t x hx
    have hne : x.status ≠ .none := by
      intro e
      have := (a4 t x hx (by rw [hpc]; rfl) e).1
      rw [hsu] at this; cases this
    have hfin : (stOf s t).finished = true := by
      simp only [stOf, hx]
      cases hs : x.status with
      | none => exact absurd hs hne
      | run => exact absurd hs (nrun t x hx hpc)
      | _ => rfl
    have := a6 t hfin
    have := h3.t2 t
    omega
  · intro t hm
    rcases hD.a3 _ hm with a | a
    · rw [q3] at a; cases a
    · exact a

theorem endFacts_serial {inp : RunInput} {s : Sys} (hr : Reach inp s) (hh : s.rpc = .halted)
    (hhalt : s.halt = .none) (hstop : s.stop = false) : EndFacts inp s := by
  have hL := reach_invL hr
  refine endFacts_of hL.d (reach_inv3 hr) (hL.a8 (Or.inr hh) hhalt hstop) hL.a4 (fun n nd hn hpc e => ?_) hL.a6
  rcases hL.a5 n nd hn e with a | ⟨_, _, a | ⟨a, _⟩⟩
  · rw [hh] at a; cases a
  · rw [hpc] at a; cases a
  · rw [hpc] at a; cases a

theorem endFacts_parallel {inp : RunInput} {s : Sys} (hr : PReach inp s) (hh : s.rpc = .halted)
    (hhalt : s.halt = .none) (hstop : s.stop = false) : EndFacts inp s := by
  obtain ⟨hsu, hq⟩ := parallel_end_quiescent hr hh hhalt hstop
  have hP := preach_invP hr
  refine endFacts_of hP.d (preach_inv hr).2 hsu hP.a4 (fun n nd hn hpc e => ?_) hP.a6
  rcases hP.a5 n nd hn e with a | ⟨_, _, a | ⟨a, _⟩⟩
  · exact hq n a
  · rw [hpc] at a; cases a
  · rw [hpc] at a; cases a

structure AllInv (inp : RunInput) (s : Sys) : Prop where
  h2 : Inv2 inp s
  h3 : Inv3 inp s
  hG : InvG inp s
  hF : InvF inp s
  hU : InvU inp s
  hE : InvE inp s

theorem allInv_serial {inp : RunInput} {s : Sys} (hr : Reach inp s) : AllInv inp s :=
  ⟨reach_inv2 hr, reach_inv3 hr, reach_invG hr, reach_invF hr, reach_invU hr, reach_invE hr⟩

theorem allInv_parallel {inp : RunInput} {s : Sys} (hr : PReach inp s) : AllInv inp s :=
  ⟨(preach_inv hr).1, (preach_inv hr).2, preach_invG hr, preach_invF hr, preach_invU hr, preach_invE hr⟩

theorem created_of_finished {s : Sys} {d : Name} (h : (stOf s d).finished = true) : created s d := by
  cases hx : s.nodes d with
  | some x => exact ⟨x, hx⟩
  | none => simp [stOf, hx, RS.finished] at h

theorem calcOf_lt {inp : RunInput} {n : Nat} (hb : Below inp n) {t c : Name} (ht : t < n) (h : CalcOf inp t c) :
    c < n := by
  induction h with
  | base a => exact hb.cdep t ht _ a
  | step _ m ih => exact hb.rcalcs _ ih _ m

theorem stage1_lt {inp : RunInput} {n k : Nat} {tr : List Ev} (hb : Below inp n) {t d : Name} (ht : t < n)
    (h : d ∈ stage1 inp k tr t) : d < n := by
  have hcalc := calcsAt_calcOf inp tr t k (inp.calcDep t) (fun c hc => .base hc)
  unfold stage1 at h
  rcases List.mem_append.mp h with h | h
  · rcases List.mem_append.mp h with h | h
    · exact hb.task t ht d h
    · exact calcOf_lt hb ht (hcalc d h)
  · obtain ⟨c, hc, hd⟩ := List.mem_flatMap.mp h
    have hcn := calcOf_lt hb ht (hcalc c (List.mem_filter.mp hc).1)
    rcases List.mem_append.mp hd with a | a
    · exact hb.rtasks c hcn d a
    · exact hb.rfiles c hcn d a

theorem done_delivered {inp : RunInput} {s : Sys} (I : AllInv inp s) {u : Name} {nd : Node} (hn : s.nodes u = some nd)
    (hpc : nd.pc = .done) {c : Name} (hc : c ∈ nd.dynCalc) (hf : finBefore s.events c) : Delivered inp nd c := by
  have hm := (I.h2.inv1.node u nd hn).m1 (by rw [hpc]; rfl)
  have hpr : Processed nd c := ⟨by rw [hm.2.1]; simp,
    (fun (e : nd.pc.iterC = true ∧ c ∈ nd.snapCalc) => by rw [hpc] at e; cases e.1), by rw [hm.2.2]; simp⟩
  exact I.hG.dc u nd hn c hc hpr (finBefore_good I.hF hf)

theorem calcsAt_dyn {inp : RunInput} {s : Sys} (I : AllInv inp s) {u : Name} {nd : Node} (hn : s.nodes u = some nd)
    (hpc : nd.pc = .done) : ∀ (k : Nat) (cs : List Name), (∀ c ∈ cs, c ∈ nd.dynCalc) →
      ∀ c ∈ calcsAt inp (trace inp s) k cs, c ∈ nd.dynCalc := by
  intro k
  induction k with
  | zero => intro cs h c hc; exact h c hc
  | succ k ih =>
    intro cs h c hc
    rw [calcsAt_succ] at hc
    refine ih _ ?_ c hc
    intro x hx
    rcases mem_calcRound.mp hx with a | ⟨c0, hc0, hf, hx0⟩
    · exact h x a
    · exact (done_delivered I hn hpc (h c0 hc0) (finishedIn_trace_iff.mp hf)).2.2 x hx0

theorem dyn_created {inp : RunInput} {s : Sys} (I : AllInv inp s) (E : EndFacts inp s) {u : Name} {nd : Node}
    (hn : s.nodes u = some nd) : (∀ d ∈ nd.dynTask, created s d) ∧ (∀ d ∈ nd.dynCalc, created s d) := by
  have hpc := E.allDone u nd hn
  have hm := (I.h2.inv1.node u nd hn).m1 (by rw [hpc]; rfl)
  constructor
  · intro d hd
    rcases (E.a1 u nd hn).t d hd with a | ⟨⟨_, a⟩, _⟩ | ⟨_, a, _⟩ | a
    · rw [hm.1] at a; cases a
    · rw [hpc] at a; cases a
    · rw [hpc] at a; cases a
    · exact a
  · intro d hd
    rcases (E.a1 u nd hn).c d hd with a | ⟨_, a, _⟩ | a
    · rw [hm.2.1] at a; cases a
    · rw [hpc] at a; cases a
    · exact a

theorem stage1_created {inp : RunInput} {s : Sys} (I : AllInv inp s) (E : EndFacts inp s) (k : Nat) {u d : Name}
    (hu : created s u) (h : d ∈ stage1 inp k (trace inp s) u) : created s d := by
  obtain ⟨nd, hn⟩ := hu
  have hpc := E.allDone u nd hn
  have hok := I.h2.inv1.node u nd hn
  obtain ⟨ct, cc⟩ := dyn_created I E hn
  have hcalc := calcsAt_dyn I hn hpc k (inp.calcDep u) (fun c hc => hok.st.2 c hc)
  unfold stage1 at h
  rcases List.mem_append.mp h with h | h
  · rcases List.mem_append.mp h with h | h
    · exact ct d (hok.st.1 d h)
    · exact cc d (hcalc d h)
  · obtain ⟨c, hc, hd⟩ := List.mem_flatMap.mp h
    obtain ⟨c1, c2⟩ := List.mem_filter.mp hc
    have hdel := done_delivered I hn hpc (hcalc c c1) (finishedIn_trace_iff.mp c2)
    rcases List.mem_append.mp hd with a | a
    · exact ct d (hdel.1 d a)
    · exact ct d (hdel.2.1 d a)

theorem go_setup_created {inp : RunInput} {s : Sys} (I : AllInv inp s) {u d : Name} {deps : List Name}
    (hg : Ev.go u deps ∈ s.events) (hd : d ∈ inp.setup u) : created s d := by
  have hin : d ∈ deps := I.h2.gs u deps hg d (by simp [staticDeps, hd])
  have hfb := ordOK_go I.h2.ord hg d hin
  exact created_of_finished (RS.good_finished (finBefore_good I.hF hfb))

/-- the setup edge: a task the monitor takes for "first pass said run" had its setup-tasks created.  By cases on the one
    terminal report of `u`: after `success` there was a `go`, whose dependencies include the setup-tasks; `skipUtd` contradicts
    `ranFirst`; for a failure / `skip_ignore` report `InvE.just` gives a reason, of which "an observed first-stage dependency
    failed or was ignored" contradicts `ranFirst` (all of them finished) and the others create the setup-tasks -/
theorem ranFirst_setup_created {inp : RunInput} {s : Sys} {n : Nat} (I : AllInv inp s) (E : EndFacts inp s)
    (hb : Below inp n) {u d : Name} (hu : created s u) (hun : u < n)
    (hrf : ranFirst inp n (trace inp s) u = true) (hd : d ∈ inp.setup u) : created s d := by
  unfold ranFirst at hrf
  simp only [Bool.and_eq_true, Bool.not_eq_true', bne_iff_ne, ne_eq, beq_iff_eq] at hrf
  obtain ⟨⟨⟨hign, herr⟩, heff⟩, hall⟩ := hrf
  have hall' : ∀ p ∈ stage1 inp n (trace inp s) u, finBefore s.events p := by
    intro p hp
    exact finishedIn_trace_iff.mp (List.all_eq_true.mp hall p hp)
  have hjust : Just inp s u → created s d := by
    rintro (a | a | a | ⟨p, a, b⟩ | ⟨deps, a⟩)
    · exact created_of_finished (a d hd)
    · rw [hign] at a; cases a
    · exact absurd a herr
    · have hp := depObs_stage1 hb (fun x hx => (finishedIn_trace_iff (inp := inp)).mpr hx) hun a
      have hg := finBefore_good I.hF (hall' p hp)
      rcases b with ⟨k, b⟩ | b
      · rw [I.hF.fl p k b] at hg; cases hg
      · rw [I.hE.ig p b] at hg; cases hg
    · exact go_setup_created I a hd
  have hone := E.processed u hu
  have hpos : 0 < s.events.countP (Ev.isTerminalOf u) := by unfold cTerm at hone; omega
  obtain ⟨e, he, hp⟩ := List.countP_pos_iff.mp hpos
  cases e with
  | success m =>
    have : m = u := by simpa [Ev.isTerminalOf] using hp
    subst this
    obtain ⟨deps, hg⟩ := (I.hF.ok m he).2
    exact go_setup_created I hg hd
  | skipUtd m =>
    have : m = u := by simpa [Ev.isTerminalOf] using hp
    subst this
    have := (I.hF.ud m (I.hF.ut m he)).1
    rw [this] at heff; cases heff
  | skipIgn m =>
    have : m = u := by simpa [Ev.isTerminalOf] using hp
    subst this
    exact hjust (I.hE.just m (Or.inr he))
  | failure m k =>
    have : m = u := by simpa [Ev.isTerminalOf] using hp
    subst this
    exact hjust (I.hE.just m (Or.inl ⟨k, he⟩))
  | _ => simp [Ev.isTerminalOf] at hp

theorem closureOf_created {inp : RunInput} {s : Sys} {n : Nat} (I : AllInv inp s) (E : EndFacts inp s)
    (hb : Below inp n) : ∀ t ∈ closureOf inp n (trace inp s), created s t ∧ t < n := by
  have edge : ∀ t, (created s t ∧ t < n) →
      ∀ d ∈ stage1 inp n (trace inp s) t ++ (if ranFirst inp n (trace inp s) t then inp.setup t else []),
        created s d ∧ d < n := by
    intro t ⟨hc, hl⟩ d hd
    rcases List.mem_append.mp hd with a | a
    · exact ⟨stage1_created I E n hc a, stage1_lt hb hl a⟩
    · by_cases hrf : ranFirst inp n (trace inp s) t = true
      · simp only [hrf, if_true] at a
        exact ⟨ranFirst_setup_created I E hb hc hl hrf a, hb.setup t hl d a⟩
      · simp [hrf] at a
  have once : ∀ cl, (∀ x ∈ cl, created s x ∧ x < n) →
      ∀ x ∈ closeOnce inp n (trace inp s) cl, created s x ∧ x < n := by
    intro cl h x hx
    rcases (mem_foldl_addNew cl cl).mp hx with a | ⟨t, ht, a⟩
    · exact h x a
    · exact edge t (h t ht) x a
  have iter : ∀ (k : Nat) (cl : List Name), (∀ x ∈ cl, created s x ∧ x < n) →
      ∀ x ∈ closureIter inp n (trace inp s) k cl, created s x ∧ x < n := by
    intro k
    induction k with
    | zero => intro cl h x hx; exact h x hx
    | succ k ih => intro cl h x hx; exact ih _ (once cl h) x hx
  unfold closureOf
  refine iter _ _ ?_
  intro x hx
  rcases (mem_addNew _ _).mp hx with a | a
  · cases a
  · exact ⟨E.selC x a, hb.sel x a⟩


theorem trace_terminal_count (inp : RunInput) (s : Sys) (t : Name) :
    ((trace inp s).filter (Ev.isTerminalOf t)).length = cTerm s t := by
  unfold trace cTerm
  rw [← List.countP_eq_length_filter, List.countP_reverse, List.countP_filter]
  apply List.countP_congr
  intro e _
  cases e <;> simp [Ev.isTerminalOf, hidden]

theorem stage1_edgesOf {inp : RunInput} {n : Nat} {tr : List Ev} {t d : Name} (h : d ∈ stage1 inp n tr t) :
    d ∈ edgesOf inp n tr t := by
  unfold stage1 at h
  unfold edgesOf
  simp only [List.mem_append] at h ⊢
  rcases h with (a | a) | a
  · exact Or.inl (Or.inl (Or.inl a))
  · exact Or.inl (Or.inr a)
  · exact Or.inr a

theorem monC05ContinueComplete_of_end {inp : RunInput} {s : Sys} (I : AllInv inp s) (E : EndFacts inp s) {n : Nat}
    (hb : Below inp n) (exit : Nat) : monC05ContinueComplete inp n (trace inp s) exit = true := by
  unfold monC05ContinueComplete
  simp only [Bool.or_eq_true, Bool.and_eq_true]
  right
  constructor
  · simp only [List.all_eq_true, beq_iff_eq]
    intro t ht
    rw [trace_terminal_count]
    exact E.processed t (closureOf_created I E hb t ht).1
  · simp only [List.all_eq_true, List.mem_range, Bool.or_eq_true, Bool.not_eq_true']
    intro t ht
    by_cases hu : (trace inp s).any (fun e => e == Ev.failure t .unmet) = true
    · right
      obtain ⟨e, he, hp⟩ := List.any_eq_true.mp hu
      have : e = Ev.failure t .unmet := by simpa using hp
      subst this
      have hev := (mem_trace.mp he).1
      obtain ⟨d, k, hdep, hf⟩ := I.hU.um t hev
      refine List.any_eq_true.mpr ⟨d, ?_, ?_⟩
      · rcases hdep with a | a
        · exact stage1_edgesOf (depObs_stage1 hb (fun x hx => (finishedIn_trace_iff (inp := inp)).mpr hx) ht a)
        · have hnu : skippedUtd (trace inp s) t = false := by
            cases hsk : skippedUtd (trace inp s) t with
            | false => rfl
            | true =>
              unfold skippedUtd at hsk
              obtain ⟨e, he, hp⟩ := List.any_eq_true.mp hsk
              have : e = Ev.skipUtd t := by simpa using hp
              subst this
              have h1 := I.hF.fl t _ hev
              have h2 := I.hF.ut t (mem_trace.mp he).1
              rw [h1] at h2; cases h2
          unfold edgesOf
          simp [hnu, a]
      · unfold failedIn
        exact List.any_eq_true.mpr ⟨_, mem_trace.mpr ⟨hf, rfl⟩, by simp [Ev.isFailureOf]⟩
    · left
      cases hh : (trace inp s).any (fun e => e == Ev.failure t .unmet) with
      | false => rfl
      | true => exact absurd hh hu

end DoitModel.Run
