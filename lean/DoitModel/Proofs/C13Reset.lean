import DoitModel.Proofs.C13Forget
import DoitModel.Proofs.StatusDecision
/-! # C13 — `reset-dep` on one task: what is recorded, what is kept -/
namespace DoitModel.Cmds
open DoitModel.Status

theorem depVerdict_of_recorded {c : Checker} {r : Rcd} {fs : FS} {p : Path} (hs : notSaved r p = false)
    (h : depRecorded c r fs p = true) : ∃ cur, fs p = some cur ∧ depVerdict c r cur p = .same := by
  unfold depRecorded at h
  unfold depVerdict
  cases hr : r.fstate p with
  | none => rw [hr] at h; cases h
  | some st =>
    cases hf : fs p with
    | none => rw [hr, hf] at h; cases h
    | some cur =>
      rw [hr, hf] at h
      exact ⟨cur, rfl, by rw [hs]; exact beq_iff_eq.1 h⟩

theorem recorded_of_depVerdict {c : Checker} {r : Rcd} {fs : FS} {p : Path} {cur : FMeta} (hf : fs p = some cur)
    (h : depVerdict c r cur p = .same) : depRecorded c r fs p = true := by
  unfold depVerdict at h
  unfold depRecorded
  cases hr : r.fstate p with
  | none => rw [hr] at h; cases h
  | some st =>
    rw [hr] at h
    dsimp only at h ⊢
    by_cases hn : notSaved r p = true
    · rw [if_pos hn] at h; cases h
    · rw [if_neg hn] at h; rw [hf]; exact beq_iff_eq.2 h

theorem lateOk_of (c : Checker) (d : TaskDef) (r : Rcd) (fs : FS) (hck : r.checker = some c) (hdeps : r.deps = some d.deps)
    (hrec : d.deps.all (depRecorded c r fs) = true) : lateOk c d r fs = true := by
  have h1 : checkerChanged c r = false := by simp [checkerChanged, hck]
  have h3 : depsChanged true r d.deps = false := by simp [depsChanged, hdeps, sameSet_refl]
  have h2 : fileVerdict c r fs d.deps = .upToDate := by
    rw [fileVerdict_upToDate_iff]
    intro p hp
    exact depVerdict_of_recorded (by simp [notSaved, hdeps, hp]) (List.all_eq_true.1 hrec p hp)
  unfold lateOk
  rw [h1, h2, h3]; rfl

theorem recorded_of_upToDate (c : Checker) (d : TaskDef) (r : Rcd) (fs : FS) (resOf : Name → Option Res)
    (h : statusOf true c d r fs resOf = .upToDate) :
    d.deps.all (depRecorded c r fs) = true ∧ lateOk c d r fs = true := by
  obtain ⟨_, hcc, h3, h4, h5, hdc⟩ := statusOf_upToDate_iff.1 h
  have hfv : fileVerdict c r fs d.deps = .upToDate := by
    unfold fileVerdict; rw [h3, h4, h5]; rfl
  refine ⟨List.all_eq_true.2 fun p hp => ?_, by unfold lateOk; rw [hcc, hfv, hdc]; rfl⟩
  obtain ⟨cur, hcur, hv⟩ := (fileVerdict_upToDate_iff c r fs d.deps).1 hfv p hp
  exact recorded_of_depVerdict hcur hv

theorem statusOf_of_lateOk (c : Checker) (d : TaskDef) (r : Rcd) (fs : FS) (resOf : Name → Option Res)
    (h : lateOk c d r fs = true) :
    statusOf true c d r fs resOf = if earlyRun d r.getValues resOf fs then .run else .upToDate := by
  unfold lateOk at h
  simp only [Bool.and_eq_true, Bool.not_eq_true', beq_iff_eq] at h
  unfold statusOf
  rw [h.1.1, h.1.2, h.2]; rfl

/-- the record `save_success` writes when no dependency is missing and no state has the wrong shape -/
def savedRcd (c : Checker) (deps : List Path) (r0 : Rcd) (fs : FS) (vals : Values) (res : Option Res) : Rcd :=
  { values := some vals, result := res.orElse fun _ => r0.result, checker := some c, deps := some deps,
    fstate := fun p => if p ∈ deps then savedState c r0 fs p else r0.fstate p, ign := r0.ign }

theorem savedState_recorded (c : Checker) (r0 : Rcd) (fs : FS) (p : Path) (cur : FMeta) (hcur : fs p = some cur)
    (hnc : saveCrashAt c r0 fs p = false) :
    ∃ st, savedState c r0 fs p = some st ∧ checkModified c st cur = .same := by
  unfold savedState
  unfold saveCrashAt at hnc
  rw [hcur] at hnc ⊢
  dsimp only at hnc ⊢
  rcases getState_cases c cur (r0.fstate p) with hg | ⟨sz, cid, rfl, hf, hg⟩ | ⟨_, _, _, hg⟩
  · rw [hg]; exact ⟨_, rfl, beq_iff_eq.1 (unmodBy_self c cur)⟩
  · rw [hg]; exact ⟨_, hf, if_pos rfl⟩
  · rw [hg] at hnc; cases hnc

/-- it judges every dependency unmodified and passes every test of `get_status` that reads the record -/
theorem savedRcd_resets {c : Checker} {d : TaskDef} {r0 : Rcd} {fs : FS} (vals : Values) (res : Option Res)
    (hm : d.deps.any (depMissing fs) = false) (hnc : d.deps.any (saveCrashAt c r0 fs) = false) :
    d.deps.all (depRecorded c (savedRcd c d.deps r0 fs vals res) fs) = true ∧
    lateOk c d (savedRcd c d.deps r0 fs vals res) fs = true := by
  have hrec : d.deps.all (depRecorded c (savedRcd c d.deps r0 fs vals res) fs) = true := by
    refine List.all_eq_true.2 fun p hp => ?_
    cases hf : fs p with
    | none => have := any_false_of hm hp; rw [depMissing, hf] at this; cases this
    | some cur =>
      obtain ⟨st, hst, hsame⟩ := savedState_recorded c r0 fs p cur hf (any_false_of hnc hp)
      have hfst : (savedRcd c d.deps r0 fs vals res).fstate p = some st := (if_pos hp).trans hst
      unfold depRecorded
      rw [hfst, hf]; exact beq_iff_eq.2 hsame
  exact ⟨hrec, lateOk_of _ _ _ _ rfl rfl hrec⟩

theorem resetRecOk_iff {c : Checker} {d : TaskDef} {pre post : Rcd} {fs : FS} :
    resetRecOk c d pre post fs = true ↔
      (post.getValues = pre.getValues ∧ post.result = pre.result) ∧ d.deps.all (depRecorded c post fs) = true := by
  unfold resetRecOk
  rw [Bool.and_eq_true, Bool.and_eq_true, beq_iff_eq, beq_iff_eq]

theorem peek_rcd_result (s : St) (t : Name) (h : (s.rcd t).result = none) : ((peek s t).rcd t).result = none := by
  unfold peek; split
  · simp [erase, Rcd.empty]
  · exact h

/-- the exits of `resetDep` (the later `error` and `FileNotFoundError` exits are those of a missing dependency, which
    the command tests first).  In `saved` the ghost's result is the saved record's: `save_success` is handed the old
    result and falls back on that of the peeked record (`peek_rcd_result` collapses the two). -/
inductive ResetSpec (s : St) (t : Name) : St → Prop
  | missing : (s.defs t).deps.any (depMissing s.fs) = true → ResetSpec s t s
  | upToDate : s.status true t = .upToDate → ResetSpec s t s
  | crash : ResetSpec s t { s with crashed := true }
  | saved : (s.defs t).deps.any (depMissing s.fs) = false →
      (s.defs t).deps.any (saveCrashAt s.checker ((peek s t).rcd t) s.fs) = false →
      ResetSpec s t (commit s t
        (savedRcd s.checker (s.defs t).deps ((peek s t).rcd t) s.fs (s.rcd t).getValues (s.rcd t).result)
        ⟨(s.defs t).deps, s.fs, (s.rcd t).getValues,
         (s.rcd t).result.orElse fun _ => ((peek s t).rcd t).result, s.checker⟩)

theorem resetDep_spec (s : St) (t : Name) : ResetSpec s t (resetDep true s t) := by
  unfold resetDep
  by_cases hm : (s.defs t).deps.any (depMissing s.fs) = true
  · rw [if_pos hm]; exact .missing hm
  rw [if_neg hm]
  cases hst : s.status true t with
  | crash => exact .crash
  | error => exact .missing (statusOf_error hst)
  | upToDate => exact .upToDate hst
  | run =>
    dsimp only
    unfold saveSuccess
    rw [if_neg hm]
    by_cases hc : (s.defs t).deps.any (saveCrashAt s.checker ((peek s t).rcd t) s.fs) = true
    · rw [if_pos hc]; exact .crash
    · rw [if_neg hc]; exact .saved (Bool.not_eq_true _ ▸ hm) (Bool.not_eq_true _ ▸ hc)

theorem resetDep_shape (s : St) (t : Name) :
    ((∀ k, k ≠ t → (resetDep true s t).rcd k = s.rcd k) ∧ (resetDep true s t).fs = s.fs ∧
      (resetDep true s t).defs = s.defs ∧ (resetDep true s t).checker = s.checker) ∧
    ((resetDep true s t).crashed = false → s.crashed = false) := by
  have h := resetDep_spec s t
  generalize resetDep true s t = s' at h ⊢
  cases h with
  | saved => exact ⟨⟨fun _ hk => if_neg hk, rfl, rfl, rfl⟩, id⟩
  | crash => exact ⟨⟨fun _ _ => rfl, rfl, rfl, rfl⟩, nofun⟩
  | _ => exact ⟨⟨fun _ _ => rfl, rfl, rfl, rfl⟩, id⟩

theorem resetDep_missing (s : St) (t : Name) (h : (s.defs t).deps.any (depMissing s.fs) = true) :
    resetDep true s t = s := by
  unfold resetDep; rw [if_pos h]

theorem resetDep_present (s : St) (t : Name) (hm : (s.defs t).deps.any (depMissing s.fs) = false)
    (hc1 : (resetDep true s t).crashed = false) :
    resetRecOk s.checker (s.defs t) (s.rcd t) ((resetDep true s t).rcd t) s.fs = true ∧
    lateOk s.checker (s.defs t) ((resetDep true s t).rcd t) s.fs = true := by
  have hs := resetDep_spec s t
  generalize resetDep true s t = s' at hs hc1 ⊢
  cases hs with
  | missing h => rw [hm] at h; cases h
  | upToDate hst =>
    obtain ⟨h1, h2⟩ := recorded_of_upToDate _ _ _ _ _ hst
    exact ⟨resetRecOk_iff.2 ⟨⟨rfl, rfl⟩, h1⟩, h2⟩
  | crash => cases hc1
  | saved _ hnc =>
    obtain ⟨h3, h4⟩ := savedRcd_resets (s.rcd t).getValues (s.rcd t).result hm hnc
    rw [commit_rcd_self]
    refine ⟨resetRecOk_iff.2 ⟨⟨rfl, ?_⟩, h3⟩, h4⟩
    cases hr : (s.rcd t).result with
    | some x => rfl
    | none => exact peek_rcd_result s t hr

theorem rcd_ign_eta (r : Rcd) (h : r.ign = true) : { r with ign := true } = r := by
  cases r; cases h; rfl

theorem resetOne_shape (s : St) (t : Name) :
    ((∀ k, k ≠ t → (resetOne s t).rcd k = s.rcd k) ∧ (resetOne s t).fs = s.fs ∧ (resetOne s t).defs = s.defs ∧
      (resetOne s t).checker = s.checker) ∧
    ((resetOne s t).crashed = false → s.crashed = false) := by
  obtain ⟨⟨h1, h2⟩, h3⟩ := resetDep_shape s t
  unfold resetOne
  by_cases hi : (s.rcd t).ign = true
  · rw [if_pos hi]; exact ⟨⟨fun k hk => (if_neg hk).trans (h1 k hk), h2⟩, h3⟩
  · rw [if_neg hi]; exact ⟨⟨h1, h2⟩, h3⟩

theorem resetOne_missing (s : St) (t : Name) (h : (s.defs t).deps.any (depMissing s.fs) = true) :
    (resetOne s t).rcd t = s.rcd t := by
  unfold resetOne
  rw [resetDep_missing s t h]
  by_cases hi : (s.rcd t).ign = true
  · rw [if_pos hi]; exact (if_pos rfl).trans (rcd_ign_eta _ hi)
  · rw [if_neg hi]

theorem resetOne_present (s : St) (t : Name) (hm : (s.defs t).deps.any (depMissing s.fs) = false)
    (hc1 : (resetOne s t).crashed = false) :
    resetRecOk s.checker (s.defs t) (s.rcd t) ((resetOne s t).rcd t) s.fs = true ∧
    lateOk s.checker (s.defs t) ((resetOne s t).rcd t) s.fs = true := by
  unfold resetOne at hc1 ⊢
  by_cases hi : (s.rcd t).ign = true
  · rw [if_pos hi] at hc1 ⊢
    -- neither predicate reads the mark
    have := resetDep_present s t hm hc1
    rw [setIgn_rcd, if_pos rfl]; exact this
  · rw [if_neg hi] at hc1 ⊢; exact resetDep_present s t hm hc1

theorem resetOne_keeps_ign (s : St) (k T : Name) (hi : (s.rcd T).ign = true) : ((resetOne s k).rcd T).ign = true := by
  by_cases hk : T = k
  · subst hk
    unfold resetOne
    rw [if_pos hi, setIgn_rcd, if_pos rfl]
  · rw [(resetOne_shape s k).1.1 T hk]; exact hi

theorem resetList_crashed_mono (l : List Name) (s : St) (h : (resetList s l).crashed = false) : s.crashed = false := by
  induction l generalizing s with
  | nil => exact h
  | cons a as ih => exact (resetOne_shape s a).2 (ih _ h)

theorem resetList_frame (l : List Name) (s : St) :
    (∀ k, k ∉ l → (resetList s l).rcd k = s.rcd k) ∧ (resetList s l).fs = s.fs ∧ (resetList s l).defs = s.defs ∧
    (resetList s l).checker = s.checker :=
  taskFold_shape (fun s t => (resetOne_shape s t).1) l s

theorem resetList_present (l : List Name) (s : St) (hc : (resetList s l).crashed = false) (t : Name) (ht : t ∈ l)
    (hm : (s.defs t).deps.any (depMissing s.fs) = false) :
    resetRecOk s.checker (s.defs t) (s.rcd t) ((resetList s l).rcd t) s.fs = true ∧
    lateOk s.checker (s.defs t) ((resetList s l).rcd t) s.fs = true := by
  induction l generalizing s with
  | nil => cases ht
  | cons a as ih =>
    obtain ⟨⟨hfr, f1, f2, f3⟩, _⟩ := resetOne_shape s a
    have hc1 : (resetOne s a).crashed = false := resetList_crashed_mono as _ hc
    by_cases hta : t ∈ as
    · have := ih (resetOne s a) hc hta (by rw [f1, f2]; exact hm)
      rw [f1, f2, f3] at this
      -- values and result were kept by the first step, the dependency states are those of the last
      obtain ⟨h12, hrec⟩ := resetRecOk_iff.1 this.1
      refine ⟨resetRecOk_iff.2 ⟨?_, hrec⟩, this.2⟩
      by_cases hat : t = a
      · subst hat
        obtain ⟨h01, _⟩ := resetRecOk_iff.1 (resetOne_present s t hm hc1).1
        exact ⟨h12.1.trans h01.1, h12.2.trans h01.2⟩
      · rw [hfr t hat] at h12; exact h12
    · obtain rfl : t = a := (List.mem_cons.1 ht).resolve_right hta
      have hfr' : (resetList s (t :: as)).rcd t = (resetOne s t).rcd t := (resetList_frame as (resetOne s t)).1 t hta
      rw [hfr']
      exact resetOne_present s t hm hc1

theorem resetList_missing (l : List Name) (s : St) (t : Name)
    (hm : (s.defs t).deps.any (depMissing s.fs) = true) : (resetList s l).rcd t = s.rcd t := by
  induction l generalizing s with
  | nil => rfl
  | cons a as ih =>
    obtain ⟨⟨hfr, f1, f2, _⟩, _⟩ := resetOne_shape s a
    refine (ih (resetOne s a) (by rw [f1, f2]; exact hm)).trans ?_
    by_cases hat : t = a
    · subst hat; exact resetOne_missing s t hm
    · exact hfr t hat

theorem resetList_keeps_ign (l : List Name) (s : St) (T : Name) (hi : (s.rcd T).ign = true) :
    ((resetList s l).rcd T).ign = true :=
  foldl_preserves (P := fun b => (b.rcd T).ign = true) (ok := fun _ => True)
    (fun b a _ hb => resetOne_keeps_ign b a T hb) l (fun _ _ => trivial) hi

theorem resetCmd_keeps_ign (g : Graph) (names : List Name) (s : St) (T : Name) (h : (s.rcd T).ign = true) :
    ((resetCmd g names s).rcd T).ign = true := by
  unfold resetCmd
  cases resetTarget g names with
  | tasks l => exact resetList_keeps_ign l s T h
  | _ => exact h

end DoitModel.Cmds
