import DoitModel.Proofs.CleanFlat
/-! `flat` emits dependents first.

The argument is the DFS post-order one.  The recursive calls of `_get_leafs` in progress form a stack
`St` (ghost state: it is a parameter of the lemmas, not of the model).  Every task of the original node
table `G` is in exactly one of three places: still in `nodes`, on the stack, or emitted.  When `name` is
emitted every recorded dependent `c ∈ chOf G name` has been emitted: either the loop over the children
found it in `nodes` and the recursive call emitted it, or it was not in `nodes`, hence emitted already or on
the stack — and the stack is impossible, because every task on the stack is a (transitive) dependency of
`name` while `c` depends on `name`; with a rank function that strictly decreases along dependencies
(acyclicity) that reads `rank y ≤ rank name < rank c` for `y` on the stack. -/
namespace DoitModel.Clean

theorem alookup_none_of_not_mem {c : Name} :
    ∀ {ns : Nodes}, c ∉ keys ns → alookup c ns = (none : Option (List Name)) :=
  alookup_eq_none_iff.2

/-- what the order argument needs of the node table built by `build_nodes_with_deps`; `rank`: acyclicity -/
structure NodesOK (deps : Name → List Name) (rank : Name → Nat) (G : Nodes) : Prop where
  nd : (keys G).Nodup
  chKeys : ∀ b a, a ∈ chOf G b → a ∈ keys G
  chDep : ∀ b a, a ∈ chOf G b → b ∈ deps a
  rank : ∀ a b, b ∈ deps a → rank b < rank a

/-- invariant of the traversal; `St` is the stack of `_get_leafs` calls in progress -/
structure FInv (G : Nodes) (St : List Name) (s : FState) : Prop where
  sub : ∀ x v, alookup x s.nodes = some v → alookup x G = some v
  nd : (keys s.nodes).Nodup
  cover : ∀ x, x ∈ keys G → x ∈ keys s.nodes ∨ x ∈ St ∨ x ∈ s.out
  outNodes : ∀ x, x ∈ s.out → x ∉ keys s.nodes
  outStack : ∀ x, x ∈ s.out → x ∉ St
  stackNodes : ∀ x, x ∈ St → x ∉ keys s.nodes
  order : ∀ x, x ∈ s.out → ∀ a, a ∈ chOf G x → a ∈ s.out ∧ s.out.idxOf a < s.out.idxOf x

namespace FInv

theorem push {G : Nodes} {St : List Name} {s : FState} (h : FInv G St s) {c : Name} {g : List Name}
    (hc : alookup c s.nodes = some g) : FInv G (c :: St) { s with nodes := pop1 c s.nodes } := by
  have hsub : ∀ x, x ∈ keys (pop1 c s.nodes) → x ∈ keys s.nodes := fun x hx => by
    rw [keys_pop1] at hx; exact List.mem_of_mem_erase hx
  have hself : c ∉ keys (pop1 c s.nodes) := by rw [keys_pop1]; exact h.nd.not_mem_erase
  exact {
    sub := fun x v hx => by
      by_cases hxc : x = c
      · rw [hxc] at hx; exact absurd (mem_keys_of_alookup hx) hself
      · rw [alookup_pop1 hxc] at hx; exact h.sub x v hx
    nd := by rw [keys_pop1]; exact h.nd.erase c
    cover := fun x hx => by
      by_cases hxc : x = c
      · exact Or.inr (Or.inl (List.mem_cons.2 (Or.inl hxc)))
      · rw [keys_pop1, List.mem_erase_of_ne hxc]
        exact (h.cover x hx).imp_right (Or.imp_left (List.mem_cons_of_mem _))
    outNodes := fun x hx hm => h.outNodes x hx (hsub x hm)
    outStack := fun x hx hm => by
      rcases List.mem_cons.1 hm with hm | hm
      · rw [hm] at hx; exact h.outNodes c hx (mem_keys_of_alookup hc)
      · exact h.outStack x hx hm
    stackNodes := fun x hx => by
      rcases List.mem_cons.1 hx with hx | hx
      · rw [hx]; exact hself
      · exact fun hm => h.stackNodes x hx (hsub x hm)
    order := h.order }

theorem pop {G : Nodes} {St : List Name} {s : FState} {name : Name} (h : FInv G (name :: St) s)
    (hn : name ∉ St) (hch : ∀ a, a ∈ chOf G name → a ∈ s.out) : FInv G St (emit name s) where
  sub := h.sub
  nd := h.nd
  cover := fun x hx => (h.cover x hx).imp_right fun h1 => h1.elim
    (fun h1 => (List.mem_cons.1 h1).elim (fun e => Or.inr (List.mem_append_right _ (List.mem_singleton.2 e))) Or.inl)
    (fun h1 => Or.inr (List.mem_append_left _ h1))
  outNodes := fun x hx => by
    rcases List.mem_append.1 hx with hx | hx
    · exact h.outNodes x hx
    · rw [List.mem_singleton.1 hx]; exact h.stackNodes name List.mem_cons_self
  outStack := fun x hx => by
    rcases List.mem_append.1 hx with hx | hx
    · exact fun hm => h.outStack x hx (List.mem_cons_of_mem _ hm)
    · rw [List.mem_singleton.1 hx]; exact hn
  stackNodes := fun x hx => h.stackNodes x (List.mem_cons_of_mem _ hx)
  order := by
    have hno : name ∉ s.out := fun hm => h.outStack name hm List.mem_cons_self
    intro x hx a ha
    rcases List.mem_append.1 hx with hx | hx
    · obtain ⟨h1, h2⟩ := h.order x hx a ha
      exact ⟨List.mem_append_left _ h1, idxOf_snoc_lt h1 (Or.inl ⟨hx, h2⟩)⟩
    · have hxn := List.mem_singleton.1 hx
      rw [hxn] at ha
      exact ⟨List.mem_append_left _ (hch a ha), idxOf_snoc_lt (hch a ha) (Or.inr ⟨hxn, hno⟩)⟩

end FInv

theorem getLeafs_order {deps : Name → List Name} {rank : Name → Nat} {G : Nodes} (hG : NodesOK deps rank G) :
    ∀ (f : Nat) (name : Name) (ch : List Name) (s : FState) (St : List Name),
    FInv G (name :: St) s → name ∉ St → ch = chOf G name → (∀ y, y ∈ St → rank y ≤ rank name) →
    s.nodes.length < f →
    FInv G St (getLeafs f name ch s) ∧ name ∈ (getLeafs f name ch s).out := by
  intro f
  induction f with
  | zero => intro name ch s St _ _ _ _ h; exact absurd h (Nat.not_lt_zero _)
  | succ f ih =>
    intro name ch s St hinv hn hch hrk hlen
    -- along the loop over the children: those met so far have been emitted
    obtain ⟨r1, -, r4⟩ := foldl_prefix_induction (visit (getLeafs f))
      (fun pre (s : FState) => FInv G (name :: St) s ∧ s.nodes.length < f + 1 ∧ ∀ c, c ∈ pre → c ∈ s.out)
      ch ⟨hinv, hlen, nofun⟩ (by
        intro pre c s hc ⟨h, hl, hout⟩
        have hcn : c ∈ chOf G name := hch ▸ hc
        have hrc : rank name < rank c := hG.rank c name (hG.chDep name c hcn)
        have hv := visit_mono (getLeafs_mono f) s c
        have step : FInv G (name :: St) (visit (getLeafs f) s c) ∧ c ∈ (visit (getLeafs f) s c).out := by
          unfold visit
          cases hc : alookup c s.nodes with
          | none =>
            -- not in `nodes`, and not on the stack (whose ranks are at most `rank name < rank c`): emitted already
            refine ⟨h, ?_⟩
            rcases h.cover c (hG.chKeys name c hcn) with h1 | h1 | h1
            · exact absurd h1 (alookup_eq_none_iff.1 hc)
            · rcases List.mem_cons.1 h1 with h1 | h1
              · subst h1; exact absurd hrc (Nat.lt_irrefl _)
              · exact absurd (Nat.lt_of_lt_of_le hrc (hrk c h1)) (Nat.lt_irrefl _)
            · exact h1
          | some grand =>
            have hg : grand = chOf G c := by unfold chOf; rw [h.sub c grand hc]; rfl
            rw [← length_pop1 (mem_keys_of_alookup hc)] at hl
            exact ih c grand { s with nodes := pop1 c s.nodes } (name :: St) (h.push hc)
              (fun hm => h.stackNodes c hm (mem_keys_of_alookup hc)) hg
              (fun y hy => (List.mem_cons.1 hy).elim (fun e => e ▸ Nat.le_of_lt hrc)
                (fun hy => Nat.le_trans (hrk y hy) (Nat.le_of_lt hrc)))
              (Nat.lt_of_succ_lt_succ hl)
        exact ⟨step.1, Nat.lt_of_le_of_lt hv.1 hl, fun x hx => (List.mem_append.1 hx).elim
          (fun hx => hv.2 x (hout x hx)) (fun e => List.mem_singleton.1 e ▸ step.2)⟩)
    exact ⟨r1.pop hn (fun a ha => r4 a (hch ▸ ha)), List.mem_append_right _ (List.mem_singleton_self _)⟩

theorem flat_order {deps : Name → List Name} {rank : Name → Nat} {G : Nodes} (hG : NodesOK deps rank G) :
    ∀ x, x ∈ (flat G).out → ∀ a, a ∈ chOf G x →
      a ∈ (flat G).out ∧ (flat G).out.idxOf a < (flat G).out.idxOf x := by
  have h0 : FInv G [] { nodes := G, out := [], oof := false } :=
    { sub := fun _ _ h => h, nd := hG.nd, cover := fun x hx => Or.inl hx, outNodes := nofun, outStack := nofun, stackNodes := nofun,
      order := nofun }
  refine (flatLoop_induction (G.length + 1) (P := FInv G []) (fun s hd ch rest hn hl h => ?_) G.length _
    (Nat.le_refl _) (Nat.le_succ _) h0).1.order
  -- a call from the top: the head of the table is popped, the stack is empty
  have hc : alookup hd s.nodes = some ch := by rw [hn, alookup, if_pos rfl]
  have hpush := h.push hc
  rw [show pop1 hd s.nodes = rest by rw [hn, pop1, if_pos rfl]] at hpush
  have hch : ch = chOf G hd := by unfold chOf; rw [h.sub hd ch hc]; rfl
  exact (getLeafs_order hG _ hd ch { s with nodes := rest } [] hpush List.not_mem_nil hch nofun hl).1

end DoitModel.Clean
