import DoitModel.Proofs.C05Unmet
/-! # C05 (c): why a task got a report other than "executed" / "up-to-date"

Event-level invariant `InvE`, proved from the shape of a transition (`Proofs/C05Shape.lean`) and the node invariant of
`Proofs/C05Unmet.lean`: a task with a failure or `skip_ignore` report either went through the setup stage (all its
setup-tasks were processed), or is ignored itself / has an `error` status, or one of its OBSERVED first-stage
dependencies has a failure / `skip_ignore` report, or `select_task` had chosen it for execution. -/
namespace DoitModel.Run

def SetupSeen (inp : RunInput) (s : Sys) (u : Name) : Prop := ∀ d ∈ inp.setup u, (stOf s d).finished = true

def Just (inp : RunInput) (s : Sys) (u : Name) : Prop :=
  SetupSeen inp s u ∨ inp.ignored u = true ∨ inp.statusOf u = .error ∨
  (∃ p, DepObs inp s.events u p ∧ ((∃ k, Ev.failure p k ∈ s.events) ∨ Ev.skipIgn p ∈ s.events)) ∨
  (∃ deps, Ev.go u deps ∈ s.events)

structure InvE (inp : RunInput) (s : Sys) : Prop where
  ie : ∀ d, stOf s d = .ign → Ev.skipIgn d ∈ s.events
  ig : ∀ d, Ev.skipIgn d ∈ s.events → stOf s d = .ign
  just : ∀ u, ((∃ k, Ev.failure u k ∈ s.events) ∨ Ev.skipIgn u ∈ s.events) → Just inp s u

theorem Just.mono {inp : RunInput} {s s' : Sys} {u : Name} (hm : ∀ e ∈ s.events, e ∈ s'.events)
    (keep : ∀ x, (stOf s x).finished = true → stOf s' x = stOf s x) (h : Just inp s u) : Just inp s' u := by
  rcases h with a | a | a | ⟨p, a, b⟩ | ⟨deps, a⟩
  · exact Or.inl (fun d hd => by rw [keep d (a d hd)]; exact a d hd)
  · exact Or.inr (Or.inl a)
  · exact Or.inr (Or.inr (Or.inl a))
  · refine Or.inr (Or.inr (Or.inr (Or.inl ⟨p, a.mono hm, ?_⟩)))
    rcases b with ⟨k, b⟩ | b
    · exact Or.inl ⟨k, hm _ b⟩
    · exact Or.inr (hm _ b)
  · exact Or.inr (Or.inr (Or.inr (Or.inr ⟨deps, hm _ a⟩)))

theorem evSt_of {inp : RunInput} {s : Sys} (hF : InvF inp s) (hE : InvE inp s) (h2 : Inv2 inp s) : EvSt s.events s :=
  fun d => ⟨hF.fe d, hE.ie d, good_finBefore h2⟩

theorem init_invE (inp : RunInput) : InvE inp (init inp) :=
  ⟨fun d h => by simp [init, stOf] at h, fun d h => by simp [init] at h, fun u h => by simp [init] at h⟩

theorem quiet_not_ign {new : List Ev} (hq : ∀ e ∈ new, e.quiet = true) (n : Name) : Ev.skipIgn n ∉ new :=
  fun h => by have := hq _ h; simp [Ev.quiet] at this

theorem select_just {inp : RunInput} {s : Sys} {n : Name} {nd : Node} (hU : InvU inp s) (h2 : Inv2 inp s)
    (haw : awaiting s) (hsusp : s.susp = some (.node n)) (hn : s.nodes n = some nd)
    (hd : selStatus (selDecision inp n nd) = .fail ∨ selDecision inp n nd = .skipIgn) : Just inp s n := by
  have hnd := hU.nd n nd hn
  have hok := h2.inv1.node n nd hn
  obtain ⟨nd', hn', hpc⟩ := h2.inv1.sp n hsusp
  rw [hn] at hn'; cases hn'
  -- a member of bad_deps / ignored_deps is an observed dependency, or was delivered by a failed calc_dep that is one
  have obs : nd.status = .none → ∀ p, IsDepOF inp s.events n nd.status p →
      ((∃ k, Ev.failure p k ∈ s.events) ∨ Ev.skipIgn p ∈ s.events) → Just inp s n := by
    intro h0 p hp hrep
    rcases hp.witness with (a | ⟨_, a⟩) | ⟨c0, k0, a, b⟩
    · exact Or.inr (Or.inr (Or.inr (Or.inl ⟨p, a, hrep⟩)))
    · exact absurd h0 a
    · exact Or.inr (Or.inr (Or.inr (Or.inl ⟨c0, a, Or.inl ⟨k0, b⟩⟩)))
  -- second pass: the generator is past the setup stage
  have second : nd.status = .run → Just inp s n := by
    intro hrun
    have hp2 : nd.pc = .afterSelf2 := by
      rcases hpc with e | e
      · have := h2.sel1 haw n nd hsusp hn e; rw [hrun] at this; cases this
      · exact e
    have hw : nd.waitRun = [] := hok.m2 (by rw [hp2]; rfl)
    refine Or.inl (fun d hdm => ?_)
    rcases hok.ks (by rw [hp2]; rfl) d hdm with a | a
    · rw [hw] at a; cases a
    · exact a.1
  generalize hsel : selDecision inp n nd = a at hd
  cases selDecision_spec.of_eq hsel with
  | ign1 h0 hi =>
    rcases hi with hi | hi
    · obtain ⟨p, hp⟩ := List.exists_mem_of_ne_nil _ hi
      exact obs h0 p (hnd.ig p hp).1 (Or.inr (hnd.ig p hp).2)
    · exact Or.inr (Or.inl hi)
  | unmet1 h0 _ _ hb =>
    obtain ⟨p, hp⟩ := List.exists_mem_of_ne_nil _ hb
    exact obs h0 p (hnd.bd p hp).1 (Or.inl (hnd.bd p hp).2)
  | depErr _ _ _ _ he => exact Or.inr (Or.inr (Or.inl he))
  | argsErr1 _ _ _ _ _ _ hse => exact Or.inl (fun d hdm => by rw [hse] at hdm; cases hdm)
  | ign2 hrun | unmet2 hrun | argsErr2 hrun => exact second hrun
  | utd | runFirst | go1 | go2 | assertFail => rcases hd with hd | hd <;> cases hd

/-- a transition that sets the status of the unfinished task `m` to `st'` and whose failure / `skip_ignore` reports
    are about `m`, with the justification `hj` -/
theorem invE_report {inp : RunInput} {s s' : Sys} (h : InvE inp s) {m : Name} {st' : RS} {new : List Ev}
    (hunf : (stOf s m).finished = false) (hst : ∀ x, stOf s' x = if x = m then st' else stOf s x)
    (hev : s'.events = new ++ s.events) (ni : ∀ n, Ev.skipIgn n ∈ new → n = m ∧ st' = .ign)
    (nf : ∀ n k, Ev.failure n k ∈ new → n = m) (ie : st' = .ign → Ev.skipIgn m ∈ new)
    (hj : ((∃ k, Ev.failure m k ∈ new) ∨ Ev.skipIgn m ∈ new) → Just inp s m) : InvE inp s' := by
  have hm : stOf s' m = st' := (hst m).trans (if_pos rfl)
  have mono : ∀ e ∈ s.events, e ∈ s'.events := fun e he => by rw [hev]; exact List.mem_append_right _ he
  have keep : ∀ x, (stOf s x).finished = true → stOf s' x = stOf s x := by
    intro x hx
    by_cases e : x = m
    · subst e; rw [hunf] at hx; cases hx
    · exact (hst x).trans (if_neg e)
  refine ⟨fun d hd => ?_, fun d hd => ?_, fun u hu => ?_⟩
  · rw [hev]
    by_cases e : d = m
    · subst e; exact List.mem_append_left _ (ie (hm.symm.trans hd))
    · rw [hst d, if_neg e] at hd; exact List.mem_append_right _ (h.ie d hd)
  · rcases List.mem_append.mp (hev ▸ hd) with a | a
    · obtain ⟨rfl, e⟩ := ni d a; exact hm.trans e
    · have := h.ig d a
      rw [keep d (by rw [this]; rfl)]; exact this
  · have split : ((∃ k, Ev.failure u k ∈ new) ∨ Ev.skipIgn u ∈ new) ∨
        ((∃ k, Ev.failure u k ∈ s.events) ∨ Ev.skipIgn u ∈ s.events) := by
      rcases hu with ⟨k, a⟩ | a
      · exact (List.mem_append.mp (hev ▸ a)).imp (fun b => .inl ⟨k, b⟩) (fun b => .inl ⟨k, b⟩)
      · exact (List.mem_append.mp (hev ▸ a)).imp .inr .inr
    rcases split with a | a
    · have e : u = m := a.elim (fun ⟨k, b⟩ => nf u k b) (fun b => (ni u b).1)
      subst e; exact (hj a).mono mono keep
    · exact (h.just u a).mono mono keep

theorem invE_step {inp : RunInput} {s s' : Sys} (h : InvE inp s) (hU : InvU inp s) (h2 : Inv2 inp s)
    (sh : Shape inp s s') : InvE inp s' := by
  cases sh with
  | quiet new hst hev hq hstop =>
    have hm : ∀ e ∈ s.events, e ∈ s'.events := fun e he => by rw [hev]; exact List.mem_append.mpr (Or.inr he)
    obtain ⟨q1, _, _⟩ := quiet_not hq
    have old : ∀ {e}, e ∈ s'.events → (e ∈ new → False) → e ∈ s.events :=
      fun he hn => (List.mem_append.mp (hev ▸ he)).resolve_left hn
    refine ⟨fun d hd => hm _ (h.ie d (by rw [← hst]; exact hd)), fun d hd => ?_, fun u hu => ?_⟩
    · rw [hst]; exact h.ig d (old hd (quiet_not_ign hq d))
    · refine (h.just u ?_).mono hm (fun x _ => hst x)
      exact hu.imp (fun ⟨k, a⟩ => ⟨k, old a (q1 u k)⟩) (fun a => old a (quiet_not_ign hq u))
  | select m md extra haw hsusp hn hd hst hev hq hstop =>
    obtain ⟨q1, _, _⟩ := quiet_not hq
    have inSel : ∀ {e}, e ∈ extra ++ selEvents inp m md (selDecision inp m md) → (e ∈ extra → False) →
        e ∈ selEvents inp m md (selDecision inp m md) := fun he hn => (List.mem_append.mp he).resolve_left hn
    refine invE_report h (by simp only [stOf, hn]; exact selDecision_unfinished hd) hst
      (new := extra ++ selEvents inp m md (selDecision inp m md)) (by rw [hev, List.append_assoc])
      (fun n a => ?_) (fun n k a => (selEvents_failure (inSel a (q1 n k))).1) (fun e => ?_) (fun a => ?_)
    · have b := selEvents_skipIgn (inSel a (quiet_not_ign hq n)); exact ⟨b.1, by rw [b.2]; rfl⟩
    · rw [selStatus_ign e]; exact List.mem_append_right _ List.mem_cons_self
    · refine select_just hU h2 haw hsusp hn ?_
      exact a.imp (fun ⟨k, b⟩ => (selEvents_failure (inSel b (q1 m k))).2.1)
        (fun b => (selEvents_skipIgn (inSel b (quiet_not_ign hq m))).2)
  | result m md mid hn hrun hgo hst hev hq hstop =>
    obtain ⟨q1, _, _⟩ := quiet_not hq
    refine invE_report h (by simp only [stOf, hn, hrun]; rfl) hst
      (new := resEvents m (inp.outcome m) ++ mid) (by rw [hev, List.append_assoc])
      (fun n a => ?_) (fun n k a => (resEvents_failure ((List.mem_append.mp a).resolve_right (q1 n k))).1)
      (fun e => by rcases resStatus_cases (inp.outcome m) with x | x <;> (rw [x] at e; cases e))
      (fun _ => Or.inr (Or.inr (Or.inr (Or.inr hgo))))
    rcases mem_resEvents ((List.mem_append.mp a).resolve_right (quiet_not_ign hq n)) with ⟨e, _⟩ | ⟨_, e, _⟩ <;> cases e

theorem reach_invUE {inp : RunInput} {s : Sys} (h : Reach inp s) : InvU inp s ∧ InvE inp s :=
  Move.reach (P := fun s => InvU inp s ∧ InvE inp s) (fun hr => reach_invF hr) ⟨init_invU inp, init_invE inp⟩
    (fun h2 h3 hF ih m => ⟨m.invU ih.1 (evSt_of hF ih.2 h2), invE_step ih.2 ih.1 h2 (m.shape h2 h3)⟩) h

theorem preach_invUE {inp : RunInput} {s : Sys} (h : PReach inp s) : InvU inp s ∧ InvE inp s :=
  Move.preach (P := fun s => InvU inp s ∧ InvE inp s) (fun hr => preach_invF hr) ⟨init_invU inp, init_invE inp⟩
    (fun h2 h3 hF ih m => ⟨m.invU ih.1 (evSt_of hF ih.2 h2), invE_step ih.2 ih.1 h2 (m.shape h2 h3)⟩) h

theorem reach_invU {inp : RunInput} {s : Sys} (h : Reach inp s) : InvU inp s := (reach_invUE h).1
theorem preach_invU {inp : RunInput} {s : Sys} (h : PReach inp s) : InvU inp s := (preach_invUE h).1
theorem reach_invE {inp : RunInput} {s : Sys} (h : Reach inp s) : InvE inp s := (reach_invUE h).2
theorem preach_invE {inp : RunInput} {s : Sys} (h : PReach inp s) : InvE inp s := (preach_invUE h).2

theorem unmet_has_failed_dep {inp : RunInput} {s : Sys} (hU : InvU inp s) (hF : InvF inp s) {t : Name}
    (h : Ev.failure t .unmet ∈ s.events) : ∃ d k, DepOnE inp s.events t d ∧ Ev.failure d k ∈ s.events := by
  obtain ⟨d, k, hdep, hf⟩ := hU.um t h
  refine ⟨d, k, ?_, hf⟩
  rcases hdep with a | a
  · exact .ns a.depNS
  · refine .setup a (fun hu => ?_)
    have h1 := hF.fl t _ h
    have h2 := hF.ut t hu
    rw [h1] at h2; cases h2

end DoitModel.Run
