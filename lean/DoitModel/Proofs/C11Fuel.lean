import DoitModel.Model.RunTeardown
import DoitModel.Proofs.RunFuel
/-! # C11, laziness monitor: list-level facts — the fuel of `calcsAtF` / `lazyIter` suffices when all task
    names are below `nTasks`; what is justified on a trace stays justified when the trace grows -/
namespace DoitModel.Run

structure BoundedP (inp : RunInput) (n : Nat) : Prop where
  sel : ∀ t ∈ inp.sel, t < n
  td : ∀ t, t < n → ∀ d ∈ inp.taskDep t, d < n
  cd : ∀ t, t < n → ∀ d ∈ inp.calcDep t, d < n
  su : ∀ t, t < n → ∀ d ∈ inp.setup t, d < n
  rt : ∀ t, t < n → ∀ d ∈ (inp.calcRes t).tasks, d < n
  rf : ∀ t, t < n → ∀ d ∈ (inp.calcRes t).files, d < n
  rc : ∀ t, t < n → ∀ d ∈ (inp.calcRes t).calcs, d < n
  ft : ∀ t, t < n → ∀ d ∈ (inp.calcResFail t).tasks, d < n
  ff : ∀ t, t < n → ∀ d ∈ (inp.calcResFail t).files, d < n
  fc : ∀ t, t < n → ∀ d ∈ (inp.calcResFail t).calcs, d < n
  na : ∀ t, t < n → inp.noAct t = true →
    (inp.calcResFail t).tasks = [] ∧ (inp.calcResFail t).files = [] ∧ (inp.calcResFail t).calcs = []

theorem Bounded.p {inp : RunInput} {n : Nat} (h : Bounded inp n) : BoundedP inp n := by
  unfold Bounded boundedB at h
  simp only [Bool.and_eq_true, List.all_eq_true, List.mem_range, decide_eq_true_eq, Bool.or_eq_true,
    Bool.not_eq_true', List.isEmpty_iff] at h
  obtain ⟨hsel, hall⟩ := h
  refine ⟨hsel, fun t ht => ?_, fun t ht => ?_, fun t ht => ?_, fun t ht => ?_, fun t ht => ?_, fun t ht => ?_,
    fun t ht => ?_, fun t ht => ?_, fun t ht => ?_, fun t ht hna => ?_⟩
  -- the conjuncts of `boundedB` for task `t`, in its order
  all_goals obtain ⟨⟨⟨⟨⟨⟨⟨⟨⟨td, cd⟩, su⟩, rt⟩, rf⟩, rc⟩, ft⟩, ff⟩, fc⟩, na⟩ := hall t ht
  · exact td
  · exact cd
  · exact su
  · exact rt
  · exact rf
  · exact rc
  · exact ft
  · exact ff
  · exact fc
  · rcases na with a | a
    · rw [hna] at a; cases a
    · exact ⟨a.1.1, a.1.2, a.2⟩

theorem calcRound_round {inp : RunInput} {n : Nat} (hb : BoundedP inp n) (pre : List Ev) : Round n (calcRound inp pre) :=
  calcRound_round_of hb.rc pre

/-- with bounded names the fuel `n` closes `calcsAt` under the deliveries of its finished members -/
theorem calcsAt_closed {inp : RunInput} {n : Nat} (hb : BoundedP inp n) (pre : List Ev) {cs : List Name}
    (hcs : ∀ x ∈ cs, x < n) {c x : Name} (hc : c ∈ calcsAt inp pre n cs) (hf : finishedIn pre c = true)
    (hx : x ∈ (inp.calcRes c).calcs) : x ∈ calcsAt inp pre n cs :=
  calcsAt_closed_of hb.rc pre hcs hc hf hx

theorem calcsAt_bnd {inp : RunInput} {n : Nat} (hb : BoundedP inp n) (pre : List Ev) (k : Nat) {cs : List Name}
    (hcs : ∀ x ∈ cs, x < n) : ∀ x ∈ calcsAt inp pre k cs, x < n := by
  rw [calcsAt_iter]; exact iterF_bnd (calcRound_round hb pre).bnd k cs hcs

theorem resAt_cases (inp : RunInput) (tr : List Ev) (c : Name) :
    resAt inp tr c = inp.calcRes c ∨ resAt inp tr c = inp.calcResFail c ∨ resAt inp tr c = {} := by
  unfold resAt; split
  · exact Or.inl rfl
  · split
    · exact Or.inr (Or.inl rfl)
    · exact Or.inr (Or.inr rfl)

theorem resAt_bnd {inp : RunInput} {n : Nat} (hb : BoundedP inp n) (tr : List Ev) {c : Name} (hc : c < n) :
    (∀ x ∈ (resAt inp tr c).calcs, x < n) ∧ (∀ x ∈ (resAt inp tr c).tasks, x < n) ∧
    (∀ x ∈ (resAt inp tr c).files, x < n) := by
  rcases resAt_cases inp tr c with e | e | e <;> rw [e]
  · exact ⟨hb.rc c hc, hb.rt c hc, hb.rf c hc⟩
  · exact ⟨hb.fc c hc, hb.ft c hc, hb.ff c hc⟩
  · exact ⟨fun x hx => (by simp at hx), fun x hx => (by simp at hx), fun x hx => (by simp at hx)⟩

def roundCF (inp : RunInput) (pre : List Ev) (cs : List Name) : List Name :=
  addNew cs (cs.flatMap fun c => (resAt inp pre c).calcs)

theorem calcsAtF_iter (inp : RunInput) (pre : List Ev) : ∀ k cs,
    calcsAtF inp pre k cs = iterF (roundCF inp pre) k cs := by
  intro k; induction k with
  | zero => intro cs; rfl
  | succ k ih => intro cs; simp only [calcsAtF, iterF, roundCF, ih]

theorem roundCF_below {inp : RunInput} {n : Nat} (hb : BoundedP inp n) (pre : List Ev) (cl : List Name)
    (h : ∀ x ∈ cl, x < n) : ∀ x ∈ cl.flatMap fun c => (resAt inp pre c).calcs, x < n := by
  intro x hx
  obtain ⟨c, hc, hxc⟩ := List.mem_flatMap.mp hx
  exact (resAt_bnd hb pre (h c hc)).1 x hxc

theorem roundCF_round {inp : RunInput} {n : Nat} (hb : BoundedP inp n) (pre : List Ev) : Round n (roundCF inp pre) :=
  addNew_round (roundCF_below hb pre)

theorem calcsAtF_ext (inp : RunInput) (pre : List Ev) (k : Nat) (cs : List Name) (x : Name) (h : x ∈ cs) :
    x ∈ calcsAtF inp pre k cs := by
  rw [calcsAtF_iter]; exact iterF_addNew_ext _ k cs x h

theorem calcsAtF_closed {inp : RunInput} {n : Nat} (hb : BoundedP inp n) (pre : List Ev) {cs : List Name}
    (hcs : ∀ x ∈ cs, x < n) {c x : Name} (hc : c ∈ calcsAtF inp pre n cs)
    (hx : x ∈ (resAt inp pre c).calcs) : x ∈ calcsAtF inp pre n cs := by
  rw [calcsAtF_iter] at hc ⊢
  exact iterF_addNew_closed (roundCF_below hb pre) hcs (List.mem_flatMap.mpr ⟨c, hc, hx⟩)

theorem calcsAtF_bnd {inp : RunInput} {n : Nat} (hb : BoundedP inp n) (pre : List Ev) (k : Nat) {cs : List Name}
    (hcs : ∀ x ∈ cs, x < n) : ∀ x ∈ calcsAtF inp pre k cs, x < n := by
  rw [calcsAtF_iter]; exact iterF_bnd (roundCF_round hb pre).bnd k cs hcs

def setupOK (inp : RunInput) (nTasks : Nat) (tr : List Ev) (t d : Name) : Bool :=
  match firstMentionIdx tr d with
  | some i => runPending inp nTasks (tr.take i) t
  | none => runPending inp nTasks tr t

def succs (inp : RunInput) (nTasks : Nat) (tr : List Ev) (t : Name) : List Name :=
  inp.taskDep t ++ calcsAtF inp tr nTasks (inp.calcDep t) ++
    ((calcsAtF inp tr nTasks (inp.calcDep t)).flatMap fun c =>
      (resAt inp tr c).tasks ++ (resAt inp tr c).files) ++
    ((inp.setup t).filter fun d => setupOK inp nTasks tr t d)

theorem lazyOnce_eq (inp : RunInput) (nTasks : Nat) (tr : List Ev) (cl : List Name) :
    lazyOnce inp nTasks tr cl = cl.foldl (fun acc t => addNew acc (succs inp nTasks tr t)) cl := rfl

theorem mem_lazyOnce {inp : RunInput} {nTasks : Nat} {tr : List Ev} {cl : List Name} {x : Name} :
    x ∈ lazyOnce inp nTasks tr cl ↔ x ∈ cl ∨ ∃ t ∈ cl, x ∈ succs inp nTasks tr t := by
  rw [lazyOnce_eq]; exact mem_foldl_addNew cl cl

theorem succs_bnd {inp : RunInput} {n : Nat} (hb : BoundedP inp n) (tr : List Ev) {t : Name} (ht : t < n) :
    ∀ x ∈ succs inp n tr t, x < n := by
  intro x hx
  have hc := calcsAtF_bnd hb tr n (hb.cd t ht)
  simp only [succs, List.mem_append, List.mem_flatMap, List.mem_filter] at hx
  rcases hx with ((a | a) | ⟨c, hcc, a | a⟩) | ⟨a, _⟩
  · exact hb.td t ht x a
  · exact hc x a
  · exact (resAt_bnd hb tr (hc c hcc)).2.1 x a
  · exact (resAt_bnd hb tr (hc c hcc)).2.2 x a
  · exact hb.su t ht x a

theorem lazyOnce_round {inp : RunInput} {n : Nat} (hb : BoundedP inp n) (tr : List Ev) :
    Round n (lazyOnce inp n tr) := by
  refine ⟨?_, ?_, ?_⟩
  · intro cl x hx; exact mem_lazyOnce.mpr (Or.inl hx)
  · intro cl h
    rw [lazyOnce_eq]
    exact foldl_addNew_self cl cl (fun t ht x hx => h x (mem_lazyOnce.mpr (Or.inr ⟨t, ht, hx⟩)))
  · intro cl h x hx
    rcases mem_lazyOnce.mp hx with a | ⟨t, ht, a⟩
    · exact h x a
    · exact succs_bnd hb tr (h t ht) x a

theorem lazyIter_iter (inp : RunInput) (n : Nat) (tr : List Ev) : ∀ k cl,
    lazyIter inp n tr k cl = iterF (lazyOnce inp n tr) k cl := by
  intro k; induction k with
  | zero => intro cl; rfl
  | succ k ih => intro cl; simp only [lazyIter, iterF, ih]

/-- the inductive reading of the laziness closure -/
inductive JustT (inp : RunInput) (n : Nat) (tr : List Ev) : Name → Prop
  | sel {t} : t ∈ inp.sel → JustT inp n tr t
  | step {t d} : JustT inp n tr t → d ∈ succs inp n tr t → JustT inp n tr d

theorem just_mem_lazyIter {inp : RunInput} {n : Nat} (hb : BoundedP inp n) (tr : List Ev) {d : Name}
    (h : JustT inp n tr d) : d ∈ lazyIter inp n tr (n + 1) (addNew [] inp.sel) := by
  have r := lazyOnce_round hb tr
  have hsel : ∀ x ∈ addNew [] inp.sel, x < n := by
    intro x hx
    rcases (mem_addNew _ _).mp hx with a | a
    · cases a
    · exact hb.sel x a
  rw [lazyIter_iter]
  induction h with
  | sel ht => exact iterF_ext r.ext _ _ _ ((mem_addNew _ _).mpr (Or.inr ht))
  | step _ hd ih =>
    exact iterF_closed r (Nat.le_succ n) hsel _ (mem_lazyOnce.mpr (Or.inr ⟨_, ih, hd⟩))

theorem finishedIn_append {tr : List Ev} {d : Name} (h : finishedIn tr d = true) (obs : List Ev) :
    finishedIn (tr ++ obs) d = true := by
  unfold finishedIn at *; rw [List.any_append, h]; rfl

/-- what the calc tasks deliver according to `tr` they also deliver according to `tr'` -/
def ResLe (inp : RunInput) (tr tr' : List Ev) : Prop :=
  ∀ c x, (x ∈ (resAt inp tr c).calcs → x ∈ (resAt inp tr' c).calcs) ∧
    (x ∈ (resAt inp tr c).tasks → x ∈ (resAt inp tr' c).tasks) ∧
    (x ∈ (resAt inp tr c).files → x ∈ (resAt inp tr' c).files)

/-- a longer trace delivers the same, provided a task reported failed is not reported finished later -/
theorem resLe_append (inp : RunInput) (tr obs : List Ev)
    (h : ∀ c, failedRunIn tr c = true → finishedIn (tr ++ obs) c = false) : ResLe inp tr (tr ++ obs) := by
  intro c x
  unfold resAt
  by_cases hf : finishedIn tr c = true
  · simp only [hf, finishedIn_append hf obs, if_true]; exact ⟨id, id, id⟩
  · simp only [hf, Bool.false_eq_true, if_false]
    by_cases hr : failedRunIn tr c = true
    · have hr' : failedRunIn (tr ++ obs) c = true := by
        unfold failedRunIn at hr ⊢
        simp only [Bool.and_eq_true] at hr ⊢
        exact ⟨by rw [List.any_append, hr.1]; rfl, by rw [List.any_append, hr.2]; rfl⟩
      simp only [hr, h c hr, hr', if_true, Bool.false_eq_true, if_false]; exact ⟨id, id, id⟩
    · simp only [hr, Bool.false_eq_true, if_false]
      exact ⟨fun a => by simp at a, fun a => by simp at a, fun a => by simp at a⟩

theorem calcsAtF_mono {inp : RunInput} {tr tr' : List Ev} (hr : ResLe inp tr tr') : ∀ (k : Nat) (cs cs' : List Name),
    (∀ y ∈ cs, y ∈ cs') → ∀ x ∈ calcsAtF inp tr k cs, x ∈ calcsAtF inp tr' k cs' := by
  intro k
  induction k with
  | zero => intro cs cs' h x hx; exact h x hx
  | succ k ih =>
    intro cs cs' h x hx
    simp only [calcsAtF] at hx ⊢
    refine ih _ _ ?_ x hx
    intro y hy
    rcases (mem_addNew _ _).mp hy with a | a
    · exact (mem_addNew _ _).mpr (Or.inl (h y a))
    · simp only [List.mem_flatMap] at a
      obtain ⟨c, hc, hyc⟩ := a
      refine (mem_addNew _ _).mpr (Or.inr ?_)
      simp only [List.mem_flatMap]
      exact ⟨c, h c hc, (hr c y).1 hyc⟩

/-- when every member is already finished the computation does not change with a longer trace -/
theorem calcsAt_stable (inp : RunInput) (tr obs : List Ev) : ∀ (k : Nat) (cs : List Name),
    (∀ c ∈ calcsAt inp tr k cs, finishedIn tr c = true) → calcsAt inp (tr ++ obs) k cs = calcsAt inp tr k cs := by
  intro k
  induction k with
  | zero => intro cs _; rfl
  | succ k ih =>
    intro cs h
    simp only [calcsAt] at h ⊢
    have hcs : ∀ c ∈ cs, finishedIn tr c = true := fun c hc =>
      h c (calcsAt_ext inp tr k _ c ((mem_addNew _ _).mpr (Or.inl hc)))
    have e : cs.filter (finishedIn (tr ++ obs)) = cs.filter (finishedIn tr) :=
      List.filter_congr (fun c hc => by rw [hcs c hc, finishedIn_append (hcs c hc) obs])
    rw [e]
    exact ih _ h

theorem ranFirst_stable {inp : RunInput} {n : Nat} {tr : List Ev} {t : Name} (h : ranFirst inp n tr t = true)
    (obs : List Ev) : ranFirst inp n (tr ++ obs) t = true := by
  unfold ranFirst at *
  simp only [Bool.and_eq_true, List.all_eq_true] at h ⊢
  obtain ⟨hs, ha⟩ := h
  refine ⟨hs, ?_⟩
  have hc : ∀ c ∈ calcsAt inp tr n (inp.calcDep t), finishedIn tr c = true :=
    fun c hc => ha c (by simp [hc])
  have e := calcsAt_stable inp tr obs n (inp.calcDep t) hc
  have e2 : (calcsAt inp tr n (inp.calcDep t)).filter (finishedIn (tr ++ obs)) =
      (calcsAt inp tr n (inp.calcDep t)).filter (finishedIn tr) :=
    List.filter_congr (fun c hcc => by rw [hc c hcc, finishedIn_append (hc c hcc) obs])
  rw [e, e2]
  intro x hx
  exact finishedIn_append (ha x hx) obs

theorem runPending_append {inp : RunInput} {n : Nat} {tr : List Ev} {t : Name} (h : runPending inp n tr t = true)
    {o : List Ev} (ho : ∀ e ∈ o, Ev.isTerminalOf t e = false) : runPending inp n (tr ++ o) t = true := by
  unfold runPending at *
  simp only [Bool.and_eq_true, Bool.not_eq_true', List.contains_eq_mem, decide_eq_true_eq] at h ⊢
  refine ⟨⟨List.mem_append.mpr (Or.inl h.1.1), ?_⟩, ranFirst_stable h.2 o⟩
  rw [List.any_append, h.1.2, Bool.false_or]
  cases ha : o.any (Ev.isTerminalOf t) with
  | false => rfl
  | true =>
    obtain ⟨e, he, hp⟩ := List.any_eq_true.mp ha
    rw [ho e he] at hp; cases hp

/-- a setup edge that is accepted stays accepted: if the setup-task was already touched nothing changes; otherwise the
    parent must not get its terminal report before the setup-task is touched -/
theorem setupOK_stable {inp : RunInput} {n : Nat} {tr : List Ev} {t d : Name} (h : setupOK inp n tr t d = true)
    (obs : List Ev) (hT : (∃ e ∈ obs, Ev.isTerminalOf t e = true) → ∃ e ∈ tr, Ev.mentions d e = true) :
    setupOK inp n (tr ++ obs) t d = true := by
  unfold setupOK firstMentionIdx at *
  rw [List.findIdx?_append]
  cases hf : List.findIdx? (Ev.mentions d) tr with
  | some i =>
    rw [hf] at h
    simp only [Option.some_or] at h ⊢
    have hi : i < tr.length := (List.findIdx?_eq_some_iff_findIdx_eq.mp hf).1
    rw [List.take_append_of_le_length (Nat.le_of_lt hi)]
    exact h
  | none =>
    rw [hf] at h
    simp only [Option.none_or] at h ⊢
    have hno : ∀ e ∈ obs, Ev.isTerminalOf t e = false := by
      intro e he
      cases hp : Ev.isTerminalOf t e with
      | false => rfl
      | true =>
        obtain ⟨e', he', hm⟩ := hT ⟨e, he, hp⟩
        rw [List.findIdx?_eq_none_iff.mp hf e' he'] at hm; cases hm
    cases hg : List.findIdx? (Ev.mentions d) obs with
    | none => simp only [Option.map_none]; exact runPending_append h hno
    | some j =>
      simp only [Option.map_some]
      rw [Nat.add_comm, List.take_length_add_append]
      exact runPending_append h (fun e he => hno e (List.mem_of_mem_take he))

theorem succs_mono {inp : RunInput} {n : Nat} {tr : List Ev} {t x : Name} (obs : List Ev)
    (hr : ResLe inp tr (tr ++ obs))
    (hS : ∀ d ∈ inp.setup t, setupOK inp n tr t d = true → setupOK inp n (tr ++ obs) t d = true)
    (h : x ∈ succs inp n tr t) : x ∈ succs inp n (tr ++ obs) t := by
  have hc := calcsAtF_mono hr n (inp.calcDep t) (inp.calcDep t) (fun y hy => hy)
  simp only [succs, List.mem_append, List.mem_flatMap, List.mem_filter] at h ⊢
  rcases h with ((a | a) | ⟨c, hcc, a⟩) | ⟨a, b⟩
  · exact Or.inl (Or.inl (Or.inl a))
  · exact Or.inl (Or.inl (Or.inr (hc x a)))
  · refine Or.inl (Or.inr ⟨c, hc c hcc, ?_⟩)
    rcases a with a | a
    · exact Or.inl ((hr c x).2.1 a)
    · exact Or.inr ((hr c x).2.2 a)
  · exact Or.inr ⟨a, hS x a b⟩

theorem JustT.mono {inp : RunInput} {n : Nat} {tr : List Ev} (obs : List Ev) (hr : ResLe inp tr (tr ++ obs))
    (hS : ∀ t d, d ∈ inp.setup t → setupOK inp n tr t d = true → setupOK inp n (tr ++ obs) t d = true)
    {d : Name} (h : JustT inp n tr d) : JustT inp n (tr ++ obs) d := by
  induction h with
  | sel ht => exact .sel ht
  | step _ hd ih => exact .step ih (succs_mono obs hr (fun x hx => hS _ x hx) hd)

end DoitModel.Run
