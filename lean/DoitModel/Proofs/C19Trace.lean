import DoitModel.Proofs.C19Json
/-! # C19: from the model's raw event list to its observable trace (`Run.trace`: internal `go` events and the start /
    end marks of action-less tasks removed) — the report discipline and the JSON document are unaffected -/
namespace DoitModel.Report
open DoitModel.Run

def keepOf (inp : RunInput) (e : Ev) : Bool := !hidden inp e

theorem foldl_filter_neutral {α : Type} (f : α → Ev → α) (keep : Ev → Bool)
    (hn : ∀ e, keep e = false → ∀ a, f a e = a) : ∀ (l : List Ev) (a : α), (l.filter keep).foldl f a = l.foldl f a
  | [], _ => rfl
  | e :: l, a => by
    cases hk : keep e with
    | true => simp [hk, foldl_filter_neutral f keep hn l]
    | false => simp [hk, hn e hk a, foldl_filter_neutral f keep hn l]

theorem jStep_hidden (inp : RunInput) (e : Ev) (h : keepOf inp e = false) (st : Option (List JEnt)) :
    jStep st e = st := by
  cases e <;> simp [keepOf, hidden] at h <;> cases st <;> rfl

theorem jsonOf_trace (inp : RunInput) (s : Sys) : jsonOf (trace inp s) = jsonOf s.events.reverse := by
  unfold jsonOf trace
  have : (s.events.filter fun e => !hidden inp e).reverse = s.events.reverse.filter (keepOf inp) := by
    rw [List.filter_reverse]; rfl
  rw [this, foldl_filter_neutral jStep (keepOf inp) (jStep_hidden inp)]

theorem any_filter_false {α : Type} {p keep : α → Bool} {l : List α} (h : l.any p = false) : (l.filter keep).any p = false := by
  cases ha : (l.filter keep).any p with
  | false => rfl
  | true =>
    obtain ⟨e, he, hp⟩ := List.any_eq_true.mp ha
    have : l.any p = true := List.any_eq_true.mpr ⟨e, (List.mem_filter.mp he).1, hp⟩
    rw [h] at this; cases this

theorem any_filter_kept {α : Type} {p keep : α → Bool} {l : List α} (hk : ∀ e, keep e = false → p e = false) :
    (l.filter keep).any p = l.any p := by
  cases ha : l.any p with
  | false => exact any_filter_false ha
  | true =>
    obtain ⟨e, he, hp⟩ := List.any_eq_true.mp ha
    refine List.any_eq_true.mpr ⟨e, List.mem_filter.mpr ⟨he, ?_⟩, hp⟩
    cases hke : keep e with
    | true => rfl
    | false => rw [hk e hke] at hp; cases hp

theorem hidden_spec (inp : RunInput) {e : Ev} (h : keepOf inp e = false) (n : Name) :
    Ev.isGetStatusOf n e = false ∧ Ev.isExecOf n e = false ∧ Ev.isTerminalOf n e = false ∧
    (inp.noAct n = false → Ev.isStartOf n e = false ∧ Ev.isFinOf n e = false) := by
  have ne : ∀ m, (!inp.noAct m) = false → inp.noAct n = false → m ≠ n := fun m a b e => by
    rw [e, b] at a; cases a
  cases e with
  | go _ _ => exact ⟨rfl, rfl, rfl, fun _ => ⟨rfl, rfl⟩⟩
  | start m w => exact ⟨rfl, rfl, rfl, fun hn => ⟨decide_eq_false (ne m h hn), rfl⟩⟩
  | fin m w => exact ⟨rfl, rfl, rfl, fun hn => ⟨rfl, decide_eq_false (ne m h hn)⟩⟩
  | _ => cases h

theorem keep_term (inp : RunInput) (n : Name) : ∀ e, Ev.isTerminalOf n e = true → keepOf inp e = true := by
  intro e h
  cases hk : keepOf inp e with
  | true => rfl
  | false => rw [(hidden_spec inp hk n).2.2.1] at h; cases h

theorem firstFinal_filter (inp : RunInput) (n : Name) (post : List Ev) (h : firstFinal n post = true) :
    firstFinal n (post.filter (keepOf inp)) = true := by
  unfold firstFinal at *
  simp only [Bool.and_eq_true, Bool.not_eq_true'] at h ⊢
  exact ⟨by rw [any_filter_kept fun e hk => (hidden_spec inp hk n).1]; exact h.1, any_filter_false h.2⟩

/-- for a task without actions the requirement "the action ended" is what `noAct` waives -/
theorem repOK_filter (inp : RunInput) (ex fwd : Bool) (e : Ev) (post : List Ev) (hk : keepOf inp e = true)
    (h : repOK ex fwd (fun _ => false) e post = true) :
    repOK ex fwd inp.noAct e (post.filter (keepOf inp)) = true := by
  cases e with
  | getStatus n =>
    simp only [repOK, Bool.not_eq_true'] at h ⊢; exact any_filter_false h
  | execute n =>
    simp only [repOK, Bool.and_eq_true, Bool.not_eq_true'] at h ⊢
    exact ⟨firstFinal_filter inp n post h.1, any_filter_false h.2⟩
  | start n w =>
    simp only [repOK] at h ⊢
    rw [any_filter_kept fun e hk => (hidden_spec inp hk n).2.1]; exact h
  | fin n w =>
    have hn : inp.noAct n = false := by simpa [keepOf, hidden] using hk
    simp only [repOK] at h ⊢
    rw [any_filter_kept fun e hk => ((hidden_spec inp hk n).2.2.2 hn).1]; exact h
  | success n =>
    simp only [repOK, Bool.and_eq_true, Bool.false_or] at h ⊢
    refine ⟨⟨firstFinal_filter inp n post h.1.1, ?_⟩, by rw [any_filter_kept fun e hk => (hidden_spec inp hk n).2.1]; exact h.2⟩
    cases hn : inp.noAct n with
    | true => rfl
    | false => rw [Bool.false_or, any_filter_kept fun e hk => ((hidden_spec inp hk n).2.2.2 hn).2]; exact h.1.2
  | failure n k =>
    cases k with
    | unmet =>
      simp only [repOK, Bool.and_eq_true, Bool.not_eq_true'] at h ⊢
      exact ⟨firstFinal_filter inp n post h.1, any_filter_false h.2.1, any_filter_false h.2.2⟩
    | depErr =>
      simp only [repOK, Bool.and_true] at h ⊢
      exact firstFinal_filter inp n post h
    | failed | error =>
      simp only [repOK, Bool.and_eq_true, Bool.false_or] at h ⊢
      refine ⟨firstFinal_filter inp n post h.1, ?_, by rw [any_filter_kept fun e hk => (hidden_spec inp hk n).2.1]; exact h.2.2⟩
      cases hn : inp.noAct n with
      | true => rfl
      | false => rw [Bool.false_or, any_filter_kept fun e hk => ((hidden_spec inp hk n).2.2.2 hn).2]; exact h.2.1
  | skipUtd n | skipIgn n =>
    simp only [repOK, Bool.and_eq_true, Bool.not_eq_true'] at h ⊢
    exact ⟨⟨firstFinal_filter inp n post h.1.1, any_filter_false h.1.2⟩, any_filter_false h.2⟩
  | teardown _ | complete | go _ _ => rfl

theorem repOrd_filter (inp : RunInput) (ex fwd : Bool) : ∀ (evs : List Ev),
    repOrd ex fwd (fun _ => false) evs = true → repOrd ex fwd inp.noAct (evs.filter (keepOf inp)) = true
  | [], _ => rfl
  | e :: post, h => by
    simp only [repOrd, Bool.and_eq_true] at h
    have ih := repOrd_filter inp ex fwd post h.2
    cases hk : keepOf inp e with
    | false => simpa [List.filter_cons, hk] using ih
    | true =>
      simp only [List.filter_cons, hk, if_true, repOrd, Bool.and_eq_true]
      exact ⟨repOK_filter inp ex fwd e post hk h.1, ih⟩

theorem trace_reverse (inp : RunInput) (s : Sys) : (trace inp s).reverse = s.events.filter (keepOf inp) := by
  unfold trace; rw [List.reverse_reverse]; rfl

end DoitModel.Report
