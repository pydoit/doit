import DoitModel.Proofs.C05Shape
import DoitModel.Proofs.DispMove
/-! # C09 — the order of terminal reports, part 1: definitions and the node invariant `NG`

`fstTerm evs t` is the age (number of older events) of the oldest terminal report of `t`.  `CalcG` / `StageG` are the
dependencies of a task as the run has determined them so far: task_dep, calc_dep, and what calc_deps that are
*executed or up-to-date* (status `σ`) have delivered.  `NG` records for every list of an `ExecNode` where its members
come from; in particular every member of `bad_deps` / `ignored_deps` is a failed / ignored dependency of the first
stage unless the node has entered the setup stage (`PC.late9`). -/
namespace DoitModel.Run

def fstTerm : List Ev → Name → Option Nat
  | [], _ => none
  | e :: post, t =>
    match fstTerm post t with
    | some a => some a
    | none => if Ev.isTerminalOf t e = true then some post.length else none

theorem fstTerm_lt {l : List Ev} {t : Name} {a : Nat} (h : fstTerm l t = some a) : a < l.length := by
  induction l with
  | nil => cases h
  | cons e post ih =>
    simp only [fstTerm] at h
    cases hp : fstTerm post t with
    | some b =>
      rw [hp] at h; simp only [Option.some.injEq] at h; subst h
      have := ih hp; simp only [List.length_cons]; omega
    | none =>
      rw [hp] at h
      by_cases c : Ev.isTerminalOf t e = true
      · rw [if_pos c] at h; cases h; exact Nat.lt_succ_self _
      · rw [if_neg c] at h; cases h

theorem fstTerm_append_old {new old : List Ev} {t : Name} {a : Nat} (h : fstTerm old t = some a) :
    fstTerm (new ++ old) t = some a := by
  induction new with
  | nil => exact h
  | cons e r ih => simp only [List.cons_append, fstTerm, ih]

theorem fstTerm_append_quiet {new old : List Ev} {t : Name} (hq : ∀ e ∈ new, Ev.isTerminalOf t e = false) :
    fstTerm (new ++ old) t = fstTerm old t := by
  induction new with
  | nil => rfl
  | cons e r ih =>
    simp only [List.cons_append, fstTerm]
    rw [ih (fun x hx => hq x (by simp [hx]))]
    have := hq e (by simp)
    cases fstTerm old t <;> simp [this]

theorem fstTerm_append_new {new old : List Ev} {t : Name} {a : Nat} (h0 : fstTerm old t = none)
    (h : fstTerm (new ++ old) t = some a) : old.length ≤ a := by
  induction new with
  | nil => simp only [List.nil_append] at h; rw [h0] at h; cases h
  | cons e r ih =>
    simp only [List.cons_append, fstTerm] at h
    cases hp : fstTerm (r ++ old) t with
    | some b => rw [hp] at h; simp only [Option.some.injEq] at h; subst h; exact ih hp
    | none =>
      rw [hp] at h
      by_cases c : Ev.isTerminalOf t e = true
      · rw [if_pos c] at h; cases h; exact List.length_append ▸ Nat.le_add_left _ _
      · rw [if_neg c] at h; cases h

theorem fstTerm_none_iff {l : List Ev} {t : Name} : fstTerm l t = none ↔ ∀ e ∈ l, Ev.isTerminalOf t e = false := by
  induction l with
  | nil => simp [fstTerm]
  | cons e post ih =>
    simp only [fstTerm, List.mem_cons, forall_eq_or_imp]
    cases hp : fstTerm post t with
    | some b =>
      simp only [reduceCtorEq, false_iff, not_and]
      intro _ hall
      rw [ih.mpr hall] at hp; cases hp
    | none =>
      have := ih.mp hp
      by_cases he : Ev.isTerminalOf t e = true
      · simp [he]
      · simp only [he, Bool.false_eq_true, if_false, true_iff]
        exact ⟨trivial, this⟩

theorem fstTerm_some_of_mem {l : List Ev} {t : Name} {e : Ev} (he : e ∈ l) (ht : Ev.isTerminalOf t e = true) :
    ∃ a, fstTerm l t = some a := by
  cases h : fstTerm l t with
  | some a => exact ⟨a, rfl⟩
  | none => have := fstTerm_none_iff.mp h e he; rw [ht] at this; cases this

theorem fstTerm_none_of_cTerm {s : Sys} {t : Name} (h : cTerm s t = 0) : fstTerm s.events t = none := by
  apply fstTerm_none_iff.mpr
  intro e he
  unfold cTerm at h
  have := List.countP_eq_zero.mp h e he
  simpa using this

theorem fstTerm_some_of_cTerm {s : Sys} {t : Name} (h : cTerm s t ≥ 1) : ∃ a, fstTerm s.events t = some a := by
  have hpos : 0 < s.events.countP (Ev.isTerminalOf t) := by unfold cTerm at h; omega
  obtain ⟨e, he, hp⟩ := List.countP_pos_iff.mp hpos
  exact fstTerm_some_of_mem he hp

theorem mem_of_fstTerm {l : List Ev} {t : Name} {a : Nat} (h : fstTerm l t = some a) :
    ∃ e ∈ l, Ev.isTerminalOf t e = true := by
  induction l generalizing a with
  | nil => cases h
  | cons e post ih =>
    simp only [fstTerm] at h
    cases hp : fstTerm post t with
    | some b =>
      obtain ⟨x, hx, hb⟩ := ih hp
      exact ⟨x, List.mem_cons_of_mem _ hx, hb⟩
    | none =>
      rw [hp] at h
      by_cases c : Ev.isTerminalOf t e = true
      · exact ⟨e, List.mem_cons_self .., c⟩
      · rw [if_neg c] at h; cases h

/-- calc_deps of `n`: listed, or delivered by a calc_dep that is executed / up-to-date under `σ` -/
inductive CalcG (inp : RunInput) (σ : Name → RS) (n : Name) : Name → Prop
  | base {c : Name} : c ∈ inp.calcDep n → CalcG inp σ n c
  | res {p c : Name} : CalcG inp σ n p → (σ p).good = true → c ∈ (inp.calcRes p).calcs → CalcG inp σ n c

/-- first-stage dependencies of `n`: task_dep, calc_dep, what good calc_deps delivered -/
def StageG (inp : RunInput) (σ : Name → RS) (n d : Name) : Prop :=
  d ∈ inp.taskDep n ∨ CalcG inp σ n d ∨
    ∃ p, CalcG inp σ n p ∧ (σ p).good = true ∧ (d ∈ (inp.calcRes p).tasks ∨ d ∈ (inp.calcRes p).files)

/-- `hm` only along the calc chain, under both status maps: `invT_change` knows the statuses of the chain's members only -/
theorem CalcG.mono {inp : RunInput} {σ σ' : Name → RS} {n c : Name}
    (hm : ∀ p, CalcG inp σ n p → CalcG inp σ' n p → (σ p).good = true → (σ' p).good = true)
    (h : CalcG inp σ n c) : CalcG inp σ' n c := by
  induction h with
  | base h => exact .base h
  | res hp hg hc ih => exact .res ih (hm _ hp ih hg) hc

theorem StageG.mono {inp : RunInput} {σ σ' : Name → RS} {n d : Name}
    (hm : ∀ p, CalcG inp σ n p → CalcG inp σ' n p → (σ p).good = true → (σ' p).good = true)
    (h : StageG inp σ n d) : StageG inp σ' n d := by
  rcases h with a | a | ⟨p, a, b, c⟩
  · exact Or.inl a
  · exact Or.inr (Or.inl (a.mono hm))
  · exact Or.inr (Or.inr ⟨p, a.mono hm, hm p a (a.mono hm) b, c⟩)

/-- `select_task`'s first pass would choose `n` for execution -/
def RunFirstG (inp : RunInput) (σ : Name → RS) (n : Name) : Prop :=
  inp.ignored n = false ∧ inp.statusOf n ≠ .error ∧ effStatus inp n = .run ∧
    ∀ x, StageG inp σ n x → (σ x).good = true

/-- past the first `select_task`, closed under `_add_task`: from `setupIter []` on the setup-tasks may be in `wait_run` /
    `bad_deps` / `ignored_deps`, where `NG` then allows any name; `setupDecide`, `setupIter _` are in for closure -/
def PC.late9 : PC → Bool
  | .setupDecide | .setupIter _ | .afterSetup | .self2 | .afterSelf2 | .done => true
  | _ => false

/-! `_process_calc_dep_results` reads `task.values` whatever the status: a calc task whose execution failed still delivers
what its actions returned before the failing one (`deliverF`).  `CalcF` / `StageF` add those deliveries, for every failed
calc_dep, started or not: an upper bound of the lists of an `ExecNode` (`NG`).  What they add hangs below a failed member
of `CalcG` (`CalcF.cases`).  `CalcH` (`Proofs/C09OrdF.lean`) adds the failed deliveries of the calc_deps satisfying `P`;
`CalcG` is `CalcH` at `P := False`, `CalcF` at `True`; separate types because `Props/C09.lean` speaks of each. -/

inductive CalcF (inp : RunInput) (σ : Name → RS) (n : Name) : Name → Prop
  | base {c : Name} : c ∈ inp.calcDep n → CalcF inp σ n c
  | res {p c : Name} : CalcF inp σ n p → (σ p).good = true → c ∈ (inp.calcRes p).calcs → CalcF inp σ n c
  | resF {p c : Name} : CalcF inp σ n p → σ p = .fail → c ∈ (inp.calcResFail p).calcs → CalcF inp σ n c

def StageF (inp : RunInput) (σ : Name → RS) (n d : Name) : Prop :=
  d ∈ inp.taskDep n ∨ CalcF inp σ n d ∨
    ∃ p, CalcF inp σ n p ∧ (((σ p).good = true ∧ (d ∈ (inp.calcRes p).tasks ∨ d ∈ (inp.calcRes p).files)) ∨
      (σ p = .fail ∧ (d ∈ (inp.calcResFail p).tasks ∨ d ∈ (inp.calcResFail p).files)))

theorem CalcG.toF {inp : RunInput} {σ : Name → RS} {n c : Name} (h : CalcG inp σ n c) : CalcF inp σ n c := by
  induction h with
  | base h => exact .base h
  | res _ hg hc ih => exact .res ih hg hc

theorem StageG.toF {inp : RunInput} {σ : Name → RS} {n d : Name} (h : StageG inp σ n d) : StageF inp σ n d := by
  rcases h with a | a | ⟨p, a, b, c⟩
  · exact Or.inl a
  · exact Or.inr (Or.inl a.toF)
  · exact Or.inr (Or.inr ⟨p, a.toF, Or.inl ⟨b, c⟩⟩)

theorem CalcF.cases {inp : RunInput} {σ : Name → RS} {n c : Name} (h : CalcF inp σ n c) :
    CalcG inp σ n c ∨ ∃ p, CalcG inp σ n p ∧ σ p = .fail := by
  induction h with
  | base h => exact Or.inl (.base h)
  | res _ hg hc ih =>
    rcases ih with a | a
    · exact Or.inl (.res a hg hc)
    · exact Or.inr a
  | resF _ hf _ ih =>
    rcases ih with a | a
    · exact Or.inr ⟨_, a, hf⟩
    · exact Or.inr a

theorem StageF.cases {inp : RunInput} {σ : Name → RS} {n d : Name} (h : StageF inp σ n d) :
    StageG inp σ n d ∨ ∃ p, StageG inp σ n p ∧ σ p = .fail := by
  rcases h with a | a | ⟨p, a, b⟩
  · exact Or.inl (Or.inl a)
  · rcases a.cases with x | ⟨q, x, y⟩
    · exact Or.inl (Or.inr (Or.inl x))
    · exact Or.inr ⟨q, Or.inr (Or.inl x), y⟩
  · rcases a.cases with x | ⟨q, x, y⟩
    · rcases b with ⟨b1, b2⟩ | ⟨b1, _⟩
      · exact Or.inl (Or.inr (Or.inr ⟨p, x, b1, b2⟩))
      · exact Or.inr ⟨p, Or.inr (Or.inl x), b1⟩
    · exact Or.inr ⟨q, Or.inr (Or.inl x), y⟩

theorem CalcF.mono {inp : RunInput} {σ σ' : Name → RS} {n c : Name}
    (hs : ∀ x, (σ x).finished = true → σ' x = σ x) (h : CalcF inp σ n c) : CalcF inp σ' n c := by
  induction h with
  | base h => exact .base h
  | res _ hg hc ih => exact .res ih (by rw [hs _ (RS.good_finished hg)]; exact hg) hc
  | resF _ hf hc ih => exact .resF ih (by rw [hs _ (by rw [hf]; rfl)]; exact hf) hc

theorem StageF.mono {inp : RunInput} {σ σ' : Name → RS} {n d : Name}
    (hs : ∀ x, (σ x).finished = true → σ' x = σ x) (h : StageF inp σ n d) : StageF inp σ' n d := by
  rcases h with a | a | ⟨p, a, b⟩
  · exact Or.inl a
  · exact Or.inr (Or.inl (a.mono hs))
  · refine Or.inr (Or.inr ⟨p, a.mono hs, ?_⟩)
    rcases b with ⟨b1, b2⟩ | ⟨b1, b2⟩
    · exact Or.inl ⟨by rw [hs _ (RS.good_finished b1)]; exact b1, b2⟩
    · exact Or.inr ⟨by rw [hs _ (by rw [b1]; rfl)]; exact b1, b2⟩

structure NG (inp : RunInput) (σ : Name → RS) (n : Name) (nd : Node) : Prop where
  pt : ∀ d ∈ nd.pendTask, StageF inp σ n d
  pcalc : ∀ d ∈ nd.pendCalc, CalcF inp σ n d
  st : ∀ d ∈ nd.snapTask, StageF inp σ n d
  sc : ∀ d ∈ nd.snapCalc, CalcF inp σ n d
  wr : ∀ d ∈ nd.waitRun, StageF inp σ n d ∨ nd.pc.late9 = true
  wc : ∀ d ∈ nd.waitRunCalc, CalcF inp σ n d
  bd : ∀ p ∈ nd.bad, σ p = .fail ∧ (StageF inp σ n p ∨ nd.pc.late9 = true)
  ig : ∀ p ∈ nd.ign, σ p = .ign ∧ (StageF inp σ n p ∨ nd.pc.late9 = true)

variable {inp : RunInput} {σ : Name → RS}

theorem NG.mono {σ' : Name → RS} {n : Name} {nd : Node} (h : NG inp σ n nd)
    (hs : ∀ x, (σ x).finished = true → σ' x = σ x) : NG inp σ' n nd := by
  have hf : ∀ p, σ p = .fail → σ' p = .fail := fun p e => by rw [hs p (by rw [e]; rfl)]; exact e
  have hi : ∀ p, σ p = .ign → σ' p = .ign := fun p e => by rw [hs p (by rw [e]; rfl)]; exact e
  refine ⟨fun d hd => (h.pt d hd).mono hs, fun d hd => (h.pcalc d hd).mono hs, fun d hd => (h.st d hd).mono hs,
    fun d hd => (h.sc d hd).mono hs, ?_, fun d hd => (h.wc d hd).mono hs, ?_, ?_⟩
  · intro d hd; rcases h.wr d hd with a | a
    · exact Or.inl (a.mono hs)
    · exact Or.inr a
  · intro p hp; obtain ⟨a, b⟩ := h.bd p hp
    refine ⟨hf p a, ?_⟩
    rcases b with b | b
    · exact Or.inl (b.mono hs)
    · exact Or.inr b
  · intro p hp; obtain ⟨a, b⟩ := h.ig p hp
    refine ⟨hi p a, ?_⟩
    rcases b with b | b
    · exact Or.inl (b.mono hs)
    · exact Or.inr b

theorem mkNode_ng (t : Name) (anc : List Name) : NG inp σ t (mkNode inp t anc) := by
  refine ⟨fun d hd => Or.inl hd, fun d hd => .base (mem_dedup.mp hd), ?_, ?_, ?_, ?_, ?_, ?_⟩ <;>
    (intro d hd; simp [mkNode] at hd)

theorem NG.setPc {n : Name} {nd : Node} (h : NG inp σ n nd) (pc' : PC)
    (hm : nd.pc.late9 = true → pc'.late9 = true) : NG inp σ n { nd with pc := pc' } := by
  refine ⟨h.pt, h.pcalc, h.st, h.sc, ?_, h.wc, ?_, ?_⟩
  · intro d hd; rcases h.wr d hd with a | a
    · exact Or.inl a
    · exact Or.inr (hm a)
  · intro p hp; obtain ⟨a, b⟩ := h.bd p hp
    exact ⟨a, b.imp id hm⟩
  · intro p hp; obtain ⟨a, b⟩ := h.ig p hp
    exact ⟨a, b.imp id hm⟩

theorem addDeps_ngR {n : Name} {nd : Node} {r : CalcRes} (h : NG inp σ n nd)
    (ht : ∀ d, (d ∈ r.tasks ∨ d ∈ r.files) → StageF inp σ n d) (hc : ∀ d ∈ r.calcs, CalcF inp σ n d) :
    NG inp σ n (nd.addDeps r) := by
  have nt : ∀ d ∈ newTaskDeps nd r, StageF inp σ n d := by
    intro d hd
    simp only [newTaskDeps, List.mem_append] at hd
    rcases hd with a | a
    · exact ht d (Or.inl a)
    · exact ht d (Or.inr (implicitNew_mem a))
  have nc : ∀ d ∈ newCalcDeps nd r, CalcF inp σ n d := by
    intro d hd
    simp only [newCalcDeps, List.mem_filter] at hd
    exact hc d (mem_dedup.mp hd.1)
  refine ⟨?_, ?_, h.st, h.sc, h.wr, h.wc, h.bd, h.ig⟩
  · intro d hd; simp only [Node.addDeps, List.mem_append] at hd
    rcases hd with a | a
    · exact h.pt d a
    · exact nt d a
  · intro d hd; simp only [Node.addDeps, List.mem_append, List.mem_filter] at hd
    rcases hd with a | a
    · exact h.pcalc d a
    · exact nc d a.1

theorem deliver_ng {n p : Name} {nd : Node} (pst : RS) (h : NG inp σ n nd) (hp : CalcF inp σ n p)
    (hpst : pst = σ p) : NG inp σ n (deliver inp pst p nd) := by
  unfold deliver; split
  · rename_i hg
    have hg' : (σ p).good = true := hpst ▸ hg
    exact addDeps_ngR h (fun d hd => Or.inr (Or.inr ⟨p, hp, Or.inl ⟨hg', hd⟩⟩)) (fun d hd => .res hp hg' hd)
  · exact h

theorem deliverF_ng {n p : Name} {nd : Node} (ex : Bool) (pst : RS) (h : NG inp σ n nd) (hp : CalcF inp σ n p)
    (hpst : pst = σ p) : NG inp σ n (deliverF inp ex pst p nd) := by
  unfold deliverF; split
  · rename_i hg
    have hf : σ p = .fail := hpst ▸ hg.1
    exact addDeps_ngR h (fun d hd => Or.inr (Or.inr ⟨p, hp, Or.inr ⟨hf, hd⟩⟩)) (fun d hd => .resF hp hf hd)
  · exact h

theorem parentStatus_ng {n p : Name} {nd : Node} (pst : RS) (h : NG inp σ n nd) (hpst : pst = σ p)
    (hd : StageF inp σ n p ∨ nd.pc.late9 = true) : NG inp σ n (parentStatus pst p nd) := by
  refine ⟨h.pt, h.pcalc, h.st, h.sc, h.wr, h.wc, fun x hx => ?_, fun x hx => ?_⟩
  · change x ∈ (if pst = .fail then nd.bad ++ [p] else nd.bad) at hx
    by_cases e : pst = .fail
    · rw [if_pos e] at hx
      exact (List.mem_append.mp hx).elim (h.bd x) fun a => by rw [List.mem_singleton.mp a]; exact ⟨hpst ▸ e, hd⟩
    · rw [if_neg e] at hx; exact h.bd x hx
  · change x ∈ (if pst = .ign then nd.ign ++ [p] else nd.ign) at hx
    by_cases e : pst = .ign
    · rw [if_pos e] at hx
      exact (List.mem_append.mp hx).elim (h.ig x) fun a => by rw [List.mem_singleton.mp a]; exact ⟨hpst ▸ e, hd⟩
    · rw [if_neg e] at hx; exact h.ig x hx

theorem absorbDone_ng_calc {s : Sys} {n : Name} (hσ : ∀ d, stOf s d = σ d) :
    ∀ (ds : List Name) (nd : Node), NG inp σ n nd → (∀ d ∈ ds, CalcF inp σ n d) →
      NG inp σ n (absorbDone inp s true ds nd) := by
  intro ds
  induction ds with
  | nil => intro nd h _; exact h
  | cons a t ih =>
    intro nd h hds
    simp only [absorbDone]
    have ha := hds a (by simp)
    split
    · exact ih nd h (fun d hd => hds d (by simp [hd]))
    · apply ih _ _ (fun d hd => hds d (by simp [hd]))
      simp only [if_true]
      exact deliverF_ng _ _ (deliver_ng _ (parentStatus_ng _ h (hσ a) (Or.inl (Or.inr (Or.inl ha)))) ha (hσ a)) ha (hσ a)

/-- (`lt`: the induction changes the node but not its position) -/
theorem absorbDone_ng_plain {s : Sys} {n : Name} (lt : Bool) (hσ : ∀ d, stOf s d = σ d) :
    ∀ (ds : List Name) (nd : Node), NG inp σ n nd → nd.pc.late9 = lt →
      (∀ d ∈ ds, StageF inp σ n d ∨ lt = true) → NG inp σ n (absorbDone inp s false ds nd) := by
  intro ds
  induction ds with
  | nil => intro nd h _ _; exact h
  | cons a t ih =>
    intro nd h hlt hds
    simp only [absorbDone]
    have ha := hds a (by simp)
    split
    · exact ih nd h hlt (fun d hd => hds d (by simp [hd]))
    · apply ih _ _ (by exact hlt) (fun d hd => hds d (by simp [hd]))
      simp only [Bool.false_eq_true, if_false]
      exact parentStatus_ng _ h (hσ a) (by rw [hlt]; exact ha)

theorem addWaits_pc (nd : Node) (c : Bool) (wf : List Name) : (addWaits nd c wf).pc = nd.pc := by
  unfold addWaits; split <;> rfl

theorem waitNode_ng {s : Sys} {n : Name} {nd : Node} (ds : List Name) (isCalc : Bool) (pc' : PC)
    (hσ : ∀ d, stOf s d = σ d) (h : NG inp σ n nd) (hc : isCalc = true → ∀ d ∈ ds, CalcF inp σ n d)
    (ht : isCalc = false → ∀ d ∈ ds, StageF inp σ n d ∨ nd.pc.late9 = true)
    (hm : nd.pc.late9 = true → pc'.late9 = true) :
    NG inp σ n (waitNode inp s nd ds isCalc pc') := by
  have hpc : (absorbDone inp s isCalc ds nd).pc = nd.pc := (absorbDone_spec inp s isCalc ds nd).1.pc
  unfold waitNode
  refine NG.setPc ?_ pc' (by rw [addWaits_pc, hpc]; exact hm)
  cases isCalc with
  | true =>
    have a := absorbDone_ng_calc hσ ds nd h (hc rfl)
    refine ⟨a.pt, a.pcalc, a.st, a.sc, a.wr, fun d hd => ?_, a.bd, a.ig⟩
    exact (List.mem_append.mp hd).elim (fun x => hc rfl d (List.mem_filter.mp x).1) (a.wc d)
  | false =>
    have a := absorbDone_ng_plain _ hσ ds nd h rfl (ht rfl)
    refine ⟨a.pt, a.pcalc, a.st, a.sc, fun d hd => ?_, a.wc, a.bd, a.ig⟩
    exact (List.mem_append.mp hd).elim (fun x => hpc ▸ ht rfl d (List.mem_filter.mp x).1) (a.wr d)

theorem wokenNode_ng {n p : Name} {nd : Node} (pst : RS) (h : NG inp σ n nd)
    (hnc : wakeCrash p nd = false) (hpst : pst = σ p) : NG inp σ n (wokenNode inp pst p nd) := by
  unfold wokenNode
  by_cases hc : p ∈ nd.waitRunCalc
  · rw [if_pos hc]
    have hp := h.wc p hc
    have a := parentStatus_ng pst h hpst (Or.inl (Or.inr (Or.inl hp)))
    exact deliver_ng _ ⟨a.pt, a.pcalc, a.st, a.sc, fun d hd => h.wr d (List.mem_filter.mp hd).1,
      fun d hd => h.wc d (List.mem_filter.mp hd).1, a.bd, a.ig⟩ hp hpst
  · rw [if_neg hc]
    -- no assertion failure: `p` is in the other wait set
    have hw : p ∈ nd.waitRun := Decidable.by_contra fun hw => by simp [wakeCrash, hw, hc] at hnc
    have a := parentStatus_ng pst h hpst (h.wr p hw)
    exact ⟨a.pt, a.pcalc, a.st, a.sc, fun d hd => h.wr d (List.mem_filter.mp hd).1, a.wc, a.bd, a.ig⟩

theorem addWaiting_ng {n : Name} {nd : Node} (m : Name) (h : NG inp σ n nd) : NG inp σ n (nd.addWaiting m) := by
  unfold Node.addWaiting; split
  · exact h
  · exact ⟨h.pt, h.pcalc, h.st, h.sc, h.wr, h.wc, h.bd, h.ig⟩

/-! `σ` is fixed below: the dispatcher changes no status. -/

def AllNG (inp : RunInput) (σ : Name → RS) (s : Sys) : Prop := ∀ k y, s.nodes k = some y → NG inp σ k y

theorem ng_setNode {s : Sys} {n : Name} {x : Node} (h : AllNG inp σ s) (hx : NG inp σ n x) :
    AllNG inp σ (setNode s n x) := by
  intro k y hk
  simp only [setNode_nodes] at hk
  split at hk
  · rename_i e; subst e; cases hk; exact hx
  · exact h k y hk

theorem ng_registerWaiting {s : Sys} (n : Name) (wf : List Name) (h : AllNG inp σ s) :
    AllNG inp σ (registerWaiting s n wf) := by
  intro k y hk
  rw [registerWaiting_nodes] at hk
  cases hx : s.nodes k with
  | none => rw [hx] at hk; cases hk
  | some x =>
    rw [hx] at hk
    by_cases e : k ∈ wf
    · simp only [e, if_true, Option.some.injEq] at hk; subst hk; exact addWaiting_ng n (h k x hx)
    · simp only [e, if_false, Option.some.injEq] at hk; subst hk; exact h k x hx

theorem genStep_ng {s : Sys} {n : Name} {nd : Node} (d : Name) (pc' : PC) (h : AllNG inp σ s)
    (hn : s.nodes n = some nd) (hm : nd.pc.late9 = true → pc'.late9 = true) :
    AllNG inp σ (genStep inp s n nd d pc') := by
  have hx := (h n nd hn).setPc pc' hm
  generalize hg : genStep inp s n nd d pc' = g
  cases genStep_spec hg with
  | fresh _ => exact fun k y hk => ng_setNode (ng_setNode h (mkNode_ng d _)) hx k y hk
  | cyclic _ _ => exact h
  | known _ _ => exact ng_setNode h hx

theorem addWaitRun_ng {s : Sys} {n : Name} {nd : Node} (ds : List Name) (c : Bool) (pc' : PC)
    (hσ : ∀ d, stOf s d = σ d) (h : AllNG inp σ s) (hn : s.nodes n = some nd)
    (hc : c = true → ∀ d ∈ ds, CalcF inp σ n d) (ht : c = false → ∀ d ∈ ds, StageF inp σ n d ∨ nd.pc.late9 = true)
    (hm : nd.pc.late9 = true → pc'.late9 = true) :
    AllNG inp σ (addWaitRun inp s n nd ds c pc') := by
  unfold addWaitRun
  exact ng_registerWaiting n _ (ng_setNode h (waitNode_ng ds c pc' hσ (h n nd hn) hc ht hm))

theorem early9 {nd : Node} {pc : PC} (e : nd.pc = pc) (f : pc.late9 = false) (pc' : PC) :
    nd.pc.late9 = true → pc'.late9 = true := fun g => by rw [e, f] at g; cases g

theorem NodeMove.ng {n : Name} {nd x : Node} {perm : List Name} (hm : NodeMove inp n nd perm x) (h : NG inp σ n nd) :
    NG inp σ n x := by
  cases hm with
  | loopTop hpc hp =>
    exact NG.setPc (nd := { nd with snapCalc := perm, pendCalc := [], snapTask := nd.pendTask, pendTask := [] })
      ⟨nofun, nofun, h.pt, fun d hd => h.pcalc d (hp.mem_iff.mp hd), h.wr, h.wc, h.bd, h.ig⟩ _ (early9 hpc rfl _)
  | again hpc _ => exact h.setPc _ (early9 hpc rfl _)
  | depsDone hpc _ _ _ _ => exact h.setPc _ (early9 hpc rfl _)
  | _ => exact h.setPc _ fun _ => rfl

theorem NodePark.ng {n : Name} {nd x : Node} (hp : NodePark inp n nd x) (h : NG inp σ n nd) : NG inp σ n x := by
  cases hp with
  | deps hpc _ _ _ => exact h.setPc _ (early9 hpc rfl _)
  | select _ _ _ =>
    exact NG.setPc (nd := { nd with waitSelect := true }) ⟨h.pt, h.pcalc, h.st, h.sc, h.wr, h.wc, h.bd, h.ig⟩ _
      fun _ => rfl
  | setup _ _ => exact h.setPc _ fun _ => rfl

theorem nodeStep_ng {s s' : Sys} {n : Name} {nd : Node} {perm : List Name}
    (hσ : ∀ d, stOf s d = σ d) (h : AllNG inp σ s) (hn : s.nodes n = some nd)
    (hs : NodeStep inp s n nd perm s') : AllNG inp σ s' := by
  have hnd := h n nd hn
  cases hs with
  | move hm => exact ng_setNode h (hm.ng hnd)
  | park hp => exact fun k y hk => ng_setNode h (hp.ng hnd) k y hk
  | yield1 hpc => exact fun k y hk => ng_setNode h (hnd.setPc .afterSelf1 (early9 hpc rfl _)) k y hk
  | yield2 _ => exact fun k y hk => ng_setNode h (hnd.setPc .afterSelf2 fun _ => rfl) k y hk
  | calcGen hpc => exact genStep_ng _ _ h hn (early9 hpc rfl _)
  | taskGen hpc => exact genStep_ng _ _ h hn (early9 hpc rfl _)
  | setupGen _ => exact genStep_ng _ _ h hn fun _ => rfl
  | calcWait hpc => exact addWaitRun_ng _ _ _ hσ h hn (fun _ => hnd.sc) nofun (early9 hpc rfl _)
  | taskWait hpc =>
    exact addWaitRun_ng _ _ _ hσ h hn nofun (fun _ d hd => Or.inl (hnd.st d hd)) (early9 hpc rfl _)
  | setupWait hpc => exact addWaitRun_ng _ _ _ hσ h hn nofun (fun _ d _ => Or.inr (hpc ▸ rfl)) fun _ => rfl
  | done _ => exact h

theorem dtick_ng {s s' : Sys} {perm : List Name} (hσ : ∀ d, stOf s d = σ d) (h : AllNG inp σ s)
    (hs : dtick inp s perm = some s') : AllNG inp σ s' := by
  cases dtick_spec hs with
  | node _ hn hns => exact nodeStep_ng hσ h hn hns
  | create _ _ _ _ => exact fun k y hk => ng_setNode h (mkNode_ng _ _) k y hk
  | _ => exact h

theorem wokenF_ng {s : Sys} {n p : Name} {nd : Node} (pst : RS) (h : NG inp σ n nd)
    (hnc : wakeCrash p nd = false) (hpst : pst = σ p) : NG inp σ n (wokenF inp s pst p nd) := by
  have a := wokenNode_ng (inp := inp) pst h hnc hpst
  unfold wokenF; split
  · rename_i hc
    exact deliverF_ng _ _ a (h.wc p hc) hpst
  · exact a

theorem wakeOne_ng {s : Sys} {pst : RS} {p w : Name} {nd : Node} (h : AllNG inp σ s) (hw : s.nodes w = some nd)
    (hnc : wakeCrash p nd = false) (hpst : pst = σ p) : AllNG inp σ (wakeOne inp s pst p w nd) := by
  have := ng_setNode h (wokenF_ng (inp := inp) (s := s) pst (h w nd hw) hnc hpst)
  unfold wakeOne; split
  · intro k y hk; exact this k y hk
  · exact this

theorem sendHead_ng {s : Sys} {p : Name} {nd : Node} (h : AllNG inp σ s) (hn : s.nodes p = some nd) :
    AllNG inp σ (sendHead s p nd) := by
  have hnd := h p nd hn
  unfold sendHead; split
  · intro k y hk
    exact ng_setNode (x := { nd with waitSelect := false }) h
      ⟨hnd.pt, hnd.pcalc, hnd.st, hnd.sc, hnd.wr, hnd.wc, hnd.bd, hnd.ig⟩ k y hk
  · exact h

theorem send_ng {s s' : Sys} {processed : Option Name} {perm : List Name} (hσ : ∀ d, stOf s d = σ d)
    (h : AllNG inp σ s) (hs : send inp s processed perm = some s') : AllNG inp σ s' :=
  send_ind (P := AllNG inp σ) (fun _ _ _ ha => ha) (fun _ _ _ hn _ h => sendHead_ng h hn)
    (fun _ p _ _ _ _ hn0 _ hw hnc ha => wakeOne_ng ha hw hnc ((stOf_some hn0).symm.trans (hσ p))) h hs

theorem AllNG.congr {s s' : Sys} (h : AllNG inp σ s) (e : s'.nodes = s.nodes) : AllNG inp σ s' :=
  fun k y hk => h k y (by rw [← e]; exact hk)

theorem AllNG.mono {σ' : Name → RS} {s : Sys} (h : AllNG inp σ s)
    (hs : ∀ x, (σ x).finished = true → σ' x = σ x) : AllNG inp σ' s := fun k y hk => (h k y hk).mono hs

theorem allNG_status {s : Sys} {n : Name} {nd : Node} (h : AllNG inp σ s) (hn : s.nodes n = some nd) (st' : RS) :
    AllNG inp σ (setNode s n { nd with status := st' }) := by
  have hnd := h n nd hn
  exact ng_setNode h ⟨hnd.pt, hnd.pcalc, hnd.st, hnd.sc, hnd.wr, hnd.wc, hnd.bd, hnd.ig⟩

theorem DispMove.ng {s s' : Sys} (m : DispMove inp s s') (hσ : ∀ d, stOf s d = σ d) (h : AllNG inp σ s) : AllNG inp σ s' := by
  cases m with
  | frame e1 _ _ _ _ => exact h.congr e1
  | send _ hs r => exact (send_ng hσ h hs).congr rfl
  | dtick _ _ hs => exact dtick_ng hσ h hs
  | status st' hn _ e1 _ _ _ _ => exact (allNG_status h hn st').congr e1

end DoitModel.Run
