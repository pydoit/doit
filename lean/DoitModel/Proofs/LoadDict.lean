import DoitModel.Proofs.Load
/-! `Task.__init__` / `dict_to_task` (model `initTask`, `dictToTask`): each raises InvalidTask or accepts, and what acceptance implies -/
namespace DoitModel.Load

theorem get_mem (d : TDict) (a : Attr) (v : RawVal) (h : get d a = some v) : (a, v) ∈ d := by
  induction d with
  | nil => cases h
  | cons p rest ih =>
    obtain ⟨x, w⟩ := p
    by_cases hx : x = a
    · subst hx; rw [get_cons_eq] at h; cases h; exact List.mem_cons_self
    · rw [get_cons_ne _ _ _ _ hx] at h; exact List.mem_cons_of_mem _ (ih h)

theorem checkAll_mem (d : TDict) (h : checkAll d = true) (p : Attr × RawVal) (hp : p ∈ d) :
    ∃ s, validAttr p.1 = some s ∧ checkAttr (effective p.1 p.2) s = true := by
  have := List.all_eq_true.mp h p hp
  cases hv : validAttr p.1 with
  | none => rw [hv] at this; cases this
  | some s => rw [hv] at this; exact ⟨s, rfl, this⟩

theorem cleanStep_checked (d : TDict) (hc : checkAll d = true) : cleanStep (get d .clean) = .ok () := by
  cases hg : get d .clean with
  | none => rfl
  | some v =>
    obtain ⟨s, hs, hchk⟩ := checkAll_mem d hc (.clean, v) (get_mem d .clean v hg)
    have hrow : some ([.list, .tuple], [.true]) = some s := hs
    cases hrow
    cases v with
    | list _ | tuple _ | str _ | dict _ => rfl
    | bool b => cases b with
      | true => rfl
      | false => cases hchk
    | none | int _ | float _ | callable | object => cases hchk

theorem strName_checked (v : Option RawVal) : Checked (strName v) (fun s => v = some (.str s)) := by
  unfold strName
  split
  · exact rfl
  · exact trivial

theorem getargsStep_checked (d : TDict) :
    Checked (getargsStep d) (fun ga => ga = (getargsEntries (get d .getargs)).filterMap (·.2)) := by
  unfold getargsStep
  cases getargsEntries (get d .getargs) with
  | nil => exact rfl
  | cons x xs =>
    rw [List.isEmpty_cons, if_neg Bool.false_ne_true]
    by_cases hany : (x :: xs).any (fun e => e.2.isNone) = true
    · rw [if_pos hany]; exact trivial
    · rw [if_neg hany]; exact rfl

theorem initTask_checked (d : TDict) : Checked (initTask d) (fun t =>
    checkAll d = true ∧ ∃ nm ga, get d .name = some (.str nm) ∧ nm.contains chEq = false ∧
      getargsStep d = .ok ga ∧ t = mkTask d nm ga) := by
  unfold initTask
  refine Checked.guard trivial fun hc => ?_
  rw [Bool.not_eq_true', Bool.not_eq_false] at hc
  refine Checked.on _ (strName_checked (get d .name)) (fun _ he => he) fun nm hn hname => ?_
  refine Checked.guard trivial fun heq => ?_
  refine Checked.on _ (getargsStep_checked d) (fun _ he => he) fun ga hg _ => ?_
  rw [cleanStep_checked d hc]
  exact ⟨hc, nm, ga, hname, Bool.eq_false_iff.mpr heq, rfl, rfl⟩

theorem dictToTask_checked (d : TDict) : Checked (dictToTask d) (fun t =>
    (get d .actions).isSome = true ∧ checkAll d = true ∧ ∃ nm ga, get d .name = some (.str nm) ∧
      nm.contains chEq = false ∧ getargsStep d = .ok ga ∧ t = mkTask d nm ga) := by
  unfold dictToTask
  cases hg : get d .actions with
  | none => exact trivial
  | some v =>
    rw [Option.isNone_some, if_neg Bool.false_ne_true]
    exact Checked.guard trivial fun _ => (initTask_checked d).mono fun t _ ht => ⟨rfl, ht⟩

theorem dictToTask_plain (d : TDict) (t : Task) (h : dictToTask d = .ok t) :
    t.subtaskOf = none ∧ t.hasSubtask = false ∧ get d .name = some (.str t.name) := by
  obtain ⟨_, _, nm, ga, hn, _, _, rfl⟩ := (dictToTask_checked d).of_ok h
  exact ⟨rfl, rfl, hn⟩

theorem mem_dedup (l : List Name) (n : Name) : n ∈ dedup l ↔ n ∈ l := by
  induction l with
  | nil => exact Iff.rfl
  | cons x xs ih =>
    simp only [dedup, List.mem_cons, List.mem_filter, ih, bne_iff_ne, ne_eq]
    by_cases h : n = x
    · simp only [h, true_or]
    · simp only [h, false_or, not_false_eq_true, and_true]

theorem dictToTask_refs (d : TDict) (t : Task) (h : dictToTask d = .ok t) :
    (∀ n ∈ seqItems (get d .task_dep), n.contains chStar = false → n ∈ t.taskDep) ∧
    (∀ n ∈ seqItems (get d .setup), n ∈ t.setupTasks) ∧
    (∀ n ∈ seqItems (get d .calc_dep), n ∈ t.calcDep) ∧
    (∀ e ∈ getargsEntries (get d .getargs), ∀ tk, e.2 = some tk → tk ∈ t.setupTasks) ∧
    t.targets = seqItems (get d .targets) := by
  obtain ⟨_, _, nm, ga, _, _, hga, rfl⟩ := (dictToTask_checked d).of_ok h
  refine ⟨?_, ?_, ?_, ?_, rfl⟩
  · intro n hn hs
    exact List.mem_filter.mpr ⟨hn, by rw [hs]; rfl⟩
  · intro n hn
    exact List.mem_append_left _ hn
  · intro n hn
    exact (mem_dedup _ n).mpr hn
  · intro e he tk htk
    cases (getargsStep_checked d).of_ok hga
    have hmem : tk ∈ (getargsEntries (get d .getargs)).filterMap (·.2) := List.mem_filterMap.mpr ⟨e, he, htk⟩
    by_cases hs : tk ∈ seqItems (get d .setup)
    · exact List.mem_append_left _ hs
    · exact List.mem_append_right _ ((mem_dedup _ tk).mpr (List.mem_filter.mpr ⟨hmem, by simpa using hs⟩))

end DoitModel.Load
