import DoitModel.Proofs.C08DynSetup
import DoitModel.Proofs.C08Closure
/-! # C08 (I10) with calc_dep, closure (=): at a complete end of a run (normal end, not stopped, no exception) the
    reported tasks are exactly the denotational closure `Dyn.DenCl` of the selection -/
namespace DoitModel.Run.Dyn

theorem end_calc_created {inp : RunInput} {s : Sys} (hr : Reach inp s ∨ PReach inp s) (hE : EndFacts inp s)
    (t : Name) (nd : Node) (hn : s.nodes t = some nd) (d : Name) (hd : d ∈ nd.dynCalc) : created s d := by
  have hpc := hE.allDone t nd hn
  have h1 : Inv1 inp s := by rcases hr with a | a; exact (reach_inv2 a).inv1; exact (preach_inv a).1.inv1
  have hm := (h1.node t nd hn).m1 (by rw [hpc]; rfl)
  have hA : NodeA s nd := by
    rcases hr with a | a
    · exact (reach_invL a).d.a1 t nd hn
    · exact (preach_invP a).d.a1 t nd hn
  rcases hA.c d hd with a | ⟨_, a, _⟩ | a
  · rw [hm.2.1] at a; cases a
  · rw [hpc] at a; cases a
  · exact a

theorem CalcR.mem_dyn {inp : RunInput} {s : Sys} {n : Name} {nd : Node} (hok : NodeOK inp s n nd)
    (sd : SelDeps inp s n nd) {c : Name} (h : CalcR inp n c) : c ∈ nd.dynCalc := by
  induction h with
  | static hc => exact hok.st.2 _ hc
  | @deliv c x d _ hd hm ih =>
    have e : d = ddOf inp s c := hd.functional (sd.hT c (List.mem_append_right _ ih))
    subst e
    exact (sd.has c ih).2.2 x hm

theorem closure_reported {inp : RunInput} {s : Sys} (hr : Reach inp s ∨ PReach inp s)
    (hend : s.rpc = .halted) (hhalt : s.halt = .none) (hstop : s.stop = false) (t : Name) (h : DenCl inp t) :
    Reported s t := by
  have hE : EndFacts inp s := by
    rcases hr with a | a
    · exact endFacts_serial a hend hhalt hstop
    · exact endFacts_parallel a hend hhalt hstop
  have hP2 : InvP2 inp s := by rcases hr with a | a; exact reach_invP2 a; exact preach_invP2 a
  have h2 : Inv2 inp s := by rcases hr with a | a; exact reach_inv2 a; exact (preach_inv a).1
  have hD : InvDen inp s := by rcases hr with a | a; exact reach_invDen a; exact preach_invDen a
  have hG : InvG inp s := by rcases hr with a | a; exact reach_invG a; exact preach_invG a
  have sdOf : ∀ t nd, s.nodes t = some nd → SelDeps inp s t nd := fun t nd hn =>
    sel_deps hD.den hD.nodeS h2.inv1 hG.dc hn (by rw [hE.allDone t nd hn]; rfl) (by rw [hE.allDone t nd hn]; rfl)
      (hD.delivF h2.inv1 hn (by rw [hE.allDone t nd hn]; rfl))
  have mk : ∀ t, DenCl inp t → created s t := by
    intro t ht
    induction ht with
    | ofSel hm => exact hE.sel _ hm
    | @ofTask t d _ hd ih =>
      obtain ⟨nd, hn⟩ := ih
      exact hE.dep t nd hn d ((h2.inv1.node t nd hn).st.1 d hd)
    | @ofCalc t c _ hc ih =>
      obtain ⟨nd, hn⟩ := ih
      exact end_calc_created hr hE t nd hn c (hc.mem_dyn (h2.inv1.node t nd hn) (sdOf t nd hn))
    | @ofDeliv t c x d _ hc hd hm ih =>
      obtain ⟨nd, hn⟩ := ih
      have sd := sdOf t nd hn
      have hcm := hc.mem_dyn (h2.inv1.node t nd hn) sd
      have e : d = ddOf inp s c := hd.functional (sd.hT c (List.mem_append_right _ hcm))
      subst e
      obtain ⟨d1, d2, _⟩ := sd.has c hcm
      exact hE.dep t nd hn x (hm.elim (d1 x) (d2 x))
    | @ofSetup t d _ hr1 hd ih =>
      obtain ⟨nd, hn⟩ := ih
      rcases (hP2 t nd hn).fin (hE.allDone t nd hn) (hE.notNone t nd hn) with a | a | a
      · rw [a] at hd; cases hd
      · exact absurd hr1 a
      · exact a d hd
  exact (reported_iff_cTerm s t).mpr (by have := hE.rep t (mk t h); omega)

theorem reported_iff_closure {inp : RunInput} {s : Sys} (hr : Reach inp s ∨ PReach inp s)
    (hend : s.rpc = .halted) (hhalt : s.halt = .none) (hstop : s.stop = false) (t : Name) :
    Reported s t ↔ DenCl inp t :=
  ⟨reported_in_closure hr t, closure_reported hr hend hhalt hstop t⟩

end DoitModel.Run.Dyn
