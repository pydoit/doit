import DoitModel.Proofs.DelayedAfter2
/-! # From the decidable hypotheses to the propositional ones (`OnceWF`, `TrigWF`; `RxWF` and `RedefWF` have theirs next
to their definitions), `onceOK` as a count, and `autoRun` stays among the reachable states -/
namespace DoitModel.Delayed
open DoitModel.Run (RS Name)

theorem lookup0_mem {α : Type} : ∀ (l : List (Name × α)) (k : Name) (v : α), lookup0 l k = some v → (k, v) ∈ l := by
  intro l
  induction l with
  | nil => intro k v h; simp [lookup0] at h
  | cons p r ih =>
    intro k v h
    obtain ⟨a, b⟩ := p
    simp only [lookup0] at h
    split at h
    · rename_i e; cases h; subst e; simp
    · exact List.mem_cons_of_mem _ (ih k v h)

theorem onceWF_of_bool {inp : Input} (h1 : resolvesB inp = true) (h2 : coversB inp = true) : OnceWF inp := by
  constructor
  · intro n l ⟨td0, hh1, hh2⟩ td l' ht hl
    have hm := lookup0_mem _ _ _ hh1
    have := (List.all_eq_true.mp h1) (n, td0) hm
    simp only [hh2, ht] at this
    rw [hl] at this
    simpa using this
  · intro n l q lq ⟨td0, hh1, hh2⟩ ⟨tq0, hq1, hq2⟩ hc hne
    have hm := lookup0_mem _ _ _ hh1
    have hmq := lookup0_mem _ _ _ hq1
    have := (List.all_eq_true.mp ((List.all_eq_true.mp h2) (n, td0) hm)) (q, tq0) hmq
    simp only [hh2, hq2, hc] at this
    simp only [bne_self_eq_false, Bool.false_or, Bool.or_eq_true, beq_iff_eq, List.any_eq_true] at this
    rcases this with h | ⟨nt, h3, h4⟩
    · exact absurd h hne
    · exact ⟨nt, by rw [hc]; exact h3, h4⟩

theorem trigWF_of_bool {inp : Input} (h : trigB inp = true) : TrigWF inp := by
  intro n td hl l hld d hd
  have hm := lookup0_mem _ _ _ hl
  have := (List.all_eq_true.mp h) (n, td) hm
  simp only [hld, List.all_eq_true, List.contains_iff_mem] at this
  exact this d hd

theorem onceOK_count (c : CId) : ∀ ev : List Ev, onceOK ev = true → ev.count (Ev.creator c) ≤ 1 := by
  intro ev
  induction ev with
  | nil => intro _; simp
  | cons e r ih =>
    intro h
    cases e with
    | creator c' =>
      simp only [onceOK, Bool.and_eq_true, Bool.not_eq_true', List.contains_eq_mem, decide_eq_false_iff_not] at h
      by_cases hc : c' = c
      · subst hc
        have : r.count (Ev.creator c') = 0 := List.count_eq_zero.mpr h.1
        simp [this]
      · have hne : (Ev.creator c' == Ev.creator c) = false := by simpa using hc
        rw [List.count_cons, hne]; simpa using ih h.2
    | _ => simpa [List.count_cons] using ih h

theorem autoRun_reach {inp : Input} : ∀ (k : Nat) (s : Sys), Reach inp s → Reach inp (autoRun inp k s) := by
  intro k
  induction k with
  | zero => intro s h; exact h
  | succ k ih =>
    intro s h
    simp only [autoRun]
    cases hs : step inp s (defaultChoice s) with
    | none => exact h
    | some s' => exact ih s' (Reach.next h hs)

end DoitModel.Delayed
