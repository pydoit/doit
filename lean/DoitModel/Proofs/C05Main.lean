import DoitModel.Proofs.C05Serial
/-! # C05 — from the invariants to the statements -/
namespace DoitModel.Run

/-- `select_task` has cleared `t` for execution, or `t` is executed / up-to-date -/
def Cleared (s : Sys) (t : Name) : Prop := (∃ deps, Ev.go t deps ∈ s.events) ∨ (stOf s t).good = true

theorem cleared_dep_good {inp : RunInput} {s : Sys} (h2 : Inv2 inp s) (hG : InvG inp s) (hF : InvF inp s)
    {t d : Name} (hc : Cleared s t) (hd : DepOnE inp s.events t d) : (stOf s d).good = true := by
  have viaGo : (∃ deps, Ev.go t deps ∈ s.events) → (stOf s d).good = true := by
    rintro ⟨deps, hg⟩
    obtain ⟨cs, hcl⟩ := hG.gd t deps hg
    have hmem : d ∈ deps := by
      cases hd with
      | ns h =>
        rcases closed_depNS hcl h with a | a
        · exact h2.gs t deps hg d (by simp [staticDeps, a])
        · exact a
      | setup h _ => exact h2.gs t deps hg d (by simp [staticDeps, h])
    exact finBefore_good hF (ordOK_go h2.ord hg d hmem)
  rcases hc with hg | hgood
  · exact viaGo hg
  · cases hst : stOf s t with
    | utd =>
      cases hd with
      | ns h => exact (hF.ud t hst).2 d h
      | setup _ hne => exact absurd ((h2.g t).2 hst) hne
    | ok => exact viaGo (hF.ok t ((h2.g t).1 hst)).2
    | _ => rw [hst] at hgood; cases hgood

theorem cleared_plus_good {inp : RunInput} {s : Sys} (h2 : Inv2 inp s) (hG : InvG inp s) (hF : InvF inp s)
    {t d : Name} (hd : DepPlusE inp s.events t d) : Cleared s t → (stOf s d).good = true := by
  induction hd with
  | one h => exact fun hc => cleared_dep_good h2 hG hF hc h
  | more h _ ih => exact fun hc => ih (Or.inr (cleared_dep_good h2 hG hF hc h))

theorem depOn_depOnE {inp : RunInput} {s : Sys} (hF : InvF inp s) {t d : Name} (h : DepOn inp t d) :
    DepOnE inp s.events t d := by
  cases h with
  | ns h => exact .ns h
  | setup h hne => exact .setup h (fun hu => hne (hF.ud t (hF.ut t hu)).1)

theorem depPlus_depPlusE {inp : RunInput} {s : Sys} (hF : InvF inp s) {t d : Name} (h : DepPlus inp t d) :
    DepPlusE inp s.events t d := by
  induction h with
  | one h => exact .one (depOn_depOnE hF h)
  | more h _ ih => exact .more (depOn_depOnE hF h) ih

/-- core of (a): if `d` has a failure report and `t` depends on `d`, `select_task` never clears `t` -/
theorem failed_dep_never_started {inp : RunInput} {s : Sys} (h2 : Inv2 inp s) (hG : InvG inp s) (hF : InvF inp s)
    {t d : Name} {k : FailKind} (hf : Ev.failure d k ∈ s.events) (hd : DepPlusE inp s.events t d) :
    (∀ deps, Ev.go t deps ∉ s.events) ∧ (∀ w, Ev.start t w ∉ s.events) ∧ Ev.success t ∉ s.events ∧
      Ev.skipUtd t ∉ s.events := by
  have hfail := hF.fl d k hf
  have nc : ¬ Cleared s t := by
    intro hc
    have := cleared_plus_good h2 hG hF hd hc
    rw [hfail] at this; cases this
  refine ⟨fun deps hg => nc (Or.inl ⟨deps, hg⟩), ?_, ?_, ?_⟩
  · intro w hw; exact nc (Or.inl (go_of_start h2 hw))
  · intro hs'; exact nc (Or.inr (by rw [(hF.ok t hs').1]; rfl))
  · intro hs'; exact nc (Or.inr (by rw [hF.ut t hs']; rfl))

/-- (b): with at most one terminal report per task, a failure report leaves no success record -/
theorem recAfter_failed (r0 : Name → Bool) (n : Name) : ∀ (l : List Ev), l.countP (Ev.isTerminalOf n) ≤ 1 →
    (∃ k, Ev.failure n k ∈ l) → recAfter r0 n l = false := by
  intro l
  induction l with
  | nil => rintro _ ⟨k, h⟩; cases h
  | cons e rest ih =>
    intro hc ⟨k, hm⟩
    have hpos : ∀ k', Ev.failure n k' ∈ rest → 0 < rest.countP (Ev.isTerminalOf n) := fun k' h =>
      List.countP_pos_iff.mpr ⟨_, h, by simp [Ev.isTerminalOf]⟩
    rw [List.countP_cons] at hc
    have hle : rest.countP (Ev.isTerminalOf n) ≤ 1 := Nat.le_trans (Nat.le_add_right _ _) hc
    cases e with
    | success m =>
      by_cases e1 : m = n
      · subst e1
        rcases List.mem_cons.mp hm with a | a
        · cases a
        · have := hpos k a
          have h1 : (if Ev.isTerminalOf m (Ev.success m) = true then 1 else 0) = 1 := by simp [Ev.isTerminalOf]
          rw [h1] at hc; omega
      · simp only [recAfter, e1, if_false]
        rcases List.mem_cons.mp hm with a | a
        · cases a
        · exact ih hle ⟨k, a⟩
    | failure m k' =>
      by_cases e1 : m = n
      · simp [recAfter, e1]
      · simp only [recAfter, e1, if_false]
        rcases List.mem_cons.mp hm with a | a
        · cases a; exact absurd rfl e1
        · exact ih hle ⟨k, a⟩
    | getStatus m | skipIgn m | skipUtd m | execute m | teardown m | start m w | fin m w | go m ds | complete =>
      simp only [recAfter]
      rcases List.mem_cons.mp hm with a | a
      · cases a
      · exact ih hle ⟨k, a⟩

end DoitModel.Run
