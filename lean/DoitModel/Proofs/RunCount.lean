import DoitModel.Proofs.RunOrder
import DoitModel.Proofs.RunnerSpec
/-! # Counting invariant `Inv3`: each task is selected for execution, started, finished and reported at most once,
    and is in at most one place (job queue / a worker / result queue) while it is in flight -/
namespace DoitModel.Run

def Ev.isGoOf (n : Name) : Ev → Bool
  | .go m _ => m = n
  | _ => false

def cGo (s : Sys) (n : Name) : Nat := s.events.countP (Ev.isGoOf n)
def cStart (s : Sys) (n : Name) : Nat := s.events.countP (Ev.isStartOf n)
def cFin (s : Sys) (n : Name) : Nat := s.events.countP (Ev.isFinOf n)
def cTerm (s : Sys) (n : Name) : Nat := s.events.countP (Ev.isTerminalOf n)

/-- `get_next_job` is returning the job of task `n` -/
def holding (s : Sys) (n : Name) : Nat :=
  match s.rpc with
  | .gRet (.task m) _ => if m = n then 1 else 0
  | _ => 0

/-- the runner is not occupied with a task (a `hold` or `stop` job in its hand does not count) -/
def RPC.free : RPC → Bool
  | .sWait | .gWait _ | .sExec _ | .gRet (.task _) _ => false
  | _ => true

/-- positions of a node whose `select_task` may already have answered yes -/
def YSet (inp : RunInput) (n : Name) (pc : PC) : Prop :=
  pc = .afterSelf2 ∨ pc = .done ∨ (inp.setup n = [] ∧ pc = .afterSelf1)

/-- `j` is the conservation law: every `go` is in exactly one of job queue, the runner's hand, started.  `p0` (one `go`) is not
    inductive alone: `z` (a node just yielded has no `go`) and `y` (a node with a `go` is at a position in `YSet`, from which it
    is never yielded again) carry it. -/
structure Inv3 (inp : RunInput) (s : Sys) : Prop where
  z : awaiting s → ∀ n, s.susp = some (.node n) → cGo s n = 0
  y : ∀ n, cGo s n ≥ 1 → ∃ nd, s.nodes n = some nd ∧ YSet inp n nd.pc
  p0 : ∀ n, cGo s n ≤ 1 ∧ cFin s n ≤ cStart s n
  j : ∀ n, s.jobQ.count (.task n) + holding s n + cStart s n = cGo s n
  w1 : ∀ w n, s.workers w = .running n → cStart s n = 1 ∧ cFin s n = 0 ∧ stOf s n = .run
  w2 : ∀ w w' n, s.workers w = .running n → s.workers w' = .running n → w = w'
  q1 : ∀ n ∈ s.resQ, cFin s n = 1 ∧ stOf s n = .run
  q2 : s.resQ.Nodup
  j2 : ∀ n, (Job.task n ∈ s.jobQ ∨ holding s n = 1) → stOf s n = .run
  x3 : ∀ n, s.rpc = .sExec n → cStart s n = 1 ∧ cFin s n = 0
  xw : ∀ n w, s.rpc = .sExec n → s.workers w ≠ .running n
  t : ∀ n, (stOf s n).finished = false → cTerm s n = 0
  t2 : ∀ n, cTerm s n ≤ 1

structure Counts (new : List Ev) (n : Name) (g st f tm : Nat) : Prop where
  go : new.countP (Ev.isGoOf n) = g
  start : new.countP (Ev.isStartOf n) = st
  fin : new.countP (Ev.isFinOf n) = f
  term : new.countP (Ev.isTerminalOf n) = tm

theorem counts_append {s s' : Sys} {new : List Ev} (hev : s'.events = new ++ s.events) (n : Name) :
    cGo s' n = new.countP (Ev.isGoOf n) + cGo s n ∧ cStart s' n = new.countP (Ev.isStartOf n) + cStart s n ∧
    cFin s' n = new.countP (Ev.isFinOf n) + cFin s n ∧ cTerm s' n = new.countP (Ev.isTerminalOf n) + cTerm s n := by
  simp [cGo, cStart, cFin, cTerm, hev, List.countP_append]

theorem counts_same {s s' : Sys} (hev : s'.events = s.events) (n : Name) :
    cGo s' n = cGo s n ∧ cStart s' n = cStart s n ∧ cFin s' n = cFin s n ∧ cTerm s' n = cTerm s n := by
  simp [cGo, cStart, cFin, cTerm, hev]

theorem statusEv_counts (nd : Node) (m n : Name) : Counts (statusEv nd m) n 0 0 0 0 := by
  unfold statusEv; split <;> constructor <;> simp [Ev.isGoOf, Ev.isStartOf, Ev.isFinOf, Ev.isTerminalOf]

theorem free_facts {s : Sys} (h : s.rpc.free = true) :
    ¬ awaiting s ∧ (∀ n, holding s n = 0) ∧ (∀ n, s.rpc ≠ .sExec n) ∧ ∀ n r, s.rpc ≠ .gRet (.task n) r := by
  have hg : ∀ n r, s.rpc ≠ .gRet (.task n) r := fun n r e => by rw [e] at h; cases h
  refine ⟨?_, ?_, fun n e => ?_, hg⟩
  · rintro (e | ⟨r, e⟩) <;> (rw [e] at h; cases h)
  · intro n; unfold holding
    split
    · exact absurd ‹_› (hg _ _)
    · rfl
  · rw [e] at h; cases h

theorem count_task_pos {q : List Job} {n : Name} : Job.task n ∈ q ↔ q.count (.task n) ≥ 1 := by
  rw [ge_iff_le, List.one_le_count_iff]


def PcKeep (s s' : Sys) (ex : Option Name) : Prop :=
  ∀ k x, s.nodes k = some x → some k ≠ ex → ∃ x', s'.nodes k = some x' ∧ x'.pc = x.pc

theorem PcKeep.trans {a b c : Sys} {ex : Option Name} (h1 : PcKeep a b ex) (h2 : PcKeep b c ex) : PcKeep a c ex := by
  intro k x hx hk
  obtain ⟨x', hx', e1⟩ := h1 k x hx hk
  obtain ⟨x'', hx'', e2⟩ := h2 k x' hx' hk
  exact ⟨x'', hx'', e2.trans e1⟩

theorem PcKeep.refl (a : Sys) (ex : Option Name) : PcKeep a a ex := fun _ x hx _ => ⟨x, hx, rfl⟩

theorem PcKeep.weaken {a b : Sys} {ex : Option Name} (h : PcKeep a b none) : PcKeep a b ex :=
  fun k x hx _ => h k x hx (by simp)

theorem setNode_self (s : Sys) (n : Name) (x : Node) : (setNode s n x).nodes n = some x := by simp [setNode]

theorem pcKeep_setNode (s : Sys) (n : Name) (x : Node) : PcKeep s (setNode s n x) (some n) := by
  intro k y hy hk
  have : k ≠ n := fun e => hk (by rw [e])
  exact ⟨y, by simp [setNode_nodes, this, hy], rfl⟩

theorem pcKeep_setNode_same {s : Sys} {n : Name} {nd x : Node} (hn : s.nodes n = some nd) (hpc : x.pc = nd.pc) :
    PcKeep s (setNode s n x) none := by
  intro k y hy _
  by_cases e : k = n
  · subst e; rw [hn] at hy; cases hy; exact ⟨x, by simp [setNode_nodes], hpc⟩
  · exact ⟨y, by simp [setNode_nodes, e, hy], rfl⟩

theorem pcKeep_registerWaiting (s : Sys) (n : Name) (wf : List Name) : PcKeep s (registerWaiting s n wf) none := by
  intro k y hy _
  rw [registerWaiting_nodes, hy]
  by_cases hk : k ∈ wf
  · exact ⟨y.addWaiting n, by simp [hk], (addWaiting_fields y n).1⟩
  · exact ⟨y, by simp [hk], rfl⟩

theorem pcKeep_congr {a b c : Sys} {ex : Option Name} (h : PcKeep a b ex) (e : c.nodes = b.nodes) : PcKeep a c ex := by
  intro k x hx hk; rw [e]; exact h k x hx hk

theorem genStep_pcs {inp : RunInput} {s : Sys} {n : Name} {nd : Node} (d : Name) (pc' : PC)
    (hn : s.nodes n = some nd) :
    PcKeep s (genStep inp s n nd d pc') (some n) ∧
    ∃ nd', (genStep inp s n nd d pc').nodes n = some nd' ∧ (nd'.pc = pc' ∨ nd'.pc = nd.pc) := by
  generalize hg : genStep inp s n nd d pc' = g
  cases genStep_spec hg with
  | fresh hd =>
    refine ⟨?_, { nd with pc := pc' }, setNode_self _ _ _, Or.inl rfl⟩
    intro k y hy hk
    have h1 : k ≠ n := fun e => hk (by rw [e])
    have h2 : k ≠ d := by intro e; subst e; rw [hd] at hy; cases hy
    exact ⟨y, by show (setNode (setNode s d _) n _).nodes k = _; rw [setNode_nodes, if_neg h1, setNode_nodes, if_neg h2, hy],
      rfl⟩
  | cyclic => exact ⟨pcKeep_congr (PcKeep.refl s _) rfl, nd, hn, Or.inr rfl⟩
  | known => exact ⟨pcKeep_setNode s n _, { nd with pc := pc' }, setNode_self _ _ _, Or.inl rfl⟩

theorem addWaitRun_pcs {inp : RunInput} {s : Sys} {n : Name} {nd : Node} (ds : List Name) (c : Bool) (pc' : PC) :
    PcKeep s (addWaitRun inp s n nd ds c pc') (some n) ∧
    ∃ nd', (addWaitRun inp s n nd ds c pc').nodes n = some nd' ∧ nd'.pc = pc' := by
  unfold addWaitRun
  refine ⟨(pcKeep_setNode s n _).trans (pcKeep_registerWaiting _ n _).weaken, ?_⟩
  obtain ⟨x', hx', e⟩ := pcKeep_registerWaiting (setNode s n (waitNode inp s nd ds c pc')) n
    (ds.filter (unfinished s)) n _ (setNode_self _ _ _) (by simp)
  exact ⟨x', hx', e.trans (waitNode_facts inp s nd ds c pc').pc⟩

theorem NodeMove.yset {inp : RunInput} {n : Name} {nd x : Node} {perm : List Name} (h : NodeMove inp n nd perm x)
    (y : YSet inp n nd.pc) : YSet inp n x.pc := by
  cases h with
  | noSetup | setupSkip | finish => exact Or.inr (Or.inl rfl)
  | selected hpc hs => simp [YSet, hpc, hs] at y
  | loopTop hpc | again hpc | depsDone hpc | setupGo hpc | setupDone hpc => simp [YSet, hpc] at y

theorem NodePark.yset {inp : RunInput} {n : Name} {nd x : Node} (h : NodePark inp n nd x)
    (y : YSet inp n nd.pc) : YSet inp n x.pc := by
  cases h with
  | select hpc hs => simp [YSet, hpc, hs] at y
  | deps hpc | setup hpc => simp [YSet, hpc] at y

theorem NodeStep.pcs {inp : RunInput} {s s' : Sys} {n : Name} {nd : Node} {perm : List Name}
    (hn : s.nodes n = some nd) (h : NodeStep inp s n nd perm s') :
    PcKeep s s' (some n) ∧ ∃ nd', s'.nodes n = some nd' ∧ (YSet inp n nd.pc → YSet inp n nd'.pc) := by
  cases h with
  | move hm => exact ⟨pcKeep_setNode s n _, _, setNode_self _ _ _, hm.yset⟩
  | park hp => exact ⟨pcKeep_congr (pcKeep_setNode s n _) rfl, _, setNode_self _ _ _, hp.yset⟩
  | yield1 hpc =>
    exact ⟨pcKeep_congr (pcKeep_setNode s n _) rfl, _, setNode_self _ _ _, fun y => by simp [YSet, hpc] at y⟩
  | yield2 => exact ⟨pcKeep_congr (pcKeep_setNode s n _) rfl, _, setNode_self _ _ _, fun _ => Or.inl rfl⟩
  | calcGen hpc | taskGen hpc | setupGen hpc =>
    obtain ⟨a, nd', b, _⟩ := genStep_pcs (inp := inp) _ _ hn
    exact ⟨a, nd', b, fun y => by simp [YSet, hpc] at y⟩
  | calcWait hpc | taskWait hpc | setupWait hpc =>
    obtain ⟨a, nd', b, _⟩ := addWaitRun_pcs (inp := inp) (s := s) (n := n) (nd := nd) _ _ _
    exact ⟨a, nd', b, fun y => by simp [YSet, hpc] at y⟩
  | done => exact ⟨pcKeep_congr (PcKeep.refl s _) rfl, nd, hn, id⟩

theorem dtick_yset {inp : RunInput} {s s' : Sys} {perm : List Name} (hs : dtick inp s perm = some s')
    (k : Name) (x : Node) (hk : s.nodes k = some x) (hy : YSet inp k x.pc) :
    ∃ x', s'.nodes k = some x' ∧ YSet inp k x'.pc := by
  cases dtick_spec hs with
  | @node n nd _ _ hn hns =>
    obtain ⟨keep, nd', hn', hyy⟩ := hns.pcs hn
    by_cases e : k = n
    · subst e; rw [hn] at hk; cases hk; exact ⟨nd', hn', hyy hy⟩
    · obtain ⟨x', hx', e'⟩ := keep k x hk (by simpa using e)
      exact ⟨x', hx', e' ▸ hy⟩
  | @create t _ _ _ _ hnt =>
    have : k ≠ t := by intro e; subst e; rw [hnt] at hk; cases hk
    exact ⟨x, by show (setNode s t _).nodes k = _; rw [setNode_nodes, if_neg this]; exact hk, hy⟩
  | _ => exact ⟨x, hk, hy⟩

theorem wakeOne_pcs {inp : RunInput} {s : Sys} {pst : RS} {p w : Name} {nd : Node} (hw : s.nodes w = some nd) :
    PcKeep s (wakeOne inp s pst p w nd) none := by
  have base := pcKeep_setNode_same (x := wokenF inp s pst p nd) hw (wokenF_upd inp s pst p nd).pc
  unfold wakeOne; split
  · exact pcKeep_congr base rfl
  · exact base

theorem sendHead_pcs {s : Sys} {p : Name} {nd : Node} (hn : s.nodes p = some nd) : PcKeep s (sendHead s p nd) none := by
  unfold sendHead; split
  · exact pcKeep_congr (pcKeep_setNode_same (x := { nd with waitSelect := false }) hn rfl) rfl
  · exact PcKeep.refl _ _

theorem send_pcs {inp : RunInput} {s s' : Sys} {processed : Option Name} {perm : List Name}
    (hs : send inp s processed perm = some s') : PcKeep s s' none :=
  send_ind (P := fun a => PcKeep s a none) (fun _ _ _ h => pcKeep_congr h rfl) (fun _ _ _ hn _ _ => sendHead_pcs hn)
    (fun _ _ _ _ _ _ _ _ hw _ h => h.trans (wakeOne_pcs hw)) (PcKeep.refl s _) hs

theorem inv3_disp {inp : RunInput} {s s' : Sys} (h : Inv3 inp s) (o1 : s'.events = s.events) (o3 : s'.jobQ = s.jobQ)
    (o4 : s'.resQ = s.resQ) (o5 : s'.workers = s.workers) (hh : ∀ n, holding s' n = holding s n)
    (hx : ∀ n, s'.rpc = .sExec n → s.rpc = .sExec n) (hst : ∀ x, stOf s' x = stOf s x)
    (hy : ∀ k x, s.nodes k = some x → YSet inp k x.pc → ∃ x', s'.nodes k = some x' ∧ YSet inp k x'.pc)
    (hz : awaiting s' → ∀ n, s'.susp = some (.node n) → cGo s n = 0) : Inv3 inp s' := by
  have hc := counts_same o1
  constructor
  · intro ha n hn; rw [(hc n).1]; exact hz ha n hn
  · intro n hn
    rw [(hc n).1] at hn
    obtain ⟨nd, a, b⟩ := h.y n hn
    exact hy n nd a b
  · intro n; rw [(hc n).1, (hc n).2.1, (hc n).2.2.1]; exact h.p0 n
  · intro n; rw [o3, hh, (hc n).1, (hc n).2.1]; exact h.j n
  · intro w n hw; rw [o5] at hw; rw [(hc n).2.1, (hc n).2.2.1, hst]; exact h.w1 w n hw
  · intro w w' n a b; rw [o5] at a b; exact h.w2 w w' n a b
  · intro n hn; rw [o4] at hn; rw [(hc n).2.2.1, hst]; exact h.q1 n hn
  · rw [o4]; exact h.q2
  · intro n hn; rw [o3, hh] at hn; rw [hst]; exact h.j2 n hn
  · intro n hn; rw [(hc n).2.1, (hc n).2.2.1]; exact h.x3 n (hx n hn)
  · intro n w hn; rw [o5]; exact h.xw n w (hx n hn)
  · intro n hn; rw [hst] at hn; rw [(hc n).2.2.2]; exact h.t n hn
  · intro n; rw [(hc n).2.2.2]; exact h.t2 n

theorem inv3_dtick {inp : RunInput} {s s' : Sys} {perm : List Name} (h3 : Inv3 inp s)
    (hsusp : s.susp = none) (hs : dtick inp s perm = some s') : Inv3 inp s' := by
  obtain ⟨o1, o2, o3, o4, o5, _⟩ := dtick_outer hs
  refine inv3_disp h3 o1 o3 o4 o5 (fun n => by simp [holding, o2]) (fun n a => o2 ▸ a) (dtick_stOf hs) (dtick_yset hs) ?_
  intro _ n hy
  obtain ⟨nd, hn, hc⟩ := dtick_yield hs hsusp n hy
  -- the node was at `self1` / `self2`: `select_task` has not answered yes for it
  cases hg : cGo s n with
  | zero => rfl
  | succ k =>
    obtain ⟨nd', a, b⟩ := h3.y n (by omega)
    rw [hn] at a; cases a
    rcases hc with ⟨e, _⟩ | ⟨e, _⟩ <;> (rw [e] at b; simp [YSet] at b)

theorem inv3_send {inp : RunInput} {s s0 : Sys} {node : Option Name} {perm : List Name} (rpc' : RPC)
    (h3 : Inv3 inp s) (h2 : Inv2 inp s) (hnode : sentBack s = node) (hs : send inp s node perm = some s0)
    (hr0 : ∀ n, holding s n = 0)
    (hr2 : ∀ n ret, rpc' ≠ .gRet (.task n) ret) (hr3 : ∀ n, rpc' ≠ .sExec n) : Inv3 inp { s0 with rpc := rpc' } := by
  obtain ⟨⟨o1, _, o3, o4, o5, _⟩, osusp⟩ := send_outer hs
  obtain ⟨_, hst⟩ := send_inv1 h2.inv1 (fun p hp => h2.sb p (by rw [hnode, hp])) hs
  refine inv3_disp h3 o1 o3 o4 o5 ?_ (fun n a => absurd a (hr3 n)) hst ?_ ?_
  · intro n; rw [hr0 n]; unfold holding
    cases rpc' with
    | gRet j r => cases j with
      | task m => exact absurd rfl (hr2 m r)
      | _ => rfl
    | _ => rfl
  · intro k x hk hy
    obtain ⟨x', hx', e⟩ := send_pcs hs k x hk (by simp)
    exact ⟨x', hx', e ▸ hy⟩
  · intro _ n hy; rcases osusp with e | e <;> (simp only [e] at hy; cases hy)

end DoitModel.Run
