import DoitModel.Proofs.RunSerial
/-! # From the event-order invariant to statements about positions in the chronological trace -/
namespace DoitModel.Run

theorem OrdOK_suffix {pre l : List Ev} (h : OrdOK (pre ++ l)) : OrdOK l := by
  induction pre with
  | nil => exact h
  | cons e t ih => exact ih h.2

/-- `deps`: what was recorded when `select_task` said yes, the delivered calc results included -/
theorem start_after_known_deps {inp : RunInput} {s : Sys} (h : Inv2 inp s) {pre post : List Ev} {t w : Nat}
    (he : s.events = pre ++ Ev.start t w :: post) :
    ∃ deps, Ev.go t deps ∈ post ∧ (∀ d ∈ staticDeps inp t, d ∈ deps) ∧ ∀ d ∈ deps, finBefore post d := by
  have o1 : OrdOK (Ev.start t w :: post) := OrdOK_suffix (he ▸ h.ord)
  obtain ⟨deps, hgo⟩ := o1.1
  obtain ⟨p2, post2, hsplit⟩ := List.append_of_mem hgo
  have o2 : OrdOK (Ev.go t deps :: post2) := OrdOK_suffix (hsplit ▸ o1.2)
  have hmem : Ev.go t deps ∈ s.events := by
    rw [he]; exact List.mem_append_right _ (List.mem_cons_of_mem _ hgo)
  refine ⟨deps, hgo, h.gs t deps hmem, fun d hd => finBefore_mono (fun e he' => ?_) (o2.1 d hd)⟩
  rw [hsplit]; exact List.mem_append_right _ (List.mem_cons_of_mem _ he')

theorem start_after_deps {inp : RunInput} {s : Sys} (h : Inv2 inp s) {pre post : List Ev} {t w : Nat}
    (he : s.events = pre ++ Ev.start t w :: post) : ∀ d ∈ staticDeps inp t, finBefore post d := by
  obtain ⟨deps, _, hs, hf⟩ := start_after_known_deps h he
  exact fun d hd => hf d (hs d hd)

theorem split_of_getElem? {α} {l : List α} {i : Nat} {e : α} (h : l.reverse[i]? = some e) :
    ∃ pre post, l = pre ++ e :: post ∧ post.length = i ∧ ∀ x ∈ post, ∃ j < i, l.reverse[j]? = some x := by
  -- by induction on the chronological list `r = l.reverse`: its head is the last element of `post`
  rw [← List.reverse_reverse l]
  generalize l.reverse = r at h
  rw [List.reverse_reverse]
  induction r generalizing i with
  | nil => cases h
  | cons a t ih =>
    cases i with
    | zero => cases h; exact ⟨t.reverse, [], List.reverse_cons, rfl, nofun⟩
    | succ k =>
      obtain ⟨pre, post, e1, e2, e3⟩ := ih (i := k) h
      refine ⟨pre, post ++ [a], ?_, ?_, ?_⟩
      · rw [List.reverse_cons, e1, List.append_assoc, List.cons_append]
      · rw [List.length_append, e2]; rfl
      · intro x hx
        rcases List.mem_append.mp hx with hx | hx
        · obtain ⟨j, hj, hjx⟩ := e3 x hx
          exact ⟨j + 1, Nat.succ_lt_succ hj, hjx⟩
        · cases List.mem_singleton.mp hx
          exact ⟨0, Nat.succ_pos k, rfl⟩

/-- C01 in terms of positions in the chronological trace `events.reverse` -/
theorem order_indices {inp : RunInput} {s : Sys} (h : Inv2 inp s) (i t w : Nat)
    (hi : s.events.reverse[i]? = some (Ev.start t w)) (d : Name) (hd : d ∈ staticDeps inp t) :
    ∃ j < i, s.events.reverse[j]? = some (Ev.success d) ∨ s.events.reverse[j]? = some (Ev.skipUtd d) := by
  obtain ⟨pre, post, he, _, hidx⟩ := split_of_getElem? hi
  rcases start_after_deps h he d hd with a | a
  · obtain ⟨j, hj, hx⟩ := hidx _ a; exact ⟨j, hj, Or.inl hx⟩
  · obtain ⟨j, hj, hx⟩ := hidx _ a; exact ⟨j, hj, Or.inr hx⟩

end DoitModel.Run
