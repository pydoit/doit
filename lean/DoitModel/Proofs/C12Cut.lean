import DoitModel.Proofs.RunClosure
/-! # C12 — the transitions of the run model do not read the selection

`cutSel inp pre` is `inp` with the selection replaced by `pre`.  Every transition function gives the same result for
both inputs (the selection is read by `init` only), so the node-level closure lemmas of `Proofs/RunClosure.lean`,
instantiated at `cutSel inp pre`, describe a run of `inp` as long as only members of `pre` have been popped from
`tasks_to_run`. -/
namespace DoitModel.Run

def cutSel (inp : RunInput) (pre : List Name) : RunInput := { inp with sel := pre }

variable (inp : RunInput) (pre : List Name)

/-! The equations are between functions, so that `rw` also reaches the calls under a binder. -/

theorem absorbDone_cut : absorbDone (cutSel inp pre) = absorbDone inp := by
  funext s c ds nd
  induction ds generalizing nd with
  | nil => rfl
  | cons d ds ih => simp only [absorbDone, ih]; rfl

theorem addWaitRun_cut : addWaitRun (cutSel inp pre) = addWaitRun inp := by
  funext s n nd ds c pc'
  unfold addWaitRun; rw [absorbDone_cut]

theorem updateWaiting_cut : updateWaiting (cutSel inp pre) = updateWaiting inp := by
  funext pst p s perm
  induction perm generalizing s with
  | nil => rfl
  | cons w ws ih => simp only [updateWaiting, ih]; rfl

theorem send_cut : send (cutSel inp pre) = send inp := by
  funext s processed perm
  unfold send; rw [updateWaiting_cut]

theorem nodeStep_cut : nodeStep (cutSel inp pre) = nodeStep inp := by
  funext s n nd perm
  unfold nodeStep; rw [addWaitRun_cut]; rfl

theorem dtick_cut : dtick (cutSel inp pre) = dtick inp := by
  funext s perm
  unfold dtick; rw [nodeStep_cut]; rfl

theorem serialStep_cut (s : Sys) (perm : List Name) :
    serialStep (cutSel inp pre) s perm = serialStep inp s perm := by
  unfold serialStep; rw [send_cut, dtick_cut]; rfl

end DoitModel.Run
