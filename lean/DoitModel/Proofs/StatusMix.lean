import DoitModel.Proofs.StatusDecision
/-! # M2 — records recovered from *earlier* points of a history (composition with M9, property C06)

After a kill every readable per-task record is, independently per task, the record some earlier point of the same
history held (M9, `Props/C06.lean`), or it is absent.  Here: replacing, for any set of tasks, the pair
`(rcd t, shadow t)` of a reachable state by the pair an earlier prefix of the same history had keeps the invariant
`Inv` — the file system only moves *forward* (every file present later is the very file of the earlier state or has
an mtime newer than the earlier clock), so an old record can never be confused by a newer file. -/
namespace DoitModel.Status

@[simp] theorem erase_fs (s : St) (t : Name) : (erase s t).fs = s.fs := rfl
@[simp] theorem erase_clock (s : St) (t : Name) : (erase s t).clock = s.clock := rfl
@[simp] theorem commit_fs (s : St) (t : Name) (r : Rcd) (e : Exec) : (commit s t r e).fs = s.fs := rfl
@[simp] theorem commit_clock (s : St) (t : Name) (r : Rcd) (e : Exec) : (commit s t r e).clock = s.clock := rfl

theorem prefix_later {fixed : Bool} (h : List Op) (hf : Faithful h = true) (k : Nat) :
    Later (runHist fixed (h.take k)) (runHist fixed h) := by
  have hsplit : runHist fixed h = (h.drop k).foldl (step fixed) (runHist fixed (h.take k)) := by
    unfold runHist
    rw [← List.foldl_append, List.take_append_drop]
  rw [hsplit]
  exact foldl_preserves (P := Later (runHist fixed (h.take k))) (fun _ o ho hl => hl.trans (step_later o ho)) _
    (fun o ho => List.all_eq_true.mp hf o (List.mem_of_mem_drop ho)) (Later.refl _)

/-- a per-task pair `(record, ghost)` that a kill may leave readable: absent, or the pair of some prefix -/
def Recovered (h : List Op) (t : Name) (pr : Rcd × Option Exec) : Prop :=
  pr = (Rcd.empty, none) ∨
  ∃ k, pr = ((runHist true (h.take k)).rcd t, (runHist true (h.take k)).shadow t)

/-- the state the next invocation starts from: files, clock, definitions and configured checker of the present,
    per-task records (and their ghosts) as recovered -/
def mixState (s : St) (pick : Name → Rcd × Option Exec) : St :=
  { s with rcd := fun t => (pick t).1, shadow := fun t => (pick t).2 }

theorem mix_inv (h : List Op) (hf : Faithful h = true) (pick : Name → Rcd × Option Exec)
    (hp : ∀ t, Recovered h t (pick t)) : Inv (mixState (runHist true h) pick) := by
  refine .of_pairs (hist_inv h hf).clk fun t => ?_
  dsimp only [mixState]
  rcases hp t with he | ⟨k, hk⟩
  · rw [he]; exact .empty _ _
  · rw [hk]; exact ((hist_inv _ (all_take hf k)).pair t).later (prefix_later h hf k)

end DoitModel.Status
