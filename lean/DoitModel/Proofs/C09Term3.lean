import DoitModel.Proofs.C09Term2
/-! # C09 — termination, part 3: `send`, the serial runner, and the theorem -/
namespace DoitModel.Run

variable {inp : RunInput} {N : Nat}

/- `x` is a record update of `wd`; the two lemmas take its fields as equations (all `rfl` at the call) so that the
   arithmetic runs on variables and not on the record term. -/

theorem calOf_lt_aux (x wd : Node) (f : List Name)
    (h1 : cntNot N x.dynCalc + x.pendCalc.length ≤ cntNot N wd.dynCalc + wd.pendCalc.length)
    (e1 : x.pc = wd.pc) (e2 : x.snapCalc = wd.snapCalc) (e3 : x.waitRunCalc = f)
    (hlt : f.length < wd.waitRunCalc.length) : calOf N x < calOf N wd := by
  unfold calOf; rw [e1, e2, e3]; omega

theorem linNode_wait_aux (w : Name) (x wd : Node) (f : List Name) (e1 : x.pendTask = wd.pendTask)
    (e2 : x.pendCalc = wd.pendCalc) (e3 : x.pc = wd.pc) (e4 : x.snapTask = wd.snapTask)
    (e5 : x.snapCalc = wd.snapCalc) (e6 : x.waitRunCalc = wd.waitRunCalc) (e7 : x.waitSelect = wd.waitSelect)
    (e8 : x.waitRun = f) (hlt : f.length < wd.waitRun.length) : linNode inp w x + 5 ≤ linNode inp w wd := by
  rw [linNode_eq, linNode_eq inp w wd]; unfold Node.baseW Node.row
  rw [e1, e2, e3, e4, e5, e6, e7, e8]; omega

/-- an awaited calc_dep that reports leaves `wait_run_calc`; that pays for what its result appends -/
theorem wokenNode_calc_lt (hF : FiniteTable inp N) (pst : RS) {p : Name} {wd : Node} (hc : p ∈ wd.waitRunCalc) :
    calOf N (wokenNode inp pst p wd) < calOf N wd := by
  unfold wokenNode; rw [if_pos hc]
  have g := deliver_grow inp pst p { parentStatus pst p wd with
    waitRun := wd.waitRun.filter (· ≠ p), waitRunCalc := wd.waitRunCalc.filter (· ≠ p) }
  have hm := deliver_m2 hF pst p { parentStatus pst p wd with
    waitRun := wd.waitRun.filter (· ≠ p), waitRunCalc := wd.waitRunCalc.filter (· ≠ p) }
  have hlt : (wd.waitRunCalc.filter (· ≠ p)).length < wd.waitRunCalc.length :=
    List.length_filter_lt_length_iff_exists.mpr ⟨p, hc, by simp⟩
  exact calOf_lt_aux _ wd _ hm g.pc g.snapCalc g.waitRunCalc hlt

theorem wokenNode_task_lt (pst : RS) {p : Name} (w : Name) {wd : Node} (hc : p ∉ wd.waitRunCalc)
    (hnc : wakeCrash p wd = false) :
    calOf N (wokenNode inp pst p wd) = calOf N wd ∧ linNode inp w (wokenNode inp pst p wd) + 5 ≤ linNode inp w wd := by
  unfold wokenNode; rw [if_neg hc]
  have hw : p ∈ wd.waitRun := by
    unfold wakeCrash at hnc
    simp only [hc, not_false_eq_true, decide_true, Bool.and_true, decide_eq_false_iff_not, Decidable.not_not] at hnc
    exact hnc
  have hlt : (wd.waitRun.filter (· ≠ p)).length < wd.waitRun.length :=
    List.length_filter_lt_length_iff_exists.mpr ⟨p, hw, by simp⟩
  exact ⟨rfl, linNode_wait_aux w _ wd _ rfl rfl rfl rfl rfl rfl rfl rfl hlt⟩

theorem wokenF_lt (hF : FiniteTable inp N) (s : Sys) (pst : RS) (p w : Name) (wd : Node) (hnc : wakeCrash p wd = false) :
    calOf N (wokenF inp s pst p wd) < calOf N wd ∨
    (calOf N (wokenF inp s pst p wd) = calOf N wd ∧ linNode inp w (wokenF inp s pst p wd) + 5 ≤ linNode inp w wd) := by
  by_cases hc : p ∈ wd.waitRunCalc
  · left
    have h0 := wokenNode_calc_lt hF pst hc
    have g := wokenF_grow inp s pst p wd
    have hm : m2Of N (wokenF inp s pst p wd) ≤ m2Of N (wokenNode inp pst p wd) := by
      unfold wokenF; rw [if_pos hc]; exact deliverF_m2 hF _ _ _ _
    have : calOf N (wokenF inp s pst p wd) ≤ calOf N (wokenNode inp pst p wd) := by
      unfold calOf; unfold m2Of at hm; rw [g.pc, g.snapCalc, g.waitRunCalc]; omega
    omega
  · rw [wokenF_same hc]; exact Or.inr (wokenNode_task_lt pst w hc hnc)

/-- what `send` leaves alone of the dispatcher's part of `restOf` (it does add to `ready`) -/
def SendFrame (s' s : Sys) : Prop := s'.toRun = s.toRun ∧ s'.cur = s.cur

theorem wakeOne_gle (hF : FiniteTable inp N) {s : Sys} {pst : RS} {p w : Name} {wd : Node} (hw : s.nodes w = some wd)
    (hN : w < N) (hnc : wakeCrash p wd = false) :
    GLe inp N (wakeOne inp s pst p w wd) s ∧ SendFrame (wakeOne inp s pst p w wd) s := by
  have hx := wokenF_lt hF s pst p w wd hnc
  unfold wakeOne
  split
  · refine ⟨gle_upd (x := wokenF inp s pst p wd) hw hN (SameM.of_nodes rfl) ?_, rfl, rfl⟩
    rcases hx with a | ⟨a, b⟩
    · exact Or.inl a
    · refine Or.inr ⟨a, ?_⟩
      simp only [List.length_append, List.length_singleton]
      omega
  · refine ⟨gle_upd (x := wokenF inp s pst p wd) hw hN (SameM.of_nodes rfl) ?_, rfl, rfl⟩
    rcases hx with a | ⟨a, b⟩
    · exact Or.inl a
    · exact Or.inr ⟨a, by simp only [setNode_ready]; omega⟩

theorem updateWaiting_gle (hF : FiniteTable inp N) {pst : RS} {p : Name} :
    ∀ (perm : List Name) (s s' : Sys), (∀ k y, s.nodes k = some y → k < N) →
      updateWaiting inp pst p s perm = some s' → GLe inp N s' s ∧ SendFrame s' s := by
  intro perm
  induction perm with
  | nil => intro s s' _ hs; simp only [updateWaiting] at hs; cases hs; exact ⟨GLe.refl _, rfl, rfl⟩
  | cons w ws ih =>
    intro s s' hb hs
    simp only [updateWaiting] at hs
    cases hw : s.nodes w with
    | none => simp only [hw] at hs; exact ih s s' hb hs
    | some wd =>
      simp only [hw] at hs
      split at hs
      · cases hs
      · rename_i hnc
        have hnc' : wakeCrash p wd = false := by simpa using hnc
        obtain ⟨g1, f1⟩ := wakeOne_gle (inp := inp) (pst := pst) hF hw (hb w wd hw) hnc'
        have hb2 : ∀ k y, (wakeOne inp s pst p w wd).nodes k = some y → k < N := by
          intro k y hk
          have : (wakeOne inp s pst p w wd).nodes = (setNode s w (wokenF inp s pst p wd)).nodes := by
            unfold wakeOne; split <;> rfl
          rw [this] at hk
          simp only [setNode_nodes] at hk
          split at hk
          · rename_i e; subst e; exact hb k wd hw
          · exact hb k y hk
        obtain ⟨g2, f2⟩ := ih _ s' hb2 hs
        exact ⟨g1.trans g2, f2.1.trans f1.1, f2.2.trans f1.2⟩

theorem sendHead_gle {s : Sys} {p : Name} {nd : Node} (hn : s.nodes p = some nd) (hN : p < N) :
    GLe inp N (sendHead s p nd) s ∧ SendFrame (sendHead s p nd) s := by
  unfold sendHead
  by_cases hws : nd.waitSelect = true
  · rw [if_pos hws]
    refine ⟨gle_upd (x := { nd with waitSelect := false }) hn hN (SameM.of_nodes rfl) (Or.inr ⟨rfl, ?_⟩), rfl, rfl⟩
    -- the 5 that `wait_select` weighs pays for the node's return to `ready`
    rw [linNode_eq, linNode_eq inp p nd]
    simp only [Node.baseW, Node.row, hws, if_true, Bool.false_eq_true, if_false, List.length_append,
      List.length_singleton]
    omega
  · rw [if_neg hws]; exact ⟨⟨rfl, Or.inr ⟨rfl, Nat.le_refl _⟩⟩, rfl, rfl⟩

theorem sendHead_bound {s : Sys} {p : Name} {nd : Node} (hn : s.nodes p = some nd)
    (hb : ∀ k y, s.nodes k = some y → k < N) : ∀ k y, (sendHead s p nd).nodes k = some y → k < N := by
  intro k y hk
  unfold sendHead at hk
  split at hk
  · simp only [setNode] at hk
    split at hk
    · rename_i e; subst e; exact hb k nd hn
    · exact hb k y hk
  · exact hb k y hk

theorem send_gle (hF : FiniteTable inp N) {s s0 : Sys} {processed : Option Name} {perm : List Name}
    (hb : ∀ k y, s.nodes k = some y → k < N) (hs : send inp s processed perm = some s0) :
    GLe inp N s0 s ∧ SendFrame s0 s ∧ (s0.susp = none ∨ s0.susp = some .crash) := by
  -- `GLe` and `SendFrame` do not look at `susp`
  have wrap : ∀ (t : Sys) (o : Option DOut), GLe inp N t s ∧ SendFrame t s → (o = none ∨ o = some .crash) →
      GLe inp N { t with susp := o } s ∧ SendFrame { t with susp := o } s ∧ (o = none ∨ o = some .crash) :=
    fun t o h ho => ⟨h.1, h.2, ho⟩
  have same : GLe inp N s s ∧ SendFrame s s := ⟨GLe.refl s, rfl, rfl⟩
  cases send_spec hs with
  | first => exact wrap s _ same (Or.inl rfl)
  | lost hn => exact wrap s _ same (Or.inr rfl)
  | keyError hn => exact wrap s _ same (Or.inr rfl)
  | running hn => exact wrap _ _ (sendHead_gle hn (hb _ _ hn)) (Or.inl rfl)
  | assertion hn => exact wrap _ _ (sendHead_gle hn (hb _ _ hn)) (Or.inr rfl)
  | woken hn _ _ _ hu =>
    obtain ⟨g1, f1⟩ := sendHead_gle (inp := inp) (N := N) hn (hb _ _ hn)
    obtain ⟨g2, f2⟩ := updateWaiting_gle hF perm _ _ (sendHead_bound hn hb) hu
    exact wrap _ _ ⟨g1.trans g2, f2.1.trans f1.1, f2.2.trans f1.2⟩ (Or.inl rfl)

theorem send_mlt (hF : FiniteTable inp N) {s s0 : Sys} {node : Option Name} {perm : List Name}
    (hb : ∀ k y, s.nodes k = some y → k < N) (hsd : send inp s node perm = some s0) (rpc' : RPC) {c : Nat}
    (hr : ∀ o, rOf rpc' o = c + wRank o) (hlt : c + 3 < rOf s.rpc s.susp) : MLt inp N { s0 with rpc := rpc' } s := by
  obtain ⟨⟨g1, g2⟩, ⟨f1, f2⟩, hsu⟩ := send_gle hF hb hsd
  have hrest : restOf { s0 with rpc := rpc' } + 5 * s.ready.length + 1 ≤ restOf s + 5 * s0.ready.length := by
    have : wRank s0.susp ≤ 3 := by rcases hsu with h | h <;> rw [h] <;> decide
    simp only [restOf, f1, f2, hr]; omega
  refine Or.inr ⟨g1, ?_⟩
  rcases g2 with a | ⟨a, b⟩
  · exact Or.inl a
  · exact Or.inr ⟨a, by show linS inp N s0 + _ < _; omega⟩

/-- closed by `rfl` as soon as the constructors are known (`decide` refuses the free variables) -/
theorem rank_lt {a b : Nat} (h : Nat.ble (a + 1) b = true) : a < b := Nat.le_of_ble_eq_true h

/-- `hr` speaks of `s.susp` on both sides: a caller rewrites it once -/
theorem runner_mlt {s s' : Sys} (hm : SameM inp N s' s) (h1 : s'.ready = s.ready) (h2 : s'.toRun = s.toRun)
    (h3 : s'.cur = s.cur) (h4 : s'.susp = s.susp) (hr : rOf s'.rpc s.susp < rOf s.rpc s.susp) : MLt inp N s' s := by
  refine mlt_sameM hm ?_
  unfold restOf; rw [h1, h2, h3, h4]
  exact Nat.add_lt_add_left hr _

theorem serialStep_mlt (hF : FiniteTable inp N) {s s' : Sys} {perm : List Name}
    (hb : ∀ k y, s.nodes k = some y → k < N) (hb' : ∀ k y, s'.nodes k = some y → k < N)
    (hs : serialStep inp s perm = some s') : MLt inp N s' s := by
  have quiet : ∀ (r : RPC) (h : Halt) (ev : List Ev), rOf r s.susp < rOf s.rpc s.susp →
      MLt inp N { s with rpc := r, halt := h, events := ev } s :=
    fun r h ev hlt => runner_mlt (SameM.of_nodes rfl) rfl rfl rfl rfl hlt
  cases serialStep_spec hs with
  | stop hr => exact quiet _ _ _ (by rw [hr]; exact rank_lt rfl)
  | send hr _ hsd => exact send_mlt hF hb hsd .sWait (c := 0) (fun o => (Nat.zero_add _).symm) (by rw [hr]; exact rank_lt rfl)
  | tick hr hsu hd => exact dtick_mlt (b := 0) hF (fun o => by rw [hr]; exact (Nat.zero_add _).symm) hsu hb hb' hd
  | lost hr hsu | assertFail hr hsu | stopIter hr hsu | cyclic hr hsu | holdOn hr hsu | crash hr hsu =>
    exact quiet _ _ _ (by rw [hr, hsu]; exact rank_lt rfl)
  | @go n nd hr hsu hn =>
    have k := applySel_keeps inp s n nd .go
    exact runner_mlt (sameM_status hn _ (applySel_nodes inp s n nd .go nofun)) k.ready k.toRun k.cur k.susp
      (by rw [hr, hsu]; exact rank_lt rfl)
  | @select n nd d hr hsu hn _ _ ha =>
    have k := applySel_keeps inp s n nd d
    exact runner_mlt (sameM_status hn _ (applySel_nodes inp s n nd d ha)) k.ready k.toRun k.cur k.susp
      (by rw [hr, hsu]; exact rank_lt rfl)
  | execLost hr | finish hr => exact quiet _ _ _ (by rw [hr]; exact rank_lt rfl)
  | @result n nd hr hn =>
    have k := processResult_keeps inp { s with events := Ev.fin n 0 :: s.events } n nd
    exact runner_mlt (sameM_status hn _ (processResult_nodes inp _ n nd)) k.ready k.toRun k.cur k.susp
      (by rw [hr]; exact rank_lt rfl)

def muOf (inp : RunInput) (N : Nat) (s : Sys) : Nat × Nat × Nat := (L1 N s, L2 N s, linS inp N s + restOf s)

theorem mlt_lex {s' s : Sys} (h : MLt inp N s' s) :
    Prod.Lex (· < ·) (Prod.Lex (· < ·) (· < ·)) (muOf inp N s') (muOf inp N s) := by
  unfold muOf
  rcases h with a | ⟨a, b | ⟨b, c⟩⟩
  · exact Prod.Lex.left _ _ a
  · rw [a]; exact Prod.Lex.right _ (Prod.Lex.left _ _ b)
  · rw [a, b]; exact Prod.Lex.right _ (Prod.Lex.right _ c)

theorem no_infinite_run {α : Type} {r : α → α → Prop} (wf : WellFounded r) (μ : Sys → α) {R : Sys → Prop}
    {st : Sys → Choice → Option Sys} {s0 : Sys} (h0 : R s0)
    (hnext : ∀ s c s', R s → st s c = some s' → R s' ∧ r (μ s') (μ s)) :
    ¬ ∃ (f : Nat → Sys) (c : Nat → Choice), f 0 = s0 ∧ ∀ i, st (f i) (c i) = some (f (i + 1)) := by
  rintro ⟨f, c, hf0, hstep⟩
  have hreach : ∀ i, R (f i) := by
    intro i
    induction i with
    | zero => rw [hf0]; exact h0
    | succ i ih => exact (hnext _ _ _ ih (hstep i)).1
  have key : ∀ x, Acc r x → ∀ i, μ (f i) = x → False := by
    intro x acc
    induction acc with
    | intro x _ ih => intro i hi; exact ih _ (hi ▸ (hnext _ _ _ (hreach i) (hstep i)).2) (i + 1) rfl
  exact key _ (wf.apply _) 0 rfl

theorem created_lt (hF : FiniteTable inp N) {s : Sys} (hr : Reach inp s) : ∀ k y, s.nodes k = some y → k < N :=
  fun k y hk => cl_lt hF ((reach_minv hr).nodes k y hk).self

theorem step_mlt (hF : FiniteTable inp N) {s s' : Sys} {c : Choice} (hr : Reach inp s) (hs : step inp s c = some s') :
    MLt inp N s' s := by
  cases c with
  | main perm => exact serialStep_mlt hF (created_lt hF hr) (created_lt hF (Reach.next hr hs)) hs
  | take w => cases hs
  | done w => cases hs

theorem serial_terminates (hser : inp.runner = .serial) (hF : FiniteTable inp N) :
    ¬ ∃ (f : Nat → Sys) (c : Nat → Choice), f 0 = init inp ∧ ∀ i, stepOf inp (f i) (c i) = some (f (i + 1)) := by
  rw [show stepOf inp = step inp from if_pos hser]
  exact no_infinite_run (Prod.lex Nat.lt_wfRel (Prod.lex Nat.lt_wfRel Nat.lt_wfRel)).wf (muOf inp N) Reach.init
    fun _ _ _ hr hs => ⟨Reach.next hr hs, mlt_lex (step_mlt hF hr hs)⟩

end DoitModel.Run
