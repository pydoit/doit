import DoitModel.Proofs.RunCount2
/-! # The serial runner preserves the counting invariant `Inv3` -/
namespace DoitModel.Run

theorem init_inv3 (inp : RunInput) : Inv3 inp (init inp) := by
  have hh : ∀ n, holding (init inp) n = 0 := by
    intro n; unfold holding init
    by_cases hrn : inp.runner = .serial <;> simp [hrn]
  constructor
  · intro _ n hs; simp [init] at hs
  · intro n hn; simp [cGo, init] at hn
  · intro n; simp [cGo, cFin, cStart, init]
  · intro n; rw [hh]; simp [cGo, cStart, init]
  · intro w n hw; simp [init] at hw
  · intro w w' n hw; simp [init] at hw
  · intro n hn; simp [init] at hn
  · simp [init]
  · intro n hn; rw [hh] at hn; simp [init] at hn
  · intro n hn; simp only [init] at hn; split at hn <;> cases hn
  · intro n w hn; simp only [init] at hn; split at hn <;> cases hn
  · intro n _; simp [cTerm, init]
  · intro n; simp [cTerm, init]

theorem inv3_raise {inp : RunInput} {s : Sys} (h : Inv3 inp s) (hh0 : ∀ n, holding s n = 0) (hl : Halt) :
    Inv3 inp (raise s hl) := by
  exact inv3_rpc h rfl rfl [] rfl (fun _ => ⟨rfl, rfl, rfl, rfl⟩) rfl rfl rfl rfl hh0

theorem teardown_counts (l : List Name) (m : Name) : Counts (Ev.complete :: l.map Ev.teardown) m 0 0 0 0 := by
  have quiet : ∀ e ∈ Ev.complete :: l.map Ev.teardown, Ev.isGoOf m e = false ∧ Ev.isStartOf m e = false ∧
      Ev.isFinOf m e = false ∧ Ev.isTerminalOf m e = false := by
    intro e he
    rcases List.mem_cons.mp he with rfl | he
    · exact ⟨rfl, rfl, rfl, rfl⟩
    · obtain ⟨x, _, rfl⟩ := List.mem_map.mp he; exact ⟨rfl, rfl, rfl, rfl⟩
  exact ⟨List.countP_eq_zero.mpr fun e he => by rw [(quiet e he).1]; exact Bool.false_ne_true,
    List.countP_eq_zero.mpr fun e he => by rw [(quiet e he).2.1]; exact Bool.false_ne_true,
    List.countP_eq_zero.mpr fun e he => by rw [(quiet e he).2.2.1]; exact Bool.false_ne_true,
    List.countP_eq_zero.mpr fun e he => by rw [(quiet e he).2.2.2]; exact Bool.false_ne_true⟩

theorem inv3_finishRun {inp : RunInput} {s : Sys} (h : Inv3 inp s) (hr : s.rpc = .fin) : Inv3 inp (finishRun s) := by
  exact inv3_rpc h rfl rfl (Ev.complete :: s.tdown.map Ev.teardown) rfl (teardown_counts s.tdown) rfl rfl rfl rfl
    (fun m => by simp [holding, hr])

theorem serialStep_inv3 {inp : RunInput} {s s' : Sys} {perm : List Name} (h3 : Inv3 inp s) (h2 : Inv2 inp s)
    (hs : serialStep inp s perm = some s') : Inv3 inp s' := by
  have raised : ∀ hl, (s.rpc = .sWait ∨ ∃ n, s.rpc = .sExec n) → Inv3 inp (raise s hl) :=
    fun hl hr => inv3_raise h3 (fun n => by rcases hr with e | ⟨m, e⟩ <;> simp [holding, e]) hl
  cases serialStep_spec hs with
  | stop hr | stopIter hr =>
    exact inv3_rpc h3 rfl rfl [] rfl (fun _ => ⟨rfl, rfl, rfl, rfl⟩) rfl rfl rfl rfl (fun n => by simp [holding, hr])
  | send hr _ hsd =>
    exact inv3_send .sWait h3 h2 (by simp [sentBack, hr]) hsd (fun n => by simp [holding, hr])
      (fun n ret a => by cases a) (fun n a => by cases a)
  | tick _ hsu hd => exact inv3_dtick h3 hsu hd
  | select hr hsu hn hd hg ha =>
    subst hd
    refine inv3_select _ h3 h2 (Or.inl hr) hsu hn ha (by simp [awaiting]) ?_ (fun m a => by cases a)
    intro m; simp [holding, selGo_eq_zero hg]
  | @go n nd hr hsu hn hd =>
    -- yes and start are one step here: split it at the state where the runner holds the job (a position of the parallel runner)
    have h1 := inv3_select (.gRet (.task n) (.startLoop 0)) h3 h2 (Or.inl hr) hsu hn (by rw [hd]; simp)
      (by simp [awaiting]) (fun m => by simp only [holding, hd, selGo]) (fun m a => by cases a)
    rw [hd] at h1
    exact inv3_startHeld h1 rfl rfl rfl (startTask_events inp _ n 0) rfl rfl rfl rfl
  | lost hr | assertFail hr | cyclic hr | holdOn hr | crash hr => exact raised _ (Or.inl hr)
  | execLost hr => exact raised _ (Or.inr ⟨_, hr⟩)
  | @result n nd hr hn => exact inv3_result_serial h3 hr hn (by simpa [stOf, hn] using h2.x n hr)
  | finish hr => exact inv3_finishRun h3 hr

theorem reach_inv3 {inp : RunInput} {s : Sys} (h : Reach inp s) : Inv3 inp s := by
  induction h with
  | init => exact init_inv3 inp
  | @next s0 s1 c hr hs ih =>
    cases c with
    | main perm => exact serialStep_inv3 ih (reach_inv2 hr) hs
    | take w => cases hs
    | done w => cases hs

end DoitModel.Run
