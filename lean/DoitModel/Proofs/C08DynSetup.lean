import DoitModel.Proofs.C08DynClosureIn
import DoitModel.Proofs.C08Closure
import DoitModel.Proofs.RunAcct
/-! # C08 (I10) with calc_dep, closure: a node whose first pass said `run` gets a node for each of its setup-tasks
    (node-local invariant `NodeP`, preserved by the dispatcher and by the runners: `InvP2` in every reachable state) -/
namespace DoitModel.Run

def PC.plainP : PC → Bool
  | .loopTop | .calcIter _ | .taskIter _ | .afterDeps | .self1 => true
  | _ => false

theorem created_self (s : Sys) (n : Name) (x : Node) : created (setNode s n x) n := ⟨x, by simp [setNode]⟩

theorem keeps_of_pcKeep {s s' : Sys} (k : PcKeep s s' none) : Keeps s s' := by
  intro d ⟨x, hx⟩
  obtain ⟨x', hx', _⟩ := k d x hx (by simp)
  exact ⟨x', hx'⟩

end DoitModel.Run

namespace DoitModel.Run.Dyn

/-- what node `n` records about its setup-tasks, position by position, so that at `done` (`fin`) either there are none, or
    the first pass did not say `run` (then the closure does not contain them), or each has a node:
    `early`: between the first `yield` and the decision, a node that is already finished was ended by its first pass,
    and that pass did not say `run` (stated negatively because that is what `fin` needs, and `R1` is existential);
    `iter`: inside the `for` loop every setup-task is still to come or has a node; `late`: after the loop all have. -/
structure NodeP (inp : RunInput) (s : Sys) (n : Name) (nd : Node) : Prop where
  early : nd.status.finished = true → (nd.pc = .afterSelf1 ∨ nd.pc = .setupDecide) → inp.setup n ≠ [] → ¬ R1 inp n
  iter : ∀ todo, nd.pc = .setupIter todo → ∀ d ∈ inp.setup n, d ∈ todo ∨ created s d
  late : nd.pc.setupAbsorbed = true → ∀ d ∈ inp.setup n, created s d
  fin : nd.pc = .done → nd.status ≠ .none → inp.setup n = [] ∨ ¬ R1 inp n ∨ ∀ d ∈ inp.setup n, created s d

def InvP2 (inp : RunInput) (s : Sys) : Prop := ∀ n nd, s.nodes n = some nd → NodeP inp s n nd

theorem NodeP.mono {inp : RunInput} {s s' : Sys} {n : Name} {a b : Node} (h : NodeP inp s n a) (k : Keeps s s')
    (hpc : b.pc = a.pc) (hst : b.status = a.status) : NodeP inp s' n b := by
  constructor
  · intro h1 h2; rw [hst] at h1; rw [hpc] at h2; exact h.early h1 h2
  · intro todo h1 d hd; rw [hpc] at h1
    rcases h.iter todo h1 d hd with a | a
    · exact Or.inl a
    · exact Or.inr (k d a)
  · intro h1 d hd; rw [hpc] at h1; exact k d (h.late h1 d hd)
  · intro h1 h2; rw [hpc] at h1; rw [hst] at h2
    rcases h.fin h1 h2 with a | a | a
    · exact Or.inl a
    · exact Or.inr (Or.inl a)
    · exact Or.inr (Or.inr (fun d hd => k d (a d hd)))

theorem nodeP_of_plain {inp : RunInput} {s : Sys} {n : Name} {x : Node} (hp : x.pc.plainP = true) : NodeP inp s n x := by
  constructor
  · intro _ h; rcases h with e | e <;> (rw [e] at hp; cases hp)
  · intro todo e; rw [e] at hp; cases hp
  · intro e; cases hx : x.pc <;> rw [hx] at hp e <;> first | (cases e; done) | (cases hp; done)
  · intro e; rw [e] at hp; cases hp

theorem nodeP_self2 {inp : RunInput} {s : Sys} {n : Name} {nd : Node} (hc : ∀ d ∈ inp.setup n, created s d) :
    NodeP inp s n { nd with pc := .self2 } :=
  ⟨(fun _ e => by rcases e with e | e <;> cases e), nofun, fun _ => hc, nofun⟩

theorem InvP2.back {inp : RunInput} {s s' : Sys} (h : InvP2 inp s) (b : Back s s') (k : Keeps s s') : InvP2 inp s' := by
  intro n nd hn
  obtain ⟨x, hx, e1, e2⟩ := b.1 n nd hn
  exact (h n x hx).mono k e1 (e2 trivial)

theorem InvP2.same {inp : RunInput} {s s' : Sys} (h : InvP2 inp s) (e : s'.nodes = s.nodes) : InvP2 inp s' :=
  fun n nd hn => by rw [e] at hn; exact (h n nd hn).mono (Keeps.of_eq e) rfl rfl

theorem invP2_setNode {inp : RunInput} {s : Sys} {n : Name} (x : Node) (h : InvP2 inp s)
    (hx : NodeP inp (setNode s n x) n x) : InvP2 inp (setNode s n x) := by
  intro k y hk
  simp only [setNode_nodes] at hk
  split at hk
  · rename_i e; subst e; cases hk; exact hx
  · exact (h k y hk).mono (keeps_setNode x) rfl rfl

theorem invP2_registerWaiting {inp : RunInput} {s : Sys} (n : Name) (wf : List Name) (h : InvP2 inp s) :
    InvP2 inp (registerWaiting s n wf) :=
  h.back (back_registerWaiting True s n wf) (keeps_registerWaiting s n wf)

theorem genStep_invP2 {inp : RunInput} {s : Sys} {n : Name} {nd : Node} (d : Name) (pc' : PC) (h : InvP2 inp s)
    (hx : ∀ s', Keeps s s' → created s' d → NodeP inp s' n { nd with pc := pc' }) :
    InvP2 inp (genStep inp s n nd d pc') := by
  generalize hg : genStep inp s n nd d pc' = g
  cases genStep_spec hg with
  | fresh hdn =>
    have h1 : InvP2 inp (setNode s d (mkNode inp d (nd.anc ++ [d]))) := invP2_setNode _ h (nodeP_of_plain rfl)
    have k1 : Keeps s (setNode (setNode s d (mkNode inp d (nd.anc ++ [d]))) n { nd with pc := pc' }) :=
      (keeps_setNode _).trans (keeps_setNode _)
    exact (invP2_setNode { nd with pc := pc' } h1 (hx _ k1 (keeps_setNode _ d (created_self s d _)))).same rfl
  | cyclic => exact h.same rfl
  | known hdn => exact invP2_setNode _ h (hx _ (keeps_setNode _) (keeps_setNode _ d ⟨_, hdn⟩))

theorem addWaitRun_invP2 {inp : RunInput} {s : Sys} {n : Name} {nd : Node} (ds : List Name) (isCalc : Bool)
    (pc' : PC) (h : InvP2 inp s)
    (hx : ∀ s', Keeps s s' → NodeP inp s' n (waitNode inp s nd ds isCalc pc')) :
    InvP2 inp (addWaitRun inp s n nd ds isCalc pc') := by
  unfold addWaitRun
  exact invP2_registerWaiting _ _ (invP2_setNode _ h (hx _ (keeps_setNode _)))

theorem nodeStep_invP2 {inp : RunInput} {s s' : Sys} {n : Name} {nd : Node} {perm : List Name}
    (hok : NodeOK inp s n nd) (hnn : nd.pc = .setupDecide → nd.status ≠ .none)
    (h : InvP2 inp s) (hn : s.nodes n = some nd) (hs : NodeStep inp s n nd perm s') : InvP2 inp s' := by
  have hP := h n nd hn
  have late' : nd.pc.setupAbsorbed = true → ∀ {x : Node} d, d ∈ inp.setup n → created (setNode s n x) d :=
    fun e _ d hd => keeps_setNode _ d (hP.late e d hd)
  cases hs with
  | move hm =>
    refine invP2_setNode _ h ?_
    cases hm with
    | loopTop | again | depsDone => exact nodeP_of_plain rfl
    | noSetup hpc hsetup => exact ⟨(fun _ e => by rcases e with e | e <;> cases e), nofun, nofun, fun _ _ => Or.inl hsetup⟩
    | selected hpc => exact ⟨fun a _ b => hP.early a (Or.inl hpc) b, nofun, nofun, nofun⟩
    | setupGo =>
      exact ⟨(fun _ e => by rcases e with e | e <;> cases e), (fun todo e d hd => by cases e; exact Or.inl hd), nofun, nofun⟩
    | setupSkip hpc hnr =>
      refine ⟨(fun _ e => by rcases e with e | e <;> cases e), nofun, nofun, ?_⟩
      intro _ _
      by_cases hsetup : inp.setup n = []
      · exact Or.inl hsetup
      · right; left
        have hfin : nd.status.finished = true := by
          cases hx : nd.status with
          | none => exact absurd hx (hnn hpc)
          | run => exact absurd hx hnr
          | _ => rfl
        exact hP.early hfin (Or.inr hpc) hsetup
    | setupDone hpc => exact nodeP_self2 (late' (by rw [hpc]; rfl))
    | finish hpc =>
      exact ⟨(fun _ e => by rcases e with e | e <;> cases e), nofun, nofun,
        fun _ _ => Or.inr (Or.inr (late' (by rw [hpc]; rfl)))⟩
  | park hp =>
    refine (invP2_setNode _ h ?_).same rfl
    cases hp with
    | deps => exact nodeP_of_plain rfl
    | select hpc => exact ⟨fun a _ b => hP.early a (Or.inl hpc) b, nofun, nofun, nofun⟩
    | setup hpc => exact nodeP_self2 (late' (by rw [hpc]; rfl))
  | yield1 hpc =>
    have hst : nd.status = .none := Classical.byContradiction fun c => by have := hok.l c; rw [hpc] at this; cases this
    refine (invP2_setNode { nd with pc := .afterSelf1 } h ?_).same rfl
    exact ⟨(fun e => by rw [hst] at e; cases e), nofun, nofun, nofun⟩
  | yield2 hpc =>
    refine (invP2_setNode { nd with pc := .afterSelf2 } h ?_).same rfl
    exact ⟨(fun _ e => by rcases e with e | e <;> cases e), nofun, fun _ => late' (by rw [hpc]; rfl), nofun⟩
  | calcGen | taskGen => exact genStep_invP2 _ _ h (fun _ _ _ => nodeP_of_plain rfl)
  | @setupGen d ds hpc =>
    refine genStep_invP2 d _ h ?_
    intro s' k hd
    refine ⟨(fun _ e => by rcases e with e | e <;> cases e), ?_, nofun, nofun⟩
    intro todo e x hx
    cases e
    rcases hP.iter (d :: ds) hpc x hx with a | a
    · rcases List.mem_cons.mp a with rfl | a'
      · exact Or.inr hd
      · exact Or.inl a'
    · exact Or.inr (k x a)
  | calcWait | taskWait =>
    exact addWaitRun_invP2 _ _ _ h (fun _ _ => nodeP_of_plain (by rw [(waitNode_facts inp s nd _ _ _).pc]; rfl))
  | setupWait hpc =>
    refine addWaitRun_invP2 _ _ _ h ?_
    intro s' k
    have f := waitNode_facts inp s nd (inp.setup n) false .afterSetup
    refine ⟨(fun _ e => by rw [f.pc] at e; rcases e with e | e <;> cases e), (fun _ e => by rw [f.pc] at e; cases e),
      ?_, (fun e => by rw [f.pc] at e; cases e)⟩
    intro _ x hx
    rcases hP.iter [] hpc x hx with a | a
    · cases a
    · exact k x a
  | done => exact h.same rfl

/-- `ha4` is the first half of field `a4` of `InvL` / `InvP`: a node past its first `yield` whose status is still `none`
    is the one the generator has just yielded -/
theorem dtick_invP2 {inp : RunInput} {s s' : Sys} {perm : List Name} (h1 : Inv1 inp s)
    (ha4 : ∀ n nd, s.nodes n = some nd → nd.pc.yielded1 = true → nd.status = .none → s.susp = some (.node n))
    (hsusp : s.susp = none) (h : InvP2 inp s) (hs : dtick inp s perm = some s') : InvP2 inp s' := by
  cases dtick_spec hs with
  | @node n nd _ _ hn hs =>
    refine nodeStep_invP2 (h1.node n nd hn) ?_ h hn hs
    intro hpc e
    have := ha4 n nd hn (by rw [hpc]; rfl) e
    rw [hsusp] at this; cases this
  | create => exact (invP2_setNode (mkNode inp _ [_]) h (nodeP_of_plain rfl)).same rfl
  | _ => exact h.same rfl

theorem first_pass_notR1 {inp : RunInput} {s : Sys} {n : Name} {nd : Node} (hD : InvE inp s) (hN : InvN inp s)
    (h2 : Inv2 inp s) (hdc : AllDC inp s) (hsusp : s.susp = some (.node n)) (hn : s.nodes n = some nd)
    (h0 : nd.status = .none) (hdf : DelivF inp s nd)
    (hfin : (selStatus (selDecision inp n nd)).finished = true) (hs : inp.setup n ≠ []) : ¬ R1 inp n := by
  have hS := hN n nd hn
  obtain ⟨nd', hn', hpc⟩ := h2.inv1.sp n hsusp
  rw [hn] at hn'; cases hn'
  have hpc1 : nd.pc = .afterSelf1 := by
    rcases hpc with e | e
    · exact e
    · exact absurd h0 (hS.2 (by rw [e]; rfl))
  have sd : SelDeps inp s n nd := sel_deps hD hN h2.inv1 hdc hn (by rw [hpc1]; rfl) (by rw [hpc1]; rfl) hdf
  have fp := first_pass_key hN hn sd hpc1 h0
  intro r
  obtain ⟨d, hsd, _⟩ := selStatus_fin hfin
  exact hs ((fp.den hsd).2 (r1_now sd r))

theorem invP2_status {inp : RunInput} {s s' : Sys} {n : Name} {nd : Node} (st' : RS) (h : InvP2 inp s)
    (e : s'.nodes = (setNode s n { nd with status := st' }).nodes)
    (hx : NodeP inp s n { nd with status := st' }) : InvP2 inp s' := by
  have k : Keeps s s' := (keeps_setNode (n := n) { nd with status := st' }).trans (Keeps.of_eq e)
  intro m y hm
  rw [e] at hm
  simp only [setNode_nodes] at hm
  split at hm
  · rename_i e'; subst e'; cases hm; exact hx.mono k rfl rfl
  · exact (h m y hm).mono k rfl rfl

theorem invP2_select {inp : RunInput} {s s' : Sys} {n : Name} {nd : Node} (hD : InvE inp s) (hN : InvN inp s)
    (h2 : Inv2 inp s) (hdc : AllDC inp s) (haw : awaiting s) (hsusp : s.susp = some (.node n)) (hn : s.nodes n = some nd)
    (h : InvP2 inp s) (hdf : DelivF inp s nd)
    (e : s'.nodes = (setNode s n { nd with status := selStatus (selDecision inp n nd) }).nodes) : InvP2 inp s' := by
  obtain ⟨nd', hn', hpc⟩ := h2.inv1.sp n hsusp
  rw [hn] at hn'; cases hn'
  have hP := h n nd hn
  refine invP2_status _ h e ⟨?_, ?_, ?_, ?_⟩
  · intro hfin hp hs
    have hp' : nd.pc = .afterSelf1 ∨ nd.pc = .setupDecide := hp
    have hpc1 : nd.pc = .afterSelf1 := by
      rcases hpc with a | a
      · exact a
      · rcases hp' with b | b <;> (rw [a] at b; cases b)
    exact first_pass_notR1 hD hN h2 hdc hsusp hn (h2.sel1 haw n nd hsusp hn hpc1) hdf hfin hs
  · intro todo hp
    have hp' : nd.pc = .setupIter todo := hp
    rcases hpc with a | a <;> (rw [a] at hp'; cases hp')
  · intro hp; exact hP.late hp
  · intro hp
    have hp' : nd.pc = .done := hp
    rcases hpc with a | a <;> (rw [a] at hp'; cases hp')

theorem invP2_result {inp : RunInput} {s s' : Sys} {n : Name} {nd : Node} (h3 : Inv3 inp s)
    (hn : s.nodes n = some nd) (hrun : nd.status = .run) (hgo : cGo s n ≥ 1) (h : InvP2 inp s)
    (e : s'.nodes = (setNode s n { nd with status := resStatus (inp.outcome n) }).nodes) : InvP2 inp s' := by
  obtain ⟨nd', hn', hy⟩ := h3.y n hgo
  rw [hn] at hn'; cases hn'
  have hP := h n nd hn
  refine invP2_status _ h e ⟨?_, ?_, ?_, ?_⟩
  · intro _ hp hs
    have hp' : nd.pc = .afterSelf1 ∨ nd.pc = .setupDecide := hp
    rcases hy with a | a | ⟨a, _⟩
    · rcases hp' with b | b <;> (rw [a] at b; cases b)
    · rcases hp' with b | b <;> (rw [a] at b; cases b)
    · exact absurd a hs
  · intro todo hp
    have hp' : nd.pc = .setupIter todo := hp
    rcases hy with a | a | ⟨_, a⟩ <;> (rw [a] at hp'; cases hp')
  · intro hp; exact hP.late hp
  · intro hp _
    exact hP.fin hp (by rw [hrun]; simp)

theorem move_invP2 {inp : RunInput} {s s' : Sys} (hD : InvDen inp s) (hG : InvG inp s) (h2 : Inv2 inp s)
    (h3 : Inv3 inp s)
    (ha4 : ∀ n nd, s.nodes n = some nd → nd.pc.yielded1 = true → nd.status = .none → s.susp = some (.node n))
    (h : InvP2 inp s) (k : Move inp s s') : InvP2 inp s' := by
  cases k with
  | emit _ a => exact h.same a.nodes
  | tick _ _ hsu hs => exact dtick_invP2 h2.inv1 ha4 hsu h hs
  | send _ _ _ _ hs a =>
    exact h.back ((send_back hs).wrap a.nodes a.toRun) ((keeps_of_pcKeep (send_pcs hs)).trans (Keeps.of_eq a.nodes))
  | select n nd _ haw hsu hn hd a =>
    have hl : nd.pc.inLoop = false := by
      obtain ⟨nd', hn', hpc⟩ := h2.inv1.sp n hsu
      rw [hn] at hn'; cases hn'
      rcases hpc with e' | e' <;> (rw [e']; rfl)
    exact invP2_select hD.den hD.nodeS h2 hG.dc haw hsu hn h (hD.delivF h2.inv1 hn hl)
      (a.nodes.trans (applySel_nodes inp s n nd _ hd))
  | result n nd _ s0 hn src a0 _ a =>
    obtain ⟨hrun, hgo⟩ := result_run h2 h3 hn src
    refine invP2_result h3 hn hrun hgo h ((a.nodes.trans (processResult_nodes inp s0 n nd)).trans ?_)
    show (fun k => if k = n then some _ else s0.nodes k) = fun k => if k = n then some _ else s.nodes k
    rw [a0.nodes]
  | finish e => subst e; exact h.same rfl

theorem reach_invP2 {inp : RunInput} {s : Sys} (h : Reach inp s) : InvP2 inp s :=
  Move.reach (fun hr => And.intro (reach_invDen hr) (And.intro (reach_invG hr) fun n nd a b c => ((reach_invL hr).a4 n nd a b c).1))
    (fun _ _ hn => nomatch hn) (fun h2 h3 q ih m => move_invP2 q.1 q.2.1 h2 h3 q.2.2 ih m) h

theorem preach_invP2 {inp : RunInput} {s : Sys} (h : PReach inp s) : InvP2 inp s :=
  Move.preach (fun hr => And.intro (preach_invDen hr) (And.intro (preach_invG hr) fun n nd a b c => ((preach_invP hr).a4 n nd a b c).1))
    (fun _ _ hn => nomatch hn) (fun h2 h3 q ih m => move_invP2 q.1 q.2.1 h2 h3 q.2.2 ih m) h

end DoitModel.Run.Dyn
