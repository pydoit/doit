import DoitModel.Model.Run
/-! # What each answer of `select_task` says about the node

`selDecision` has two entries: the first pass (`nd.status = .none`, `get_status` is consulted) and the second pass after the
setup-tasks ran (`nd.status = .run`).  `SelSpec` lists, answer by answer, the tests passed on the way to it; with
`h : selDecision inp n nd = a`, `cases selDecision_spec.of_eq h` leaves exactly the rows for `a`. -/
namespace DoitModel.Run

inductive SelSpec (inp : RunInput) (n : Name) (nd : Node) : Sel → Prop
  | ign1 : nd.status = .none → (nd.ign ≠ [] ∨ inp.ignored n = true) → SelSpec inp n nd .skipIgn
  | unmet1 : nd.status = .none → nd.ign = [] → inp.ignored n = false → nd.bad ≠ [] → SelSpec inp n nd .unmet
  | depErr : nd.status = .none → nd.ign = [] → inp.ignored n = false → nd.bad = [] → inp.statusOf n = .error →
      SelSpec inp n nd .depErr
  | utd : nd.status = .none → nd.ign = [] → inp.ignored n = false → nd.bad = [] → inp.statusOf n ≠ .error →
      effStatus inp n = .utd → SelSpec inp n nd .utd
  | runFirst : nd.status = .none → nd.ign = [] → inp.ignored n = false → nd.bad = [] → inp.statusOf n ≠ .error →
      effStatus inp n ≠ .utd → inp.setup n ≠ [] → SelSpec inp n nd .runFirst
  | go1 : nd.status = .none → nd.ign = [] → inp.ignored n = false → nd.bad = [] → inp.statusOf n ≠ .error →
      effStatus inp n ≠ .utd → inp.setup n = [] → inp.argsOk n = true → SelSpec inp n nd .go
  | argsErr1 : nd.status = .none → nd.ign = [] → inp.ignored n = false → nd.bad = [] → inp.statusOf n ≠ .error →
      effStatus inp n ≠ .utd → inp.setup n = [] → inp.argsOk n = false → SelSpec inp n nd .argsErr
  | assertFail : nd.status ≠ .none → (nd.status ≠ .run ∨ inp.setup n = []) → SelSpec inp n nd .assertFail
  | ign2 : nd.status = .run → inp.setup n ≠ [] → nd.ign ≠ [] → SelSpec inp n nd .skipIgn
  | unmet2 : nd.status = .run → inp.setup n ≠ [] → nd.ign = [] → nd.bad ≠ [] → SelSpec inp n nd .unmet
  | go2 : nd.status = .run → inp.setup n ≠ [] → nd.ign = [] → nd.bad = [] → inp.argsOk n = true → SelSpec inp n nd .go
  | argsErr2 : nd.status = .run → inp.setup n ≠ [] → nd.ign = [] → nd.bad = [] → inp.argsOk n = false →
      SelSpec inp n nd .argsErr

theorem selDecision_spec (inp : RunInput) (n : Name) (nd : Node) : SelSpec inp n nd (selDecision inp n nd) := by
  unfold selDecision
  by_cases h0 : nd.status = .none
  · rw [if_pos h0]
    by_cases c1 : nd.ign ≠ [] ∨ inp.ignored n = true
    · rw [if_pos c1]; exact .ign1 h0 c1
    rw [if_neg c1]
    simp only [not_or, ne_eq, Decidable.not_not, Bool.not_eq_true] at c1
    by_cases c2 : nd.bad ≠ []
    · rw [if_pos c2]; exact .unmet1 h0 c1.1 c1.2 c2
    rw [if_neg c2]
    simp only [ne_eq, Decidable.not_not] at c2
    by_cases c3 : inp.statusOf n = .error
    · rw [if_pos c3]; exact .depErr h0 c1.1 c1.2 c2 c3
    rw [if_neg c3]
    by_cases c4 : effStatus inp n = .utd
    · rw [if_pos c4]; exact .utd h0 c1.1 c1.2 c2 c3 c4
    rw [if_neg c4]
    by_cases c5 : inp.setup n ≠ []
    · rw [if_pos c5]; exact .runFirst h0 c1.1 c1.2 c2 c3 c4 c5
    rw [if_neg c5]
    simp only [ne_eq, Decidable.not_not] at c5
    by_cases c6 : inp.argsOk n = true
    · rw [if_pos c6]; exact .go1 h0 c1.1 c1.2 c2 c3 c4 c5 c6
    · rw [if_neg c6]; exact .argsErr1 h0 c1.1 c1.2 c2 c3 c4 c5 (Bool.not_eq_true _ ▸ c6)
  · rw [if_neg h0]
    by_cases d1 : nd.status ≠ .run ∨ inp.setup n = []
    · rw [if_pos d1]; exact .assertFail h0 d1
    rw [if_neg d1]
    simp only [not_or, ne_eq, Decidable.not_not] at d1
    by_cases d2 : nd.ign ≠ []
    · rw [if_pos d2]; exact .ign2 d1.1 d1.2 d2
    rw [if_neg d2]
    simp only [ne_eq, Decidable.not_not] at d2
    by_cases d3 : nd.bad ≠ []
    · rw [if_pos d3]; exact .unmet2 d1.1 d1.2 d2 d3
    rw [if_neg d3]
    simp only [ne_eq, Decidable.not_not] at d3
    by_cases d4 : inp.argsOk n = true
    · rw [if_pos d4]; exact .go2 d1.1 d1.2 d2 d3 d4
    · rw [if_neg d4]; exact .argsErr2 d1.1 d1.2 d2 d3 (Bool.not_eq_true _ ▸ d4)

theorem selDecision_spec.of_eq {inp : RunInput} {n : Name} {nd : Node} {a : Sel} (h : selDecision inp n nd = a) :
    SelSpec inp n nd a := h ▸ selDecision_spec inp n nd

/-- any answer other than the assertion failure: first pass, or second pass of a node with setup-tasks -/
theorem selDecision_pass {inp : RunInput} {n : Name} {nd : Node} (h : selDecision inp n nd ≠ .assertFail) :
    nd.status = .none ∨ (nd.status = .run ∧ inp.setup n ≠ []) := by
  generalize hd : selDecision inp n nd = a at h
  cases selDecision_spec.of_eq hd with
  | assertFail => exact absurd rfl h
  | ign2 a b | unmet2 a b | go2 a b | argsErr2 a b => exact Or.inr ⟨a, b⟩
  | _ a => exact Or.inl a

theorem selDecision_status {inp : RunInput} {n : Name} {nd : Node} (h : selDecision inp n nd ≠ .assertFail) :
    nd.status = .none ∨ nd.status = .run :=
  (selDecision_pass h).imp id And.left

theorem selDecision_unfinished {inp : RunInput} {n : Name} {nd : Node} (h : selDecision inp n nd ≠ .assertFail) :
    nd.status.finished = false := by
  rcases selDecision_status h with e | e <;> (rw [e]; rfl)

end DoitModel.Run
