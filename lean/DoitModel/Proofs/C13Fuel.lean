import DoitModel.Proofs.C13Forget
/-! # C13 — the fuel of `tdIter` suffices: `forget --follow-sub` never ends in the model's out-of-fuel result -/
namespace DoitModel.Cmds
open DoitModel.Status

/-- names of the task set that are neither processed nor queued -/
def unseen (g : Graph) (processed q : List Name) : Nat :=
  g.names.countP fun n => !decide (n ∈ processed) && !decide (n ∈ q)

theorem unseen_push (g : Graph) (P q : List Name) (d : Name) (hd : d ∈ g.names) (hP : d ∉ P) (hq : d ∉ q) :
    unseen g P (q ++ [d]) + 1 ≤ unseen g P q := by
  -- split the task set at `d`: `d` is counted before and not after, nothing else is counted only after
  obtain ⟨l1, l2, h⟩ := List.append_of_mem hd
  have hmono : ∀ l : List Name, (l.countP fun n => !decide (n ∈ P) && !decide (n ∈ q ++ [d])) ≤
      l.countP fun n => !decide (n ∈ P) && !decide (n ∈ q) := fun l =>
    List.countP_mono_left fun y _ hy => by
      simp only [Bool.and_eq_true, Bool.not_eq_true', decide_eq_false_iff_not, List.mem_append, not_or] at hy ⊢
      exact ⟨hy.1, hy.2.1⟩
  have h1 := hmono l1
  have h2 := hmono l2
  unfold unseen
  rw [h, List.countP_append, List.countP_append, List.countP_cons, List.countP_cons]
  have hd1 : (!decide (d ∈ P) && !decide (d ∈ q ++ [d])) = false := by simp
  have hd2 : (!decide (d ∈ P) && !decide (d ∈ q)) = true := by simp [hP, hq]
  simp only [hd1, hd2, Bool.false_eq_true, if_false, if_true]
  omega

theorem pushDeps_need (g : Graph) (P : List Name) (ds q : List Name) (hds : ∀ d, d ∈ ds → d ∈ g.names) :
    (pushDeps P q ds).1.length + unseen g P (pushDeps P q ds).1 ≤ q.length + unseen g P q := by
  fun_induction pushDeps P q ds with
  | case1 => exact Nat.le_refl _
  | case2 q d ds _ ih => exact ih fun x hx => hds x (List.mem_cons_of_mem _ hx)
  | case3 q d ds hnew ih =>
    have h1 := ih fun x hx => hds x (List.mem_cons_of_mem _ hx)
    have h2 := unseen_push g P q d (hds d List.mem_cons_self) (fun h => hnew (Or.inl h)) (fun h => hnew (Or.inr h))
    rw [List.length_append, List.length_singleton] at h1
    omega

theorem unseen_pop (g : Graph) (P q : List Name) (t : Name) : unseen g (t :: P) q = unseen g P (t :: q) :=
  List.countP_congr fun n _ => by
    simp only [Bool.and_eq_true, Bool.not_eq_true', decide_eq_false_iff_not, List.mem_cons, not_or]
    exact ⟨fun ⟨⟨a, b⟩, c⟩ => ⟨b, a, c⟩, fun ⟨b, a, c⟩ => ⟨⟨a, b⟩, c⟩⟩

/-- enough fuel: the queue length plus the number of names still unseen -/
theorem tdIter_fuel (g : Graph) (hwf : g.WF = true) (fuel : Nat) (P q : List Name) :
    (∀ x, x ∈ q → x ∈ g.names) → q.length + unseen g P q ≤ fuel → tdIter g fuel P q ≠ none := by
  fun_induction tdIter g fuel P q with
  | case1 => exact fun _ _ => nofun
  | case2 => exact fun _ hf => absurd hf (Nat.not_succ_le_zero _ ∘ Nat.le_trans (Nat.le_add_right _ _))
  | case3 fuel P t q hr ih =>
    intro hq hf
    have hsucc : ∀ d, d ∈ g.succs t → d ∈ g.names := fun d hd =>
      wf_mem hwf (hq t List.mem_cons_self) (List.mem_append_left _ hd)
    have hneed := pushDeps_need g (t :: P) (g.succs t) q hsucc
    have hpop := unseen_pop g P q t
    refine absurd hr (ih (fun x hx =>
      (pushDeps_queue_mem _ _ _ _ hx).elim (fun h => hq x (List.mem_cons_of_mem _ h)) (hsucc x)) ?_)
    rw [List.length_cons] at hf
    omega
  | case4 => exact fun _ _ => nofun

theorem unseen_le (g : Graph) (P q : List Name) : unseen g P q ≤ g.names.length := by
  unfold unseen; exact List.countP_le_length

theorem tdIter_tdFuel (g : Graph) (hwf : g.WF = true) (sel : List Name) (hsel : ∀ x, x ∈ sel → x ∈ g.names) :
    tdIter g (tdFuel g sel) [] sel ≠ none := by
  apply tdIter_fuel g hwf _ _ _ hsel
  unfold tdFuel
  have := unseen_le g [] sel
  omega

theorem forgetTarget_ne_fuel (fixed : Bool) (g : Graph) (hwf : g.WF = true) (a : ForgetArgs) (dflt : Option (List Name)) :
    forgetTarget fixed g a dflt ≠ .fuel := by
  unfold forgetTarget
  split
  · simp
  · split
    · simp
    · cases hu : firstUnknown g ((selTasks a.names dflt).getD []) with
      | some n => simp
      | none =>
        simp only
        cases hb : forgetBase fixed g (selTasks a.names dflt) with
        | none => simp
        | some base =>
          simp only
          have hbase : ∀ x, x ∈ base → x ∈ g.names := by
            cases hs : selTasks a.names dflt with
            | none =>
              rw [hs] at hb
              simp only [forgetBase] at hb
              cases fixed with
              | true => simp at hb; subst hb; exact fun x hx => hx
              | false => simp at hb
            | some l =>
              rw [hs] at hb hu
              simp only [forgetBase] at hb
              injection hb with hb; subst hb
              exact firstUnknown_none (by simpa using hu)
          unfold forgetExpand
          split
          · cases ht : tdIter g (tdFuel g base) [] base with
            | none => exact absurd ht (tdIter_tdFuel g hwf base hbase)
            | some l => simp
          · simp

end DoitModel.Cmds
