import DoitModel.Proofs.C20
/-! # C20: the `changed_file_dep` reason against what the last recorded successful execution saw (ghost state) -/
namespace DoitModel.Intro
open DoitModel.Status

theorem listed_empty (c : Checker) (fs : FS) (p : Path) : depListed c Rcd.empty fs p = (fs p).isSome := by
  unfold depListed
  cases fs p <;> rfl

theorem listed_iff_of_agree {c : Checker} {r : Rcd} {e : Exec} {fs : FS} (hag : AgreeSome r e) (hck : e.checker = c)
    (p : Path) :
    depListed c r fs p = true ↔ (fs p).isSome = true ∧ (p ∉ e.deps ∨ depUnmod c e fs p = false) := by
  obtain ⟨_, _, _, hd, hfs⟩ := hag
  unfold depListed depUnmod notInPrev
  rw [hd]
  cases fs p with
  | none => exact ⟨nofun, fun h => nomatch h.1⟩
  | some cur =>
    by_cases hp : p ∈ e.deps
    · obtain ⟨sm, hsaw, hst⟩ := hfs p hp
      rw [hck] at hst
      rw [hst, hsaw]
      -- the state was computed by the configured checker, so comparing against it cannot raise
      have hx : (checkModified c (stateOf c sm) cur == .modified) = !(checkModified c (stateOf c sm) cur == .same) := by
        have hne := checkModified_stateOf_ne_crash c sm cur
        cases hm : checkModified c (stateOf c sm) cur
        · rfl
        · rfl
        · exact absurd hm hne
      simp only [hp, decide_true, Bool.not_true, Bool.false_or, hx, unmodBy, Option.isSome_some, true_and,
        not_true_eq_false, false_or, Bool.not_eq_true']
    · have hl : (match r.fstate p with
          | none => true
          | some st => (!decide (p ∈ e.deps)) || checkModified c st cur == .modified) = true := by
        cases r.fstate p
        · rfl
        · exact Bool.or_eq_true_iff.2 (Or.inl (by rw [decide_eq_false hp]; rfl))
      exact ⟨fun _ => ⟨rfl, Or.inl hp⟩, fun _ => hl⟩

/-- all three ghost cases at once: no recorded execution, or one under another checker (the record is dropped), or one
    under the configured checker (`listed_iff_of_agree`) -/
theorem listed_logRcd_iff {c : Checker} {r : Rcd} {fs : FS} {o : Option Exec} (p : Path) :
    Agree r o →
      (depListed c (logRcd c r) fs p = true ↔
        (fs p).isSome = true ∧
          match o with
          | none => True
          | some e => e.checker ≠ c ∨ p ∉ e.deps ∨ depUnmod c e fs p = false) := by
  intro hag
  cases o with
  | none =>
    obtain ⟨_, _, hc, _, hfs⟩ := hag
    have hcc : checkerChanged c r = false := by rw [checkerChanged, hc]
    rw [logRcd_same hcc, depListed, hfs p]
    cases fs p <;> simp
  | some e =>
    have hc : r.checker = some e.checker := hag.2.2.1
    by_cases hck : e.checker = c
    · have hcc : checkerChanged c r = false := by simp [checkerChanged, hc, hck]
      rw [logRcd_same hcc, listed_iff_of_agree hag hck]
      simp [hck]
    · have hcc : checkerChanged c r = true := by simp [checkerChanged, hc, hck]
      rw [logRcd_changed hcc, listed_empty]
      simp [hck]

end DoitModel.Intro
