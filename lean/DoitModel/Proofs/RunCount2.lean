import DoitModel.Proofs.RunCount
/-! # `Inv3` under the runner's own steps: `select_task`, start of execution, `process_task_result` -/
namespace DoitModel.Run

def selGo : Sel → Nat
  | .go => 1 | _ => 0
def selTerm : Sel → Nat
  | .skipIgn => 1 | .unmet => 1 | .depErr => 1 | .utd => 1 | .argsErr => 1 | _ => 0

theorem selGo_eq_zero {d : Sel} (h : d ≠ .go) : selGo d = 0 := by
  cases d <;> first | rfl | exact absurd rfl h

theorem selEvents_counts (inp : RunInput) (n : Name) (nd : Node) (d : Sel) (m : Name) :
    Counts (selEvents inp n nd d) m (if n = m then selGo d else 0) 0 0 (if n = m then selTerm d else 0) := by
  have c := statusEv_counts nd n m
  cases d <;> constructor <;>
    simp [selEvents, selGo, selTerm, List.countP_cons, Ev.isGoOf, Ev.isStartOf, Ev.isFinOf, Ev.isTerminalOf,
      c.go, c.start, c.fin, c.term]

theorem go_yset {inp : RunInput} {s : Sys} {n : Name} {nd : Node} (h : Inv2 inp s) (haw : awaiting s)
    (hsusp : s.susp = some (.node n)) (hn : s.nodes n = some nd) (hd : selDecision inp n nd = .go) :
    YSet inp n nd.pc := by
  obtain ⟨nd', hn', hpc⟩ := h.inv1.sp n hsusp
  rw [hn] at hn'; cases hn'
  rcases hpc with e | e
  · cases selDecision_spec.of_eq hd with
    | go1 _ _ _ _ _ _ hsetup _ => exact Or.inr (Or.inr ⟨hsetup, e⟩)
    | go2 hrun => rw [h.sel1 haw n nd hsusp hn e] at hrun; cases hrun
  · exact Or.inl e

theorem awaiting_holding {s : Sys} (h : awaiting s) (n : Name) : holding s n = 0 := by
  rcases h with e | ⟨r, e⟩ <;> simp [holding, e]

theorem selGo_le (d : Sel) : selGo d ≤ 1 := by cases d <;> decide

theorem selTerm_le (d : Sel) : selTerm d ≤ 1 := by cases d <;> decide

theorem selGo_pos {d : Sel} (h : 1 ≤ selGo d) : d = .go := by
  cases d <;> first | rfl | exact absurd h (by decide)

theorem selTerm_of_unfinished {d : Sel} (h : (selStatus d).finished = false) : selTerm d = 0 := by
  cases d <;> first | rfl | cases h

theorem Inv3.select {inp : RunInput} {s s' : Sys} {n : Name} {nd : Node} {d : Sel} (h3 : Inv3 inp s) (h2 : Inv2 inp s)
    (haw : awaiting s) (hsusp : s.susp = some (.node n)) (hn : s.nodes n = some nd)
    (hdd : selDecision inp n nd = d) (hd : d ≠ .assertFail)
    (e1 : s'.nodes = (setNode s n { nd with status := selStatus d }).nodes)
    (hev : s'.events = selEvents inp n nd d ++ s.events)
    (ejq : s'.jobQ = s.jobQ) (erq : s'.resQ = s.resQ) (ewk : s'.workers = s.workers)
    (hr2 : ¬ awaiting s') (hr3 : ∀ m, holding s' m = if n = m then selGo d else 0)
    (hr4 : ∀ m, s'.rpc ≠ .sExec m) : Inv3 inp s' := by
  have hst : ∀ x, stOf s' x = if x = n then selStatus d else stOf s x := fun x => by
    rw [stOf_congr e1, stOf_setNode]
  have hc := fun m => counts_append hev m
  have sc := selEvents_counts inp n nd d
  have z0 : cGo s n = 0 := h3.z haw n hsusp
  have hold0 := awaiting_holding haw
  have hunf : nd.status.finished = false := selDecision_unfinished (by rw [hdd]; exact hd)
  have hterm0 : cTerm s n = 0 := h3.t n (by simp [stOf, hn, hunf])
  -- of the counters only `go` and `terminal` of `n` move, both from 0
  have hst' : ∀ m, cStart s' m = cStart s m := fun m => by rw [(hc m).2.1, (sc m).start, Nat.zero_add]
  have hfin' : ∀ m, cFin s' m = cFin s m := fun m => by rw [(hc m).2.2.1, (sc m).fin, Nat.zero_add]
  have hgo : ∀ m, n ≠ m → cGo s' m = cGo s m := fun m e => by rw [(hc m).1, (sc m).go, if_neg e, Nat.zero_add]
  have hgon : cGo s' n = selGo d := by rw [(hc n).1, (sc n).go, if_pos rfl, z0]; rfl
  have htm : ∀ m, n ≠ m → cTerm s' m = cTerm s m := fun m e => by
    rw [(hc m).2.2.2, (sc m).term, if_neg e, Nat.zero_add]
  have htmn : cTerm s' n = selTerm d := by rw [(hc n).2.2.2, (sc n).term, if_pos rfl, hterm0]; rfl
  -- a task in flight is not `n`
  have notN : ∀ m, 1 ≤ cGo s m → n ≠ m := by intro m hm e; subst e; omega
  have goOfStart : ∀ m, 1 ≤ cStart s m → 1 ≤ cGo s m := fun m a => by have := h3.j m; omega
  have hstO : ∀ m, n ≠ m → stOf s' m = stOf s m := fun m e => by rw [hst, if_neg (Ne.symm e)]
  constructor
  · exact fun ha => absurd ha hr2
  · intro m hm
    by_cases e : n = m
    · subst e
      rw [hgon] at hm
      exact ⟨{ nd with status := selStatus d }, by rw [e1]; exact setNode_self _ _ _,
        go_yset (nd := nd) h2 haw hsusp hn (hdd.trans (selGo_pos hm))⟩
    · rw [hgo m e] at hm
      obtain ⟨x, a, b⟩ := h3.y m hm
      exact ⟨x, by rw [e1, setNode_nodes, if_neg (Ne.symm e)]; exact a, b⟩
  · intro m
    rw [hst', hfin']
    refine ⟨?_, (h3.p0 m).2⟩
    by_cases e : n = m
    · subst e; rw [hgon]; exact selGo_le d
    · rw [hgo m e]; exact (h3.p0 m).1
  · intro m
    rw [ejq, hr3 m, (hc m).1, (hc m).2.1, (sc m).go, (sc m).start]
    have := h3.j m; rw [hold0] at this; omega
  · intro w m hw; rw [ewk] at hw
    obtain ⟨a, b, c⟩ := h3.w1 w m hw
    exact ⟨(hst' m).trans a, (hfin' m).trans b,
      (hstO m (notN m (goOfStart m (Nat.le_of_eq a.symm)))).trans c⟩
  · intro w w' m a b; rw [ewk] at a b; exact h3.w2 w w' m a b
  · intro m hm; rw [erq] at hm
    obtain ⟨a, c⟩ := h3.q1 m hm
    exact ⟨(hfin' m).trans a,
      (hstO m (notN m (goOfStart m (Nat.le_trans (Nat.le_of_eq a.symm) (h3.p0 m).2)))).trans c⟩
  · rw [erq]; exact h3.q2
  · intro m hm
    rcases hm with a | a
    · rw [ejq] at a
      have hne : n ≠ m := notN m (by have := h3.j m; have := count_task_pos.mp a; omega)
      exact (hstO m hne).trans (h3.j2 m (Or.inl a))
    · rw [hr3 m] at a
      by_cases e : n = m
      · subst e
        rw [if_pos rfl] at a
        have := selGo_pos (d := d) (Nat.le_of_eq a.symm)
        subst this; rw [hst, if_pos rfl]; rfl
      · rw [if_neg e] at a; cases a
  · exact fun m hm => absurd hm (hr4 m)
  · exact fun m w hm => absurd hm (hr4 m)
  · intro m hm
    by_cases e : n = m
    · subst e; rw [hst, if_pos rfl] at hm; rw [htmn]; exact selTerm_of_unfinished hm
    · rw [hstO m e] at hm; rw [htm m e]; exact h3.t m hm
  · intro m
    by_cases e : n = m
    · subst e; rw [htmn]; exact selTerm_le d
    · rw [htm m e]; exact h3.t2 m

theorem inv3_select {inp : RunInput} {s : Sys} {n : Name} {nd : Node} (rpc' : RPC) (h3 : Inv3 inp s)
    (h2 : Inv2 inp s) (haw : awaiting s) (hsusp : s.susp = some (.node n)) (hn : s.nodes n = some nd)
    (hd : selDecision inp n nd ≠ .assertFail)
    (hr2 : ¬ awaiting { s with rpc := rpc' })
    (hr3 : ∀ m, holding { s with rpc := rpc' } m = if n = m then selGo (selDecision inp n nd) else 0)
    (hr4 : ∀ m, rpc' ≠ .sExec m) :
    Inv3 inp { applySel inp s n nd (selDecision inp n nd) with rpc := rpc' } := by
  have f := applySel_keeps inp s n nd (selDecision inp n nd)
  exact h3.select h2 haw hsusp hn rfl hd (applySel_nodes inp s n nd _ hd) (applySel_events inp s n nd _) f.jobQ f.resQ
    f.workers hr2 hr3 hr4


theorem Inv3.outer {inp : RunInput} {s s' : Sys} (h : Inv3 inp s) (e1 : s'.nodes = s.nodes) (e5 : s'.susp = s.susp)
    (new : List Ev) (hev : s'.events = new ++ s.events)
    (hng : ∀ m, new.countP (Ev.isGoOf m) = 0 ∧ new.countP (Ev.isTerminalOf m) = 0)
    (haw : awaiting s' → awaiting s)
    (hp0 : ∀ n, cFin s' n ≤ cStart s' n)
    (hj : ∀ n, s'.jobQ.count (.task n) + holding s' n + cStart s' n = cGo s' n)
    (hw1 : ∀ w n, s'.workers w = .running n → cStart s' n = 1 ∧ cFin s' n = 0 ∧ stOf s n = .run)
    (hw2 : ∀ w w' n, s'.workers w = .running n → s'.workers w' = .running n → w = w')
    (hq1 : ∀ n ∈ s'.resQ, cFin s' n = 1 ∧ stOf s n = .run) (hq2 : s'.resQ.Nodup)
    (hj2 : ∀ n, (Job.task n ∈ s'.jobQ ∨ holding s' n = 1) → stOf s n = .run)
    (hx3 : ∀ n, s'.rpc = .sExec n → cStart s' n = 1 ∧ cFin s' n = 0)
    (hxw : ∀ n w, s'.rpc = .sExec n → s'.workers w ≠ .running n) : Inv3 inp s' := by
  have hst : ∀ x, stOf s' x = stOf s x := stOf_congr e1
  have hc := fun m => counts_append hev m
  constructor
  · intro ha n hn; rw [(hc n).1, (hng n).1, Nat.zero_add]; rw [e5] at hn; exact h.z (haw ha) n hn
  · intro n hn; rw [(hc n).1, (hng n).1, Nat.zero_add] at hn; rw [e1]; exact h.y n hn
  · intro n; refine ⟨?_, hp0 n⟩; rw [(hc n).1, (hng n).1, Nat.zero_add]; exact (h.p0 n).1
  · exact hj
  · intro w n hw; rw [hst]; exact hw1 w n hw
  · exact hw2
  · intro n hn; rw [hst]; exact hq1 n hn
  · exact hq2
  · intro n hn; rw [hst]; exact hj2 n hn
  · exact hx3
  · exact hxw
  · intro n hn; rw [hst] at hn; rw [(hc n).2.2.2, (hng n).2, Nat.zero_add]; exact h.t n hn
  · intro n; rw [(hc n).2.2.2, (hng n).2, Nat.zero_add]; exact h.t2 n

theorem inv3_rpc {inp : RunInput} {s s' : Sys} (h : Inv3 inp s) (e1 : s'.nodes = s.nodes) (e5 : s'.susp = s.susp)
    (new : List Ev) (hev : s'.events = new ++ s.events) (hz : ∀ m, Counts new m 0 0 0 0)
    (e7 : s'.jobQ = s.jobQ) (e8 : s'.resQ = s.resQ) (e9 : s'.workers = s.workers)
    (hq : s'.rpc.free = true) (hh0 : ∀ n, holding s n = 0) : Inv3 inp s' := by
  obtain ⟨haw, hh, hx, _⟩ := free_facts hq
  have hc : ∀ m, cGo s' m = cGo s m ∧ cStart s' m = cStart s m ∧ cFin s' m = cFin s m := by
    intro m
    obtain ⟨a, b, c, _⟩ := counts_append hev m
    rw [a, b, c, (hz m).go, (hz m).start, (hz m).fin]
    exact ⟨Nat.zero_add _, Nat.zero_add _, Nat.zero_add _⟩
  refine h.outer e1 e5 new hev (fun m => ⟨(hz m).go, (hz m).term⟩) (fun a => absurd a haw) ?_ ?_ ?_ ?_ ?_ ?_ ?_ ?_ ?_
  · intro n; rw [(hc n).2.1, (hc n).2.2]; exact (h.p0 n).2
  · intro n; rw [e7, hh, (hc n).1, (hc n).2.1]; have := h.j n; rw [hh0] at this; exact this
  · intro w n hw; rw [e9] at hw; rw [(hc n).2.1, (hc n).2.2]; exact h.w1 w n hw
  · intro w w' n a b; rw [e9] at a b; exact h.w2 w w' n a b
  · intro n hn; rw [e8] at hn; rw [(hc n).2.2]; exact h.q1 n hn
  · rw [e8]; exact h.q2
  · intro n hn; rw [e7, hh] at hn
    rcases hn with a | a
    · exact h.j2 n (Or.inl a)
    · cases a
  · intro n hn; exact absurd hn (hx n)
  · intro n w hn; exact absurd hn (hx n)

theorem startTask_counts (inp : RunInput) (n w : Nat) (m : Name) :
    Counts (if inp.runner = .process then [Ev.start n w] else [Ev.start n w, Ev.execute n]) m 0
      (if n = m then 1 else 0) 0 0 := by
  split <;> constructor <;> simp [List.countP_cons, Ev.isGoOf, Ev.isStartOf, Ev.isFinOf, Ev.isTerminalOf]

theorem startTask_events (inp : RunInput) (s : Sys) (n w : Nat) :
    (startTask inp s n w).events =
      (if inp.runner = .process then [Ev.start n w] else [Ev.start n w, Ev.execute n]) ++ s.events := by
  unfold startTask
  by_cases hp : inp.runner = .process <;> simp [hp]

/-- for the serial runner `rpc = gRet (task n)` stands for "`select_task` said yes" -/
theorem inv3_startHeld {inp : RunInput} {s s' : Sys} {n : Name} {ret : Ret} (h : Inv3 inp s)
    (hr : s.rpc = .gRet (.task n) ret) (e1 : s'.nodes = s.nodes) (e5 : s'.susp = s.susp)
    (hev : s'.events = (if inp.runner = .process then [Ev.start n 0] else [Ev.start n 0, Ev.execute n]) ++ s.events)
    (ejq : s'.jobQ = s.jobQ) (erq : s'.resQ = s.resQ) (ewk : s'.workers = s.workers) (erpc : s'.rpc = .sExec n) :
    Inv3 inp s' := by
  have sc := startTask_counts inp n 0
  have hc := fun m => counts_append hev m
  have hold : ∀ m, holding s m = if n = m then 1 else 0 := by intro m; simp [holding, hr]
  have hold' : ∀ m, holding s' m = 0 := by intro m; simp [holding, erpc]
  have key : cStart s n = 0 ∧ cFin s n = 0 := by
    have := h.j n; rw [hold n, if_pos rfl] at this; have := h.p0 n; omega
  -- only the start counter of `n` moves, from 0 to 1
  have hfin : ∀ m, cFin s' m = cFin s m := fun m => by rw [(hc m).2.2.1, (sc m).fin, Nat.zero_add]
  have hst : ∀ m, n ≠ m → cStart s' m = cStart s m := fun m e => by
    rw [(hc m).2.1, (sc m).start, if_neg e, Nat.zero_add]
  have hstn : cStart s' n = 1 := by rw [(hc n).2.1, (sc n).start, if_pos rfl, key.1]
  have other : ∀ m, cStart s m = 1 → n ≠ m := fun m a e => by subst e; rw [key.1] at a; cases a
  refine h.outer e1 e5 _ hev (fun m => ⟨(sc m).go, (sc m).term⟩) ?_ ?_ ?_ ?_ ?_ ?_ ?_ ?_ ?_ ?_
  · intro a; rcases a with a | ⟨r, a⟩ <;> (rw [erpc] at a; cases a)
  · intro m; rw [hfin]
    by_cases e : n = m
    · subst e; rw [hstn, key.2]; exact Nat.zero_le 1
    · rw [hst m e]; exact (h.p0 m).2
  · intro m; rw [ejq, hold', (hc m).1, (hc m).2.1, (sc m).go, (sc m).start]
    have := h.j m; rw [hold] at this
    omega
  · intro w m hw; rw [ewk] at hw
    obtain ⟨a, b, c⟩ := h.w1 w m hw
    exact ⟨(hst m (other m a)).trans a, (hfin m).trans b, c⟩
  · rw [ewk]; exact h.w2
  · intro m hm; rw [erq] at hm
    obtain ⟨a, c⟩ := h.q1 m hm
    exact ⟨(hfin m).trans a, c⟩
  · rw [erq]; exact h.q2
  · intro m hm; rw [ejq, hold'] at hm
    rcases hm with a | a
    · exact h.j2 m (Or.inl a)
    · cases a
  · intro m hm; rw [erpc] at hm; cases hm
    exact ⟨hstn, (hfin n).trans key.2⟩
  · intro m w hm hw; rw [erpc] at hm; cases hm; rw [ewk] at hw
    exact other n (h.w1 w n hw).1 rfl


theorem resEvents_counts (n : Name) (o : Outcome) (m : Name) :
    Counts (resEvents n o) m 0 0 0 (if n = m then 1 else 0) := by
  cases o <;> constructor <;> simp [resEvents, List.countP_cons, Ev.isGoOf, Ev.isStartOf, Ev.isFinOf, Ev.isTerminalOf]

/-- `process_task_result(n)`; the flight clauses of the new state are supplied by the caller -/
theorem Inv3.finish {inp : RunInput} {s s' : Sys} {n : Name} {nd : Node} (h : Inv3 inp s)
    (hn : s.nodes n = some nd) (hrun : nd.status = .run) (st' : RS) (hfin : st'.finished = true)
    (e1 : s'.nodes = (setNode s n { nd with status := st' }).nodes) (e5 : s'.susp = s.susp)
    (new : List Ev) (hev : s'.events = new ++ s.events)
    (hng : ∀ m, new.countP (Ev.isGoOf m) = 0 ∧ new.countP (Ev.isTerminalOf m) = if n = m then 1 else 0)
    (haw : ¬ awaiting s')
    (hp0 : ∀ m, cFin s' m ≤ cStart s' m)
    (hj : ∀ m, s'.jobQ.count (.task m) + holding s' m + cStart s' m = cGo s' m)
    (hw1 : ∀ w m, s'.workers w = .running m → cStart s' m = 1 ∧ cFin s' m = 0 ∧ stOf s m = .run ∧ m ≠ n)
    (hw2 : ∀ w w' m, s'.workers w = .running m → s'.workers w' = .running m → w = w')
    (hq1 : ∀ m ∈ s'.resQ, cFin s' m = 1 ∧ stOf s m = .run ∧ m ≠ n) (hq2 : s'.resQ.Nodup)
    (hj2 : ∀ m, (Job.task m ∈ s'.jobQ ∨ holding s' m = 1) → stOf s m = .run ∧ m ≠ n)
    (hx : ∀ m, s'.rpc ≠ .sExec m) : Inv3 inp s' := by
  have hst : ∀ x, stOf s' x = if x = n then st' else stOf s x := by
    intro x; rw [stOf_congr e1, stOf_setNode]
  have hc := fun m => counts_append hev m
  have hterm0 : cTerm s n = 0 := h.t n (by simp [stOf, hn, hrun, RS.finished])
  constructor
  · intro ha; exact absurd ha haw
  · intro m hm; rw [(hc m).1, (hng m).1, Nat.zero_add] at hm
    obtain ⟨x, a, b⟩ := h.y m hm
    rw [e1]
    by_cases e : m = n
    · subst e; rw [hn] at a; cases a; exact ⟨_, setNode_self _ _ _, b⟩
    · exact ⟨x, by simp [setNode, e, a], b⟩
  · intro m; refine ⟨?_, hp0 m⟩; rw [(hc m).1, (hng m).1, Nat.zero_add]; exact (h.p0 m).1
  · exact hj
  · intro w m hw
    obtain ⟨a, b, c, d⟩ := hw1 w m hw
    exact ⟨a, b, by rw [hst]; simp [d, c]⟩
  · exact hw2
  · intro m hm
    obtain ⟨a, c, d⟩ := hq1 m hm
    exact ⟨a, by rw [hst]; simp [d, c]⟩
  · exact hq2
  · intro m hm
    obtain ⟨c, d⟩ := hj2 m hm
    rw [hst]; simp [d, c]
  · intro m hm; exact absurd hm (hx m)
  · intro m w hm; exact absurd hm (hx m)
  · intro m hm
    rw [hst] at hm
    rw [(hc m).2.2.2, (hng m).2]
    by_cases e : m = n
    · subst e; simp only [if_true] at hm; rw [hfin] at hm; cases hm
    · simp only [e, if_false] at hm
      have : ¬ n = m := fun e' => e e'.symm
      simp only [this, if_false, Nat.zero_add]; exact h.t m hm
  · intro m
    rw [(hc m).2.2.2, (hng m).2]
    by_cases e : n = m
    · subst e; simp only [if_true, hterm0]; omega
    · simp only [e, if_false, Nat.zero_add]; exact h.t2 m

theorem resStatus_finished (o : Outcome) : (resStatus o).finished = true := by cases o <;> rfl

/-- `k`: the end event of `n` is among the events already (`k = 0`) or in `pre` (`k = 1`) -/
theorem Inv3.result {inp : RunInput} {s s' : Sys} {n : Name} {nd : Node} (h : Inv3 inp s) (hn : s.nodes n = some nd)
    (hrun : nd.status = .run) (k : Nat) (pre : List Ev)
    (e1 : s'.nodes = (setNode s n { nd with status := resStatus (inp.outcome n) }).nodes) (e5 : s'.susp = s.susp)
    (hev : s'.events = (resEvents n (inp.outcome n) ++ pre) ++ s.events)
    (cpre : ∀ m, Counts pre m 0 0 (if n = m then k else 0) 0) (hst : cStart s n = 1) (hfin : cFin s n + k = 1)
    (ejq : s'.jobQ = s.jobQ) (ewk : s'.workers = s.workers) (hrq : ∀ m ∈ s'.resQ, m ∈ s.resQ ∧ m ≠ n)
    (hq2 : s'.resQ.Nodup) (hnw : ∀ w, s.workers w ≠ .running n)
    (hold : ∀ m, holding s m = 0) (hold' : ∀ m, holding s' m = 0) (haw : ¬ awaiting s')
    (hx : ∀ m, s'.rpc ≠ .sExec m) : Inv3 inp s' := by
  have rc := resEvents_counts n (inp.outcome n)
  have cnt : ∀ m, Counts (resEvents n (inp.outcome n) ++ pre) m 0 0 (if n = m then k else 0)
      (if n = m then 1 else 0) := by
    intro m
    constructor <;> rw [List.countP_append]
    · rw [(rc m).go, (cpre m).go]
    · rw [(rc m).start, (cpre m).start]
    · rw [(rc m).fin, (cpre m).fin, Nat.zero_add]
    · rw [(rc m).term, (cpre m).term, Nat.add_zero]
  have hc := fun m => counts_append hev m
  -- of the counters that the flight clauses read, only the end counter of `n` moves (by `k`, to 1)
  have hgo : ∀ m, cGo s' m = cGo s m := fun m => by rw [(hc m).1, (cnt m).go, Nat.zero_add]
  have hst' : ∀ m, cStart s' m = cStart s m := fun m => by rw [(hc m).2.1, (cnt m).start, Nat.zero_add]
  have hfin' : ∀ m, n ≠ m → cFin s' m = cFin s m := fun m e => by
    rw [(hc m).2.2.1, (cnt m).fin, if_neg e, Nat.zero_add]
  have hfinn : cFin s' n = 1 := by rw [(hc n).2.2.1, (cnt n).fin, if_pos rfl, Nat.add_comm]; exact hfin
  refine h.finish hn hrun _ (resStatus_finished _) e1 e5 _ hev (fun m => ⟨(cnt m).go, (cnt m).term⟩) haw
    ?_ ?_ ?_ ?_ ?_ hq2 ?_ hx
  · intro m; rw [hst']
    by_cases e : n = m
    · subst e; rw [hfinn, hst]; exact Nat.le_refl 1
    · rw [hfin' m e]; exact (h.p0 m).2
  · intro m; rw [ejq, hold', hgo, hst']; have := h.j m; rw [hold] at this; exact this
  · intro w m hw; rw [ewk] at hw
    obtain ⟨a, b, c⟩ := h.w1 w m hw
    have hne : n ≠ m := fun e => hnw w (by rw [e]; exact hw)
    exact ⟨(hst' m).trans a, (hfin' m hne).trans b, c, Ne.symm hne⟩
  · intro w w' m a b; rw [ewk] at a b; exact h.w2 w w' m a b
  · intro m hm
    obtain ⟨hm', hne⟩ := hrq m hm
    obtain ⟨a, c⟩ := h.q1 m hm'
    exact ⟨(hfin' m (Ne.symm hne)).trans a, c, hne⟩
  · intro m hm
    rw [ejq, hold'] at hm
    rcases hm with a | a
    · refine ⟨h.j2 m (Or.inl a), ?_⟩
      -- a queued job has not been started
      intro e; subst e
      have := h.j m; have := count_task_pos.mp a; have := (h.p0 m).1; omega
    · cases a

theorem inv3_result_serial {inp : RunInput} {s : Sys} {n : Name} {nd : Node} (h : Inv3 inp s)
    (hr : s.rpc = .sExec n) (hn : s.nodes n = some nd) (hrun : nd.status = .run) :
    Inv3 inp { processResult inp { s with events := Ev.fin n 0 :: s.events } n nd with rpc := .sTop (some n) } := by
  have f := processResult_keeps inp { s with events := Ev.fin n 0 :: s.events } n nd
  obtain ⟨x1, x2⟩ := h.x3 n hr
  refine h.result hn hrun 1 [Ev.fin n 0] (processResult_nodes inp _ n nd) f.susp ?_ ?_ x1 (by omega) f.jobQ f.workers ?_ ?_
    (fun w => h.xw n w hr) (fun m => by simp [holding, hr]) (fun m => by simp [holding]) (by simp [awaiting])
    (fun m a => by cases a)
  · show (processResult inp _ n nd).events = _
    rw [processResult_events]
    exact (List.append_assoc _ [Ev.fin n 0] s.events).symm
  · intro m; constructor <;> simp [Ev.isGoOf, Ev.isStartOf, Ev.isFinOf, Ev.isTerminalOf]
  · intro m hm
    have hm' : m ∈ s.resQ := f.resQ ▸ hm
    exact ⟨hm', by intro e; subst e; have := (h.q1 m hm').1; omega⟩
  · show (processResult inp _ n nd).resQ.Nodup
    rw [f.resQ]; exact h.q2

end DoitModel.Run
