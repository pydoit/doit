import DoitModel.Proofs.LoadDict
import DoitModel.Proofs.LoadControl
/-! every function of the loader raises InvalidTask / InvalidDodoFile or succeeds (`Checked`), and how it succeeds -/
namespace DoitModel.Load

theorem fromReturn_checked (fn : Name) (d : TDict) : Checked (fromReturn fn d) (fun t =>
    get d .name = none ∧ dictToTask (put (del d .basename) .name ((get d .basename).getD (.str fn))) = .ok t) := by
  unfold fromReturn
  cases get d .name with
  | some v => exact trivial
  | none => exact (dictToTask_checked _).mono fun t ht _ => ⟨rfl, ht⟩

theorem groupTask_checked (b : Name) (deps : List Name) : Checked (groupTask b deps) (fun g =>
    g.name = b ∧ g.taskDep = deps ∧ g.subtaskOf = none ∧ g.hasSubtask = true) := by
  unfold groupTask
  exact Checked.guard trivial fun _ => ⟨rfl, rfl, rfl, rfl⟩

theorem attachSub_checked (tk : Tasks) (b full : Name) (sub : Task) : Checked (attachSub tk b full sub) (fun r =>
    (∃ g, lookup tk b = some g ∧ g.hasSubtask = true ∧
      r = insert (insert tk b { g with taskDep := g.taskDep ++ [full] }) full { sub with subtaskOf := some b }) ∨
    (∃ g, lookup tk b = none ∧ groupTask b [full] = .ok g ∧
      r = insert (insert tk b g) full { sub with subtaskOf := some b })) := by
  unfold attachSub
  cases lookup tk b with
  | some g =>
    dsimp only
    exact Checked.guard trivial fun hs => Or.inl ⟨g, rfl, by simpa using hs, rfl⟩
  | none =>
    dsimp only
    refine Checked.on _ (groupTask_checked b [full]) (fun _ he => he) fun g hg _ => ?_
    exact Or.inr ⟨g, rfl, rfl, rfl⟩

/-- stated for a string `base` only: after the `basename` check `baseOf` is a string (`baseOf_str`) -/
theorem yieldSub_checked (tk : Tasks) (d0 : TDict) (b : Name) (nv : RawVal) (nf bf : Name) :
    Checked (yieldSub tk d0 (.str b) nv nf bf) (fun r =>
      hasKey tk (fullName (.str b) nv nf bf) = false ∧
      ∃ sub, dictToTask (put d0 .name (.str (fullName (.str b) nv nf bf))) = .ok sub ∧
        attachSub tk b (fullName (.str b) nv nf bf) sub = .ok r) := by
  unfold yieldSub
  refine Checked.guard trivial fun hk => ?_
  refine Checked.on _ (dictToTask_checked (put d0 .name (.str (fullName (.str b) nv nf bf)))) (fun _ he => he)
    fun sub hd _ => ?_
  exact (attachSub_checked tk b _ sub).mono fun r hr _ => ⟨Bool.eq_false_iff.mpr hk, sub, rfl, hr⟩

theorem yieldGroupAttrs_checked (tk : Tasks) (d0 : TDict) (base : RawVal) :
    Checked (yieldGroupAttrs tk d0 base) (fun r =>
      ∃ g, dictToTask (put (put d0 .name base) .actions .none) = .ok g ∧
        ((lookup tk g.name = none ∧ r = insert tk g.name { g with hasSubtask := true }) ∨
         ∃ ex, lookup tk g.name = some ex ∧ ex.hasSubtask = true ∧
           r = insert tk g.name { g with hasSubtask := true, taskDep := g.taskDep ++ ex.taskDep })) := by
  unfold yieldGroupAttrs
  refine Checked.on _ (dictToTask_checked (put (put d0 .name base) .actions .none)) (fun _ he => he) fun g hd _ => ?_
  dsimp only
  cases hl : lookup tk g.name with
  | none => exact ⟨g, rfl, Or.inl ⟨hl, rfl⟩⟩
  | some ex =>
    dsimp only
    exact Checked.guard trivial fun hs => ⟨g, rfl, Or.inr ⟨ex, hl, by simpa using hs, rfl⟩⟩

theorem yieldPlain_checked (tk : Tasks) (d0 : TDict) (bn : RawVal) (hbn : bn = .none ∨ ∃ s, bn = .str s) :
    Checked (yieldPlain tk d0 bn) (fun r => bn.truthy = true ∧ ∃ b t, bn = .str b ∧ hasKey tk b = false ∧
      dictToTask (put d0 .name (.str b)) = .ok t ∧ r = insert tk b t) := by
  unfold yieldPlain
  rcases hbn with rfl | ⟨s, rfl⟩
  · exact trivial
  refine Checked.guard trivial fun ht => ?_
  rw [show (RawVal.str s).hashable = true from rfl, Bool.not_true, if_neg Bool.false_ne_true]
  refine Checked.guard trivial fun hk => ?_
  refine Checked.on _ (dictToTask_checked (put d0 .name (.str s))) (fun _ he => he) fun t hd _ => ?_
  exact ⟨by simpa using ht, s, t, rfl, by simpa using hk, hd, rfl⟩

theorem basenameOk_cases (d : TDict) (h : basenameOk d = true) : bnOf d = .none ∨ ∃ s, bnOf d = .str s := by
  unfold basenameOk at h
  unfold bnOf
  cases hg : get d .basename with
  | none => exact Or.inl rfl
  | some v =>
    rw [hg] at h
    cases v with
    | str s => exact Or.inr ⟨s, rfl⟩
    | _ => cases h

theorem baseOf_str (fn : Name) (d : TDict) (h : basenameOk d = true) : ∃ b, baseOf fn d = .str b := by
  unfold baseOf
  by_cases ht : (bnOf d).truthy = true
  · rw [if_pos ht]
    rcases basenameOk_cases d h with h0 | h0
    · rw [h0] at ht; cases ht
    · exact h0
  · rw [if_neg ht]; exact ⟨fn, rfl⟩

/-- the three kinds of yielded dict: attributes of the group task (`name: None`), a sub-task, a plain task -/
inductive YieldCase (tk : Tasks) (fn : Name) (d : TDict) (nf bf : Name) (r : Tasks) : Prop
  | group (hn : get (del d .basename) .name = some .none)
      (h : yieldGroupAttrs tk (del d .basename) (baseOf fn d) = .ok r)
  | sub (nv : RawVal) (b : Name) (hn : get (del d .basename) .name = some nv) (hnv : nv ≠ .none)
      (hb : baseOf fn d = .str b) (h : yieldSub tk (del d .basename) (.str b) nv nf bf = .ok r)
  | plain (hn : get (del d .basename) .name = none) (h : yieldPlain tk (del d .basename) (bnOf d) = .ok r)

theorem yieldDict_checked (tk : Tasks) (fn : Name) (d : TDict) (nf bf : Name) :
    Checked (yieldDict tk fn d nf bf) (fun r => basenameOk d = true ∧ YieldCase tk fn d nf bf r) := by
  unfold yieldDict
  refine Checked.guard trivial fun hb => ?_
  rw [Bool.not_eq_true', Bool.not_eq_false] at hb
  refine Checked.mono ?_ fun r _ h => ⟨hb, h⟩
  unfold yieldDictPinned
  cases hn : get (del d .basename) .name with
  | none => exact (yieldPlain_checked tk _ _ (basenameOk_cases d hb)).mono fun r hr _ => .plain hn hr
  | some nv =>
    dsimp only
    obtain ⟨b, hbase⟩ := baseOf_str fn d hb
    by_cases hnv : nv = .none
    · rw [if_pos hnv]
      exact (yieldGroupAttrs_checked tk _ _).mono fun r hr _ => .group (hnv ▸ hn) hr
    · rw [if_neg hnv, hbase]
      exact (yieldSub_checked tk _ b nv nf bf).mono fun r hr _ => .sub nv b hn hnv hbase hr

theorem hasKey_false (tk : Tasks) (k : Name) (h : hasKey tk k = false) : lookup tk k = none := by
  unfold hasKey at h
  cases hl : lookup tk k with
  | none => rfl
  | some g => rw [hl] at h; cases h

theorem yieldOne_checked (fn : Name) (tk : Tasks) (y : Yielded) : Checked (yieldOne fn tk y) (fun r =>
    match y with
    | .other => False
    | .task t => lookup tk t.name = none ∧ r = insert tk t.name t
    | .dict d nf bf => basenameOk d = true ∧ YieldCase tk fn d nf bf r) := by
  cases y with
  | other => exact trivial
  | dict d nf bf => exact yieldDict_checked tk fn d nf bf
  | task t =>
    dsimp only [yieldOne]
    exact Checked.guard trivial fun hk => ⟨hasKey_false tk t.name (Bool.eq_false_iff.mpr hk), rfl⟩

theorem yieldAll_checked (fn : Name) (ys : List Yielded) (tk : Tasks) : Checked (yieldAll fn tk ys) (fun r =>
    match ys with
    | [] => r = tk
    | y :: rest => ∃ tk', yieldOne fn tk y = .ok tk' ∧ yieldAll fn tk' rest = .ok r) := by
  induction ys generalizing tk with
  | nil => exact rfl
  | cons y rest ih =>
    rw [yieldAll]
    refine Checked.on _ (yieldOne_checked fn tk y) (fun _ he => he) fun tk' hy _ => ?_
    exact (ih tk').mono fun r hr _ => ⟨tk', hy, hr⟩

theorem generate_checked (fn : Name) (r : Result) : Checked (generate fn r) (fun ts =>
    match r with
    | .task t => ts = [t]
    | .dict d => ∃ t, fromReturn fn d = .ok t ∧ ts = [t]
    | .gen items => ∃ tk, yieldAll fn [] (Gen.flattenList items) = .ok tk ∧
        ((tk = [] ∧ ∃ g, groupTask fn [] = .ok g ∧ ts = [g]) ∨ ts = tk.map (·.2))
    | .none => ts = []
    | .other => False) := by
  cases r with
  | task t => exact rfl
  | none => exact rfl
  | other => exact trivial
  | dict d =>
    dsimp only [generate]
    refine Checked.on _ (fromReturn_checked fn d) (fun _ he => he) fun t hd _ => ?_
    exact ⟨t, rfl, rfl⟩
  | gen items =>
    dsimp only [generate]
    refine Checked.on _ (yieldAll_checked fn (Gen.flattenList items) []) (fun _ he => he) fun tk hy _ => ?_
    cases tk with
    | cons p rest => exact ⟨_, rfl, Or.inr rfl⟩
    | nil =>
      dsimp only
      refine Checked.on _ (groupTask_checked fn []) (fun _ he => he) fun g hg _ => ?_
      exact ⟨[], rfl, Or.inl ⟨rfl, g, rfl, rfl⟩⟩

theorem generateAll_checked (cmds : List Name) (cs : List Creator) : Checked (generateAll cmds cs) (fun ts =>
    match cs with
    | [] => ts = []
    | c :: rest => ∃ seg more, generate c.name c.result = .ok seg ∧ cmdClash cmds seg = false ∧
        generateAll cmds rest = .ok more ∧ ts = seg ++ more) := by
  induction cs with
  | nil => exact rfl
  | cons c rest ih =>
    rw [generateAll]
    refine Checked.on _ (generate_checked c.name c.result) (fun _ he => he) fun seg hg _ => ?_
    refine Checked.guard trivial fun hcl => ?_
    refine Checked.on _ ih (fun _ he => he) fun more hr _ => ?_
    exact ⟨seg, more, hg, Bool.eq_false_iff.mpr hcl, hr, rfl⟩

theorem loadTasks_checked (cmds : List Name) (cs : List Creator) : Checked (loadTasks cmds cs) (fun ts =>
    (∀ c ∈ cs, c.name ∉ cmds) ∧ generateAll cmds (sortByLine cs) = .ok ts) := by
  unfold loadTasks
  refine Checked.guard trivial fun hc => ?_
  refine (generateAll_checked cmds (sortByLine cs)).mono fun ts hts _ => ⟨fun c hcs hin => hc ?_, hts⟩
  exact List.any_eq_true.mpr ⟨c, hcs, List.contains_iff_mem.mpr hin⟩

theorem toOutcome_checked {x : R (List Task)} {P : List Task → Prop} (hx : Checked x P) :
    (∀ e, toOutcome x ≠ .crash e) ∧ ∀ ts, toOutcome x = .tasks ts → P ts := by
  cases x with
  | ok a => exact ⟨nofun, fun ts h => by cases h; exact hx⟩
  | error e =>
    cases e with
    | crash c => exact hx.elim
    | invalidTask => exact ⟨nofun, nofun⟩
    | invalidDodo => exact ⟨nofun, nofun⟩

theorem load_checked (cmds : List Name) (cs : List Creator) : (∀ e, load cmds cs ≠ .crash e) ∧
    ∀ ts, load cmds cs = .tasks ts →
      ∃ ts0, (∀ c ∈ cs, c.name ∉ cmds) ∧ generateAll cmds (sortByLine cs) = .ok ts0 ∧ control ts0 = .ok ts := by
  unfold load
  refine Checked.on _ (loadTasks_checked cmds cs) (fun e he => toOutcome_checked (x := .error e) he) fun ts0 _ h0 => ?_
  exact toOutcome_checked ((control_checked ts0).mono fun ts hc _ => ⟨ts0, h0.1, h0.2, hc⟩)

end DoitModel.Load
