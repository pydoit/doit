import DoitModel.Proofs.C05Main
import DoitModel.Proofs.RunFuel
/-! # C05 — the monitors evaluated on implementation traces hold on every trace of the model -/
namespace DoitModel.Run

theorem calcsAt_calcOf (inp : RunInput) (pre : List Ev) (t : Name) : ∀ (fuel : Nat) (cs : List Name),
    (∀ c ∈ cs, CalcOf inp t c) → ∀ c ∈ calcsAt inp pre fuel cs, CalcOf inp t c := by
  intro fuel
  induction fuel with
  | zero => intro cs h c hc; exact h c hc
  | succ k ih =>
    intro cs h c hc
    simp only [calcsAt] at hc
    refine ih _ ?_ c hc
    intro x hx
    rcases (mem_addNew _ _).mp hx with a | a
    · exact h x a
    · obtain ⟨c0, hc0, hx0⟩ := List.mem_flatMap.mp a
      exact .step (h c0 (List.mem_filter.mp hc0).1) hx0

theorem edgesOf_depOnE {inp : RunInput} {nTasks : Nat} {tr evs : List Ev}
    (hutd : ∀ t, Ev.skipUtd t ∈ evs → Ev.skipUtd t ∈ tr) {t d : Name} (h : d ∈ edgesOf inp nTasks tr t) :
    DepOnE inp evs t d := by
  have hcalc := calcsAt_calcOf inp tr t nTasks (inp.calcDep t) (fun c hc => .base hc)
  unfold edgesOf at h
  rcases List.mem_append.mp h with h | h
  · rcases List.mem_append.mp h with h | h
    · rcases List.mem_append.mp h with h | h
      · exact .ns (.task h)
      · by_cases hs : skippedUtd tr t = true
        · simp [hs] at h
        · simp only [hs] at h
          refine .setup (by simpa using h) (fun hu => hs ?_)
          unfold skippedUtd
          exact List.any_eq_true.mpr ⟨_, hutd t hu, by simp⟩
    · exact .ns (.ofCalc (hcalc d h))
  · obtain ⟨c, hc, hd⟩ := List.mem_flatMap.mp h
    have hco := hcalc c (List.mem_filter.mp hc).1
    rcases List.mem_append.mp hd with a | a
    · exact .ns (.resTask hco a)
    · exact .ns (.resFile hco a)

theorem DepPlusE.snoc {inp : RunInput} {evs : List Ev} {t m d : Name} (h : DepPlusE inp evs t m)
    (h' : DepOnE inp evs m d) : DepPlusE inp evs t d := by
  induction h with
  | one a => exact .more a (.one h')
  | more a _ ih => exact .more a (ih h')

theorem reachIter_sound {inp : RunInput} {nTasks : Nat} {tr evs : List Ev}
    (hutd : ∀ t, Ev.skipUtd t ∈ evs → Ev.skipUtd t ∈ tr) (t : Name) : ∀ (fuel : Nat) (acc : List Name),
    (∀ x ∈ acc, DepPlusE inp evs t x) → ∀ x ∈ reachIter inp nTasks tr fuel acc, DepPlusE inp evs t x := by
  intro fuel
  induction fuel with
  | zero => intro acc h x hx; exact h x hx
  | succ k ih =>
    intro acc h x hx
    simp only [reachIter] at hx
    refine ih _ ?_ x hx
    intro y hy
    rcases (mem_addNew _ _).mp hy with a | a
    · exact h y a
    · obtain ⟨z, hz, hyz⟩ := List.mem_flatMap.mp a
      exact (h z hz).snoc (edgesOf_depOnE hutd hyz)

theorem depClosure_sound {inp : RunInput} {nTasks : Nat} {tr evs : List Ev}
    (hutd : ∀ t, Ev.skipUtd t ∈ evs → Ev.skipUtd t ∈ tr) {t d : Name} (h : d ∈ depClosure inp nTasks tr t) :
    DepPlusE inp evs t d := by
  unfold depClosure at h
  refine reachIter_sound hutd t nTasks _ ?_ d h
  intro x hx
  rcases (mem_addNew _ _).mp hx with a | a
  · cases a
  · exact .one (edgesOf_depOnE hutd a)

theorem noDepRunsFrom_true {inp : RunInput} {nTasks : Nat} {tr evs : List Ev}
    (hutd : ∀ t, Ev.skipUtd t ∈ evs → Ev.skipUtd t ∈ tr)
    (hP : ∀ t w d k, Ev.start t w ∈ evs → Ev.failure d k ∈ evs → ¬ DepPlusE inp evs t d) :
    ∀ (rest : List Ev) (failed : List Name), (∀ d ∈ failed, ∃ k, Ev.failure d k ∈ evs) → (∀ e ∈ rest, e ∈ evs) →
      noDepRunsFrom inp nTasks tr failed rest = true := by
  intro rest
  induction rest with
  | nil => intro _ _ _; rfl
  | cons e rest ih =>
    intro failed hf hr
    simp only [noDepRunsFrom, Bool.and_eq_true]
    constructor
    · cases e with
      | start t w =>
        simp only [List.all_eq_true, decide_eq_true_eq]
        intro d hd hmem
        obtain ⟨k, hk⟩ := hf d hd
        exact hP t w d k (hr _ (by simp)) hk (depClosure_sound hutd hmem)
      | _ => rfl
    · apply ih
      · cases e with
        | failure d k =>
          intro x hx
          rcases List.mem_cons.mp hx with a | a
          · subst a; exact ⟨k, hr _ (by simp)⟩
          · exact hf x a
        | _ => exact hf
      · intro x hx; exact hr x (by simp [hx])

/-- (a) as evaluated by the driver -/
theorem monC05NoDependentRuns_of_inv {inp : RunInput} {s : Sys} (h2 : Inv2 inp s) (hG : InvG inp s) (hF : InvF inp s)
    (nTasks : Nat) : monC05NoDependentRuns inp nTasks (trace inp s) = true := by
  unfold monC05NoDependentRuns
  refine noDepRunsFrom_true (evs := s.events) (fun t h => mem_trace.mpr ⟨h, rfl⟩) ?_ _ [] (fun _ h => by cases h)
    (fun e h => (mem_trace.mp h).1)
  intro t w d k hs hf hd
  exact (failed_dep_never_started h2 hG hF hf hd).2.1 w hs

/-- (b) as evaluated by the driver, with the DB content the model predicts -/
theorem monC05NotRecorded_of_inv {inp : RunInput} {s : Sys} (h3 : Inv3 inp s) (nTasks : Nat) (r0 : Name → Bool) :
    monC05NotRecorded nTasks (trace inp s) (fun n => recAfter r0 n s.events) = true := by
  unfold monC05NotRecorded
  simp only [List.all_eq_true, List.mem_range, Bool.or_eq_true, Bool.not_eq_true']
  intro t _
  by_cases hf : failedIn (trace inp s) t = true
  · right
    unfold failedIn at hf
    obtain ⟨e, he, hp⟩ := List.any_eq_true.mp hf
    cases e with
    | failure m k =>
      have : m = t := by simpa [Ev.isFailureOf] using hp
      subst this
      exact recAfter_failed r0 m s.events (h3.t2 m) ⟨k, (mem_trace.mp he).1⟩
    | _ => simp [Ev.isFailureOf] at hp
  · left; simpa using hf


theorem noStartAfterFail_append (a : List Ev) (e : Ev) : ∀ (seen : Bool),
    noStartAfterFail seen (a ++ [e]) = (noStartAfterFail seen a && !((seen || a.any Ev.isFailure) && e.isStart)) := by
  induction a with
  | nil => intro seen; simp [noStartAfterFail]
  | cons x xs ih =>
    intro seen
    simp only [List.cons_append, noStartAfterFail, ih, List.any_cons, Bool.and_assoc, Bool.or_assoc]

theorem noStartAfterFail_of_NSA (p : Ev → Bool) : ∀ (l : List Ev), NSA l →
    noStartAfterFail false ((l.filter p).reverse) = true := by
  intro l
  induction l with
  | nil => intro _; rfl
  | cons e rest ih =>
    intro h
    by_cases hp : p e = true
    · simp only [List.filter_cons, hp, if_true, List.reverse_cons]
      rw [noStartAfterFail_append, ih h.2]
      simp only [Bool.true_and, Bool.false_or, Bool.not_eq_true', Bool.and_eq_false_iff]
      by_cases hs : e.isStart = true
      · left
        have nf := h.1 hs
        cases hany : ((rest.filter p).reverse).any Ev.isFailure with
        | false => rfl
        | true =>
          obtain ⟨x, hx, hxf⟩ := List.any_eq_true.mp hany
          have hx' : x ∈ rest := (List.mem_filter.mp (List.mem_reverse.mp hx)).1
          cases x with
          | failure m k => exact absurd ⟨m, k, hx'⟩ nf
          | _ => simp [Ev.isFailure] at hxf
      · right; simpa using hs
    · simp only [List.filter_cons, hp]
      exact ih h.2

theorem monC05SerialStops_of_inv {inp : RunInput} {s : Sys} (h : inp.continue_ = false → InvS inp s) :
    monC05SerialStops inp (trace inp s) = true := by
  unfold monC05SerialStops
  by_cases hc : inp.continue_ = true
  · simp [hc]
  · have hc' : inp.continue_ = false := by simpa using hc
    have := noStartAfterFail_of_NSA (fun e => !hidden inp e) s.events (h hc').ns
    unfold trace
    simp [this]

end DoitModel.Run
