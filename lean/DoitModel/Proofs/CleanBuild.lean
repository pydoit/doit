import DoitModel.Proofs.CleanDict
/-! What `build_nodes_with_deps` builds.

For the final table `G` (when the model's fuel was not exhausted): keys are duplicate-free and are exactly the
processed tasks; the processed tasks contain the roots, are closed under `deps`, and are all reachable from a
root; `a ∈ chOf G b` iff `a` is processed and `b ∈ deps a`. -/
namespace DoitModel.Clean

/-- nothing is ever taken away while building, and the out-of-fuel flag is sticky -/
structure BMono (s s' : BState) : Prop where
  proc : ∀ x, x ∈ s.processed → x ∈ s'.processed
  ch : ∀ b a, a ∈ chOf s.nodes b → a ∈ chOf s'.nodes b
  oof : s.oof = true → s'.oof = true

namespace BMono

theorem refl (s : BState) : BMono s s := ⟨fun _ h => h, fun _ _ h => h, fun h => h⟩

theorem trans {a b c : BState} (h1 : BMono a b) (h2 : BMono b c) : BMono a c :=
  ⟨fun x h => h2.proc x (h1.proc x h), fun y x h => h2.ch y x (h1.ch y x h), fun h => h2.oof (h1.oof h)⟩

end BMono

theorem mono_setdef (s : BState) (n : Name) :
    BMono s { s with nodes := setdef n s.nodes, processed := n :: s.processed } :=
  ⟨fun _ h => List.mem_cons_of_mem _ h, fun _ _ h => chOf_setdef.symm ▸ h, fun h => h⟩

theorem mono_addRev (s : BState) (d n : Name) : BMono s { s with nodes := addRev d n s.nodes } :=
  ⟨fun _ h => h, fun _ _ h => mem_chOf_addRev.2 (Or.inl h), fun h => h⟩

theorem buildDeps_mono (deps : Name → List Name) : ∀ (f : Nat) (name : Name) (s : BState),
    BMono s (buildDeps deps f name s)
  | 0, _, s => ⟨fun _ h => h, fun _ _ h => h, fun _ => rfl⟩
  | f + 1, name, s => by
    by_cases hp : name ∈ s.processed
    · rw [show buildDeps deps (f + 1) name s = s from if_pos hp]; exact BMono.refl s
    · rw [show buildDeps deps (f + 1) name s = _ from if_neg hp]
      exact (mono_setdef s name).trans (List.foldlRecOn _ _ (motive := BMono _) (BMono.refl _)
        fun t ht d _ => ht.trans ((mono_addRev t d name).trans (buildDeps_mono deps f d _)))

/-- One call, seen from its caller. Only tasks processed *during* the call are claimed closed (`a ∉ s.processed`):
    older ones may still be in progress further up the recursion. The caller creates the key `name` (`addRev name _`)
    just before the call, hence the entry condition "every key is processed except possibly `name`". -/
theorem build_post (deps : Name → List Name) : ∀ (f : Nat) (name : Name) (s r : BState),
    buildDeps deps f name s = r → r.oof = false →
    name ∈ r.processed ∧
    (∀ a, a ∈ r.processed → a ∉ s.processed → ∀ b, b ∈ deps a → b ∈ r.processed ∧ a ∈ chOf r.nodes b) ∧
    ((∀ x, x ∈ keys s.nodes → x ∈ s.processed ∨ x = name) → ∀ x, x ∈ keys r.nodes → x ∈ r.processed) := by
  intro f
  induction f with
  | zero => intro name s r hr h; subst hr; exact Bool.noConfusion h
  | succ f ih =>
    intro name s r hr
    subst hr
    by_cases hp : name ∈ s.processed
    · rw [show buildDeps deps (f + 1) name s = s from if_pos hp]
      intro _
      refine ⟨hp, fun a ha hna => absurd ha hna, fun hk x hx => ?_⟩
      rcases hk x hx with h | h
      · exact h
      · rw [h]; exact hp
    · rw [show buildDeps deps (f + 1) name s = _ from if_neg hp]
      intro hoof
      -- along the loop over the dependencies: those met so far are processed and record `name`
      obtain ⟨hn, hkey⟩ := foldl_prefix_induction (buildStep (buildDeps deps f) name)
        (fun pre (r : BState) => name ∈ r.processed ∧ (r.oof = false →
          (∀ d, d ∈ pre → d ∈ r.processed ∧ name ∈ chOf r.nodes d) ∧
          (∀ a, a ∈ r.processed → a ∉ name :: s.processed → ∀ b, b ∈ deps a →
            b ∈ r.processed ∧ a ∈ chOf r.nodes b) ∧
          ((∀ x, x ∈ keys (setdef name s.nodes) → x ∈ name :: s.processed) →
            ∀ x, x ∈ keys r.nodes → x ∈ r.processed)))
        (deps name).reverse (b := { s with nodes := setdef name s.nodes, processed := name :: s.processed })
        ⟨List.mem_cons_self, fun _ => ⟨nofun, fun a ha hna => absurd ha hna, id⟩⟩ (by
          intro pre d t _ ⟨hn, ht⟩
          have hcall := buildDeps_mono deps f d { t with nodes := addRev d name t.nodes }
          have hm := (mono_addRev t d name).trans hcall
          refine ⟨hm.proc name hn, fun hoof2 => ?_⟩
          obtain ⟨b1, b2, b3⟩ := ht (Bool.eq_false_iff.2 fun h => Bool.noConfusion ((hm.oof h).symm.trans hoof2))
          obtain ⟨p1, p2, p3⟩ := ih d { t with nodes := addRev d name t.nodes } _ rfl hoof2
          refine ⟨fun x hx => ?_, fun a ha hna b hb => ?_, fun hk => p3 fun x hx => ?_⟩
          · rcases List.mem_append.1 hx with hx | hx
            · exact ⟨hm.proc x (b1 x hx).1, hm.ch x name (b1 x hx).2⟩
            · rw [List.mem_singleton.1 hx]
              exact ⟨p1, hcall.ch d name (mem_chOf_addRev.2 (Or.inr ⟨rfl, rfl⟩))⟩
          · by_cases h2 : a ∈ t.processed
            · exact ⟨hm.proc b (b2 a h2 hna b hb).1, hm.ch b a (b2 a h2 hna b hb).2⟩
            · exact p2 a ha h2 b hb
          · exact (mem_keys_addRev.1 hx).elim Or.inr (fun h => Or.inl (b3 hk x h)))
      obtain ⟨a1, a2, a3⟩ := hkey hoof
      refine ⟨hn, fun a ha hna b hb => ?_, fun hk => a3 fun x hx => ?_⟩
      · by_cases han : a = name
        · rw [han] at hb ⊢; exact a1 b (List.mem_reverse.2 hb)
        · exact a2 a ha (fun h => (List.mem_cons.1 h).elim han hna) b hb
      · rcases mem_keys_setdef.1 hx with h | h
        · exact List.mem_cons.2 (Or.inl h)
        · exact (hk x h).elim (List.mem_cons_of_mem _) (fun h' => List.mem_cons.2 (Or.inl h'))

def Rb (deps : Name → List Name) (roots : List Name) (x : Name) : Prop := ∃ r, r ∈ roots ∧ Reach deps r x

/-- kept by every primitive step (`setdefault`, `append`, the out-of-fuel flag), so it holds inside a call too -/
structure BQ (deps : Name → List Name) (roots : List Name) (s : BState) : Prop where
  nd : (keys s.nodes).Nodup
  chDep : ∀ b a, a ∈ chOf s.nodes b → b ∈ deps a ∧ a ∈ s.processed
  procKeys : ∀ x, x ∈ s.processed → x ∈ keys s.nodes
  reach : ∀ x, x ∈ keys s.nodes → Rb deps roots x

theorem buildDeps_BQ (deps : Name → List Name) (roots : List Name) : ∀ (f : Nat) (name : Name) (s : BState),
    BQ deps roots s → Rb deps roots name → BQ deps roots (buildDeps deps f name s) := by
  intro f
  induction f with
  | zero => exact fun _ s q _ => ⟨q.nd, q.chDep, q.procKeys, q.reach⟩
  | succ f ih =>
    intro name s q c
    by_cases hp : name ∈ s.processed
    · rw [show buildDeps deps (f + 1) name s = s from if_pos hp]; exact q
    · rw [show buildDeps deps (f + 1) name s = _ from if_neg hp]
      -- `name` stays processed along the loop, so every `addRev d name` records a processed dependent
      refine (List.foldlRecOn _ _ (motive := fun (t : BState) => BQ deps roots t ∧ name ∈ t.processed)
        ⟨⟨nodup_keys_setdef q.nd, ?_, ?_, ?_⟩, List.mem_cons_self⟩ fun t ⟨q, hn⟩ d hd => ?_).1
      · intro b a ha
        rw [chOf_setdef] at ha
        exact ⟨(q.chDep b a ha).1, List.mem_cons_of_mem _ (q.chDep b a ha).2⟩
      · exact fun x hx => mem_keys_setdef.2 ((List.mem_cons.1 hx).imp_right (q.procKeys x))
      · intro x hx
        rcases mem_keys_setdef.1 hx with hx | hx
        · rw [hx]; exact c
        · exact q.reach x hx
      · have hd := List.mem_reverse.1 hd
        have hrd : Rb deps roots d := by
          obtain ⟨r, hr1, hr2⟩ := q.reach name (q.procKeys name hn)
          exact ⟨r, hr1, Reach.step hr2 hd⟩
        refine ⟨ih d _ ⟨nodup_keys_addRev q.nd, ?_, ?_, ?_⟩ hrd, (buildDeps_mono deps f d _).proc name hn⟩
        · intro b a ha
          rcases mem_chOf_addRev.1 ha with h1 | ⟨h1, h2⟩
          · exact q.chDep b a h1
          · rw [h1, h2]; exact ⟨hd, hn⟩
        · exact fun x hx => mem_keys_addRev.2 (Or.inr (q.procKeys x hx))
        · intro x hx
          rcases mem_keys_addRev.1 hx with hx | hx
          · rw [hx]; exact hrd
          · exact q.reach x hx

/-- holds only between two top-level calls, not inside one -/
structure BAll (deps : Name → List Name) (roots : List Name) (s : BState) : Prop where
  q : BQ deps roots s
  keysProc : ∀ x, x ∈ keys s.nodes → x ∈ s.processed
  closed : ∀ a, a ∈ s.processed → ∀ b, b ∈ deps a → b ∈ s.processed ∧ a ∈ chOf s.nodes b

theorem buildAll_BAll (deps : Name → List Name) (f : Nat) (cl : List Name)
    (hoof : (buildAll deps f cl).oof = false) :
    BAll deps cl (buildAll deps f cl) ∧ ∀ r, r ∈ cl → r ∈ (buildAll deps f cl).processed := by
  unfold buildAll at hoof ⊢
  refine foldl_prefix_induction (fun s n => buildDeps deps f n s)
    (fun pre (s : BState) => s.oof = false → BAll deps cl s ∧ ∀ r, r ∈ pre → r ∈ s.processed) cl
    (fun _ => ⟨⟨⟨List.nodup_nil, fun _ _ ha => (nomatch ha), nofun, nofun⟩, nofun, nofun⟩, nofun⟩)
    (fun pre r s hr ht hoof1 => ?_) hoof
  have hm := buildDeps_mono deps f r s
  obtain ⟨h, hpre⟩ := ht (Bool.eq_false_iff.2 fun e => Bool.noConfusion ((hm.oof e).symm.trans hoof1))
  obtain ⟨p1, p2, p3⟩ := build_post deps f r s _ rfl hoof1
  refine ⟨⟨buildDeps_BQ deps cl f r s h.q ⟨r, hr, Reach.refl r⟩, p3 (fun x hx => Or.inl (h.keysProc x hx)),
    fun a ha b hb => ?_⟩, fun x hx => ?_⟩
  · by_cases hold : a ∈ s.processed
    · exact ⟨hm.proc b (h.closed a hold b hb).1, hm.ch b a (h.closed a hold b hb).2⟩
    · exact p2 a ha hold b hb
  · rcases List.mem_append.1 hx with hx | hx
    · exact hm.proc x (hpre x hx)
    · rw [List.mem_singleton.1 hx]; exact p1

theorem buildAll_spec (deps : Name → List Name) (f : Nat) (cl : List Name)
    (hoof : (buildAll deps f cl).oof = false) {G : Nodes} (hG : (buildAll deps f cl).nodes = G) :
    (keys G).Nodup ∧
    (∀ b a, a ∈ chOf G b → b ∈ deps a ∧ a ∈ keys G) ∧
    (∀ r, r ∈ cl → r ∈ keys G) ∧
    (∀ a, a ∈ keys G → ∀ b, b ∈ deps a → b ∈ keys G ∧ a ∈ chOf G b) ∧
    (∀ x, x ∈ keys G → ∃ r, r ∈ cl ∧ Reach deps r x) := by
  subst hG
  obtain ⟨hall, hroots⟩ := buildAll_BAll deps f cl hoof
  refine ⟨hall.q.nd, ?_, ?_, ?_, hall.q.reach⟩
  · intro b a ha
    exact ⟨(hall.q.chDep b a ha).1, hall.q.procKeys a (hall.q.chDep b a ha).2⟩
  · intro r hr; exact hall.q.procKeys r (hroots r hr)
  · intro a ha b hb
    obtain ⟨c1, c2⟩ := hall.closed a (hall.keysProc a ha) b hb
    exact ⟨hall.q.procKeys b c1, c2⟩

end DoitModel.Clean
