import DoitModel.Proofs.ActMode
/-! Captured intact in the `Mode` machine: in a scenario mixing both capture modes, every capturing execution ends
    with exactly its own writes (in order) among the tokens of its buffer. -/
namespace DoitModel.Act.Mode
open DoitModel.Act

theorem own_foreign (evs : List Ev) : ∀ (s : Fwd.St) (c : Act), writesOf c evs = [] →
    Fwd.own c ((run s evs).buf c) = Fwd.own c (s.buf c) := by
  induction evs with
  | nil => intro s c _; rfl
  | cons e evs ih =>
    intro s c hw
    rw [run_cons]
    cases e with
    | write a n =>
      by_cases hac : a = c
      · rw [writesOf, if_pos hac] at hw; cases hw
      · rw [writesOf, if_neg hac] at hw
        exact (ih _ c hw).trans (Fwd.emit_own_of_ne (a, n) c hac s.cell s)
    | _ => exact (ih _ c hw).trans (by rw [(step_buf s _ (fun _ _ h => by cases h)).1])

theorem own_ctx (f : Forest) : ∀ (c : Act) (L : Fwd.Stream) (s : Fwd.St),
    (started (flatten (some c) f)).Nodup → c ∉ started (flatten (some c) f) →
    s.cell = .writer c L → c ∉ Fwd.bufsOf L →
    Fwd.own c ((run s (flatten (some c) f)).buf c) = Fwd.own c (s.buf c) ++ writesOf c (flatten (some c) f) := by
  induction f with
  | nil => intro c L s _ _ _ _; exact (List.append_nil _).symm
  | kw b rest ih => intro c L s hn hc hcell hL; exact ih c L s hn hc hcell hL
  | write n rest ih =>
    intro c L s hn hc hcell hL
    simp only [flatten, run_cons, step, writesOf, if_true]
    rw [ih c L _ hn hc ((Fwd.emit_cell ..).trans hcell) hL, hcell, Fwd.emit_owner c n L s hL, Fwd.own_append,
      List.append_assoc]
    simp [Fwd.own]
  | exec b on cap body rest _ ihr =>
    intro c L s hn hc hcell hL
    simp only [flatten, started_exec, List.nodup_cons, List.mem_append, not_or, List.nodup_append] at hn
    obtain ⟨⟨hbB, _⟩, hnB, hnR, _⟩ := hn
    simp only [flatten, started_exec, List.mem_cons, List.mem_append, not_or] at hc
    -- the nested execution leaves the cell and the own tokens of `c` as they are
    have hw : ∀ x, x ≠ b → x ∉ started (flatten (some b) body) → writesOf x (flatten (some b) body) = [] :=
      fun x hx hxB => writesOf_none body (some b) x (fun e => hx (Option.some.inj e).symm) hxB
    have F1 := frame_block (frame body (some b) (run s (pre b on cap)) hnB) hbB hw
    have hw1 : writesOf c (pre b on cap ++ flatten (some b) body ++ post b cap) = [] := by
      rw [writesOf_block, hw c hc.1 hc.2.1]
    simp only [flatten, run_append, writesOf_append] at F1 ⊢
    rw [ihr c L _ hnR hc.2.2 (F1.cell.trans hcell) hL]
    simp only [← run_append]
    rw [own_foreign _ s c hw1, ← writesOf_append, ← writesOf_append, hw1, List.nil_append]

/-- `untouched`: a buffer that neither starts in `evs` nor hangs on the cell's live chain is not written to -/
structure BFrame (evs : List Ev) (s s' : Fwd.St) : Prop where
  outs : ∀ b, b ∈ reads evs → ∃ l, s'.out b = some l ∧ Fwd.own b l = writesOf b evs
  untouched : ∀ d, d ∉ started evs → d ∉ Fwd.bufsOf s.cell → s'.buf d = s.buf d

theorem bufsOf_live (on : Bool) (X : Fwd.Stream) (d : Act) (h : d ∉ Fwd.bufsOf X) :
    d ∉ Fwd.bufsOf (if on then X else Fwd.Stream.null) := by
  cases on
  · exact List.not_mem_nil
  · exact h

theorem bframe (f : Forest) : ∀ (o : Option Act) (s : Fwd.St), (started (flatten o f)).Nodup →
    (∀ b, b ∈ started (flatten o f) → s.buf b = [] ∧ b ∉ Fwd.bufsOf s.cell) →
    (∀ a, o = some a → a ∉ started (flatten o f)) →
    BFrame (flatten o f) s (run s (flatten o f)) := by
  induction f with
  | nil => intro o s _ _ _; cases o <;> exact ⟨fun _ hb => (nomatch hb), fun _ _ _ => rfl⟩
  | kw b rest ih => intro o s hn hb ho; exact ih o s hn hb ho
  | write n rest ih =>
    intro o s hn hb ho
    cases o with
    | none => exact ih none s hn hb ho
    | some a =>
      have ha : a ∉ started (flatten (some a) rest) := ho a rfl
      have F := ih (some a) (step s (.write a n)) hn
        (fun b hbs => ⟨(Fwd.emit_buf_of_notin _ b _ s (hb b hbs).2).trans (hb b hbs).1,
          by rw [show (step s (.write a n)).cell = s.cell from Fwd.emit_cell ..]; exact (hb b hbs).2⟩)
        ho
      refine ⟨fun b hbr => ?_, fun d hd hdc => ?_⟩
      · obtain ⟨l, h1, h2⟩ := F.outs b hbr
        have hab : a ≠ b := fun e => ha (e ▸ reads_sub_started rest (some a) b hbr)
        exact ⟨l, h1, h2.trans (if_neg hab).symm⟩
      · exact (F.untouched d hd (by rw [show (step s (.write a n)).cell = s.cell from Fwd.emit_cell ..]; exact hdc)).trans
          (Fwd.emit_buf_of_notin _ d _ s hdc)
  | exec b on cap body rest ihb ihr =>
    intro o s hn hb ho
    simp only [flatten, started_exec, List.nodup_cons, List.mem_append, not_or, List.nodup_append] at hn
    obtain ⟨⟨hbB, hbR⟩, hnB, hnR, hdisj⟩ := hn
    simp only [flatten, started_exec, List.mem_cons, List.mem_append] at hb ho
    have hw : ∀ x, x ≠ b → x ∉ started (flatten (some b) body) → writesOf x (flatten (some b) body) = [] :=
      fun x hx hxB => writesOf_none body (some b) x (fun e => hx (Option.some.inj e).symm) hxB
    have P := pre_spec s b on cap
    have FBf := frame body (some b) (run s (pre b on cap)) hnB
    have Q := block_post FBf hbB
    have hcell1 : ∀ d, d ≠ b → d ∉ Fwd.bufsOf s.cell → d ∉ Fwd.bufsOf (run s (pre b on cap)).cell := by
      intro d hdb hdc
      rw [P.cell]
      cases cap
      · exact hdc
      · exact fun h => (List.mem_cons.mp h).elim hdb (bufsOf_live on s.cell d hdc)
    have FB := ihb (some b) (run s (pre b on cap)) hnB
      (fun x hx => ⟨by rw [P.buf]; exact (hb x (.inr (.inl hx))).1,
        hcell1 x (fun e => hbB (e ▸ hx)) (hb x (.inr (.inl hx))).2⟩)
      (fun a ha => by cases ha; exact hbB)
    have FR := ihr o (run (run (run s (pre b on cap)) (flatten (some b) body)) (post b cap)) hnR
      (fun x hx => by
        have hx0 := hb x (.inr (.inr hx))
        have hxb : x ≠ b := fun e => hbR (e ▸ hx)
        refine ⟨?_, by rw [Q.cell]; exact hx0.2⟩
        rw [Q.buf, FB.untouched x (fun e => hdisj x e x hx rfl) (hcell1 x hxb hx0.2), P.buf]
        exact hx0.1)
      (fun a ha e => ho a ha (.inr (.inr e)))
    simp only [flatten, run_append]
    refine ⟨fun x hx => ?_, fun d hd hdc => ?_⟩
    · rw [reads_exec, List.mem_append, List.mem_append] at hx
      rw [writesOf_exec]
      rcases hx with (hxB | hxb) | hxR
      · have hxs := reads_sub_started body _ x hxB
        have hxb : x ≠ b := fun e => hbB (e ▸ hxs)
        have hxR : x ∉ started (flatten o rest) := fun e => hdisj x hxs x e rfl
        obtain ⟨l, h1, h2⟩ := FB.outs x hxB
        refine ⟨l, ?_, ?_⟩
        · rw [out_only_read _ _ x (fun e => hxR (reads_sub_started rest _ x e)), Q.keepOut x hxb]
          exact h1
        · rw [h2, writesOf_none rest o x (fun e => ho x e (.inr (.inl hxs))) hxR, List.append_nil]
      · cases cap with
        | false => cases hxb
        | true =>
          have hxb' : x = b := List.mem_singleton.mp hxb
          subst hxb'
          have hb0 := hb x (.inl rfl)
          have hown := own_ctx body x (if on then s.cell else .null) (run s (pre x on true)) hnB hbB P.cell
            (bufsOf_live on s.cell x hb0.2)
          rw [P.buf, hb0.1] at hown
          refine ⟨(run (run s (pre x on true)) (flatten (some x) body)).buf x, ?_, ?_⟩
          · rw [out_only_read _ _ x (fun e => hbR (reads_sub_started rest _ x e))]
            exact Q.outB
          · rw [writesOf_none rest o x (fun e => ho x e (.inl rfl)) hbR, hown, List.append_nil]; rfl
      · have hxs := reads_sub_started rest _ x hxR
        obtain ⟨l, h1, h2⟩ := FR.outs x hxR
        refine ⟨l, h1, ?_⟩
        rw [h2, hw x (fun e => hbR (e ▸ hxs)) (fun e => hdisj x e x hxs rfl), List.nil_append]
    · rw [started_exec, List.mem_cons, List.mem_append, not_or, not_or] at hd
      rw [FR.untouched d hd.2.2 (by rw [Q.cell]; exact hdc), Q.buf, FB.untouched d hd.2.1 (hcell1 d hd.1 hdc), P.buf]

end DoitModel.Act.Mode
