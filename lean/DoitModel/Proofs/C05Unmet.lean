import DoitModel.Proofs.C05Main
/-! # C05 (c), "normal report": a task is reported `unmet` only if one of its direct dependencies has a failure report

Node invariant `NDp`: every name in a node's dependency lists is a dependency of the task that the run has OBSERVED
(`DepObs` / `CalcObs`: task_dep, calc_dep, what calc_deps with a finish report in the event list delivered) or — once
`select_task` has looked at the task (`run_status` is not `None`) — one of its setup-tasks; every member of `bad_deps`
(`ignored_deps`) is such a dependency and has a failure (`skip_ignore`) report.  The invariant itself is stated over the
wider relations `DepObsF` / `CalcObsF` (also what a calc_dep that was STARTED and then reported failed delivered:
`Run.deliverF`); `DepObsF.reduce` brings a justification back to the narrow ones, so no hypothesis on `calcResFail` is
needed. -/
namespace DoitModel.Run

/-- calc_deps of `t`, including those delivered by calc_deps that have a finish report in `evs` -/
inductive CalcObs (inp : RunInput) (evs : List Ev) (t : Name) : Name → Prop
  | base {c : Name} : c ∈ inp.calcDep t → CalcObs inp evs t c
  | step {c c' : Name} : CalcObs inp evs t c → finBefore evs c → c' ∈ (inp.calcRes c).calcs → CalcObs inp evs t c'

/-- direct dependency of `t` other than a setup-task, as far as the events `evs` determine it -/
inductive DepObs (inp : RunInput) (evs : List Ev) (t : Name) : Name → Prop
  | task {d : Name} : d ∈ inp.taskDep t → DepObs inp evs t d
  | ofCalc {c : Name} : CalcObs inp evs t c → DepObs inp evs t c
  | resTask {c d : Name} : CalcObs inp evs t c → finBefore evs c → d ∈ (inp.calcRes c).tasks → DepObs inp evs t d
  | resFile {c d : Name} : CalcObs inp evs t c → finBefore evs c → d ∈ (inp.calcRes c).files → DepObs inp evs t d

theorem CalcObs.mono {inp : RunInput} {evs evs' : List Ev} {t c : Name} (hm : ∀ e ∈ evs, e ∈ evs')
    (h : CalcObs inp evs t c) : CalcObs inp evs' t c := by
  induction h with
  | base h => exact .base h
  | step _ hf hc ih => exact .step ih (finBefore_mono hm hf) hc

theorem DepObs.mono {inp : RunInput} {evs evs' : List Ev} {t d : Name} (hm : ∀ e ∈ evs, e ∈ evs')
    (h : DepObs inp evs t d) : DepObs inp evs' t d := by
  cases h with
  | task h => exact .task h
  | ofCalc h => exact .ofCalc (h.mono hm)
  | resTask h f m => exact .resTask (h.mono hm) (finBefore_mono hm f) m
  | resFile h f m => exact .resFile (h.mono hm) (finBefore_mono hm f) m

theorem CalcObs.calcOf {inp : RunInput} {evs : List Ev} {t c : Name} (h : CalcObs inp evs t c) : CalcOf inp t c := by
  induction h with
  | base h => exact .base h
  | step _ _ hc ih => exact .step ih hc

theorem DepObs.depNS {inp : RunInput} {evs : List Ev} {t d : Name} (h : DepObs inp evs t d) : DepNS inp t d := by
  cases h with
  | task h => exact .task h
  | ofCalc h => exact .ofCalc h.calcOf
  | resTask h _ m => exact .resTask h.calcOf m
  | resFile h _ m => exact .resFile h.calcOf m

/-- observed dependency, or a setup-task of a task `select_task` has already looked at (`st`: its `run_status`) -/
def IsDepO (inp : RunInput) (evs : List Ev) (n : Name) (st : RS) (d : Name) : Prop :=
  DepObs inp evs n d ∨ (d ∈ inp.setup n ∧ st ≠ .none)

theorem IsDepO.mono {inp : RunInput} {evs evs' : List Ev} {n d : Name} {st : RS} (hm : ∀ e ∈ evs, e ∈ evs')
    (h : IsDepO inp evs n st d) : IsDepO inp evs' n st d := h.imp (fun a => a.mono hm) id

def IsDep (inp : RunInput) (n d : Name) : Prop := DepNS inp n d ∨ d ∈ inp.setup n

theorem IsDepO.isDep {inp : RunInput} {evs : List Ev} {n d : Name} {st : RS} (h : IsDepO inp evs n st d) :
    IsDep inp n d := h.imp (fun a => a.depNS) (fun a => a.1)

/-! ### the same relations with what FAILED calc tasks delivered

`_process_calc_dep_results` reads `task.values` of a calc task whatever its `run_status` (`Run.deliverF`, oracle
`calcResFail`): a calc_dep that was STARTED in this run and then reported failed delivers what its actions returned before
the failing one.  The node invariant is stated over these wider relations; the statements about reports keep the narrow
ones, because a dependency that only a failed calc task delivered always comes with that failed calc task
(`DepObsF.reduce`). -/

/-- `c` was started in `evs` and has a failure report -/
def FailedRun (evs : List Ev) (c : Name) : Prop := (∃ w, Ev.start c w ∈ evs) ∧ ∃ k, Ev.failure c k ∈ evs

theorem FailedRun.mono {evs evs' : List Ev} {c : Name} (hm : ∀ e ∈ evs, e ∈ evs') (h : FailedRun evs c) :
    FailedRun evs' c := by
  obtain ⟨⟨w, a⟩, k, b⟩ := h; exact ⟨⟨w, hm _ a⟩, k, hm _ b⟩

inductive CalcObsF (inp : RunInput) (evs : List Ev) (t : Name) : Name → Prop
  | base {c : Name} : c ∈ inp.calcDep t → CalcObsF inp evs t c
  | step {c c' : Name} : CalcObsF inp evs t c → finBefore evs c → c' ∈ (inp.calcRes c).calcs → CalcObsF inp evs t c'
  | stepF {c c' : Name} : CalcObsF inp evs t c → FailedRun evs c → c' ∈ (inp.calcResFail c).calcs → CalcObsF inp evs t c'

inductive DepObsF (inp : RunInput) (evs : List Ev) (t : Name) : Name → Prop
  | task {d : Name} : d ∈ inp.taskDep t → DepObsF inp evs t d
  | ofCalc {c : Name} : CalcObsF inp evs t c → DepObsF inp evs t c
  | resTask {c d : Name} : CalcObsF inp evs t c → finBefore evs c → d ∈ (inp.calcRes c).tasks → DepObsF inp evs t d
  | resFile {c d : Name} : CalcObsF inp evs t c → finBefore evs c → d ∈ (inp.calcRes c).files → DepObsF inp evs t d
  | resTaskF {c d : Name} : CalcObsF inp evs t c → FailedRun evs c → d ∈ (inp.calcResFail c).tasks → DepObsF inp evs t d
  | resFileF {c d : Name} : CalcObsF inp evs t c → FailedRun evs c → d ∈ (inp.calcResFail c).files → DepObsF inp evs t d

theorem CalcObsF.mono {inp : RunInput} {evs evs' : List Ev} {t c : Name} (hm : ∀ e ∈ evs, e ∈ evs')
    (h : CalcObsF inp evs t c) : CalcObsF inp evs' t c := by
  induction h with
  | base h => exact .base h
  | step _ hf hc ih => exact .step ih (finBefore_mono hm hf) hc
  | stepF _ hf hc ih => exact .stepF ih (hf.mono hm) hc

theorem DepObsF.mono {inp : RunInput} {evs evs' : List Ev} {t d : Name} (hm : ∀ e ∈ evs, e ∈ evs')
    (h : DepObsF inp evs t d) : DepObsF inp evs' t d := by
  cases h with
  | task h => exact .task h
  | ofCalc h => exact .ofCalc (h.mono hm)
  | resTask h f m => exact .resTask (h.mono hm) (finBefore_mono hm f) m
  | resFile h f m => exact .resFile (h.mono hm) (finBefore_mono hm f) m
  | resTaskF h f m => exact .resTaskF (h.mono hm) (f.mono hm) m
  | resFileF h f m => exact .resFileF (h.mono hm) (f.mono hm) m

/-- a calc_dep that only a failed calc task delivered comes with a failed calc_dep observed the narrow way -/
theorem CalcObsF.reduce {inp : RunInput} {evs : List Ev} {t c : Name} (h : CalcObsF inp evs t c) :
    CalcObs inp evs t c ∨ ∃ c0 k, CalcObs inp evs t c0 ∧ Ev.failure c0 k ∈ evs := by
  induction h with
  | base h => exact Or.inl (.base h)
  | step _ hf hc ih =>
    rcases ih with a | a
    · exact Or.inl (.step a hf hc)
    · exact Or.inr a
  | stepF _ hf _ ih =>
    rcases ih with a | a
    · obtain ⟨_, k, hk⟩ := hf; exact Or.inr ⟨_, k, a, hk⟩
    · exact Or.inr a

theorem DepObsF.reduce {inp : RunInput} {evs : List Ev} {t d : Name} (h : DepObsF inp evs t d) :
    DepObs inp evs t d ∨ ∃ c0 k, CalcObs inp evs t c0 ∧ Ev.failure c0 k ∈ evs := by
  cases h with
  | task h => exact Or.inl (.task h)
  | ofCalc h => exact h.reduce.imp (fun a => .ofCalc a) id
  | resTask h f m => exact h.reduce.imp (fun a => .resTask a f m) id
  | resFile h f m => exact h.reduce.imp (fun a => .resFile a f m) id
  | resTaskF h f _ =>
    rcases h.reduce with a | a
    · obtain ⟨_, k, hk⟩ := f; exact Or.inr ⟨_, k, a, hk⟩
    · exact Or.inr a
  | resFileF h f _ =>
    rcases h.reduce with a | a
    · obtain ⟨_, k, hk⟩ := f; exact Or.inr ⟨_, k, a, hk⟩
    · exact Or.inr a

def IsDepOF (inp : RunInput) (evs : List Ev) (n : Name) (st : RS) (d : Name) : Prop :=
  DepObsF inp evs n d ∨ (d ∈ inp.setup n ∧ st ≠ .none)

theorem IsDepOF.mono {inp : RunInput} {evs evs' : List Ev} {n d : Name} {st : RS} (hm : ∀ e ∈ evs, e ∈ evs')
    (h : IsDepOF inp evs n st d) : IsDepOF inp evs' n st d := h.imp (fun a => a.mono hm) id

/-- a member of `bad_deps` / `ignored_deps` seen the wide way yields a justification seen the narrow way: itself, or the
    failed calc task that delivered it -/
theorem IsDepOF.witness {inp : RunInput} {evs : List Ev} {n p : Name} {st : RS} (h : IsDepOF inp evs n st p) :
    (DepObs inp evs n p ∨ (p ∈ inp.setup n ∧ st ≠ .none)) ∨ ∃ c0 k, DepObs inp evs n c0 ∧ Ev.failure c0 k ∈ evs := by
  rcases h with a | a
  · rcases a.reduce with b | ⟨c0, k, b, hk⟩
    · exact Or.inl (Or.inl b)
    · exact Or.inr ⟨c0, k, .ofCalc b, hk⟩
  · exact Or.inl (Or.inr a)

theorem started_mem {s : Sys} {p : Name} (h : started s p = true) : ∃ w, Ev.start p w ∈ s.events := by
  unfold started at h
  obtain ⟨e, he, hp⟩ := List.any_eq_true.mp h
  cases e with
  | start n w =>
    have : n = p := by simpa using hp
    subst this; exact ⟨w, he⟩
  | _ => simp at hp

structure NDp (inp : RunInput) (evs : List Ev) (n : Name) (nd : Node) : Prop where
  dt : ∀ d ∈ nd.dynTask, DepObsF inp evs n d
  dc : ∀ d ∈ nd.dynCalc, CalcObsF inp evs n d
  pt : ∀ d ∈ nd.pendTask, DepObsF inp evs n d
  pcalc : ∀ d ∈ nd.pendCalc, CalcObsF inp evs n d
  st : ∀ d ∈ nd.snapTask, DepObsF inp evs n d
  sc : ∀ d ∈ nd.snapCalc, CalcObsF inp evs n d
  wr : ∀ d ∈ nd.waitRun, IsDepOF inp evs n nd.status d
  wc : ∀ d ∈ nd.waitRunCalc, CalcObsF inp evs n d
  bd : ∀ p ∈ nd.bad, IsDepOF inp evs n nd.status p ∧ ∃ k, Ev.failure p k ∈ evs
  ig : ∀ p ∈ nd.ign, IsDepOF inp evs n nd.status p ∧ Ev.skipIgn p ∈ evs
  /-- in the setup loop `select_task` has looked at the task: the setup-tasks then put into `wait_run` are dependencies
      in the sense of `IsDepOF` (its second disjunct) -/
  sp : ∀ todo, nd.pc = .setupIter todo → nd.status ≠ .none

def AllND (inp : RunInput) (s : Sys) : Prop := ∀ n nd, s.nodes n = some nd → NDp inp s.events n nd

theorem NDp.mono {inp : RunInput} {evs evs' : List Ev} {n : Name} {nd : Node} (h : NDp inp evs n nd)
    (hm : ∀ e ∈ evs, e ∈ evs') : NDp inp evs' n nd :=
  ⟨fun d hd => (h.dt d hd).mono hm, fun d hd => (h.dc d hd).mono hm, fun d hd => (h.pt d hd).mono hm,
   fun d hd => (h.pcalc d hd).mono hm, fun d hd => (h.st d hd).mono hm, fun d hd => (h.sc d hd).mono hm,
   fun d hd => (h.wr d hd).mono hm, fun d hd => (h.wc d hd).mono hm,
   fun p hp => ⟨(h.bd p hp).1.mono hm, by obtain ⟨k, hk⟩ := (h.bd p hp).2; exact ⟨k, hm _ hk⟩⟩,
   fun p hp => ⟨(h.ig p hp).1.mono hm, hm _ (h.ig p hp).2⟩, h.sp⟩

structure PstOK (evs : List Ev) (pst : RS) (p : Name) : Prop where
  f : pst = .fail → ∃ k, Ev.failure p k ∈ evs
  i : pst = .ign → Ev.skipIgn p ∈ evs
  g : pst.good = true → finBefore evs p

/-- every final status is backed by its report in `evs` -/
def EvSt (evs : List Ev) (s : Sys) : Prop := ∀ d, PstOK evs (stOf s d) d

theorem mkNode_nd (inp : RunInput) (evs : List Ev) (t : Name) (anc : List Name) : NDp inp evs t (mkNode inp t anc) := by
  refine ⟨fun d hd => .task hd, ?_, fun d hd => .task hd, ?_, ?_, ?_, ?_, ?_, ?_, ?_, ?_⟩
  · intro d hd; exact .base (mem_dedup.mp hd)
  · intro d hd; exact .base (mem_dedup.mp hd)
  · intro d hd; simp [mkNode] at hd
  · intro d hd; simp [mkNode] at hd
  · intro d hd; simp [mkNode] at hd
  · intro d hd; simp [mkNode] at hd
  · intro d hd; simp [mkNode] at hd
  · intro d hd; simp [mkNode] at hd
  · intro todo h; simp [mkNode] at h

theorem addDeps_nd {inp : RunInput} {evs : List Ev} {n : Name} {nd : Node} {r : CalcRes} (h : NDp inp evs n nd)
    (ht : ∀ d ∈ r.tasks, DepObsF inp evs n d) (hfl : ∀ d ∈ r.files, DepObsF inp evs n d)
    (hc : ∀ d ∈ r.calcs, CalcObsF inp evs n d) : NDp inp evs n (nd.addDeps r) := by
  have nt : ∀ d ∈ newTaskDeps nd r, DepObsF inp evs n d := by
    intro d hd
    rcases List.mem_append.mp hd with a | a
    · exact ht d a
    · exact hfl d (implicitNew_mem a)
  have nc : ∀ d ∈ newCalcDeps nd r, CalcObsF inp evs n d :=
    fun d hd => hc d (mem_dedup.mp (List.mem_filter.mp hd).1)
  refine ⟨?_, ?_, ?_, ?_, h.st, h.sc, h.wr, h.wc, h.bd, h.ig, h.sp⟩
  · intro d hd
    exact (List.mem_append.mp hd).elim (h.dt d) (nt d)
  · intro d hd
    exact (List.mem_append.mp hd).elim (h.dc d) (nc d)
  · intro d hd
    exact (List.mem_append.mp hd).elim (h.pt d) (nt d)
  · intro d hd
    exact (List.mem_append.mp hd).elim (h.pcalc d) (fun a => nc d (List.mem_filter.mp a).1)

theorem deliver_status (inp : RunInput) (pst : RS) (p : Name) (nd : Node) : (deliver inp pst p nd).status = nd.status := by
  unfold deliver; split <;> rfl

theorem deliver_nd {inp : RunInput} {evs : List Ev} {n p : Name} {nd : Node} {pst : RS} (h : NDp inp evs n nd)
    (hp : CalcObsF inp evs n p) (hg : PstOK evs pst p) : NDp inp evs n (deliver inp pst p nd) := by
  unfold deliver
  by_cases e : pst.good = true
  · rw [if_pos e]
    exact addDeps_nd h (fun _ a => .resTask hp (hg.g e) a) (fun _ a => .resFile hp (hg.g e) a)
      (fun _ a => .step hp (hg.g e) a)
  · rw [if_neg e]; exact h

theorem deliverF_status (inp : RunInput) (ex : Bool) (pst : RS) (p : Name) (nd : Node) :
    (deliverF inp ex pst p nd).status = nd.status := by
  unfold deliverF; split <;> rfl

theorem deliverF_nd {inp : RunInput} {evs : List Ev} {n p : Name} {nd : Node} {pst : RS} {ex : Bool}
    (h : NDp inp evs n nd) (hp : CalcObsF inp evs n p) (hg : PstOK evs pst p)
    (hex : ex = true → ∃ w, Ev.start p w ∈ evs) : NDp inp evs n (deliverF inp ex pst p nd) := by
  unfold deliverF
  by_cases e : pst = .fail ∧ ex = true
  · rw [if_pos e]
    have hf : FailedRun evs p := ⟨hex e.2, hg.f e.1⟩
    exact addDeps_nd h (fun _ a => .resTaskF hp hf a) (fun _ a => .resFileF hp hf a) (fun _ a => .stepF hp hf a)
  · rw [if_neg e]; exact h

theorem mem_ite_snoc {c : Prop} [Decidable c] {l : List Name} {p x : Name} (h : x ∈ if c then l ++ [p] else l) :
    x ∈ l ∨ (c ∧ x = p) := by
  by_cases e : c
  · rw [if_pos e] at h
    exact (List.mem_append.mp h).imp id (fun a => ⟨e, List.mem_singleton.mp a⟩)
  · rw [if_neg e] at h; exact .inl h

theorem NDp.setBadIgn {inp : RunInput} {evs : List Ev} {n : Name} {nd : Node} (h : NDp inp evs n nd) (bad ign : List Name)
    (hb : ∀ p ∈ bad, IsDepOF inp evs n nd.status p ∧ ∃ k, Ev.failure p k ∈ evs)
    (hi : ∀ p ∈ ign, IsDepOF inp evs n nd.status p ∧ Ev.skipIgn p ∈ evs) :
    NDp inp evs n { nd with bad := bad, ign := ign } :=
  ⟨h.dt, h.dc, h.pt, h.pcalc, h.st, h.sc, h.wr, h.wc, hb, hi, h.sp⟩

theorem parentStatus_nd {inp : RunInput} {evs : List Ev} {n p : Name} {nd : Node} {pst : RS} (h : NDp inp evs n nd)
    (hd : IsDepOF inp evs n nd.status p) (hf : PstOK evs pst p) : NDp inp evs n (parentStatus pst p nd) := by
  refine h.setBadIgn _ _ (fun x hx => ?_) (fun x hx => ?_)
  · rcases mem_ite_snoc hx with a | ⟨e, rfl⟩
    · exact h.bd x a
    · exact ⟨hd, hf.f e⟩
  · rcases mem_ite_snoc hx with a | ⟨e, rfl⟩
    · exact h.ig x a
    · exact ⟨hd, hf.i e⟩

theorem absorbOne_nd {inp : RunInput} {s : Sys} {evs : List Ev} {n a : Name} {nd : Node} (isCalc : Bool)
    (hes : EvSt evs s) (hse : ∀ e ∈ s.events, e ∈ evs) (h : NDp inp evs n nd) (ha : IsDepOF inp evs n nd.status a)
    (hc : isCalc = true → CalcObsF inp evs n a) :
    NDp inp evs n (if isCalc then deliverF inp (started s a) (stOf s a) a (deliver inp (stOf s a) a
      (parentStatus (stOf s a) a nd)) else parentStatus (stOf s a) a nd) := by
  have hp := parentStatus_nd h ha (hes a)
  cases isCalc with
  | false => exact hp
  | true =>
    exact deliverF_nd (deliver_nd hp (hc rfl) (hes a)) (hc rfl) (hes a)
      (fun e => (started_mem e).imp fun w hw => hse _ hw)

theorem absorbDone_status (inp : RunInput) (s : Sys) (isCalc : Bool) : ∀ (ds : List Name) (nd : Node),
    (absorbDone inp s isCalc ds nd).status = nd.status := by
  intro ds
  induction ds with
  | nil => intro nd; rfl
  | cons a t ih =>
    intro nd
    rw [absorbDone]
    by_cases hu : unfinished s a = true
    · rw [if_pos hu]; exact ih nd
    · rw [if_neg hu, ih]
      cases isCalc with
      | false => rfl
      | true => exact (deliverF_status ..).trans (deliver_status ..)

theorem absorbDone_nd {inp : RunInput} {s : Sys} {evs : List Ev} {n : Name} (isCalc : Bool)
    (hes : EvSt evs s) (hse : ∀ e ∈ s.events, e ∈ evs) :
    ∀ (ds : List Name) (nd : Node), NDp inp evs n nd → (∀ d ∈ ds, IsDepOF inp evs n nd.status d) →
      (isCalc = true → ∀ d ∈ ds, CalcObsF inp evs n d) → NDp inp evs n (absorbDone inp s isCalc ds nd) := by
  intro ds
  induction ds with
  | nil => intro nd h _ _; exact h
  | cons a t ih =>
    intro nd h hds hc
    have tl : ∀ d ∈ t, d ∈ a :: t := fun d hd => List.mem_cons_of_mem _ hd
    rw [absorbDone]
    by_cases hu : unfinished s a = true
    · rw [if_pos hu]; exact ih nd h (fun d hd => hds d (tl d hd)) (fun e d hd => hc e d (tl d hd))
    · rw [if_neg hu]
      have one := absorbOne_nd isCalc hes hse h (hds a List.mem_cons_self) (fun e => hc e a List.mem_cons_self)
      have est : ∀ x : Node, x.status = nd.status → ∀ d ∈ t, IsDepOF inp evs n x.status d :=
        fun x e d hd => e ▸ hds d (tl d hd)
      refine ih _ one (est _ ?_) (fun e d hd => hc e d (tl d hd))
      cases isCalc with
      | false => rfl
      | true => exact (deliverF_status ..).trans (deliver_status ..)

theorem NDp.setWaits {inp : RunInput} {evs : List Ev} {n : Name} {nd : Node} (h : NDp inp evs n nd) (wr wc : List Name)
    (pc' : PC) (hwr : ∀ d ∈ wr, IsDepOF inp evs n nd.status d) (hwc : ∀ d ∈ wc, CalcObsF inp evs n d)
    (hpc : ∀ todo, pc' = .setupIter todo → nd.status ≠ .none) :
    NDp inp evs n { nd with waitRun := wr, waitRunCalc := wc, pc := pc' } :=
  ⟨h.dt, h.dc, h.pt, h.pcalc, h.st, h.sc, hwr, hwc, h.bd, h.ig, hpc⟩

theorem waitNode_nd {inp : RunInput} {s : Sys} {evs : List Ev} {n : Name} {nd : Node} (ds : List Name) (isCalc : Bool)
    (pc' : PC) (hes : EvSt evs s) (hse : ∀ e ∈ s.events, e ∈ evs) (h : NDp inp evs n nd)
    (hds : ∀ d ∈ ds, IsDepOF inp evs n nd.status d) (hc : isCalc = true → ∀ d ∈ ds, CalcObsF inp evs n d)
    (hpc : ∀ todo, pc' = .setupIter todo → nd.status ≠ .none) :
    NDp inp evs n (waitNode inp s nd ds isCalc pc') := by
  have a := absorbDone_nd (s := s) isCalc hes hse ds nd h hds hc
  have est : (absorbDone inp s isCalc ds nd).status = nd.status := absorbDone_status inp s isCalc ds nd
  have sub : ∀ d ∈ ds.filter (unfinished s), d ∈ ds := fun d hd => (List.mem_filter.mp hd).1
  unfold waitNode addWaits
  cases isCalc with
  | true =>
    rw [if_pos rfl]
    exact a.setWaits _ _ pc' a.wr (fun d hd => (List.mem_append.mp hd).elim (fun x => hc rfl d (sub d x)) (a.wc d))
      (fun todo e => est ▸ hpc todo e)
  | false =>
    rw [if_neg Bool.false_ne_true]
    exact a.setWaits _ _ pc' (fun d hd => (List.mem_append.mp hd).elim (fun x => est ▸ hds d (sub d x)) (a.wr d)) a.wc
      (fun todo e => est ▸ hpc todo e)

theorem wokenNode_nd {inp : RunInput} {evs : List Ev} {n p : Name} {nd : Node} {pst : RS} (h : NDp inp evs n nd)
    (hnc : wakeCrash p nd = false) (hf : PstOK evs pst p) :
    NDp inp evs n (wokenNode inp pst p nd) := by
  have sub : ∀ {l : List Name} {d : Name}, d ∈ l.filter (· ≠ p) → d ∈ l := fun hd => (List.mem_filter.mp hd).1
  unfold wokenNode
  by_cases hc : p ∈ nd.waitRunCalc
  · rw [if_pos hc]
    have hp := h.wc p hc
    have a := parentStatus_nd h (Or.inl (.ofCalc hp)) hf
    exact deliver_nd (a.setWaits _ _ _ (fun d hd => h.wr d (sub hd)) (fun d hd => h.wc d (sub hd)) a.sp) hp hf
  · rw [if_neg hc]
    have hw : p ∈ nd.waitRun := by
      unfold wakeCrash at hnc
      simp only [hc, not_false_eq_true, decide_true, Bool.and_true, decide_eq_false_iff_not, Decidable.not_not] at hnc
      exact hnc
    have a := parentStatus_nd h (h.wr p hw) hf
    exact a.setWaits _ _ _ (fun d hd => h.wr d (sub hd)) a.wc a.sp

theorem addWaiting_nd {inp : RunInput} {evs : List Ev} {n : Name} {nd : Node} (m : Name) (h : NDp inp evs n nd) :
    NDp inp evs n (nd.addWaiting m) := by
  unfold Node.addWaiting; split
  · exact h
  · exact ⟨h.dt, h.dc, h.pt, h.pcalc, h.st, h.sc, h.wr, h.wc, h.bd, h.ig, h.sp⟩

/-! ### `evs` is fixed below: the dispatcher adds no events -/

def AllNDe (inp : RunInput) (evs : List Ev) (s : Sys) : Prop := ∀ k y, s.nodes k = some y → NDp inp evs k y

theorem nd_setNode {inp : RunInput} {evs : List Ev} {s : Sys} {n : Name} {x : Node} (h : AllNDe inp evs s)
    (hx : NDp inp evs n x) : AllNDe inp evs (setNode s n x) := by
  intro k y hk
  simp only [setNode_nodes] at hk
  split at hk
  · rename_i e; subst e; cases hk; exact hx
  · exact h k y hk

theorem nd_registerWaiting {inp : RunInput} {evs : List Ev} {s : Sys} (n : Name) (wf : List Name)
    (h : AllNDe inp evs s) : AllNDe inp evs (registerWaiting s n wf) := by
  intro k y hk
  rw [registerWaiting_nodes] at hk
  cases hx : s.nodes k with
  | none => rw [hx] at hk; cases hk
  | some x =>
    rw [hx] at hk
    by_cases e : k ∈ wf
    · simp only [e, if_true, Option.some.injEq] at hk; subst hk; exact addWaiting_nd n (h k x hx)
    · simp only [e, if_false, Option.some.injEq] at hk; subst hk; exact h k x hx

theorem NDp.setPc {inp : RunInput} {evs : List Ev} {n : Name} {nd : Node} (h : NDp inp evs n nd) (pc' : PC)
    (hpc : ∀ todo, pc' = .setupIter todo → nd.status ≠ .none) :
    NDp inp evs n { nd with pc := pc' } := ⟨h.dt, h.dc, h.pt, h.pcalc, h.st, h.sc, h.wr, h.wc, h.bd, h.ig, hpc⟩

theorem genStep_nd {inp : RunInput} {evs : List Ev} {s : Sys} {n : Name} {nd : Node} (d : Name) (pc' : PC)
    (h : AllNDe inp evs s) (hn : s.nodes n = some nd) (hpc : ∀ todo, pc' = .setupIter todo → nd.status ≠ .none) :
    AllNDe inp evs (genStep inp s n nd d pc') := by
  have hx := (h n nd hn).setPc pc' hpc
  generalize hg : genStep inp s n nd d pc' = g
  cases genStep_spec hg with
  | fresh => exact fun k y hk => nd_setNode (nd_setNode h (mkNode_nd inp evs d _)) hx k y hk
  | cyclic => exact h
  | known => exact nd_setNode h hx

theorem addWaitRun_nd {inp : RunInput} {evs : List Ev} {s : Sys} {n : Name} {nd : Node} (ds : List Name) (c : Bool)
    (pc' : PC) (hfe : EvSt evs s) (hse : ∀ e ∈ s.events, e ∈ evs) (h : AllNDe inp evs s)
    (hn : s.nodes n = some nd) (hds : ∀ d ∈ ds, IsDepOF inp evs n nd.status d)
    (hc : c = true → ∀ d ∈ ds, CalcObsF inp evs n d) (hpc : ∀ todo, pc' = .setupIter todo → nd.status ≠ .none) :
    AllNDe inp evs (addWaitRun inp s n nd ds c pc') := by
  unfold addWaitRun
  exact nd_registerWaiting n _ (nd_setNode h (waitNode_nd ds c pc' hfe hse (h n nd hn) hds hc hpc))

theorem NodeMove.nd {inp : RunInput} {evs : List Ev} {n : Name} {nd x : Node} {perm : List Name}
    (hm : NodeMove inp n nd perm x) (h : NDp inp evs n nd) : NDp inp evs n x := by
  cases hm with
  | loopTop _ hp =>
    exact ⟨h.dt, h.dc, (fun _ e => nomatch e), (fun _ e => nomatch e), h.pt, fun d hd => h.pcalc d (hp.mem_iff.mp hd), h.wr,
      h.wc, h.bd, h.ig, by nofun⟩
  | setupGo _ hrun => exact h.setPc _ (fun _ _ => by rw [hrun]; nofun)
  | again | depsDone | noSetup | selected | setupSkip | setupDone | finish => exact h.setPc _ (by nofun)

theorem NodePark.nd {inp : RunInput} {evs : List Ev} {n : Name} {nd x : Node} (hp : NodePark inp n nd x)
    (h : NDp inp evs n nd) : NDp inp evs n x := by
  cases hp with
  | deps | setup => exact h.setPc _ (by nofun)
  | select => exact ⟨h.dt, h.dc, h.pt, h.pcalc, h.st, h.sc, h.wr, h.wc, h.bd, h.ig, by nofun⟩

theorem nodeStep_nd {inp : RunInput} {evs : List Ev} {s s' : Sys} {n : Name} {nd : Node} {perm : List Name}
    (hfe : EvSt evs s) (hse : ∀ e ∈ s.events, e ∈ evs) (h : AllNDe inp evs s) (hn : s.nodes n = some nd)
    (hs : NodeStep inp s n nd perm s') : AllNDe inp evs s' := by
  have hnd := h n nd hn
  cases hs with
  | move hm => exact nd_setNode h (hm.nd hnd)
  | park hp => exact fun k y hk => nd_setNode h (hp.nd hnd) k y hk
  | yield1 | yield2 => exact fun k y hk => nd_setNode h (hnd.setPc _ (by nofun)) k y hk
  | calcGen | taskGen => exact genStep_nd _ _ h hn (by nofun)
  | setupGen hpc => exact genStep_nd _ _ h hn (fun _ _ => hnd.sp _ hpc)
  | calcWait =>
    exact addWaitRun_nd _ _ _ hfe hse h hn (fun d hd => Or.inl (.ofCalc (hnd.sc d hd))) (fun _ => hnd.sc) (by nofun)
  | taskWait => exact addWaitRun_nd _ _ _ hfe hse h hn (fun d hd => Or.inl (hnd.st d hd)) nofun (by nofun)
  | setupWait hpc =>
    exact addWaitRun_nd _ _ _ hfe hse h hn (fun d hd => Or.inr ⟨hd, hnd.sp _ hpc⟩) nofun (by nofun)
  | done => exact h

theorem dtick_nd {inp : RunInput} {evs : List Ev} {s s' : Sys} {perm : List Name}
    (hfe : EvSt evs s) (hse : ∀ e ∈ s.events, e ∈ evs) (h : AllNDe inp evs s)
    (hs : dtick inp s perm = some s') : AllNDe inp evs s' := by
  cases dtick_spec hs with
  | node _ hn hstep => exact nodeStep_nd hfe hse h hn hstep
  | create => exact fun k y hk => nd_setNode h (mkNode_nd inp evs _ _) k y hk
  | lost | pop | skip | deadlock | holdOn | stopIter => exact h

theorem wokenF_nd {inp : RunInput} {evs : List Ev} {s : Sys} {n p : Name} {nd : Node} {pst : RS} (h : NDp inp evs n nd)
    (hnc : wakeCrash p nd = false) (hf : PstOK evs pst p) (hse : ∀ e ∈ s.events, e ∈ evs) :
    NDp inp evs n (wokenF inp s pst p nd) := by
  have a := wokenNode_nd (inp := inp) h hnc hf
  unfold wokenF; split
  · rename_i hc
    exact deliverF_nd a (h.wc p hc) hf (fun e => by obtain ⟨w, hw⟩ := started_mem e; exact ⟨w, hse _ hw⟩)
  · exact a

theorem wakeOne_nd {inp : RunInput} {evs : List Ev} {s : Sys} {pst : RS} {p w : Name} {nd : Node}
    (h : AllNDe inp evs s) (hw : s.nodes w = some nd) (hnc : wakeCrash p nd = false)
    (hf : PstOK evs pst p) (hse : ∀ e ∈ s.events, e ∈ evs) : AllNDe inp evs (wakeOne inp s pst p w nd) := by
  have := nd_setNode h (wokenF_nd (inp := inp) (s := s) (h w nd hw) hnc hf hse)
  unfold wakeOne; split
  · intro k y hk; exact this k y hk
  · exact this

theorem updateWaiting_nd {inp : RunInput} {evs : List Ev} {pst : RS} {p : Name}
    (hf : PstOK evs pst p) :
    ∀ (perm : List Name) (s s' : Sys), AllNDe inp evs s → (∀ e ∈ s.events, e ∈ evs) →
      updateWaiting inp pst p s perm = some s' → AllNDe inp evs s' := by
  intro perm
  induction perm with
  | nil => intro s s' h _ hs; simp only [updateWaiting] at hs; cases hs; exact h
  | cons w ws ih =>
    intro s s' h hse hs
    simp only [updateWaiting] at hs
    cases hw : s.nodes w with
    | none => simp only [hw] at hs; exact ih s s' h hse hs
    | some nd =>
      simp only [hw] at hs
      split at hs
      · cases hs
      · rename_i hnc
        refine ih _ s' (wakeOne_nd h hw (by simpa using hnc) hf hse) ?_ hs
        rw [(wakeOne_outer inp s pst p w nd).1.1]; exact hse

theorem sendHead_nd {inp : RunInput} {evs : List Ev} {s : Sys} {p : Name} {nd : Node} (h : AllNDe inp evs s)
    (hn : s.nodes p = some nd) : AllNDe inp evs (sendHead s p nd) := by
  have hnd := h p nd hn
  unfold sendHead; split
  · intro k y hk
    exact nd_setNode (x := { nd with waitSelect := false }) h
      ⟨hnd.dt, hnd.dc, hnd.pt, hnd.pcalc, hnd.st, hnd.sc, hnd.wr, hnd.wc, hnd.bd, hnd.ig, hnd.sp⟩ k y hk
  · exact h

theorem send_nd {inp : RunInput} {evs : List Ev} {s s' : Sys} {processed : Option Name} {perm : List Name}
    (hfe : EvSt evs s) (hse : ∀ e ∈ s.events, e ∈ evs) (h : AllNDe inp evs s)
    (hs : send inp s processed perm = some s') : AllNDe inp evs s' := by
  cases send_spec hs with
  | first | lost | keyError => exact h
  | running hn | assertion hn => exact sendHead_nd h hn
  | @woken p nd s2 hn _ _ _ hu =>
    exact updateWaiting_nd (stOf_some hn ▸ hfe p) perm _ s2 (sendHead_nd h hn)
      (by rw [(sendHead_outer s p nd).1.1]; exact hse) hu

structure InvU (inp : RunInput) (s : Sys) : Prop where
  nd : AllNDe inp s.events s
  um : ∀ t, Ev.failure t .unmet ∈ s.events →
    ∃ d k, (DepObs inp s.events t d ∨ d ∈ inp.setup t) ∧ Ev.failure d k ∈ s.events

theorem allND_status {inp : RunInput} {evs : List Ev} {s : Sys} {n : Name} {nd : Node} (h : AllNDe inp evs s)
    (hn : s.nodes n = some nd) (st' : RS) (hne : st' ≠ .none) :
    AllNDe inp evs (setNode s n { nd with status := st' }) := by
  have hnd := h n nd hn
  have up : ∀ d, IsDepOF inp evs n nd.status d → IsDepOF inp evs n st' d := fun d hd => hd.imp id (fun a => ⟨a.1, hne⟩)
  exact nd_setNode h ⟨hnd.dt, hnd.dc, hnd.pt, hnd.pcalc, hnd.st, hnd.sc, fun d hd => up d (hnd.wr d hd), hnd.wc,
    fun p hp => ⟨up p (hnd.bd p hp).1, (hnd.bd p hp).2⟩, fun p hp => ⟨up p (hnd.ig p hp).1, (hnd.ig p hp).2⟩,
    fun _ _ => hne⟩

theorem AllNDe.mono {inp : RunInput} {evs evs' : List Ev} {s : Sys} (h : AllNDe inp evs s)
    (hm : ∀ e ∈ evs, e ∈ evs') : AllNDe inp evs' s := fun k y hk => (h k y hk).mono hm

theorem AllNDe.congr {inp : RunInput} {evs : List Ev} {s s' : Sys} (h : AllNDe inp evs s) (e : s'.nodes = s.nodes) :
    AllNDe inp evs s' := fun k y hk => h k y (by rw [← e]; exact hk)

theorem selDecision_unmet_bad {inp : RunInput} {n : Name} {nd : Node} (h : selDecision inp n nd = .unmet) :
    nd.bad ≠ [] := by
  cases selDecision_spec.of_eq h with
  | unmet1 _ _ _ hb => exact hb
  | unmet2 _ _ _ hb => exact hb

theorem invU_of {inp : RunInput} {s s' : Sys} (h : InvU inp s)
    (hnodes : AllNDe inp s.events s') (new : List Ev) (hev : s'.events = new ++ s.events)
    (hum : ∀ t, Ev.failure t .unmet ∈ new →
      ∃ d k, (DepObs inp s.events t d ∨ d ∈ inp.setup t) ∧ Ev.failure d k ∈ s.events) : InvU inp s' := by
  have hm : ∀ e ∈ s.events, e ∈ s'.events := fun e he => by rw [hev]; exact List.mem_append.mpr (Or.inr he)
  refine ⟨hnodes.mono hm, ?_⟩
  intro t ht
  rw [hev] at ht
  rcases List.mem_append.mp ht with a | a
  · obtain ⟨d, k, h1, h2⟩ := hum t a; exact ⟨d, k, h1.imp (fun x => x.mono hm) id, hm _ h2⟩
  · obtain ⟨d, k, h1, h2⟩ := h.um t a; exact ⟨d, k, h1.imp (fun x => x.mono hm) id, hm _ h2⟩

theorem quiet_no_unmet {new : List Ev} (hq : ∀ e ∈ new, e.quiet = true) (t : Name) : Ev.failure t .unmet ∉ new :=
  fun h => by have := hq _ h; simp [Ev.quiet] at this

theorem invU_frame {inp : RunInput} {s s' : Sys} (h : InvU inp s) (e1 : s'.nodes = s.nodes)
    (new : List Ev) (hev : s'.events = new ++ s.events) (hq : ∀ e ∈ new, e.quiet = true) : InvU inp s' :=
  invU_of h (h.nd.congr e1) new hev (fun t ht => absurd ht (quiet_no_unmet hq t))

theorem invU_select {inp : RunInput} {s s' : Sys} {n : Name} {nd : Node} (h : InvU inp s) (hn : s.nodes n = some nd)
    (hd : selDecision inp n nd ≠ .assertFail) (extra : List Ev)
    (e1 : s'.nodes = (applySel inp s n nd (selDecision inp n nd)).nodes)
    (hev : s'.events = extra ++ (applySel inp s n nd (selDecision inp n nd)).events)
    (hq : ∀ e ∈ extra, e.quiet = true) : InvU inp s' := by
  refine invU_of h ?_ (extra ++ selEvents inp n nd (selDecision inp n nd)) ?_ ?_
  · refine (allND_status h.nd hn (selStatus (selDecision inp n nd)) (selStatus_ne_none hd)).congr ?_
    rw [e1, applySel_nodes _ _ _ _ _ hd]
  · rw [hev, applySel_events, List.append_assoc]
  · intro t ht
    rcases List.mem_append.mp ht with a | a
    · exact absurd a (quiet_no_unmet hq t)
    · obtain ⟨rfl, _, hu⟩ := selEvents_failure a
      have hb := selDecision_unmet_bad (hu rfl)
      cases hbl : nd.bad with
      | nil => exact absurd hbl hb
      | cons p ps =>
        obtain ⟨h1, k, h2⟩ := (h.nd t nd hn).bd p (by rw [hbl]; simp)
        rcases h1.witness with a | ⟨c0, k0, a, b⟩
        · exact ⟨p, k, a.imp id (fun x => x.1), h2⟩
        · exact ⟨c0, k0, Or.inl a, b⟩

theorem invU_result {inp : RunInput} {s s' : Sys} {n : Name} {nd : Node} (h : InvU inp s) (hn : s.nodes n = some nd)
    (mid : List Ev) (en : s'.nodes = (setNode s n { nd with status := resStatus (inp.outcome n) }).nodes)
    (hev : s'.events = resEvents n (inp.outcome n) ++ (mid ++ s.events)) (hq : ∀ e ∈ mid, e.quiet = true) :
    InvU inp s' := by
  refine invU_of h ?_ (resEvents n (inp.outcome n) ++ mid) (by rw [hev, List.append_assoc]) ?_
  · refine (allND_status h.nd hn (resStatus (inp.outcome n)) ?_).congr en
    cases inp.outcome n <;> nofun
  · intro t ht
    rcases List.mem_append.mp ht with a | a
    · exact absurd rfl (resEvents_failure a).2.2
    · exact absurd a (quiet_no_unmet hq t)

theorem init_invU (inp : RunInput) : InvU inp (init inp) :=
  ⟨fun k y hk => by simp [init] at hk, fun t ht => by simp [init] at ht⟩

theorem Move.invU {inp : RunInput} {s s' : Sys} (h : InvU inp s) (hes : EvSt s.events s) (m : Move inp s s') :
    InvU inp s' := by
  cases m with
  | emit new a hx => exact invU_frame h a.nodes new a.events (fun e he => Ev.work_quiet (hx e he))
  | tick perm _ _ hs =>
    exact invU_of h (dtick_nd hes (fun _ a => a) h.nd hs) [] (dtick_outer hs).1 (fun _ ht => nomatch ht)
  | send node perm s0 hnode hs a =>
    exact invU_of h ((send_nd hes (fun _ a => a) h.nd hs).congr a.nodes) [] (a.events.trans (send_outer hs).1.1)
      (fun _ ht => nomatch ht)
  | select n nd extra haw hsusp hn hd a hx =>
    exact invU_select h hn hd extra a.nodes a.events (fun e he => Ev.work_quiet (hx e he))
  | result n nd mid s0 hn hsrc a0 hx a =>
    refine invU_result h hn mid ?_ ?_ (fun e he => Ev.work_quiet (hx e he))
    · rw [a.nodes, processResult_nodes]; funext k; simp only [setNode_nodes, a0.nodes]
    · rw [a.events, List.nil_append, processResult_events, a0.events]
  | finish hf =>
    subst hf
    exact invU_frame h rfl (Ev.complete :: s.tdown.map Ev.teardown) rfl (teardown_quiet _)

end DoitModel.Run
