import DoitModel.Proofs.CleanEffects
import DoitModel.Proofs.CleanDict
/-! What `clean` does to the tree: the order in which `clean_targets` walks the targets; only targets of
    `clean: True` tasks disappear and nothing appears (`Frame`); every existing target file of such a task is
    removed; a target directory that contains only target files of the task is removed. -/
namespace DoitModel.Clean

theorem pathLe_iff : ∀ (p q : Path), pathLe p q = true ↔ p.map Char.toNat ≤ q.map Char.toNat
  | [], q => iff_of_true rfl (List.nil_le _)
  | a :: p, [] => iff_of_false Bool.false_ne_true (fun h => nomatch List.le_nil.1 h)
  | a :: p, b :: q => by
    rw [pathLe, List.map_cons, List.map_cons, List.cons_le_cons_iff, Bool.or_eq_true, decide_eq_true_eq,
      Bool.and_eq_true, beq_iff_eq, pathLe_iff p q]

theorem pathLe_total (p q : Path) : pathLe p q = true ∨ pathLe q p = true :=
  (List.le_total _ _).imp (pathLe_iff p q).2 (pathLe_iff q p).2

theorem pathLe_trans (p q r : Path) (h1 : pathLe p q = true) (h2 : pathLe q r = true) : pathLe p r = true :=
  (pathLe_iff p r).2 (List.le_trans ((pathLe_iff p q).1 h1) ((pathLe_iff q r).1 h2))

def Desc (l : List Path) : Prop := l.Pairwise (fun a b => pathLe b a = true)

theorem mem_insertDesc {x y : Path} : ∀ {l : List Path}, y ∈ insertDesc x l ↔ y = x ∨ y ∈ l
  | [] => List.mem_cons
  | z :: l => by
    unfold insertDesc
    by_cases h : pathLe z x = true
    · rw [if_pos h]; exact List.mem_cons
    · rw [if_neg h, List.mem_cons, mem_insertDesc, List.mem_cons]; exact or_left_comm

theorem desc_insertDesc (x : Path) : ∀ (l : List Path), Desc l → Desc (insertDesc x l)
  | [], _ => List.pairwise_singleton _ _
  | z :: l, h => by
    obtain ⟨hz, hl⟩ := List.pairwise_cons.1 h
    unfold insertDesc
    by_cases hzx : pathLe z x = true
    · rw [if_pos hzx]
      refine List.pairwise_cons.2 ⟨fun b hb => ?_, h⟩
      rcases List.mem_cons.1 hb with rfl | hb
      · exact hzx
      · exact pathLe_trans b z x (hz b hb) hzx
    · rw [if_neg hzx]
      refine List.pairwise_cons.2 ⟨fun b hb => ?_, desc_insertDesc x l hl⟩
      rcases mem_insertDesc.1 hb with rfl | hb
      · exact (pathLe_total z b).resolve_left hzx
      · exact hz b hb

theorem desc_sortDesc : ∀ (ts : List Path), Desc (sortDesc ts)
  | [] => List.Pairwise.nil
  | t :: ts => desc_insertDesc t _ (desc_sortDesc ts)

theorem mem_sortDesc (ts : List Path) (y : Path) : y ∈ sortDesc ts ↔ y ∈ ts := by
  induction ts with
  | nil => exact Iff.rfl
  | cons t ts ih => exact mem_insertDesc.trans ((or_congr_right ih).trans List.mem_cons.symm)

theorem not_pathLe_of_prefix (c : Char) : ∀ (d p : Path), (d ++ [c]).isPrefixOf p = true → pathLe p d = false := by
  intro d
  induction d with
  | nil =>
    intro p h
    cases p with
    | nil => simp at h
    | cons b p => simp [pathLe]
  | cons a d ih =>
    intro p h
    cases p with
    | nil => simp at h
    | cons b p =>
      simp only [List.cons_append, List.isPrefixOf, Bool.and_eq_true, beq_iff_eq] at h
      obtain ⟨hab, hp⟩ := h
      subst hab
      have := ih p hp
      simp [pathLe, this]

theorem not_mem_after {ts l1 l2 : List Path} {d p : Path} (hs : sortDesc ts = l1 ++ d :: l2)
    (hb : below d p = true) : p ∉ l2 := by
  intro hp
  have hdesc := desc_sortDesc ts
  rw [hs] at hdesc
  have h := (List.pairwise_cons.1 (List.pairwise_append.1 hdesc).2.1).1 p hp
  rw [not_pathLe_of_prefix '/' d p hb] at h
  exact Bool.noConfusion h

/-- between two states only paths in `T` disappeared, and nothing appeared -/
structure Frame (T : List Path) (w w' : World) : Prop where
  fsub : ∀ q, q ∈ w'.files → q ∈ w.files
  fonly : ∀ q, q ∈ w.files → q ∈ w'.files ∨ q ∈ T
  dsub : ∀ q, q ∈ w'.dirs → q ∈ w.dirs
  donly : ∀ q, q ∈ w.dirs → q ∈ w'.dirs ∨ q ∈ T
  lsub : ∀ l, l ∈ w'.links → l ∈ w.links

namespace Frame

theorem refl (T : List Path) (w : World) : Frame T w w :=
  ⟨fun _ h => h, fun _ h => Or.inl h, fun _ h => h, fun _ h => Or.inl h, fun _ h => h⟩

theorem trans {T1 T2 : List Path} {a b c : World} (h1 : Frame T1 a b) (h2 : Frame T2 b c) :
    Frame (T1 ++ T2) a c where
  fsub := fun q h => h1.fsub q (h2.fsub q h)
  fonly := fun q h => (h1.fonly q h).elim (fun h' => (h2.fonly q h').imp_right (List.mem_append_right _))
    (fun h' => Or.inr (List.mem_append_left _ h'))
  dsub := fun q h => h1.dsub q (h2.dsub q h)
  donly := fun q h => (h1.donly q h).elim (fun h' => (h2.donly q h').imp_right (List.mem_append_right _))
    (fun h' => Or.inr (List.mem_append_left _ h'))
  lsub := fun l h => h1.lsub l (h2.lsub l h)

theorem weaken {T T' : List Path} {a b : World} (h : Frame T a b) (hs : ∀ q, q ∈ T → q ∈ T') :
    Frame T' a b :=
  ⟨h.fsub, fun q hq => (h.fonly q hq).imp_right (hs q), h.dsub, fun q hq => (h.donly q hq).imp_right (hs q), h.lsub⟩

end Frame

theorem mem_filter_ne_or {q p : Path} {l : List Path} (h : q ∈ l) : q ∈ l.filter (· ≠ p) ∨ q ∈ [p] := by
  by_cases e : q = p
  · exact Or.inr (List.mem_singleton.2 e)
  · exact Or.inl (List.mem_filter.2 ⟨h, decide_eq_true e⟩)

namespace RmSpec
variable {dry : Bool} {t : Name} {p : Path} {st r : World × List Ev}

theorem frame (h : RmSpec dry t p st r) : Frame [p] st.1 r.1 := by
  cases dry
  · cases h with
    | file =>
      exact ⟨fun q hq => (List.mem_filter.1 hq).1, fun q => mem_filter_ne_or, fun _ h => h, fun _ h => Or.inl h,
        fun _ h => h⟩
    | link =>
      exact ⟨fun _ h => h, fun _ h => Or.inl h, fun _ h => h, fun _ h => Or.inl h,
        fun l hl => (List.mem_filter.1 hl).1⟩
    | dir =>
      exact ⟨fun _ h => h, fun _ h => Or.inl h, fun q hq => (List.mem_filter.1 hq).1, fun q => mem_filter_ne_or,
        fun _ h => h⟩
    | busy => exact Frame.refl _ _
    | skip => exact Frame.refl _ _
  · rw [h.world_dry]; exact Frame.refl _ _

theorem removes (h : RmSpec false t p st r) : p ∉ r.1.files := by
  cases h with
  | file => exact fun hm => of_decide_eq_true (List.mem_filter.1 hm).2 rfl
  | link _ hnf => exact hnf
  | dir hnf => exact hnf
  | busy hnf => exact hnf
  | skip hnf => exact hnf

theorem rmdir (h : RmSpec false t p st r) (hnf : p ∉ st.1.files) (hl : (linkDest st.1 p).isSome = false)
    (he : hasEntry st.1 p = false) : p ∉ r.1.dirs := by
  cases h with
  | file hp => exact absurd hp hnf
  | link _ _ hs => exact Bool.noConfusion (hl.symm.trans hs)
  | dir => exact fun hm => of_decide_eq_true (List.mem_filter.1 hm).2 rfl
  | busy _ hb => exact Bool.noConfusion (he.symm.trans (hb hl))
  | skip _ hs => exact hs hl

end RmSpec

theorem foldl_frame {γ : Type} (g : World × List Ev → γ → World × List Ev) (T : γ → List Path)
    (hg : ∀ st x, Frame (T x) st.1 (g st x).1) :
    ∀ (l : List γ) (st : World × List Ev), Frame (l.flatMap T) st.1 (l.foldl g st).1
  | [], _ => Frame.refl _ _
  | x :: l, st => (hg st x).trans (foldl_frame g T hg l _)

theorem foldl_rmTarget_frame (dry : Bool) (t : Name) (l : List Path) (st : World × List Ev) :
    Frame l st.1 (l.foldl (rmTarget dry t) st).1 :=
  (foldl_frame (rmTarget dry t) (fun p => [p]) (fun st p => (rmTarget_spec dry t st p).frame) l st).weaken
    (fun q hq => by simpa using hq)

theorem cleanTargets_frame (dry : Bool) (t : Name) (targets : List Path) (st : World × List Ev) :
    Frame targets st.1 (cleanTargets dry t targets st).1 :=
  (foldl_rmTarget_frame dry t (sortDesc targets) st).weaken (fun q => (mem_sortDesc targets q).1)

/-- the targets a task's clean may remove: those of a `clean: True` task -/
def rmSet (tbl : Table) (t : Name) : List Path :=
  match tbl[t]? with
  | some tk => if tk.kind = .targets then tk.targets else []
  | none => []

theorem effFree_acts (tbl : Table) (h : effFree tbl = true) (t : Name) (tk : Task) (as : List Act)
    (ht : tbl[t]? = some tk) (hk : tk.kind = .actions as) : ∀ a, a ∈ as → a.eff = none := by
  have hm : tk ∈ tbl := List.mem_of_getElem? ht
  simp only [effFree, List.all_eq_true] at h
  have := h tk hm
  simp only [hk, List.all_eq_true, Option.isNone_iff_eq_none] at this
  exact this

theorem taskClean_frame (tbl : Table) (hfree : effFree tbl = true) (dry : Bool) (t : Name)
    (st : World × List Ev) : Frame (rmSet tbl t) st.1 (taskClean tbl dry t st).1 := by
  unfold taskClean rmSet
  cases ht : tbl[t]? with
  | none => exact Frame.refl _ _
  | some tk =>
    simp only
    cases hk : tk.kind with
    | nothing => exact Frame.refl _ _
    | targets => simp only [if_true]; exact cleanTargets_frame dry t tk.targets st
    | actions as =>
      simp only [reduceCtorEq, ↓reduceIte]
      have hw : (runActs dry t 0 as st).1 = st.1 :=
        runActs_inv (P := fun s => s.1 = st.1) as (fun k a s ha hs => by
          rcases runAct_world dry t k a s with hw | ⟨_, hw⟩
          · exact hw.trans hs
          · rw [hw, effFree_acts tbl hfree t tk as ht hk a ha]; exact hs) 0 st rfl
      rw [hw]
      exact Frame.refl _ _

theorem cleanOne_frame (tbl : Table) (hfree : effFree tbl = true) (dry forget : Bool) (st : World × List Ev)
    (t : Name) : Frame (rmSet tbl t) st.1 (cleanOne tbl dry forget st t).1 := by
  unfold cleanOne
  have h := taskClean_frame tbl hfree dry t st
  by_cases hf : (forget && !dry) = true
  · rw [if_pos hf]; exact ⟨h.fsub, h.fonly, h.dsub, h.donly, h.lsub⟩
  · rw [if_neg hf]; exact h

theorem cleanTasks_frame (tbl : Table) (hfree : effFree tbl = true) (dry forget : Bool) (order : List Name)
    (w : World) : Frame (order.flatMap (rmSet tbl)) w (cleanTasks tbl dry forget order w).1 :=
  foldl_frame (cleanOne tbl dry forget) (rmSet tbl) (cleanOne_frame tbl hfree dry forget) order (w, [])

theorem foldl_removes {γ : Type} (g : World × List Ev → γ → World × List Ev)
    (hg : ∀ st x q, q ∈ (g st x).1.files → q ∈ st.1.files) (p : Path) (good : γ → Prop)
    (hrm : ∀ st x, good x → p ∉ (g st x).1.files) :
    ∀ (l : List γ) (st : World × List Ev), (∃ x, x ∈ l ∧ good x) → p ∉ (l.foldl g st).1.files := by
  intro l
  induction l with
  | nil => exact fun _ ⟨_, hx, _⟩ => nomatch hx
  | cons y l ih =>
    intro st ⟨x, hx, hgood⟩
    rcases List.mem_cons.1 hx with rfl | hx
    · exact List.foldlRecOn l g (motive := fun s => p ∉ s.1.files) (hrm st x hgood) fun s hs a _ hm => hs (hg s a p hm)
    · exact ih _ ⟨x, hx, hgood⟩

theorem foldl_rmTarget_removes (t : Name) (p : Path) (l : List Path) (st : World × List Ev) (hp : p ∈ l) :
    p ∉ (l.foldl (rmTarget false t) st).1.files :=
  foldl_removes (rmTarget false t) (fun st x => (rmTarget_spec false t st x).frame.fsub) p (· = p)
    (fun st x hx => hx ▸ (rmTarget_spec false t st x).removes) l st ⟨p, hp, rfl⟩

theorem cleanOne_removes (tbl : Table) (forget : Bool) (st : World × List Ev) (t : Name) (p : Path)
    (hp : p ∈ rmSet tbl t) : p ∉ (cleanOne tbl false forget st t).1.files := by
  unfold rmSet at hp
  unfold cleanOne taskClean
  cases htk : tbl[t]? with
  | none => rw [htk] at hp; exact nomatch hp
  | some tk =>
    simp only [htk] at hp ⊢
    by_cases hk : tk.kind = .targets
    · simp only [hk, if_true] at hp ⊢
      have := foldl_rmTarget_removes t p _ st ((mem_sortDesc tk.targets p).2 hp)
      by_cases hf : (forget && !false) = true
      · rw [if_pos hf]; exact this
      · rw [if_neg hf]; exact this
    · rw [if_neg hk] at hp; exact nomatch hp

theorem cleanTasks_removes (tbl : Table) (hfree : effFree tbl = true) (forget : Bool) (order : List Name) (w : World) (t : Name) (p : Path)
    (ht : t ∈ order) (hp : p ∈ rmSet tbl t) : p ∉ (cleanTasks tbl false forget order w).1.files :=
  foldl_removes (cleanOne tbl false forget) (fun st x => (cleanOne_frame tbl hfree false forget st x).fsub) p
    (fun x => p ∈ rmSet tbl x) (fun st x hx => cleanOne_removes tbl forget st x p hx) order (w, []) ⟨t, ht, hp⟩

/-- `d` is not a symbolic link and no symbolic link lies below `d` -/
def LinksAway (d : Path) (w : World) : Prop := ∀ l, l ∈ w.links → l.1 ≠ d ∧ below d l.1 = false

/-- `sortDesc` puts the files inside before the directory, so `os.listdir` finds it empty -/
theorem cleanTargets_rmdir (t : Name) (targets : List Path) (st : World × List Ev) (d : Path)
    (hd : d ∈ targets) (hnf : d ∉ st.1.files) (hnl : LinksAway d st.1)
    (hfiles : ∀ q, q ∈ st.1.files → below d q = true → q ∈ targets)
    (hdirs : ∀ q, q ∈ st.1.dirs → below d q = false) :
    d ∉ (cleanTargets false t targets st).1.dirs := by
  unfold cleanTargets
  obtain ⟨l1, l2, hs⟩ := List.append_of_mem ((mem_sortDesc targets d).2 hd)
  rw [hs, List.foldl_append, List.foldl_cons]
  have hf1 := foldl_rmTarget_frame false t l1 st
  -- after the part of the walk before `d`, nothing is left below `d`
  have hempty : hasEntry (l1.foldl (rmTarget false t) st).1 d = false := by
    unfold hasEntry
    rw [List.any_eq_false]
    intro q hq
    simp only [List.mem_append, List.mem_map] at hq
    rcases hq with (hq | hq) | ⟨l, hl, rfl⟩
    · intro hb
      have hq0 := hf1.fsub q hq
      have hqs := (mem_sortDesc targets q).2 (hfiles q hq0 hb)
      rw [hs] at hqs
      rcases List.mem_append.1 hqs with h1 | h1
      · exact foldl_rmTarget_removes t q l1 st h1 hq
      · rcases List.mem_cons.1 h1 with rfl | h1
        · exact hnf hq0
        · exact not_mem_after hs hb h1
    · rw [hdirs q (hf1.dsub q hq)]; exact Bool.false_ne_true
    · rw [(hnl l (hf1.lsub l hl)).2]; exact Bool.false_ne_true
  have hnone : (linkDest (l1.foldl (rmTarget false t) st).1 d).isSome = false := by
    unfold linkDest
    rw [alookup_eq_none_iff.2 (fun hm => let ⟨l, hl, e⟩ := List.mem_map.1 hm; (hnl l (hf1.lsub l hl)).1 e)]
    rfl
  have hstep := (rmTarget_spec false t (l1.foldl (rmTarget false t) st) d).rmdir
    (fun h => hnf (hf1.fsub d h)) hnone hempty
  exact fun h => hstep ((foldl_rmTarget_frame false t l2 _).dsub d h)

end DoitModel.Clean
