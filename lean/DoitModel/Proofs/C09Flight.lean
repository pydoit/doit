import DoitModel.Proofs.C09Disp
/-! # C09 — a task in flight, or being executed by the serial runner, is in `dispatched`; a node about to be fed back is
    not in flight -/
namespace DoitModel.Run

variable {inp : RunInput}

structure InvF (s : Sys) : Prop where
  di : ∀ n, InFlight s n → n ∈ s.dispatched
  xx : ∀ p, sentBack s = some p → ¬ InFlight s p
  sx : ∀ n, s.rpc = .sExec n → n ∈ s.dispatched

/-! Counting with `Inv3`: jobs in the queue + the job held + starts = `go`s ≤ 1 (`j`, `p0`); running means one start, no end
(`w1`); in the result queue means one end, ends ≤ starts (`q1`, `p0`).  Two places at once would exceed 1. -/

theorem notInFlight_of_cGo0 {s : Sys} {n : Name} (h3 : Inv3 inp s) (hz : cGo s n = 0) : ¬ InFlight s n := by
  intro hf
  have hj := h3.j n
  have hp := h3.p0 n
  rcases hf with a | a | a | a
  · have := count_task_pos.mp a
    omega
  · omega
  · obtain ⟨w, hw⟩ := a
    have := (h3.w1 w n hw).1
    omega
  · have := (h3.q1 n a).1
    omega

theorem notInFlight_popped {s : Sys} {n : Name} {rest : List Name} (h3 : Inv3 inp s) (hq : s.resQ = n :: rest) :
    Job.task n ∉ s.jobQ ∧ (∀ w, s.workers w ≠ .running n) ∧ n ∉ rest := by
  have hn : n ∈ s.resQ := by rw [hq]; simp
  have hf := (h3.q1 n hn).1
  have hj := h3.j n
  have hp := h3.p0 n
  refine ⟨?_, ?_, ?_⟩
  · intro a
    have := count_task_pos.mp a
    omega
  · intro w hw
    have := (h3.w1 w n hw).2.1
    omega
  · have := h3.q2
    rw [hq] at this
    exact (List.nodup_cons.mp this).1

theorem notInFlight_sExec {s : Sys} {n : Name} (h3 : Inv3 inp s) (hr : s.rpc = .sExec n) : ¬ InFlight s n := by
  intro hf
  have hx := h3.x3 n hr
  have hj := h3.j n
  have hp := h3.p0 n
  rcases hf with a | a | a | a
  · have := count_task_pos.mp a
    omega
  · unfold holding at a; rw [hr] at a; cases a
  · obtain ⟨w, hw⟩ := a; exact h3.xw n w hr hw
  · have := (h3.q1 n a).1
    omega

theorem init_invF (inp : RunInput) : InvF (init inp) := by
  have hr : (init inp).rpc = .sTop none ∨ (init inp).rpc = .gEntry none (.startLoop inp.numProc) := by
    simp only [init]; split
    · exact Or.inl rfl
    · exact Or.inr rfl
  have hh : ∀ n, holding (init inp) n = 0 := by
    intro n; unfold holding; rcases hr with a | a <;> rw [a]
  refine ⟨?_, ?_, ?_⟩
  · intro n h
    rcases h with a | a | a | a
    · simp [init] at a
    · rw [hh n] at a; cases a
    · obtain ⟨w, hw⟩ := a; simp [init] at hw
    · simp [init] at a
  · intro p h; unfold sentBack at h; rcases hr with a | a <;> (rw [a] at h; cases h)
  · intro n h; rcases hr with a | a <;> (rw [a] at h; cases h)

theorem InvF.mono {s s' : Sys} (h : InvF s) (hd : ∀ n, n ∈ s.dispatched → n ∈ s'.dispatched)
    (hf : ∀ n, InFlight s' n → InFlight s n) (hsb : ∀ p, sentBack s' = some p → sentBack s = some p)
    (hx : ∀ n, s'.rpc = .sExec n → s.rpc = .sExec n) : InvF s' :=
  ⟨fun n a => hd n (h.di n (hf n a)), fun p a b => h.xx p (hsb p a) (hf p b), fun n a => hd n (h.sx n (hx n a))⟩

theorem inFlight_back {s s' : Sys} (e1 : s'.jobQ = s.jobQ) (e2 : s'.workers = s.workers) (e3 : s'.resQ = s.resQ)
    (h0 : ∀ m r, s'.rpc ≠ .gRet (.task m) r) (n : Name) (h : InFlight s' n) : InFlight s n :=
  inFlight_keep e1.symm e2.symm e3.symm h0 n h

theorem invF_send {s s0 : Sys} {node : Option Name} {perm : List Name} (rpc' : RPC) (h : InvF s)
    (hsb : sentBack s = node) (hq : rpc'.noTask = true)
    (hr3 : sentBack { s0 with rpc := rpc' } = none)
    (hs : send inp s node perm = some s0) : InvF { s0 with rpc := rpc' } := by
  obtain ⟨⟨_, o2, o3, o4, o5, _⟩, _⟩ := send_outer hs
  have back : ∀ n, InFlight { s0 with rpc := rpc' } n → InFlight s n := by
    intro n a
    exact inFlight_back (s := s) (s' := { s0 with rpc := rpc' }) o3 o5 o4 (noTask_of rfl hq).1 n a
  refine ⟨?_, ?_, ?_⟩
  · intro n a
    have a' := back n a
    refine (send_dispatched hs).2.1 n (h.di n a') ?_
    intro e
    exact h.xx n (by rw [hsb]; exact e) a'
  · intro p a; rw [hr3] at a; cases a
  · intro n a; exact absurd a ((noTask_of rfl hq).2 n)

theorem InvF.idle {s s' : Sys} (h : InvF s) (e1 : s'.dispatched = s.dispatched) (e2 : s'.jobQ = s.jobQ)
    (e3 : s'.workers = s.workers) (e4 : s'.resQ = s.resQ) (hq : s'.rpc.noTask = true)
    (hsb : sentBack s' = none) : InvF s' :=
  h.mono (fun _ a => e1 ▸ a) (inFlight_back e2 e3 e4 (noTask_of rfl hq).1) (fun p a => nomatch hsb.symm.trans a)
    (fun n a => absurd a ((noTask_of rfl hq).2 n))

theorem invF_dtick {s s' : Sys} {perm : List Name} (h : InvF s) (hsu : s.susp = none)
    (hr0 : ∀ m r, s.rpc ≠ .gRet (.task m) r) (hd : dtick inp s perm = some s') : InvF s' := by
  obtain ⟨_, o2, o3, o4, o5, _⟩ := dtick_outer hd
  exact h.mono (fun n a => dtick_dispatched_sub hsu hd a) (inFlight_back o3 o5 o4 (by rw [o2]; exact hr0))
    (fun p a => by unfold sentBack at *; rw [o2] at a; exact a) (fun n a => o2 ▸ a)

theorem invF_answered {s : Sys} {n : Name} {nd : Node} (d : Sel) (rpc' : RPC) (h : InvF s) (h3 : Inv3 inp s)
    (haw : awaiting s) (hsu : s.susp = some (.node n)) (hq : rpc'.noTask = true) (hsb : sentBack { applySel inp s n nd d with rpc := rpc' } = some n) :
    InvF { applySel inp s n nd d with rpc := rpc' } := by
  have k := applySel_keeps inp s n nd d
  have back : ∀ m, InFlight { applySel inp s n nd d with rpc := rpc' } m → InFlight s m :=
    inFlight_back (s := s) k.jobQ k.workers k.resQ (noTask_of rfl hq).1
  refine ⟨?_, ?_, fun m e => absurd e ((noTask_of rfl hq).2 m)⟩
  · intro m a
    show m ∈ (applySel inp s n nd d).dispatched
    rw [k.dispatched]; exact h.di m (back m a)
  · intro p a b
    cases hsb.symm.trans a
    exact notInFlight_of_cGo0 h3 (h3.z haw n hsu) (back n b)

theorem serialStep_invF {s s' : Sys} {perm : List Name} (h : InvF s) (hC : InvC s) (h3 : Inv3 inp s)
    (hs : serialStep inp s perm = some s') : InvF s' := by
  cases serialStep_spec hs with
  | send hr _ hsd =>
    exact invF_send .sWait h (by unfold sentBack; rw [hr]) rfl rfl hsd
  | tick hr hsu hd => exact invF_dtick h hsu (by rw [hr]; nofun) hd
  | @go n nd hr hsu =>
    have k := applySel_keeps inp s n nd .go
    have back : ∀ m, InFlight { startTask inp (applySel inp s n nd .go) n 0 with rpc := .sExec n } m →
        InFlight s m :=
      inFlight_back (s := s) k.jobQ k.workers k.resQ nofun
    refine ⟨?_, nofun, ?_⟩
    · intro m a
      show m ∈ (applySel inp s n nd .go).dispatched
      rw [k.dispatched]; exact h.di m (back m a)
    · intro m e; cases e
      show n ∈ (applySel inp s n nd .go).dispatched
      rw [k.dispatched]; exact hC.ds n hsu
  | select hr hsu => exact invF_answered _ _ h h3 (Or.inl hr) hsu rfl rfl
  | @result n nd hr =>
    have k := processResult_keeps inp { s with events := Ev.fin n 0 :: s.events } n nd
    have back : ∀ m, InFlight { processResult inp { s with events := Ev.fin n 0 :: s.events } n nd
        with rpc := .sTop (some n) } m → InFlight s m :=
      inFlight_back (s := s) k.jobQ k.workers k.resQ nofun
    refine ⟨?_, ?_, nofun⟩
    · intro m a
      show m ∈ (processResult inp _ n nd).dispatched
      rw [k.dispatched]; exact h.di m (back m a)
    · intro p a b
      cases a
      exact notInFlight_sExec h3 hr (back n b)
  | _ => exact h.idle rfl rfl rfl rfl rfl rfl

theorem gReturn_back {s : Sys} {job : Job} {ret : Ret} (hr : s.rpc = .gRet job ret) :
    (gReturn s job ret).dispatched = s.dispatched ∧ sentBack (gReturn s job ret) = none ∧
    (∀ n, (gReturn s job ret).rpc ≠ .sExec n) ∧ (∀ m, InFlight (gReturn s job ret) m → InFlight s m) := by
  have hjob : ∀ m, job = .task m → InFlight s m := by
    intro m e; subst e
    exact Or.inr (Or.inl (by unfold holding; rw [hr]; exact if_pos rfl))
  have key : ∀ (s' : Sys), (∀ m, Job.task m ∈ s'.jobQ → Job.task m ∈ s.jobQ ∨ job = .task m) →
      (∀ w m, s'.workers w = .running m → s.workers w = .running m) → s'.resQ = s.resQ →
      (∀ m r, s'.rpc ≠ .gRet (.task m) r) → ∀ m, InFlight s' m → InFlight s m := by
    intro s' hj hw hq h0 m a
    rcases a with y | y | y | y
    · rcases hj m y with z | z
      · exact Or.inl z
      · exact hjob m z
    · obtain ⟨r, e⟩ := holding_one y; exact absurd e (h0 m r)
    · obtain ⟨w, hw'⟩ := y; exact Or.inr (Or.inr (Or.inl ⟨w, hw w m hw'⟩))
    · exact Or.inr (Or.inr (Or.inr (by rw [← hq]; exact y)))
  have happ : ∀ m, Job.task m ∈ s.jobQ ++ [job] → Job.task m ∈ s.jobQ ∨ job = .task m := by
    intro m a
    rcases List.mem_append.mp a with z | z
    · exact Or.inl z
    · exact Or.inr (List.mem_singleton.mp z).symm
  have hwk : ∀ w m, (setWorker s s.nStarted .idle).workers w = .running m → s.workers w = .running m := by
    intro w m a
    have a' : (if w = s.nStarted then WState.idle else s.workers w) = .running m := a
    by_cases c : w = s.nStarted
    · rw [if_pos c] at a'; cases a'
    · rw [if_neg c] at a'; exact a'
  generalize hg : gReturn s job ret = g
  cases gReturn_row.of_eq hg with
  | noWorker => exact ⟨rfl, rfl, nofun, key _ (fun m a => Or.inl a) (fun w m a => a) rfl nofun⟩
  | lastWorker | nextWorker => exact ⟨rfl, rfl, nofun, key _ happ hwk rfl nofun⟩
  | fed | noProc | feedNext => exact ⟨rfl, rfl, nofun, key _ happ (fun w m a => a) rfl nofun⟩

theorem mainStep_invF {s s' : Sys} {perm : List Name} (h : InvF s) (hC : InvC s) (h3 : Inv3 inp s)
    (hs : mainStep inp s perm = some s') : InvF s' := by
  cases mainStep_spec hs with
  | entry hr =>
    exact h.mono (fun n a => a) (inFlight_back rfl rfl rfl nofun)
      (fun p a => by unfold sentBack at *; rw [hr]; exact a) nofun
  | @send node ret s0 hr hsd =>
    exact invF_send (.gWait ret) h (by unfold sentBack; rw [hr]) rfl rfl hsd
  | tick hr hsu hd => exact invF_dtick h hsu (by rw [hr]; nofun) hd
  | @go ret n nd hr hsu =>
    have k := applySel_keeps inp s n nd .go
    refine ⟨?_, nofun, nofun⟩
    intro m a
    show m ∈ (applySel inp s n nd .go).dispatched
    rw [k.dispatched]
    rcases a with y | y | y | y
    · exact h.di m (Or.inl (by rw [← k.jobQ]; exact y))
    · obtain ⟨r, e⟩ := holding_one y; cases e; exact hC.ds n hsu
    · obtain ⟨w, hw⟩ := y
      exact h.di m (Or.inr (Or.inr (Or.inl ⟨w, by rw [← k.workers]; exact hw⟩)))
    · exact h.di m (Or.inr (Or.inr (Or.inr (by rw [← k.resQ]; exact y))))
  | @select ret n nd d hr hsu => exact invF_answered d _ h h3 (Or.inr ⟨ret, hr⟩) hsu rfl rfl
  | ret hr =>
    obtain ⟨g1, g2, g3, g4⟩ := gReturn_back hr
    exact h.mono (fun n a => by rw [g1]; exact a) g4 (fun p a => by rw [g2] at a; cases a)
      (fun n a => absurd a (g3 n))
  | @result n rest nd hr _ hq =>
    obtain ⟨p1, p2, p3⟩ := notInFlight_popped h3 hq
    have k := processResult_keeps inp { s with resQ := rest } n nd
    have back : ∀ m, InFlight { processResult inp { s with resQ := rest } n nd with
        rpc := .gEntry (some n) (.feedLoop (s.freeProc + 1)), freeProc := 0 } m → InFlight { s with resQ := rest } m :=
      inFlight_back k.jobQ k.workers k.resQ nofun
    have hr1 : ∀ m r, ({ s with resQ := rest } : Sys).rpc ≠ .gRet (.task m) r :=
      fun m r (e : s.rpc = _) => nomatch hr.symm.trans e
    refine ⟨?_, ?_, nofun⟩
    · intro m a
      show m ∈ (processResult inp _ n nd).dispatched
      rw [k.dispatched]
      exact h.di m (inFlight_of
        ((inFlight_cases (back m a) hr1).imp id (Or.imp id fun y => hq ▸ List.mem_cons_of_mem _ y)))
    · intro p a b
      cases a
      rcases inFlight_cases (back n b) hr1 with y | ⟨w, y⟩ | y
      · exact p1 y
      · exact p2 w y
      · exact p3 y
  | _ => exact h.idle rfl rfl rfl rfl rfl rfl

theorem InvF.worker {s s' : Sys} (h : InvF s) (e0 : s'.rpc = s.rpc) (e1 : s'.dispatched = s.dispatched)
    (hf : ∀ n, InFlight s' n → InFlight s n) : InvF s' :=
  h.mono (fun _ a => e1 ▸ a) hf (fun p a => by unfold sentBack at *; rw [e0] at a; exact a) (fun n a => e0 ▸ a)

theorem takeStep_invF {s s' : Sys} {w : Nat} (h : InvF s) (hs : takeStep inp s w = some s') : InvF s' :=
  h.worker (takeStep_spec hs).workerFrame.rpc (takeStep_spec hs).dispatched fun n => ((takeStep_spec hs).inFlight_iff n).mp

theorem doneStep_invF {s s' : Sys} {w : Nat} (h : InvF s) (hs : doneStep s w = some s') : InvF s' :=
  h.worker (doneStep_spec hs).workerFrame.rpc (doneStep_spec hs).dispatched fun n => ((doneStep_spec hs).inFlight_iff n).mp

theorem reach_invF {s : Sys} (h : Reach inp s) : InvF s := by
  induction h with
  | init => exact init_invF inp
  | @next s0 s1 c hp hs ih =>
    cases c with
    | main perm => exact serialStep_invF ih (reach_invC hp) (reach_inv3 hp) hs
    | take w => cases hs
    | done w => cases hs

theorem preach_invF {s : Sys} (h : PReach inp s) : InvF s := by
  induction h with
  | init => exact init_invF inp
  | @next s0 s1 c hp hs ih =>
    cases c with
    | main perm => exact mainStep_invF ih (preach_invC hp) (preach_inv hp).2 hs
    | take w => exact takeStep_invF ih hs
    | done w => exact doneStep_invF ih hs

end DoitModel.Run
