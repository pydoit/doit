import DoitModel.Proofs.C19Inv
import DoitModel.Proofs.RunnerSpec
/-! # C19: the reporting invariant along the steps of the runners; `Inv19` holds in every reachable state -/
namespace DoitModel.Report
open DoitModel.Run

variable {inp : RunInput} {ex fwd : Bool} {pend : Name → Nat}

theorem gReturn_same (s : Sys) (job : Job) (ret : Ret) :
    (gReturn s job ret).events = s.events ∧ (∀ x, stOf (gReturn s job ret) x = stOf s x) ∧
    (gReturn s job ret).final = s.final ∧ (gReturn s job ret).resQ = s.resQ := by
  have same : ∀ {t : Sys}, t.events = s.events → t.nodes = s.nodes → t.final = s.final → t.resQ = s.resQ →
      t.events = s.events ∧ (∀ x, stOf t x = stOf s x) ∧ t.final = s.final ∧ t.resQ = s.resQ :=
    fun a b c d => ⟨a, stOf_congr b, c, d⟩
  generalize hg : gReturn s job ret = g
  cases gReturn_row.of_eq hg <;> exact same rfl rfl rfl rfl

/-- what a step of the main thread from `s` to `t` does to what the reports and the forwarding queue see: it takes a result
    from the queue only at `result_q.get()` (`atGet`); any other step leaves the result queue alone and changes the status
    only of a task that has not started -/
def MainOut (inp : RunInput) (ex fwd : Bool) (pend : Name → Nat) (s t : Sys) : Prop :=
  RepInv inp ex fwd pend t ∧
    (¬ atGet s → t.resQ = s.resQ ∧ ∀ x, stOf t x ≠ stOf s x → cStart s x = 0) ∧
    (atGet s → ∀ n rest, s.resQ = n :: rest → t.resQ = rest ∧ ∀ x, x ≠ n → stOf t x = stOf s x)

/-- `hq`: at `result_q.get()` no `execute_task` report of the task whose result is taken is under way -/
theorem mainStep_rep {s s' : Sys} {perm : List Name} (h : RepInv inp ex fwd pend s) (h2 : Inv2 inp s)
    (h3 : Inv3 inp s) (hq : ∀ n rest, atGet s → s.resQ = n :: rest → pend n = 0)
    (hs : mainStep inp s perm = some s') : MainOut inp ex fwd pend s s' := by
  have quiet : ∀ {t : Sys}, ¬ atGet s → t.events = s.events → (∀ x, stOf t x = stOf s x) → t.final = s.final →
      t.resQ = s.resQ → MainOut inp ex fwd pend s t :=
    fun hg e1 e2 e3 e4 => ⟨h.same e1 e2 e3, fun _ => ⟨e4, fun x hx => absurd (e2 x) hx⟩, fun a => absurd a hg⟩
  have notGet : ∀ {r : RPC}, s.rpc = r → r ≠ .pTop → ¬ atGet s := fun e ne a => ne (e.symm.trans a.1)
  have sel : ∀ {ret n nd d}, s.rpc = .gWait ret → s.susp = some (.node n) → s.nodes n = some nd →
      selDecision inp n nd = d → d ≠ .assertFail → ∀ rpc',
        MainOut inp ex fwd pend s { applySel inp s n nd d with rpc := rpc' } := by
    intro ret n nd d hr hsu hn hd hne rpc'
    subst hd
    obtain ⟨a, b, _⟩ := rep_select h h3 (Or.inr ⟨ret, hr⟩) hsu hn hne
    refine ⟨a.same rfl (stOf_congr rfl) rfl, fun _ => ⟨(applySel_keeps inp s n nd _).resQ, ?_⟩,
      fun a => absurd a (notGet hr nofun)⟩
    intro x hx
    by_cases e : x = n
    · rw [e]; exact b
    · exact absurd (show stOf (applySel inp s n nd _) x = _ by rw [stOf_applySel inp s n nd _ hne, if_neg e]) hx
  cases mainStep_spec hs with
  | entryStop hr _ | entry hr _ | holdOn hr _ | stopIter hr _ | cyclic hr _ | crash hr _ | lost hr _ _
  | assertFail hr _ _ _ | joined hr _ =>
    exact quiet (notGet hr nofun) rfl (stOf_congr rfl) rfl rfl
  | join hr hpc => exact quiet (fun a => a.2 hpc) rfl (stOf_congr rfl) rfl rfl
  | send hr hsd =>
    have o := (send_outer hsd).1
    exact quiet (notGet hr nofun) o.1
      (send_inv1 h2.inv1 (fun p hp => h2.sb p (by simp [sentBack, hr, hp])) hsd).2 o.2.2.2.2.2.2.1 o.2.2.2.1
  | tick hr _ hd =>
    exact quiet (notGet hr nofun) (dtick_outer hd).1 (dtick_stOf hd) (dtick_outer hd).2.2.2.2.2.2.1
      (dtick_outer hd).2.2.2.1
  | go hr hsu hn hd => exact sel hr hsu hn hd nofun _
  | select hr hsu hn hd _ hne => exact sel hr hsu hn hd hne _
  | ret hr =>
    obtain ⟨a, b, c, d⟩ := gReturn_same s _ _
    exact quiet (notGet hr nofun) a b c d
  | finish hr => exact ⟨rep_finishRun h, fun _ => ⟨rfl, fun x hx => absurd rfl hx⟩, fun a => absurd a (notGet hr nofun)⟩
  | resultLost hr hpc hrq hn =>
    -- the task at the head of the queue is still `run`, so its node exists
    have := (h3.q1 _ (by rw [hrq]; exact List.mem_cons_self)).2
    rw [stOf, hn] at this; cases this
  | @result n rest nd hr hpc hrq hn =>
    obtain ⟨q1a, q1b⟩ := h3.q1 n (by rw [hrq]; exact List.mem_cons_self)
    have hp0 := (h3.p0 n).2
    have := rep_result (s := { s with resQ := rest }) (h.same rfl (stOf_congr rfl) rfl) hn
      (by simpa [stOf, hn] using q1b) (h3.t n (by rw [q1b]; rfl)) (by show cFin s n ≥ 1; omega)
      (by show cStart s n ≥ 1; omega) (hq n rest ⟨hr, hpc⟩ hrq)
    refine ⟨this.same rfl (stOf_congr rfl) rfl, fun a => absurd ⟨hr, hpc⟩ a, fun _ m rest' e => ?_⟩
    rw [hrq] at e; cases e
    exact ⟨(processResult_keeps inp _ n nd).resQ,
      fun x hx => (stOf_processResult inp _ n nd x).trans (if_neg hx)⟩

theorem mainStep_inv19 {s s' : Sys} {perm : List Name} (h : Inv19 inp s) (h2 : Inv2 inp s) (h3 : Inv3 inp s)
    (hs : mainStep inp s perm = some s') : Inv19 inp s' :=
  inv19_iff.mpr (mainStep_rep (inv19_iff.mp h) h2 h3 (fun _ _ _ _ => rfl) hs).1

theorem takeStep_start {s s' : Sys} {w : Nat} (h3 : Inv3 inp s) (hs : takeStep inp s w = some s') :
    (s'.events = s.events ∧ (∀ x, stOf s' x = stOf s x) ∧ s'.final = s.final ∧ s'.resQ = s.resQ ∧
      ∃ js, s.jobQ = .hold :: js ∨ s.jobQ = .stop :: js) ∨
    ∃ n js, s.jobQ = .task n :: js ∧ stOf s n = .run ∧ cStart s n = 0 ∧ cTerm s n = 0 ∧ cFin s n = 0 ∧
      s'.events = (startTask inp s n w).events ∧ (∀ x, stOf s' x = stOf s x) ∧ s'.final = s.final ∧
      s'.resQ = s.resQ := by
  cases takeStep_spec hs with
  | @hold js _ hq => exact Or.inl ⟨rfl, stOf_congr rfl, rfl, rfl, js, Or.inl hq⟩
  | @stop js _ hq => exact Or.inl ⟨rfl, stOf_congr rfl, rfl, rfl, js, Or.inr hq⟩
  | @task n js _ hq =>
    have hmem : Job.task n ∈ s.jobQ := by rw [hq]; exact List.mem_cons_self
    have hrun : stOf s n = .run := h3.j2 n (Or.inl hmem)
    have hc : s.jobQ.count (.task n) ≥ 1 := count_task_pos.mp hmem
    have hj := h3.j n
    have hg := h3.p0 n
    exact Or.inr ⟨n, js, hq, hrun, by omega, h3.t n (by rw [hrun]; rfl), by omega, rfl, stOf_congr rfl, rfl, rfl⟩

theorem takeStep_inv19 {s s' : Sys} {w : Nat} (h : Inv19 inp s) (h3 : Inv3 inp s)
    (hs : takeStep inp s w = some s') : Inv19 inp s' := by
  rcases takeStep_start h3 hs with ⟨a, b, c, _⟩ | ⟨n, _, _, hrun, hstart, hterm, _, hev, hst, hf, _⟩
  · exact h.same a b c
  · exact inv19_iff.mpr
      (rep_startSelf (inv19_iff.mp h) hrun hstart hterm (hev.trans (startTask_events inp s n w)) hst hf)

theorem doneStep_rep {s s' : Sys} {w : Nat} (h : RepInv inp ex fwd pend s) (h3 : Inv3 inp s)
    (hs : doneStep s w = some s') : RepInv inp ex fwd pend s' := by
  cases doneStep_spec hs with
  | @done n hw =>
    obtain ⟨a1, a2, a3⟩ := h3.w1 w n hw
    exact rep_ended (n := n) (w := w) h a3 (by omega) rfl (stOf_congr rfl) rfl

theorem preach_inv19 {s : Sys} (h : PReach inp s) : Inv19 inp s := by
  induction h with
  | init => exact inv19_iff.mpr (init_repInv inp _ _)
  | @next s0 s1 c hr hs ih =>
    obtain ⟨h2, h3⟩ := preach_inv hr
    cases c with
    | main perm => exact mainStep_inv19 ih h2 h3 hs
    | take w => exact takeStep_inv19 ih h3 hs
    | done w => exact inv19_iff.mpr (doneStep_rep (inv19_iff.mp ih) h3 hs)

theorem serialStep_inv19 {s s' : Sys} {perm : List Name} (h : Inv19 inp s) (h2 : Inv2 inp s)
    (h3 : Inv3 inp s) (hs : serialStep inp s perm = some s') : Inv19 inp s' := by
  have hR := inv19_iff.mp h
  cases serialStep_spec hs with
  | stop _ _ | lost _ _ _ | assertFail _ _ _ _ | stopIter _ _ | cyclic _ _ | holdOn _ _ | crash _ _ | execLost _ _ =>
    exact h.same rfl (stOf_congr rfl) rfl
  | send hr _ hsd =>
    have o := (send_outer hsd).1
    exact h.same o.1 (send_inv1 h2.inv1 (fun p hp => h2.sb p (by simp [sentBack, hr, hp])) hsd).2 o.2.2.2.2.2.2.1
  | tick _ _ hd => exact h.same (dtick_outer hd).1 (dtick_stOf hd) (dtick_outer hd).2.2.2.2.2.2.1
  | @go n nd hr hsu hn hd =>
    obtain ⟨a, _, b⟩ := rep_select hR h3 (Or.inl hr) hsu hn (by rw [hd]; nofun)
    obtain ⟨f1, f2, f3⟩ := b hd
    rw [hd] at a
    exact inv19_iff.mpr (rep_startSelf (w := 0) a f1 f2 f3 (startTask_events inp _ n 0) (stOf_congr rfl) rfl)
  | select hr hsu hn hd _ hne =>
    subst hd
    exact inv19_iff.mpr ((rep_select hR h3 (Or.inl hr) hsu hn hne).1.same rfl (stOf_congr rfl) rfl)
  | @result n nd hr hn =>
    have hst : stOf s n = .run := h2.x n hr
    obtain ⟨x1, x2⟩ := h3.x3 n hr
    have hterm : cTerm s n = 0 := h3.t n (by rw [hst]; rfl)
    have hmid : RepInv inp (exOf inp) false (fun _ => 0) { s with events := Ev.fin n 0 :: s.events } :=
      rep_ended (n := n) (w := 0) hR hst (by omega) rfl (stOf_congr rfl) rfl
    have := rep_result hmid hn (by simpa [stOf, hn] using hst)
      (by simpa [cTerm, Ev.isTerminalOf] using hterm)
      (by simp [cFin, Ev.isFinOf])
      (by show cStart s n ≥ 1; omega) rfl
    exact inv19_iff.mpr (this.same rfl (stOf_congr rfl) rfl)
  | finish _ => exact inv19_iff.mpr (rep_finishRun hR)

theorem reach_inv19 {s : Sys} (h : Reach inp s) : Inv19 inp s := by
  induction h with
  | init => exact inv19_iff.mpr (init_repInv inp _ _)
  | @next s0 s1 c hr hs ih =>
    cases c with
    | main perm => exact serialStep_inv19 ih (reach_inv2 hr) (reach_inv3 hr) hs
    | take w => cases hs
    | done w => cases hs

end DoitModel.Report
