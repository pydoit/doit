import DoitModel.Proofs.SelClosure
import DoitModel.Proofs.C12Main
/-! # C12 — from the run model (M1) to the order clause of the selection model (M8) -/
namespace DoitModel.Sel
open DoitModel

theorem mem_take_of_prefix {A D : List Tok} (hp : A <+: D) {n : Nat} {x : Tok} (hx : x ∈ D.take n) (hA : x ∉ A) :
    ∀ m ∈ A, m ∈ D.take n := by
  obtain ⟨e, rfl⟩ := hp
  rcases Nat.lt_or_ge A.length n with h | h
  · intro m hm
    rw [List.take_append, List.take_of_length_le (Nat.le_of_lt h)]
    exact List.mem_append_left _ hm
  · rw [List.take_append_of_le_length h] at hx
    exact absurd (List.mem_of_mem_take hx) hA

theorem addNew_take_split (l S : List Tok) (n : Nat) (x : Tok) (hx : x ∈ (addNew S l).take n) (hS : x ∉ S) :
    ∃ l1 l2, l = l1 ++ x :: l2 ∧ ∀ y ∈ l1, y ∈ (addNew S l).take n := by
  have hl : x ∈ l := ((mem_addNew S l x).1 (List.mem_of_mem_take hx)).resolve_left hS
  obtain ⟨l1, l2, rfl, h1⟩ := List.eq_append_cons_of_mem hl
  refine ⟨l1, l2, rfl, fun y hy => ?_⟩
  -- the distinct names of `l1` are a front part of the whole list, and `x` is not among them
  have hn : x ∉ addNew S l1 := fun h => ((mem_addNew S l1 x).1 h).elim hS h1
  have hp : addNew S l1 <+: addNew S (l1 ++ x :: l2) := by
    rw [addNew_append]
    exact addNew_prefix _ _
  exact mem_take_of_prefix hp hx hn y ((mem_addNew S l1 y).2 (.inr hy))

theorem idxOf_cons (x : Tok) (M : List Tok) (c : Tok) : idxOf (x :: M) c = if x = c then 0 else idxOf M c + 1 := by
  unfold idxOf
  rw [List.findIdx_cons]
  by_cases h : x = c
  · rw [if_pos h, beq_iff_eq.2 h]; rfl
  · rw [if_neg h, beq_eq_false_iff_ne.2 h]; rfl

theorem split_of_idx_lt {nm : Run.Name → Tok} (L : List Run.Name) (a b : Tok) (ha : a ∈ L.map nm)
    (hlt : idxOf (L.map nm) b < idxOf (L.map nm) a) :
    ∃ before a' after b', L = before ++ a' :: after ∧ nm a' = a ∧ b' ∈ before ∧ nm b' = b := by
  induction L with
  | nil => cases ha
  | cons x L ih =>
    rw [List.map_cons, idxOf_cons, idxOf_cons] at hlt
    by_cases hxa : nm x = a
    · rw [if_pos hxa] at hlt; cases hlt
    rw [if_neg hxa] at hlt
    have ha' : a ∈ L.map nm := (List.mem_cons.1 ha).resolve_left (Ne.symm hxa)
    by_cases hxb : nm x = b
    · obtain ⟨a', hm, ea⟩ := List.mem_map.1 ha'
      obtain ⟨l1, l2, rfl⟩ := List.append_of_mem hm
      exact ⟨x :: l1, a', l2, x, rfl, ea, List.mem_cons_self .., hxb⟩
    · rw [if_neg hxb] at hlt
      obtain ⟨before, a', after, b', rfl, ea, hb', eb⟩ := ih ha' (Nat.lt_of_succ_lt_succ hlt)
      exact ⟨x :: before, a', after, b', rfl, ea, List.mem_cons_of_mem _ hb', eb⟩

/-- `inp` is a serial run of the (prepared) task table `ts` with selection `sel`; `nm` gives the names of the run
    model's tasks.  Every edge the dispatcher can follow is an edge of the static graph `succs`: task_dep, calc_dep,
    the setup-tasks of a task that may run (`Run.MayRun`: not ignored and not up-to-date — for a task declared
    up-to-date, `Task.utd`, `succs` has no setup edge), and whatever a calc_dep task delivers. -/
structure Represents (ts : List Task) (sel : List Tok) (nm : Run.Name → Tok) (inp : Run.RunInput) : Prop where
  serial : inp.runner = .serial
  inj : ∀ a b, nm a = nm b → a = b
  sel : inp.sel.map nm = sel
  taskE : ∀ n d, d ∈ inp.taskDep n → nm d ∈ succs ts (nm n)
  calcE : ∀ n d, d ∈ inp.calcDep n → nm d ∈ succs ts (nm n)
  setupE : ∀ n d, Run.MayRun inp n → d ∈ inp.setup n → nm d ∈ succs ts (nm n)
  resE : ∀ c d, (d ∈ (inp.calcRes c).tasks ∨ d ∈ (inp.calcRes c).files ∨ d ∈ (inp.calcRes c).calcs) →
    nm d ∈ succs ts (nm c)
  resFE : ∀ c d, (d ∈ (inp.calcResFail c).tasks ∨ d ∈ (inp.calcResFail c).files ∨ d ∈ (inp.calcResFail c).calcs) →
    nm d ∈ succs ts (nm c)         -- also what a calc task returned before its execution failed (M1 `deliverF`)

theorem reach_mono (ts : List Task) (A B : List Tok) (h : ∀ x ∈ A, x ∈ B) (m : Tok) (hm : Reach ts A m) :
    Reach ts B m := by
  induction hm with
  | base n hn => exact .base n (h n hn)
  | step n m _ hm ih => exact .step n m ih hm

theorem cl_reach {ts : List Task} {sel : List Tok} {nm : Run.Name → Tok} {inp : Run.RunInput}
    (h : Represents ts sel nm inp) (pre : List Run.Name) (b : Run.Name) (hb : Run.Cl (Run.cutSel inp pre) b) :
    Reach ts (pre.map nm) (nm b) := by
  induction hb with
  | ofSel ht => exact .base _ (List.mem_map.mpr ⟨_, ht, rfl⟩)
  | ofTask _ hd ih => exact .step _ _ ih (h.taskE _ _ hd)
  | ofCalc _ hd ih => exact .step _ _ ih (h.calcE _ _ hd)
  | ofSetup _ hm hd ih => exact .step _ _ ih (h.setupE _ _ hm hd)
  | ofRes _ hd ih => exact .step _ _ ih (h.resE _ _ hd)
  | ofResFail _ hd ih => exact .step _ _ ih (h.resFE _ _ hd)

theorem order_reach {ts : List Task} {sel : List Tok} {nm : Run.Name → Tok} {inp : Run.RunInput} {s : Run.Sys}
    (h : Represents ts sel nm inp) (hr : Run.Reach inp s) (k : Nat) (a b : Tok)
    (ha : a ∈ (addNew [] sel).take k) (has : a ∈ (Run.startOrder s).map nm)
    (hlt : idxOf ((Run.startOrder s).map nm) b < idxOf ((Run.startOrder s).map nm) a) :
    Reach ts ((addNew [] sel).take k) b := by
  obtain ⟨before, a', after, b', hso, ea, hb', eb⟩ := split_of_idx_lt _ a b has hlt
  obtain ⟨l1, l2, esel, hl1⟩ := addNew_take_split sel [] k a ha (by simp)
  -- pull the split of `sel` back to the run model's selection
  have e1 := h.sel
  rw [esel, List.map_eq_append_iff] at e1
  obtain ⟨p1, p2', e2, e3, e4⟩ := e1
  rw [List.map_eq_cons_iff] at e4
  obtain ⟨a'', p2, e5, e6, _⟩ := e4
  have : a'' = a' := h.inj _ _ (by rw [e6, ea])
  subst this
  have hsel : inp.sel = (p1 ++ [a'']) ++ p2 := by rw [e2, e5]; simp
  have hcl := Run.serial_start_order h.serial hsel hr before a'' after hso (by simp) b' hb'
  have := cl_reach h (p1 ++ [a'']) b' hcl
  rw [eb] at this
  refine reach_mono ts _ _ ?_ b this
  intro x hx
  simp only [List.map_append, List.map_cons, List.map_nil, List.mem_append, List.mem_singleton] at hx
  rcases hx with hx | hx
  · rw [e3] at hx; exact hl1 x hx
  · rw [hx, e6]; exact ha

end DoitModel.Sel
