import DoitModel.Proofs.Load
/-! `TaskControl.__init__` (model `control`): what an accepted task list satisfies -/
namespace DoitModel.Load

/-- `t'` is `t` with dependencies appended to `task_dep` (wild-card expansion, implicit deps) -/
def Extends (t t' : Task) : Prop := ∃ extra, t' = { t with taskDep := t.taskDep ++ extra }

theorem extends_expandWild (names : List Name) (t : Task) : Extends t (expandWild names t) := ⟨_, rfl⟩

theorem extends_addImplicit (ts : List Task) (t : Task) : Extends t (addImplicit ts t) := ⟨_, rfl⟩

theorem Extends.trans {a b c : Task} (h1 : Extends a b) (h2 : Extends b c) : Extends a c := by
  obtain ⟨e1, rfl⟩ := h1
  obtain ⟨e2, rfl⟩ := h2
  exact ⟨e1 ++ e2, by simp only [List.append_assoc]⟩

theorem Extends.name {t t' : Task} (h : Extends t t') : t'.name = t.name := by
  obtain ⟨_, rfl⟩ := h; rfl

theorem Extends.subtaskOf {t t' : Task} (h : Extends t t') : t'.subtaskOf = t.subtaskOf := by
  obtain ⟨_, rfl⟩ := h; rfl

theorem owner_mem (ts : List Task) (f o : Name) (h : owner ts f = some o) : o ∈ ts.map (·.name) := by
  induction ts with
  | nil => cases h
  | cons t rest ih =>
    rw [owner] at h
    by_cases ht : t.targets.contains f = true
    · rw [if_pos ht] at h; cases h; exact List.mem_cons_self
    · rw [if_neg ht] at h; exact List.mem_cons_of_mem _ (ih h)

theorem implicitDeps_mem (ts : List Task) (fs deps : List Name) :
    ∀ o ∈ implicitDeps ts deps fs, o ∈ ts.map (·.name) := by
  induction fs generalizing deps with
  | nil => simp [implicitDeps]
  | cons f rest ih =>
    intro o ho
    unfold implicitDeps at ho
    cases hown : owner ts f with
    | none => simp only [hown] at ho; exact ih _ o ho
    | some w =>
      simp only [hown] at ho
      by_cases hc : deps.contains w = true
      · simp only [hc, if_true] at ho; exact ih _ o ho
      · simp only [hc] at ho
        rcases List.mem_cons.mp ho with h | h
        · subst h; exact owner_mem ts f _ hown
        · exact ih _ o h

theorem map_extends_names (ts : List Task) (f : Task → Task) (hf : ∀ t, Extends t (f t)) :
    (ts.map f).map (·.name) = ts.map (·.name) := by
  induction ts with
  | nil => rfl
  | cons t rest ih => simp [(hf t).name, ih]

theorem map_extends_targets (ts : List Task) (f : Task → Task) (hf : ∀ t, Extends t (f t)) :
    (ts.map f).flatMap (·.targets) = ts.flatMap (·.targets) := by
  induction ts with
  | nil => rfl
  | cons t rest ih => obtain ⟨_, he⟩ := hf t; simp [he, ih]

theorem depsExist_iff (names : List Name) (t : Task) : depsExist names t = true ↔
    ∀ n, n ∈ t.taskDep ∨ n ∈ t.setupTasks ∨ n ∈ t.calcDep → n ∈ names := by
  simp only [depsExist, Bool.and_eq_true, List.all_eq_true, List.contains_iff_mem]
  constructor
  · rintro ⟨⟨h1, h2⟩, h3⟩ n (h | h | h)
    · exact h1 n h
    · exact h2 n h
    · exact h3 n h
  · intro h
    exact ⟨⟨fun n hn => h n (Or.inl hn), fun n hn => h n (Or.inr (Or.inl hn))⟩, fun n hn => h n (Or.inr (Or.inr hn))⟩

theorem control_checked (ts : List Task) : Checked (control ts) (fun ts' =>
    ∃ f : Task → Task, (∀ t, Extends t (f t)) ∧ ts' = ts.map f ∧ (ts.map (·.name)).Nodup ∧
      (ts.flatMap (·.targets)).Nodup ∧
      ∀ t ∈ ts, ∀ n, n ∈ (f t).taskDep ∨ n ∈ (f t).setupTasks ∨ n ∈ (f t).calcDep → n ∈ ts.map (·.name)) := by
  unfold control
  dsimp only
  -- the names and the expanded list are variables from here on: the checks are about them, not about how they arise
  generalize hnm : ts.map (·.name) = names
  generalize hts1 : ts.map (expandWild names) = ts1
  refine Checked.guard trivial fun h1 => Checked.guard trivial fun h2 => Checked.guard trivial fun h3 => ?_
  rw [Bool.not_eq_true', Bool.not_eq_false] at h1 h2 h3
  have hx := fun t => extends_expandWild names t
  subst hts1
  rw [map_extends_targets ts (expandWild names) hx] at h3
  refine ⟨addImplicit (ts.map (expandWild names)) ∘ expandWild names,
    fun t => (hx t).trans (extends_addImplicit _ _), List.map_map, (nodupB_iff names).mp h1, (nodupB_iff _).mp h3, ?_⟩
  intro t ht n hn
  have hd := (depsExist_iff names (expandWild names t)).mp (List.all_eq_true.mp h2 _ (List.mem_map_of_mem ht)) n
  rcases hn with hn | hn
  · rcases List.mem_append.mp hn with hn | hn
    · exact hd (Or.inl hn)
    · rw [← hnm, ← map_extends_names ts (expandWild names) hx]
      exact implicitDeps_mem _ _ _ n hn
  · exact hd (Or.inr hn)

end DoitModel.Load
