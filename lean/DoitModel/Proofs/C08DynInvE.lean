import DoitModel.Proofs.C08DynLists
import DoitModel.Proofs.C08Inv
import DoitModel.Proofs.RunDeliver
/-! # C08 (I10) with calc_dep: the state invariant `InvE` (statuses, `go` marks and reports agree with `DenOf`)

The two status-changing operations given their denotational justification, then the justification: at the select point the
dynamic dependency lists of the node ARE the dependency set of the denotation (`sel_deps`), and the decision of
`select_task` is the one the denotation makes (`invE_select`). -/
namespace DoitModel.Run.Dyn

/-- the first pass of `select_task(n)` said `run`, justified by derived outcomes of all its dependencies -/
def R1 (inp : RunInput) (n : Name) : Prop :=
  ∃ (dd : Name → Den) (L : List Name), (∀ x, x ∈ L ↔ DepOf inp dd n x) ∧ (∀ d ∈ L, DenOf inp d (dd d)) ∧
    stage1L inp dd L n = .run

/-- `select_task(n)` answered `True`: both passes are through, the outcome of `n` is what its actions do -/
def GoOK (inp : RunInput) (n : Name) : Prop :=
  ∃ (dd : Name → Den) (L : List Name), (∀ x, x ∈ L ↔ DepOf inp dd n x) ∧ (∀ d ∈ L, DenOf inp d (dd d)) ∧
    stage1L inp dd L n = .run ∧ (∀ d ∈ inp.setup n, DenOf inp d (dd d)) ∧ stage2 inp dd n = resDen (inp.outcome n) ∧
    inp.argsOk n = true

theorem selDecision_go_args {inp : RunInput} {n : Name} {nd : Node} (h : selDecision inp n nd = .go) :
    inp.argsOk n = true := by
  cases selDecision_spec.of_eq h with
  | go1 _ _ _ _ _ _ _ a | go2 _ _ _ _ a => exact a

theorem selDecision_argsErr {inp : RunInput} {n : Name} {nd : Node} (h : selDecision inp n nd = .argsErr) :
    inp.argsOk n = false := by
  cases selDecision_spec.of_eq h with
  | argsErr1 _ _ _ _ _ _ _ a | argsErr2 _ _ _ _ a => exact a

theorem selDecision_depErr {inp : RunInput} {n : Name} {nd : Node} (h : selDecision inp n nd = .depErr) :
    inp.statusOf n = .error := by
  cases selDecision_spec.of_eq h with
  | depErr _ _ _ _ a => exact a

theorem GoOK.args {inp : RunInput} {n : Name} (h : GoOK inp n) : inp.argsOk n = true ∧ inp.statusOf n ≠ .error := by
  obtain ⟨dd, L, _, _, h1, _, _, ha⟩ := h
  cases stage1L_spec.of_eq h1 with
  | run _ _ c _ => exact ⟨ha, c⟩

theorem GoOK.den {inp : RunInput} {n : Name} (h : GoOK inp n) : DenOf inp n (resDen (inp.outcome n)) := by
  obtain ⟨dd, L, hL, hT, h1, hS, h2, _⟩ := h
  have := DenOf.mk n dd L hL hT (fun _ => hS)
  have e : combineL inp dd L n = resDen (inp.outcome n) := by simp only [combineL, h1]; exact h2
  rwa [e] at this

structure InvE (inp : RunInput) (s : Sys) : Prop where
  fin : ∀ n, (stOf s n).finished = true → ∃ d, DenOf inp n d ∧ d.rs = stOf s n
  run1 : ∀ n, stOf s n = .run → R1 inp n
  go : ∀ n deps, Ev.go n deps ∈ s.events → GoOK inp n
  rep : ∀ e ∈ s.events, ∀ t d, Ev.den? t e = some d → DenOf inp t d

theorem InvE.frame {inp : RunInput} {s s' : Sys} (h : InvE inp s) (hst : ∀ x, stOf s' x = stOf s x)
    (new : List Ev) (hev : s'.events = new ++ s.events) (hp : ∀ e ∈ new, Ev.plainD e) : InvE inp s' := by
  constructor
  · intro n hn; rw [hst] at hn ⊢; exact h.fin n hn
  · intro n hn; rw [hst] at hn; exact h.run1 n hn
  · intro n deps hm; rw [hev] at hm
    rcases List.mem_append.mp hm with a | a
    · exact absurd rfl ((hp _ a).2 n deps)
    · exact h.go n deps a
  · intro e he t d hd; rw [hev] at he
    rcases List.mem_append.mp he with a | a
    · rw [(hp e a).1 t] at hd; cases hd
    · exact h.rep e a t d hd

theorem InvE.congr {inp : RunInput} {s s' : Sys} (h : InvE inp s) (e1 : s'.nodes = s.nodes)
    (e2 : s'.events = s.events) : InvE inp s' :=
  h.frame (stOf_congr e1) [] (by simpa using e2) (by simp)

theorem init_invE (inp : RunInput) : InvE inp (init inp) := by
  constructor
  · intro n hn; simp [stOf, init, RS.finished] at hn
  · intro n hn; simp [stOf, init] at hn
  · intro n deps hm; simp [init] at hm
  · intro e he; simp [init] at he

theorem invE_applySel {inp : RunInput} {s : Sys} {n : Name} {nd : Node} (dec : Sel) (h : InvE inp s)
    (hdec : dec ≠ .assertFail)
    (ha : ∀ d, selDen dec = some d → DenOf inp n d)
    (hb : dec = .runFirst ∨ dec = .go → R1 inp n)
    (hc : dec = .go → GoOK inp n) : InvE inp (applySel inp s n nd dec) := by
  have hst := stOf_applySel inp s n nd dec hdec
  have hev := applySel_events inp s n nd dec
  constructor
  · intro x hx
    rw [hst] at hx ⊢
    by_cases e : x = n
    · rw [if_pos e] at hx ⊢
      obtain ⟨d, hd, hrs⟩ := selStatus_fin hx
      exact ⟨d, e ▸ ha d hd, hrs⟩
    · rw [if_neg e] at hx ⊢; exact h.fin x hx
  · intro x hx
    rw [hst] at hx
    by_cases e : x = n
    · rw [if_pos e] at hx; exact e ▸ hb (selStatus_run hx)
    · rw [if_neg e] at hx; exact h.run1 x hx
  · intro m deps hm
    rw [hev] at hm
    rcases List.mem_append.mp hm with a | a
    · obtain ⟨rfl, rfl⟩ := go_mem_selEvents a; exact hc rfl
    · exact h.go m deps a
  · intro e he t d hd
    rw [hev] at he
    rcases List.mem_append.mp he with a | a
    · obtain ⟨rfl, k⟩ := den?_selEvents a hd; exact ha d k
    · exact h.rep e a t d hd

theorem invE_result {inp : RunInput} {s : Sys} {n : Name} {nd : Node} (h : InvE inp s)
    (hgo : ∃ deps, Ev.go n deps ∈ s.events) : InvE inp (processResult inp s n nd) := by
  obtain ⟨deps, hg⟩ := hgo
  have hden := (h.go n deps hg).den
  have hst := stOf_processResult inp s n nd
  have hev := processResult_events inp s n nd
  constructor
  · intro x hx
    rw [hst] at hx ⊢
    by_cases e : x = n
    · rw [if_pos e]; exact ⟨_, e ▸ hden, resDen_rs _⟩
    · rw [if_neg e] at hx ⊢; exact h.fin x hx
  · intro x hx
    rw [hst] at hx
    by_cases e : x = n
    · rw [if_pos e] at hx; cases ho : inp.outcome n <;> rw [ho] at hx <;> cases hx
    · rw [if_neg e] at hx; exact h.run1 x hx
  · intro m d hm
    rw [hev] at hm
    rcases List.mem_append.mp hm with a | a
    · cases ho : inp.outcome n <;> rw [ho] at a <;> cases List.mem_singleton.mp a
    · exact h.go m d a
  · intro e he t d hd
    rw [hev] at he
    rcases List.mem_append.mp he with a | a
    · obtain ⟨rfl, rfl⟩ := den?_resEvents a hd; exact hden
    · exact h.rep e a t d hd

/-- the derived outcome of every task that is finished in `s` (any value elsewhere) -/
noncomputable def ddOf (inp : RunInput) (s : Sys) (d : Name) : Den :=
  open Classical in if h : ∃ x, DenOf inp d x ∧ x.rs = stOf s d then Classical.choose h else .bot

theorem ddOf_spec {inp : RunInput} {s : Sys} {d : Name} (h : InvE inp s) (hf : (stOf s d).finished = true) :
    DenOf inp d (ddOf inp s d) ∧ (ddOf inp s d).rs = stOf s d := by
  have hx := h.fin d hf
  unfold ddOf; rw [dif_pos hx]; exact Classical.choose_spec hx

theorem inLoop_false {pc : PC} (h : pc.inLoop = false) : pc.iterT = false ∧ pc.iterC = false := by
  cases pc <;> simp [PC.inLoop, PC.iterT, PC.iterC] at h ⊢

theorem processed_outside {inp : RunInput} {s : Sys} {n : Name} {nd : Node} (hok : NodeOK inp s n nd)
    (hl : nd.pc.inLoop = false) (c : Name) : Processed nd c :=
  ⟨by rw [(hok.m1 hl).2.1]; nofun, (fun e => by rw [(inLoop_false hl).2] at e; cases e.1),
   by rw [(hok.m1 hl).2.2]; nofun⟩

/-- a failed task whose denotation is a failure during execution delivers `calcResFail` under `ddOf` -/
theorem delivOf_ddOf_fail {inp : RunInput} {s : Sys} {c : Name} (hD : InvE inp s) (hf : stOf s c = .fail)
    (hsf : SF inp c) : delivOf inp c (ddOf inp s c) = inp.calcResFail c := by
  obtain ⟨d, hd, hs⟩ := hsf
  have sp := ddOf_spec hD (d := c) (by rw [hf]; rfl)
  have e : d = ddOf inp s c := hd.functional sp.1
  subst e
  exact delivOf_startedFail hs

theorem CalcS.toOf {inp : RunInput} {s : Sys} {n c : Name} (hD : InvE inp s) (h : CalcS inp s n c) :
    CalcOf inp (ddOf inp s) n c := by
  induction h with
  | static hc => exact CalcOf.static hc
  | deliv _ hg hm ih =>
    exact CalcOf.deliv ih (by rw [delivOf_good (by rw [(ddOf_spec hD (RS.good_finished hg)).2]; exact hg)]; exact hm)
  | delivF _ hf hsf hm ih =>
    exact CalcOf.deliv ih (by rw [delivOf_ddOf_fail hD hf hsf]; exact hm)

theorem TaskS.toOf {inp : RunInput} {s : Sys} {n x : Name} (hD : InvE inp s) (h : TaskS inp s n x) :
    DepOf inp (ddOf inp s) n x := by
  rcases h with a | ⟨c, hc, hg, hm⟩ | ⟨c, hc, hf, hsf, hm⟩
  · exact Or.inl a
  · exact Or.inr (Or.inr ⟨c, hc.toOf hD,
      by rw [delivOf_good (by rw [(ddOf_spec hD (RS.good_finished hg)).2]; exact hg)]; exact hm⟩)
  · exact Or.inr (Or.inr ⟨c, hc.toOf hD, by rw [delivOf_ddOf_fail hD hf hsf]; exact hm⟩)

/-- `DCnF` read at a node outside the dependency loop: of all its finished calc_deps, with "failed during execution"
    taken from the derived outcome `ddOf` instead of a predicate `P` (`DelivF.ofDCF`) -/
def DelivF (inp : RunInput) (s : Sys) (nd : Node) : Prop :=
  ∀ c ∈ nd.dynCalc, (stOf s c).finished = true → (stOf s c).good = false → startedFail inp c (ddOf inp s c) = true →
    nd.Has (inp.calcResFail c)

theorem DelivF.ofDCF {inp : RunInput} {s : Sys} {n : Name} {nd : Node} (hD : InvE inp s) (h1 : Inv1 inp s)
    (hdcf : AllDCF inp (SF inp) s) (hn : s.nodes n = some nd) (hl : nd.pc.inLoop = false) : DelivF inp s nd := by
  intro c hc hfin hg hsf
  have hpr := processed_outside (h1.node n nd hn) hl c
  have hf : stOf s c = .fail := by
    rw [← (ddOf_spec hD hfin).2]
    cases hdd : ddOf inp s c <;> rw [hdd] at hsf <;> first | rfl | (simp [startedFail] at hsf)
  exact hdcf n nd hn c hc hpr hf ⟨_, (ddOf_spec hD hfin).1, hsf⟩

/-- a node outside the dependency loop that waits for nothing (the two select points, `done`) -/
structure SelDeps (inp : RunInput) (s : Sys) (n : Name) (nd : Node) : Prop where
  cls : ∀ d ∈ nd.dynTask ++ nd.dynCalc, Cls s nd d
  hL : ∀ x, x ∈ nd.dynTask ++ nd.dynCalc ↔ DepOf inp (ddOf inp s) n x
  hT : ∀ d ∈ nd.dynTask ++ nd.dynCalc, DenOf inp d (ddOf inp s d)
  rs : ∀ d ∈ nd.dynTask ++ nd.dynCalc, (ddOf inp s d).rs = stOf s d
  has : ∀ c ∈ nd.dynCalc, nd.Has (delivOf inp c (ddOf inp s c))

/-- the crux: at such a node `dynTask ++ dynCalc` is exactly `DepOf` under `ddOf`.  `⊆`: soundness of the lists (`NodeS`: every
    entry is static or was delivered by a calc_dep with the right status, `CalcS.toOf` / `TaskS.toOf`).  `⊇`: completeness
    (`AllDC` for good calc_deps, `DelivF` for failed ones, packed as `has`), by induction over `CalcOf` (`calcIn`): a static
    calc_dep is in `dynCalc` from the start, and what a member of `dynCalc` delivers is there by `has`. -/
theorem sel_deps {inp : RunInput} {s : Sys} {n : Name} {nd : Node} (hD : InvE inp s) (hN : InvN inp s)
    (h1 : Inv1 inp s) (hdc : AllDC inp s) (hn : s.nodes n = some nd) (hl : nd.pc.inLoop = false)
    (hq : nd.pc.quiet = true) (hdf : DelivF inp s nd) : SelDeps inp s n nd := by
  have hok := h1.node n nd hn
  have hS := hN n nd hn
  have hm1 := hok.m1 hl
  have hm2 := hok.m2 hq
  obtain ⟨noT, noC⟩ := inLoop_false hl
  have cls : ∀ d ∈ nd.dynTask ++ nd.dynCalc, Cls s nd d := by
    intro d hd
    rcases List.mem_append.mp hd with hd' | hd'
    · rcases hok.kt d hd' with a | ⟨a, _⟩ | a | a
      · rw [hm1.1] at a; cases a
      · rw [noT] at a; cases a
      · rw [hm2] at a; cases a
      · exact a
    · rcases hok.kc d hd' with a | ⟨a, _⟩ | a | a
      · rw [hm1.2.1] at a; cases a
      · rw [noC] at a; cases a
      · rw [hm1.2.2] at a; cases a
      · exact a
  have rs : ∀ d ∈ nd.dynTask ++ nd.dynCalc, (ddOf inp s d).rs = stOf s d := fun d hd => (ddOf_spec hD (cls d hd).1).2
  have deliv : ∀ c ∈ nd.dynCalc, (stOf s c).good = true → Delivered inp nd c :=
    fun c hc hg => hdc n nd hn c hc (processed_outside hok hl c) hg
  have has : ∀ c ∈ nd.dynCalc, nd.Has (delivOf inp c (ddOf inp s c)) := by
    intro c hc
    have hcm : c ∈ nd.dynTask ++ nd.dynCalc := List.mem_append_right _ hc
    rcases delivOf_cases inp c (ddOf inp s c) with ⟨hg, e⟩ | ⟨hg, hsf, e⟩ | e <;> rw [e]
    · exact deliv c hc (rs c hcm ▸ hg)
    · exact hdf c hc (cls c hcm).1 (rs c hcm ▸ hg) hsf
    · exact ⟨nofun, nofun, nofun⟩
  have calcIn : ∀ c, CalcOf inp (ddOf inp s) n c → c ∈ nd.dynCalc := by
    intro c hc
    induction hc with
    | static hc => exact hok.st.2 _ hc
    | deliv _ hm ih => exact (has _ ih).2.2 _ hm
  refine ⟨cls, ?_, fun d hd => (ddOf_spec hD (cls d hd).1).1, rs, has⟩
  intro x
  constructor
  · intro hx
    rcases List.mem_append.mp hx with a | a
    · exact (hS.1.dynT x a).toOf hD
    · exact DepOf.ofCalc ((hS.1.dynC x a).toOf hD)
  · rintro (a | a | ⟨c, hc, hm⟩)
    · exact List.mem_append_left _ (hok.st.1 x a)
    · exact List.mem_append_right _ (calcIn x a)
    · obtain ⟨d1, d2, _⟩ := has c (calcIn c hc)
      exact List.mem_append_left _ (hm.elim (d1 x) (d2 x))

/-- first pass of `select_task(n)`: the answer, next to what the denotation's first stage says -/
inductive FirstPass (inp : RunInput) (n : Name) : Sel → Stage1 → Prop
  | skipIgn : FirstPass inp n .skipIgn .ign
  | unmet : FirstPass inp n .unmet .unmet
  | depErr : FirstPass inp n .depErr .depErr
  | utd : FirstPass inp n .utd .utd
  | runFirst : inp.setup n ≠ [] → FirstPass inp n .runFirst .run
  | go : inp.setup n = [] → inp.argsOk n = true → FirstPass inp n .go .run
  | argsErr : inp.setup n = [] → inp.argsOk n = false → FirstPass inp n .argsErr .run

/-- an answer that ends the task is the combined outcome; if the first stage said `run` there are no setup-tasks -/
theorem FirstPass.den {inp : RunInput} {n : Name} {dec : Sel} {dd : Name → Den} {L : List Name} {d : Den}
    (fp : FirstPass inp n dec (stage1L inp dd L n)) (hsd : selDen dec = some d) :
    combineL inp dd L n = d ∧ (stage1L inp dd L n = .run → inp.setup n = []) := by
  unfold combineL
  generalize stage1L inp dd L n = r at fp
  cases fp with
  | skipIgn | unmet | depErr | utd => cases hsd; exact ⟨rfl, nofun⟩
  | runFirst | go => cases hsd
  | argsErr st ar =>
    cases hsd
    refine ⟨?_, fun _ => st⟩
    show stage2 inp dd n = .fail .depErr
    unfold stage2
    rw [st, ar]; rfl

theorem FirstPass.run {inp : RunInput} {n : Name} {dec : Sel} {r : Stage1} (fp : FirstPass inp n dec r)
    (h : dec = .runFirst ∨ dec = .go) : r = .run := by
  cases fp <;> first | rfl | (rcases h with h | h <;> cases h)

theorem FirstPass.go_inv {inp : RunInput} {n : Name} {r : Stage1} (fp : FirstPass inp n .go r) :
    r = .run ∧ inp.setup n = [] ∧ inp.argsOk n = true := by
  cases fp with
  | go st ar => exact ⟨rfl, st, ar⟩

theorem sel1_stage1L {inp : RunInput} {n : Name} {nd : Node} {dd : Name → Den} {L : List Name} (h0 : nd.status = .none)
    (hI : L.any (fun d => (dd d).isIgn) = true ↔ nd.ign ≠ [])
    (hB : L.any (fun d => (dd d).isFail) = true ↔ nd.bad ≠ []) :
    FirstPass inp n (selDecision inp n nd) (stage1L inp dd L n) := by
  -- the two cascades test the same things in the same order, `hI` / `hB` translating the first two tests
  have c1 (i : nd.ign = []) (g : inp.ignored n = false) :
      ¬ (L.any (fun d => (dd d).isIgn) = true ∨ inp.ignored n = true) := by
    rw [hI, i, g]; exact fun x => x.elim (fun y => y rfl) Bool.noConfusion
  have c2 (b : nd.bad = []) : ¬ L.any (fun d => (dd d).isFail) = true := by rw [hB, b]; exact fun y => y rfl
  generalize hd : selDecision inp n nd = a
  unfold stage1L
  cases selDecision_spec.of_eq hd with
  | ign1 _ c => rw [if_pos (c.imp_left hI.mpr)]; exact .skipIgn
  | unmet1 _ i g b => rw [if_neg (c1 i g), if_pos (hB.mpr b)]; exact .unmet
  | depErr _ i g b e => rw [if_neg (c1 i g), if_neg (c2 b), if_pos e]; exact .depErr
  | utd _ i g b e u => rw [if_neg (c1 i g), if_neg (c2 b), if_neg e, if_pos u]; exact .utd
  | runFirst _ i g b e u st => rw [if_neg (c1 i g), if_neg (c2 b), if_neg e, if_neg u]; exact .runFirst st
  | go1 _ i g b e u st ar => rw [if_neg (c1 i g), if_neg (c2 b), if_neg e, if_neg u]; exact .go st ar
  | argsErr1 _ i g b e u st ar => rw [if_neg (c1 i g), if_neg (c2 b), if_neg e, if_neg u]; exact .argsErr st ar
  | assertFail a => exact absurd h0 a
  | ign2 a | unmet2 a | go2 a | argsErr2 a => rw [h0] at a; cases a

theorem first_pass_key {inp : RunInput} {s : Sys} {n : Name} {nd : Node} (hN : InvN inp s)
    (hn : s.nodes n = some nd) (sd : SelDeps inp s n nd) (hpc1 : nd.pc = .afterSelf1) (h0 : nd.status = .none) :
    FirstPass inp n (selDecision inp n nd) (stage1L inp (ddOf inp s) (nd.dynTask ++ nd.dynCalc) n) := by
  have hS := hN n nd hn
  have srcT : ∀ p, Src inp n nd.pc.late nd p → p ∈ nd.dynTask ++ nd.dynCalc := by
    intro p hp
    rcases hp with a | a | ⟨a, _⟩
    · exact List.mem_append.mpr (Or.inl a)
    · exact List.mem_append.mpr (Or.inr a)
    · rw [hpc1] at a; cases a
  have hI := any_iff_ne_nil (ddOf inp s) (stOf s) (nd.dynTask ++ nd.dynCalc) nd.ign .ign Den.isIgn Den.isIgn_iff
    (fun d hd' => ⟨sd.rs d hd', (sd.cls d hd').2.2⟩) (fun p hp => ⟨(hS.1.ign p hp).1, srcT p (hS.1.ign p hp).2⟩)
  have hB := any_iff_ne_nil (ddOf inp s) (stOf s) (nd.dynTask ++ nd.dynCalc) nd.bad .fail Den.isFail Den.isFail_iff
    (fun d hd' => ⟨sd.rs d hd', (sd.cls d hd').2.1⟩) (fun p hp => ⟨(hS.1.bad p hp).1, srcT p (hS.1.bad p hp).2⟩)
  exact sel1_stage1L (dd := ddOf inp s) h0 hI hB

theorem r1_now {inp : RunInput} {s : Sys} {n : Name} {nd : Node} (sd : SelDeps inp s n nd) (r : R1 inp n) :
    stage1L inp (ddOf inp s) (nd.dynTask ++ nd.dynCalc) n = .run := by
  obtain ⟨dd0, L0, hL0, hT0, h10⟩ := r
  obtain ⟨sub, eT⟩ := dep_agree sd.hL hL0 hT0 (fun d hd b hb => (sd.hT d hd).functional hb)
  rw [← h10]; exact stage1L_congr sub eT

/-- `select_task(n)` on the node the generator yielded: the new status / report / `go` mark is the denotation's -/
theorem invE_select {inp : RunInput} {s : Sys} {n : Name} {nd : Node} (hD : InvE inp s) (hN : InvN inp s)
    (h2 : Inv2 inp s) (hdc : AllDC inp s) (haw : awaiting s) (hsusp : s.susp = some (.node n))
    (hn : s.nodes n = some nd) (hdf : DelivF inp s nd)
    (hd : selDecision inp n nd ≠ .assertFail) : InvE inp (applySel inp s n nd (selDecision inp n nd)) := by
  have hok := h2.inv1.node n nd hn
  have hS := hN n nd hn
  obtain ⟨nd', hn', hpc⟩ := h2.inv1.sp n hsusp
  rw [hn] at hn'; cases hn'
  have hm2 : nd.waitRun = [] := by
    rcases hpc with e | e <;> exact hok.m2 (by rw [e]; rfl)
  have sd : SelDeps inp s n nd := by
    rcases hpc with e | e <;> exact sel_deps hD hN h2.inv1 hdc hn (by rw [e]; rfl) (by rw [e]; rfl) hdf
  by_cases h0 : nd.status = .none
  · have hpc1 : nd.pc = .afterSelf1 := by
      rcases hpc with e | e
      · exact e
      · exact absurd h0 (hS.2 (by rw [e]; rfl))
    have fp := first_pass_key hN hn sd hpc1 h0
    apply invE_applySel _ hD hd
    · intro d hsd
      obtain ⟨e, nil⟩ := fp.den hsd
      rw [← e]
      exact DenOf.mk n _ _ sd.hL sd.hT (fun h1 d hd' => by rw [nil h1] at hd'; cases hd')
    · intro hdec; exact ⟨ddOf inp s, _, sd.hL, sd.hT, fp.run hdec⟩
    · intro hdec
      rw [hdec] at fp
      obtain ⟨h1, st, ar⟩ := fp.go_inv
      refine ⟨ddOf inp s, _, sd.hL, sd.hT, h1, ?_, ?_, ar⟩
      · intro d hd'; rw [st] at hd'; cases hd'
      · unfold stage2; rw [st, ar]; rfl
  · have hrun : nd.status = .run ∧ inp.setup n ≠ [] := (selDecision_pass hd).resolve_left h0
    have hpc2 : nd.pc = .afterSelf2 := by
      rcases hpc with e | e
      · exact absurd (h2.sel1 haw n nd hsusp hn e) h0
      · exact e
    have h1 := r1_now sd (hD.run1 n (by simp [stOf, hn, hrun.1]))
    obtain ⟨nI, nB⟩ : ¬ (nd.dynTask ++ nd.dynCalc).any (fun d => (ddOf inp s d).isIgn) = true ∧
        ¬ (nd.dynTask ++ nd.dynCalc).any (fun d => (ddOf inp s d).isFail) = true := by
      cases stage1L_spec.of_eq h1 with
      | run c1 c2 => exact ⟨fun x => c1 (Or.inl x), c2⟩
    have clsS : ∀ d ∈ inp.setup n, Cls s nd d := by
      intro d hd'
      rcases hok.ks (by rw [hpc2]; rfl) d hd' with a | a
      · rw [hm2] at a; cases a
      · exact a
    have hSd : ∀ d ∈ inp.setup n, DenOf inp d (ddOf inp s d) := fun d hd' => (ddOf_spec hD (clsS d hd').1).1
    have inL : ∀ p, Src inp n nd.pc.late nd p → p ∈ nd.dynTask ++ nd.dynCalc ∨ p ∈ inp.setup n := by
      intro p hp
      rcases hp with a | a | ⟨_, a⟩
      · exact Or.inl (List.mem_append.mpr (Or.inl a))
      · exact Or.inl (List.mem_append.mpr (Or.inr a))
      · exact Or.inr a
    have srcI : ∀ p, stOf s p = .ign → Src inp n nd.pc.late nd p → p ∈ inp.setup n := by
      intro p hp hsrc
      rcases inL p hsrc with a | a
      · exfalso; apply nI; rw [List.any_eq_true]
        exact ⟨p, a, (Den.isIgn_iff _).mpr (by rw [sd.rs p a]; exact hp)⟩
      · exact a
    have srcB : ∀ p, stOf s p = .fail → Src inp n nd.pc.late nd p → p ∈ inp.setup n := by
      intro p hp hsrc
      rcases inL p hsrc with a | a
      · exfalso; apply nB; rw [List.any_eq_true]
        exact ⟨p, a, (Den.isFail_iff _).mpr (by rw [sd.rs p a]; exact hp)⟩
      · exact a
    have hI := any_iff_ne_nil (ddOf inp s) (stOf s) (inp.setup n) nd.ign .ign Den.isIgn Den.isIgn_iff
      (fun d hd' => ⟨(ddOf_spec hD (clsS d hd').1).2, (clsS d hd').2.2⟩)
      (fun p hp => ⟨(hS.1.ign p hp).1, srcI p (hS.1.ign p hp).1 (hS.1.ign p hp).2⟩)
    have hB := any_iff_ne_nil (ddOf inp s) (stOf s) (inp.setup n) nd.bad .fail Den.isFail Den.isFail_iff
      (fun d hd' => ⟨(ddOf_spec hD (clsS d hd').1).2, (clsS d hd').2.1⟩)
      (fun p hp => ⟨(hS.1.bad p hp).1, srcB p (hS.1.bad p hp).1 (hS.1.bad p hp).2⟩)
    have key := sel2_stage2 (dd := ddOf inp s) hrun.1 hrun.2 hI hB
    have base : DenOf inp n (stage2 inp (ddOf inp s) n) := by
      have := DenOf.mk n _ _ sd.hL sd.hT (fun _ => hSd)
      simpa [combineL, h1] using this
    apply invE_applySel _ hD hd
    · intro d hsd; rw [← secondPass_report key hsd]; exact base
    · intro _; exact ⟨ddOf inp s, _, sd.hL, sd.hT, h1⟩
    · intro hdec
      rw [hdec] at key
      exact ⟨ddOf inp s, _, sd.hL, sd.hT, h1, hSd, key, selDecision_go_args hdec⟩

end DoitModel.Run.Dyn
