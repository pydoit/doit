import DoitModel.Proofs.RunLive
import DoitModel.Proofs.RunnerSpec
/-! # "Everything needed is processed": `InvD` along the dispatcher's steps; `Live`, the clauses the runner's part shares
    between the serial (`InvL`) and the parallel runners (`InvP`); `InvL` along `serialStep`; the run's closure `RunCl` -/
namespace DoitModel.Run

theorem nodeStep_susp_ne {inp : RunInput} {s s' : Sys} {n : Name} {nd : Node} {perm : List Name}
    (hsusp : s.susp = none) (hs : NodeStep inp s n nd perm s') : s'.susp ≠ some .stopIter := by
  have same : ∀ a : Sys, a.susp = s.susp → a.susp ≠ some .stopIter := fun a e => by rw [e, hsusp]; intro x; cases x
  cases hs with
  | @calcGen d | @taskGen d | @setupGen d =>
    generalize hg : genStep inp s n nd d _ = g
    cases genStep_spec hg with
    | cyclic => intro x; cases x
    | _ => exact same _ rfl
  | yield1 | yield2 => intro x; cases x
  | _ => exact same _ rfl


def PcTrans (inp : RunInput) (n : Name) (nd : Node) (s' : Sys) (pc' : PC) : Prop :=
  match nd.pc with
  | .self1 => pc' = .afterSelf1 ∧ s'.susp = some (.node n)
  | .self2 => pc' = .afterSelf2 ∧ s'.susp = some (.node n)
  | .afterSelf1 => (inp.setup n = [] ∧ pc' = .done) ∨ (inp.setup n ≠ [] ∧ pc' = .setupDecide)
  | .setupDecide => (nd.status = .run ∧ ∃ t, pc' = .setupIter t) ∨ (nd.status ≠ .run ∧ pc' = .done)
  | .setupIter _ => (∃ t, pc' = .setupIter t) ∨ pc' = .afterSetup
  | .afterSetup => pc' = .self2
  | .afterSelf2 => pc' = .done
  | .done => pc' = .done
  | _ => pc'.yielded1 = false

theorem pcTrans_of_pc {inp : RunInput} {n : Name} {nd : Node} {s' : Sys} {pc' p : PC} (hpc : nd.pc = p)
    (h : PcTrans inp n { nd with pc := p } s' pc') : PcTrans inp n nd s' pc' := by
  unfold PcTrans at h ⊢; rw [hpc]; exact h

theorem nodeMove_pcTrans {inp : RunInput} {n : Name} {nd x : Node} {perm : List Name} (hm : NodeMove inp n nd perm x)
    (s' : Sys) : PcTrans inp n nd s' x.pc := by
  cases hm with
  | loopTop hpc | again hpc | depsDone hpc | setupDone hpc | finish hpc => exact pcTrans_of_pc hpc rfl
  | noSetup hpc h0 => exact pcTrans_of_pc hpc (Or.inl ⟨h0, rfl⟩)
  | selected hpc h0 => exact pcTrans_of_pc hpc (Or.inr ⟨h0, rfl⟩)
  | setupGo hpc h0 => exact pcTrans_of_pc hpc (Or.inl ⟨h0, _, rfl⟩)
  | setupSkip hpc h0 => exact pcTrans_of_pc hpc (Or.inr ⟨h0, rfl⟩)

theorem nodePark_pcTrans {inp : RunInput} {n : Name} {nd x : Node} (hp : NodePark inp n nd x) (s' : Sys) :
    PcTrans inp n nd s' x.pc := by
  cases hp with
  | deps hpc | setup hpc => exact pcTrans_of_pc hpc rfl
  | select hpc h0 => exact pcTrans_of_pc hpc (Or.inr ⟨h0, rfl⟩)

theorem nodeStep_table {inp : RunInput} {s s' : Sys} {n : Name} {nd : Node} {perm : List Name}
    (hn : s.nodes n = some nd) (hs : NodeStep inp s n nd perm s') :
    ∃ nd', s'.nodes n = some nd' ∧ nd'.status = nd.status ∧ PcTrans inp n nd s' nd'.pc := by
  have gen : ∀ d pc', ∃ nd', (genStep inp s n nd d pc').nodes n = some nd' ∧ nd'.status = nd.status ∧
      (nd'.pc = pc' ∨ nd'.pc = nd.pc) := by
    intro d pc'
    generalize hg : genStep inp s n nd d pc' = g
    cases genStep_spec hg with
    | cyclic => exact ⟨nd, hn, rfl, Or.inr rfl⟩
    | _ => exact ⟨{ nd with pc := pc' }, setNode_self _ _ _, rfl, Or.inl rfl⟩
  have wt : ∀ ds c pc', ∃ nd', (addWaitRun inp s n nd ds c pc').nodes n = some nd' ∧ nd'.status = nd.status ∧
      nd'.pc = pc' := by
    intro ds c pc'
    have f := waitNode_facts inp s nd ds c pc'
    have e0 : addWaitRun inp s n nd ds c pc' =
        registerWaiting (setNode s n (waitNode inp s nd ds c pc')) n (ds.filter (unfinished s)) := rfl
    rw [e0, registerWaiting_nodes, setNode_self]
    by_cases e : n ∈ ds.filter (unfinished s)
    · refine ⟨_, if_pos e, ?_, ?_⟩
      · rw [(addWaiting_fields _ n).2.1]; exact f.status
      · rw [(addWaiting_fields _ n).1]; exact f.pc
    · exact ⟨_, if_neg e, f.status, f.pc⟩
  cases hs with
  | move hm => exact ⟨_, setNode_self _ _ _, hm.status, nodeMove_pcTrans hm _⟩
  | park hp => exact ⟨_, setNode_self _ _ _, hp.status, nodePark_pcTrans hp _⟩
  | yield1 hpc | yield2 hpc => exact ⟨_, setNode_self _ _ _, rfl, pcTrans_of_pc hpc ⟨rfl, rfl⟩⟩
  | calcWait hpc | taskWait hpc =>
    obtain ⟨x, a, b, c⟩ := wt _ _ _
    exact ⟨x, a, b, pcTrans_of_pc hpc (show x.pc.yielded1 = false by rw [c]; rfl)⟩
  | @calcGen d ds hpc | @taskGen d ds hpc =>
    obtain ⟨x, a, b, c⟩ := gen d _
    exact ⟨x, a, b, pcTrans_of_pc hpc (show x.pc.yielded1 = false by rcases c with c | c <;> rw [c] <;> first | rfl | rw [hpc]; rfl)⟩
  | setupWait hpc => obtain ⟨x, a, b, c⟩ := wt _ _ _; exact ⟨x, a, b, pcTrans_of_pc hpc (Or.inr c)⟩
  | @setupGen d ds hpc =>
    obtain ⟨x, a, b, c⟩ := gen d (.setupIter ds)
    exact ⟨x, a, b, pcTrans_of_pc hpc (Or.inl (c.elim (fun c => ⟨_, c⟩) (fun c => ⟨_, c.trans hpc⟩)))⟩
  | done hpc => exact ⟨nd, hn, rfl, pcTrans_of_pc hpc hpc⟩

theorem dtick_invD {inp : RunInput} {s s' : Sys} {perm : List Name} (h : InvD inp s) (hsusp : s.susp = none)
    (hs : dtick inp s perm = some s') : InvD inp s' := by
  have ns : s.susp ≠ some .stopIter := by rw [hsusp]; intro e; cases e
  cases dtick_spec hs with
  | lost | deadlock | holdOn => exact ⟨allA_congr h.a1 rfl, h.a2, h.a3, fun e => by cases e⟩
  | stopIter hc hr ht hw => exact ⟨allA_congr h.a1 rfl, h.a2, h.a3, fun _ => ⟨hc, hr, ht, hw⟩⟩
  | @node n nd _ hc hn hst =>
    have q := nodeStep_q hn hst
    obtain ⟨keep, _⟩ := hst.pcs hn
    obtain ⟨nd', hn', _, tr⟩ := nodeStep_table hn hst
    have kp : Keeps s s' := by
      intro d ⟨x, hx⟩
      by_cases e : d = n
      · subst e; exact ⟨nd', hn'⟩
      · obtain ⟨x', hx', _⟩ := keep d x hx (fun c => e (Option.some.inj c)); exact ⟨x', hx'⟩
    refine ⟨nodeStep_allA h.a1 hn hst, ?_, ?_, fun e => absurd e (nodeStep_susp_ne hsusp hst)⟩
    · intro k y hk hpc
      cases hks : s.nodes k with
      | none => exact Or.inl (q.fresh k y hk hks).1
      | some x =>
        by_cases e : k = n
        · subst e
          rcases q.cur with a | ⟨a, b | b⟩
          · exact Or.inr (Or.inr (a.trans hc))
          · exact Or.inr (Or.inl b)
          · -- the generator was exhausted and stays so
            rw [hk] at hn'; cases hn'
            rw [PcTrans, b] at tr; exact absurd tr hpc
        · obtain ⟨x', hx', e'⟩ := keep k x hks (fun c => e (Option.some.inj c))
          rw [hk] at hx'; cases hx'
          rcases h.a2 k x hks (e' ▸ hpc) with a | a | a
          · exact Or.inl (q.ready k a)
          · exact Or.inr (Or.inl (q.waiting k a))
          · rw [hc] at a; cases a; exact absurd rfl e
    · intro t ht
      rcases h.a3 t ht with a | a
      · exact Or.inl (by rw [q.toRun]; exact a)
      · exact Or.inr (kp t a)
  | pop hc hr =>
    refine ⟨allA_congr h.a1 rfl, ?_, h.a3, fun e => absurd e ns⟩
    intro k y hk hpc
    rcases h.a2 k y hk hpc with a | a | a
    · rw [hr] at a
      rcases List.mem_cons.mp a with rfl | a
      · exact Or.inr (Or.inr rfl)
      · exact Or.inl a
    · exact Or.inr (Or.inl a)
    · rw [hc] at a; cases a
  | @create t ts hc hr ht hnt =>
    refine ⟨allA_congr (allA_setNode h.a1 (mkNode_nodeA inp s t [t])) rfl, ?_, ?_, fun e => absurd e ns⟩
    · intro k y hk hpc
      by_cases e : k = t
      · subst e; exact Or.inr (Or.inr rfl)
      · have hk' : s.nodes k = some y := by rw [← hk]; exact (if_neg e).symm
        rcases h.a2 k y hk' hpc with a | a | a
        · rw [hr] at a; cases a
        · exact Or.inr (Or.inl a)
        · rw [hc] at a; cases a
    · intro t' ht'
      rcases h.a3 t' ht' with a | a
      · rw [ht] at a
        rcases List.mem_cons.mp a with rfl | a
        · exact Or.inr ⟨_, setNode_self _ _ _⟩
        · exact Or.inl a
      · exact Or.inr (keeps_setNode _ t' a)
  | @skip t ts x hc hr ht hnt =>
    refine ⟨allA_congr h.a1 rfl, h.a2, ?_, fun e => absurd e ns⟩
    intro t' ht'
    rcases h.a3 t' ht' with a | a
    · rw [ht] at a
      rcases List.mem_cons.mp a with rfl | a
      · exact Or.inr ⟨x, hnt⟩
      · exact Or.inl a
    · exact Or.inr a

theorem dtick_node {inp : RunInput} {s s' : Sys} {perm : List Name} (hs : dtick inp s perm = some s')
    (k : Name) (y : Node) (hk : s'.nodes k = some y) :
    (s.nodes k = none ∧ y.pc = .loopTop ∧ y.status = .none) ∨
    (∃ x, s.nodes k = some x ∧ y.status = x.status ∧ (y.pc = x.pc ∨ (s.cur = some k ∧ PcTrans inp k x s' y.pc))) := by
  cases dtick_spec hs with
  | @node n nd _ hc hn hst' =>
    have hst := dtick_stOf hs k
    rw [stOf, hk] at hst
    cases hks : s.nodes k with
    | none => rw [stOf, hks] at hst; exact Or.inl ⟨rfl, ((nodeStep_q hn hst').fresh k y hk hks).2, hst⟩
    | some x =>
      rw [stOf, hks] at hst
      refine Or.inr ⟨x, rfl, hst, ?_⟩
      by_cases e : k = n
      · subst e
        rw [hn] at hks; cases hks
        obtain ⟨nd', a, _, c⟩ := nodeStep_table hn hst'
        rw [hk] at a; cases a
        exact Or.inr ⟨hc, c⟩
      · obtain ⟨keep, _⟩ := hst'.pcs hn
        obtain ⟨x', hx', e'⟩ := keep k x hks (fun c => e (Option.some.inj c))
        rw [hk] at hx'; cases hx'; exact Or.inl e'
  | @create t ts hc hr ht hnt =>
    by_cases e : k = t
    · subst e
      have hk' : (if k = k then some (mkNode inp k [k]) else s.nodes k) = some y := hk
      rw [if_pos rfl] at hk'; cases hk'
      exact Or.inl ⟨hnt, rfl, rfl⟩
    · exact Or.inr ⟨y, by rw [← hk]; exact (if_neg e).symm, rfl, Or.inl rfl⟩
  | _ => exact Or.inr ⟨y, hk, rfl, Or.inl rfl⟩

/-- the part of `InvD` that `_update_waiting` works on -/
structure InvW (s : Sys) : Prop where
  a1 : AllA s
  a2 : ∀ n nd, s.nodes n = some nd → nd.pc ≠ .done → n ∈ s.ready ∨ n ∈ s.waiting ∨ s.cur = some n

theorem invW_requeue {s s' : Sys} {w : Name} {nd x : Node} (h : InvW s) (hw : s.nodes w = some nd) (hx : NodeA s x)
    (hpc : x.pc = nd.pc) (e1 : s'.nodes = (setNode s w x).nodes) (e2 : s'.cur = s.cur)
    (e3 : (s'.ready = s.ready ∧ s'.waiting = s.waiting) ∨
      (s'.ready = s.ready ++ [w] ∧ s'.waiting = s.waiting.filter (· ≠ w))) : InvW s' := by
  refine ⟨allA_congr (allA_setNode h.a1 hx) e1, ?_⟩
  intro k y hk hy
  have old : ∃ z, s.nodes k = some z ∧ z.pc ≠ .done := by
    rw [e1, setNode_nodes] at hk
    by_cases e : k = w
    · rw [if_pos e] at hk; cases hk; exact ⟨nd, e ▸ hw, hpc ▸ hy⟩
    · rw [if_neg e] at hk; exact ⟨y, hk, hy⟩
  obtain ⟨z, hz, hzp⟩ := old
  rw [e2]
  rcases e3 with ⟨r, q⟩ | ⟨r, q⟩ <;> rw [r, q]
  · exact h.a2 k z hz hzp
  · rcases h.a2 k z hz hzp with a | a | a
    · exact Or.inl (List.mem_append_left _ a)
    · by_cases e : k = w
      · exact Or.inl (List.mem_append_right _ (List.mem_singleton.mpr e))
      · exact Or.inr (Or.inl (List.mem_filter.mpr ⟨a, by simpa using e⟩))
    · exact Or.inr (Or.inr a)

theorem wakeOne_invW {inp : RunInput} {s : Sys} {pst : RS} {p w : Name} {nd : Node} (h : InvW s)
    (hw : s.nodes w = some nd) : InvW (wakeOne inp s pst p w nd) := by
  have hu := wokenF_upd inp s pst p nd
  have hx := (h.a1 w nd hw).ofUpd hu
  unfold wakeOne
  by_cases c : wokenReady p nd ∧ w ∈ s.waiting
  · rw [if_pos c]; exact invW_requeue h hw hx hu.pc rfl rfl (Or.inr ⟨rfl, rfl⟩)
  · rw [if_neg c]; exact invW_requeue h hw hx hu.pc rfl rfl (Or.inl ⟨rfl, rfl⟩)

theorem sendHead_invW {s : Sys} {p : Name} {nd : Node} (h : InvW s) (hn : s.nodes p = some nd) :
    InvW (sendHead s p nd) := by
  have hA := h.a1 p nd hn
  unfold sendHead
  by_cases c : nd.waitSelect = true
  · rw [if_pos c]
    exact invW_requeue (x := { nd with waitSelect := false }) h hn ⟨hA.t, hA.c⟩ rfl rfl rfl (Or.inr ⟨rfl, rfl⟩)
  · rw [if_neg c]; exact ⟨allA_congr h.a1 rfl, h.a2⟩

theorem send_invD {inp : RunInput} {s s' : Sys} {processed : Option Name} {perm : List Name} (h : InvD inp s)
    (hs : send inp s processed perm = some s') : InvD inp s' := by
  obtain ⟨_, osusp⟩ := send_outer hs
  have keep := send_pcs hs
  have hw : InvW s' :=
    send_ind (P := InvW) (fun _ _ _ a => ⟨allA_congr a.1 rfl, a.2⟩) (fun _ _ _ hn _ a => sendHead_invW a hn)
      (fun _ _ _ _ _ _ _ _ hn _ a => wakeOne_invW a hn) ⟨h.a1, h.a2⟩ hs
  refine ⟨hw.a1, hw.a2, ?_, ?_⟩
  · intro t ht'
    rcases h.a3 t ht' with a | ⟨x, hx⟩
    · exact Or.inl (by rw [send_toRun hs]; exact a)
    · obtain ⟨x', hx', _⟩ := keep t x hx (by simp); exact Or.inr ⟨x', hx'⟩
  · intro e; rcases osusp with x | x <;> (rw [x] at e; cases e)

theorem send_noNew {inp : RunInput} {s s' : Sys} {processed : Option Name} {perm : List Name}
    (hs : send inp s processed perm = some s') : ∀ k, s.nodes k = none → s'.nodes k = none := by
  intro k hk
  have setN : ∀ (a : Sys) (w : Name) (x y : Node), a.nodes w = some x → a.nodes k = none →
      (setNode a w y).nodes k = none := by
    intro a w x y hw hk
    rw [setNode_nodes, if_neg (fun e => by rw [e, hw] at hk; cases hk)]; exact hk
  refine send_ind (P := fun a => a.nodes k = none) (fun _ _ _ a => a) ?_ ?_ hk hs
  · intro p nd _ hp _ h
    unfold sendHead
    by_cases c : nd.waitSelect = true
    · rw [if_pos c]; exact setN s p nd _ hp h
    · rw [if_neg c]; exact h
  · intro a p nd0 w nd _ _ _ hw _ h
    unfold wakeOne
    by_cases c : wokenReady p nd ∧ w ∈ a.waiting
    · rw [if_pos c]; exact setN a w nd _ hw h
    · rw [if_neg c]; exact setN a w nd _ hw h

theorem InvD.status {inp : RunInput} {s s' : Sys} {n : Name} {nd : Node} (h : InvD inp s) (hn : s.nodes n = some nd)
    (st' : RS) (e1 : s'.nodes = (setNode s n { nd with status := st' }).nodes) (e2 : s'.ready = s.ready)
    (e3 : s'.waiting = s.waiting) (e4 : s'.cur = s.cur) (e5 : s'.toRun = s.toRun) (e6 : s'.susp = s.susp) :
    InvD inp s' := by
  have hA := h.a1 n nd hn
  have a1 : AllA (setNode s n { nd with status := st' }) := allA_setNode h.a1 ⟨hA.t, hA.c⟩
  refine ⟨allA_congr a1 e1, ?_, ?_, by rw [e6, e4, e2, e5, e3]; exact h.a7⟩
  · intro k y hk hpc
    rw [e1] at hk; rw [e2, e3, e4]
    by_cases e : k = n
    · subst e; simp [setNode] at hk; subst hk; exact h.a2 k nd hn hpc
    · exact h.a2 k y (by simpa [setNode, e] using hk) hpc
  · intro t ht
    rcases h.a3 t ht with a | a
    · exact Or.inl (by rw [e5]; exact a)
    · right
      obtain ⟨x, hx⟩ := a
      by_cases e : t = n
      · exact ⟨_, by rw [e1, e]; exact setNode_self _ _ _⟩
      · exact ⟨x, by rw [e1]; simp [setNode, e, hx]⟩

theorem InvD.outer {inp : RunInput} {s s' : Sys} (h : InvD inp s) (e1 : s'.nodes = s.nodes) (e2 : s'.ready = s.ready)
    (e3 : s'.waiting = s.waiting) (e4 : s'.cur = s.cur) (e5 : s'.toRun = s.toRun) (e6 : s'.susp = s.susp) :
    InvD inp s' := by
  refine ⟨allA_congr h.a1 e1, by rw [e1, e2, e3, e4]; exact h.a2, ?_, by rw [e6, e4, e2, e5, e3]; exact h.a7⟩
  intro t ht
  rcases h.a3 t ht with a | a
  · exact Or.inl (by rw [e5]; exact a)
  · exact Or.inr (Keeps.of_eq e1 t a)


/-- positions between the two yields of a node that has setup-tasks -/
def PC.inSetup : PC → Bool
  | .afterSelf1 | .setupDecide | .setupIter _ | .afterSetup | .self2 => true
  | _ => false


theorem pcTrans_yielded {inp : RunInput} {n : Name} {x : Node} {s' : Sys} {pc' : PC} (tr : PcTrans inp n x s' pc')
    (hy : pc'.yielded1 = true) : x.pc.yielded1 = true ∨ s'.susp = some (.node n) := by
  unfold PcTrans at tr
  generalize x.pc = p at tr ⊢
  cases p with
  | self1 => exact Or.inr tr.2
  | loopTop | calcIter | taskIter | afterDeps => cases hy.symm.trans tr
  | _ => exact Or.inl rfl

theorem pcTrans_afterSelf2 {inp : RunInput} {n : Name} {x : Node} {s' : Sys} {pc' : PC} (tr : PcTrans inp n x s' pc')
    (hp : pc' = .afterSelf2) : x.pc = .self2 := by
  subst hp
  unfold PcTrans at tr
  generalize x.pc = p at tr ⊢
  cases p with
  | self2 => rfl
  | self1 => cases tr.1
  | afterSelf1 => rcases tr with ⟨_, t⟩ | ⟨_, t⟩ <;> cases t
  | setupDecide => rcases tr with ⟨_, _, t⟩ | ⟨_, t⟩ <;> cases t
  | setupIter => rcases tr with ⟨_, t⟩ | t <;> cases t
  | _ => cases tr

theorem pcTrans_inSetup {inp : RunInput} {n : Name} {x : Node} {s' : Sys} {pc' : PC} (tr : PcTrans inp n x s' pc')
    (h1 : x.pc.inSetup = true) (hrun : x.status = .run) (hset : inp.setup n ≠ []) :
    pc'.inSetup = true ∨ (pc' = .afterSelf2 ∧ s'.susp = some (.node n)) := by
  unfold PcTrans at tr
  generalize x.pc = p at tr h1
  cases p with
  | afterSelf1 =>
    rcases tr with ⟨t1, _⟩ | ⟨_, t2⟩
    · exact absurd t1 hset
    · exact Or.inl (t2 ▸ rfl)
  | setupDecide =>
    rcases tr with ⟨_, t, t2⟩ | ⟨t1, _⟩
    · exact Or.inl (t2 ▸ rfl)
    · exact absurd hrun t1
  | setupIter => rcases tr with ⟨t, t2⟩ | t2 <;> exact Or.inl (t2 ▸ rfl)
  | afterSetup => exact Or.inl ((tr : pc' = .self2) ▸ rfl)
  | self2 => exact Or.inr tr
  | _ => cases h1

/-- serial runner: nodes that were yielded are selected; a `run` status means executing or in the setup stage; final
    statuses have their report; a normal end of the run is the end of the dispatcher -/
structure InvL (inp : RunInput) (s : Sys) : Prop where
  d : InvD inp s
  a4 : ∀ n nd, s.nodes n = some nd → nd.pc.yielded1 = true → nd.status = .none →
    s.susp = some (.node n) ∧ awaiting s
  a4b : ∀ n nd, s.nodes n = some nd → nd.pc = .afterSelf2 → nd.status ≠ .none
  a5 : ∀ n nd, s.nodes n = some nd → nd.status = .run → s.rpc = .sExec n ∨
    (cGo s n = 0 ∧ inp.setup n ≠ [] ∧
      (nd.pc.inSetup = true ∨ (nd.pc = .afterSelf2 ∧ s.susp = some (.node n) ∧ awaiting s)))
  a6 : ∀ n, (stOf s n).finished = true → cTerm s n ≥ 1
  a8 : (s.rpc = .fin ∨ s.rpc = .halted) → s.halt = .none → s.stop = false → s.susp = some .stopIter

/-- What the liveness invariants of the serial runner (`InvL`) and of the parallel runners (`InvP`, `RunLiveP.lean`) have in
    common.  `busy n`: task `n` is being executed, which is `s.rpc = .sExec n` for the one and `InFlight s n` for the
    other; the step lemmas below ask only that busy tasks stay busy. -/
structure Live (inp : RunInput) (busy : Name → Prop) (s : Sys) : Prop where
  d : InvD inp s
  a4 : ∀ n nd, s.nodes n = some nd → nd.pc.yielded1 = true → nd.status = .none →
    s.susp = some (.node n) ∧ awaiting s
  a4b : ∀ n nd, s.nodes n = some nd → nd.pc = .afterSelf2 → nd.status ≠ .none
  a5 : ∀ n nd, s.nodes n = some nd → nd.status = .run → busy n ∨
    (cGo s n = 0 ∧ inp.setup n ≠ [] ∧
      (nd.pc.inSetup = true ∨ (nd.pc = .afterSelf2 ∧ s.susp = some (.node n) ∧ awaiting s)))
  a6 : ∀ n, (stOf s n).finished = true → cTerm s n ≥ 1

theorem invL_iff {inp : RunInput} {s : Sys} : InvL inp s ↔ Live inp (fun n => s.rpc = .sExec n) s ∧
    ((s.rpc = .fin ∨ s.rpc = .halted) → s.halt = .none → s.stop = false → s.susp = some .stopIter) :=
  ⟨fun h => ⟨⟨h.d, h.a4, h.a4b, h.a5, h.a6⟩, h.a8⟩, fun ⟨l, h8⟩ => ⟨l.d, l.a4, l.a4b, l.a5, l.a6, h8⟩⟩

theorem Live.tick {inp : RunInput} {b b' : Name → Prop} {s s' : Sys} {perm : List Name} (h : Live inp b s)
    (haw : awaiting s') (hsusp : s.susp = none) (hs : dtick inp s perm = some s') (hb : ∀ k, b k → b' k) :
    Live inp b' s' := by
  have hc := fun m => counts_same (dtick_outer hs).1 m
  -- with the generator running, no node of `s` past its first yield is without a status
  have old : ∀ k x, s.nodes k = some x → x.status = .none → x.pc.yielded1 = true → False := fun k x hx hn a => by
    have := (h.a4 k x hx a hn).1; rw [hsusp] at this; cases this
  refine ⟨dtick_invD h.d hsusp hs, ?_, ?_, ?_, ?_⟩
  · intro k y hk hy hn
    rcases dtick_node hs k y hk with ⟨_, a, _⟩ | ⟨x, hx, e1, e2 | ⟨_, tr⟩⟩
    · rw [a] at hy; cases hy
    · exact (old k x hx (e1 ▸ hn) (e2 ▸ hy)).elim
    · exact (pcTrans_yielded tr hy).elim (fun a => (old k x hx (e1 ▸ hn) a).elim) (fun a => ⟨a, haw⟩)
  · intro k y hk hpc2 hn
    rcases dtick_node hs k y hk with ⟨_, a, _⟩ | ⟨x, hx, e1, e2 | ⟨_, tr⟩⟩
    · rw [a] at hpc2; cases hpc2
    · exact h.a4b k x hx (e2 ▸ hpc2) (e1 ▸ hn)
    · exact (old k x hx (e1 ▸ hn) (by rw [pcTrans_afterSelf2 tr hpc2]; rfl)).elim
  · intro k y hk hrun
    rcases dtick_node hs k y hk with ⟨_, _, a⟩ | ⟨x, hx, e1, e2⟩
    · rw [a] at hrun; cases hrun
    · rcases h.a5 k x hx (e1 ▸ hrun) with a | ⟨a1, a2, a3 | ⟨_, b, _⟩⟩
      · exact Or.inl (hb k a)
      · refine Or.inr ⟨by rw [(hc k).1]; exact a1, a2, ?_⟩
        rcases e2 with e2 | ⟨_, tr⟩
        · exact Or.inl (e2 ▸ a3)
        · exact (pcTrans_inSetup tr a3 (e1 ▸ hrun) a2).imp id (fun ⟨p, q⟩ => ⟨p, q, haw⟩)
      · rw [hsusp] at b; cases b
  · intro n hn
    rw [dtick_stOf hs] at hn; rw [(hc n).2.2.2]; exact h.a6 n hn

/-- `hsel`: the node awaiting selection, if any, has a final status by now or is still awaiting it -/
theorem Live.keep {inp : RunInput} {b b' : Name → Prop} {s s' : Sys} (h : Live inp b s) (hd : InvD inp s')
    (back : ∀ k y, s'.nodes k = some y → ∃ x, s.nodes k = some x ∧ y.pc = x.pc ∧ y.status = x.status)
    (ev : ∃ extra, s'.events = extra ++ s.events ∧ ∀ m, extra.countP (Ev.isGoOf m) = 0) (hb : ∀ k, b k → b' k)
    (hsel : ∀ k x, s.susp = some (.node k) → awaiting s → s.nodes k = some x →
      (x.status ≠ .none ∧ x.status ≠ .run) ∨ (s'.susp = s.susp ∧ awaiting s')) : Live inp b' s' := by
  obtain ⟨extra, hev, hex0⟩ := ev
  have cgo : ∀ m, cGo s' m = cGo s m := fun m => by rw [cGo, hev, List.countP_append, hex0 m, Nat.zero_add]; rfl
  refine ⟨hd, ?_, ?_, ?_, ?_⟩
  · intro k y hk hy hnn
    obtain ⟨x, hx, e1, e2⟩ := back k y hk
    obtain ⟨a, b⟩ := h.a4 k x hx (e1 ▸ hy) (e2 ▸ hnn)
    rcases hsel k x a b hx with c | ⟨c1, c2⟩
    · exact absurd (e2 ▸ hnn) c.1
    · exact ⟨by rw [c1]; exact a, c2⟩
  · intro k y hk hp hnn
    obtain ⟨x, hx, e1, e2⟩ := back k y hk
    exact h.a4b k x hx (e1 ▸ hp) (e2 ▸ hnn)
  · intro k y hk hrun
    obtain ⟨x, hx, e1, e2⟩ := back k y hk
    rcases h.a5 k x hx (e2 ▸ hrun) with a | ⟨a1, a2, a3 | ⟨p1, b, c⟩⟩
    · exact Or.inl (hb k a)
    · exact Or.inr ⟨by rw [cgo k]; exact a1, a2, Or.inl (e1 ▸ a3)⟩
    · rcases hsel k x b c hx with d | ⟨d1, d2⟩
      · exact absurd (e2 ▸ hrun) d.2
      · exact Or.inr ⟨by rw [cgo k]; exact a1, a2, Or.inr ⟨e1.trans p1, by rw [d1]; exact b, d2⟩⟩
  · intro m hm
    cases hk : s'.nodes m with
    | none => simp only [stOf, hk] at hm; cases hm
    | some y =>
      obtain ⟨x, hx, _, e2⟩ := back m y hk
      simp only [stOf, hk] at hm
      have := h.a6 m (by simp only [stOf, hx]; exact e2 ▸ hm)
      rw [cTerm, hev, List.countP_append]; exact Nat.le_trans this (Nat.le_add_left ..)

/-- `hsole`: no other node is awaiting selection; the caller supplies clause `a5` for `n` and the report of a final status -/
theorem Live.setStatus {inp : RunInput} {b b' : Name → Prop} {s s' : Sys} {n : Name} {nd : Node} (st' : RS)
    (h : Live inp b s) (hn : s.nodes n = some nd) (e1 : s'.nodes = (setNode s n { nd with status := st' }).nodes)
    (e2 : s'.ready = s.ready) (e3 : s'.waiting = s.waiting) (e4 : s'.cur = s.cur) (e5 : s'.toRun = s.toRun)
    (e6 : s'.susp = s.susp) (hne : st' ≠ .none) (hsole : ∀ k, k ≠ n → s.susp = some (.node k) → ¬ awaiting s)
    (hb : ∀ k, k ≠ n → b k → b' k) (cgo : ∀ k, k ≠ n → cGo s' k = cGo s k) (cterm : ∀ m, cTerm s' m ≥ cTerm s m)
    (hrun : st' = .run → b' n ∨ (cGo s' n = 0 ∧ inp.setup n ≠ [] ∧ nd.pc.inSetup = true))
    (hterm : st'.finished = true → cTerm s' n ≥ 1) : Live inp b' s' := by
  have back : ∀ k y, s'.nodes k = some y → (k = n ∧ y = { nd with status := st' }) ∨ (k ≠ n ∧ s.nodes k = some y) := by
    intro k y hk
    rw [e1, setNode_nodes] at hk
    by_cases e : k = n
    · rw [if_pos e] at hk; cases hk; exact Or.inl ⟨e, rfl⟩
    · rw [if_neg e] at hk; exact Or.inr ⟨e, hk⟩
  refine ⟨h.d.status hn st' e1 e2 e3 e4 e5 e6, ?_, ?_, ?_, ?_⟩
  · intro k y hk hy hnn
    rcases back k y hk with ⟨_, rfl⟩ | ⟨e, hy'⟩
    · exact absurd hnn hne
    · obtain ⟨a, b⟩ := h.a4 k y hy' hy hnn
      exact absurd b (hsole k e a)
  · intro k y hk hp hnn
    rcases back k y hk with ⟨_, rfl⟩ | ⟨e, hy'⟩
    · exact absurd hnn hne
    · exact h.a4b k y hy' hp hnn
  · intro k y hk hr
    rcases back k y hk with ⟨rfl, rfl⟩ | ⟨e, hy'⟩
    · exact (hrun hr).imp id fun ⟨a1, a2, a3⟩ => ⟨a1, a2, Or.inl a3⟩
    · rcases h.a5 k y hy' hr with a | ⟨a1, a2, a3 | ⟨_, b, c⟩⟩
      · exact Or.inl (hb k e a)
      · exact Or.inr ⟨by rw [cgo k e]; exact a1, a2, Or.inl a3⟩
      · exact absurd c (hsole k e b)
  · intro m hm
    rw [stOf_congr e1 m, stOf_setNode] at hm
    by_cases e : m = n
    · rw [if_pos e] at hm; rw [e]; exact hterm hm
    · rw [if_neg e] at hm; have := h.a6 m hm; have := cterm m; omega

theorem invL_dtick {inp : RunInput} {s s' : Sys} {perm : List Name} (h : InvL inp s) (hr : s.rpc = .sWait)
    (hsusp : s.susp = none) (hs : dtick inp s perm = some s') : InvL inp s' := by
  have o2 := (dtick_outer hs).2.1
  refine invL_iff.mpr ⟨(invL_iff.mp h).1.tick (Or.inl (o2.trans hr)) hsusp hs fun k a => ?_, fun a => ?_⟩
  · rw [hr] at a; cases a
  · rw [o2, hr] at a; rcases a with a | a <;> cases a


theorem invL_keep {inp : RunInput} {s s' : Sys} (h : InvL inp s) (hd : InvD inp s')
    (back : ∀ k y, s'.nodes k = some y → ∃ x, s.nodes k = some x ∧ y.pc = x.pc ∧ y.status = x.status)
    (ev : ∃ extra, s'.events = extra ++ s.events ∧ ∀ m, extra.countP (Ev.isGoOf m) = 0)
    (hnp : ∀ k x, s.susp = some (.node k) → awaiting s → s.nodes k = some x → x.status ≠ .none ∧ x.status ≠ .run)
    (hex : ∀ k, s.rpc ≠ .sExec k)
    (h8 : (s'.rpc = .fin ∨ s'.rpc = .halted) → s'.halt = .none → s'.stop = false → s'.susp = some .stopIter) :
    InvL inp s' :=
  invL_iff.mpr ⟨(invL_iff.mp h).1.keep hd back ev (fun k a => absurd a (hex k)) fun k x a b hx => Or.inl (hnp k x a b hx),
    h8⟩

theorem send_keeps_nodes {inp : RunInput} {s s0 : Sys} {node : Option Name} {perm : List Name} (h2 : Inv2 inp s)
    (hnode : sentBack s = node) (hs : send inp s node perm = some s0) :
    ∀ k y, s0.nodes k = some y → ∃ x, s.nodes k = some x ∧ y.pc = x.pc ∧ y.status = x.status := by
  obtain ⟨_, hst⟩ := send_inv1 h2.inv1 (fun p hp => h2.sb p (hnode ▸ hp)) hs
  intro k y hk
  cases hx : s.nodes k with
  | none =>
    have := send_noNew hs k hx
    rw [hk] at this; cases this
  | some x =>
    obtain ⟨x', hx', e⟩ := send_pcs hs k x hx (by simp)
    rw [hk] at hx'; cases hx'
    exact ⟨x, rfl, e, by have := hst k; simpa [stOf, hk, hx] using this⟩

theorem invL_send {inp : RunInput} {s s0 : Sys} {node : Option Name} {perm : List Name} (h : InvL inp s)
    (h2 : Inv2 inp s) (hr : s.rpc = .sTop node) (hs : send inp s node perm = some s0) :
    InvL inp { s0 with rpc := .sWait } :=
  invL_keep h ((send_invD h.d hs).outer rfl rfl rfl rfl rfl rfl) (send_keeps_nodes (s0 := s0) (node := node) h2 (by simp only [sentBack, hr]) hs)
    ⟨[], (send_outer hs).1.1, fun _ => rfl⟩
    (fun _ _ _ aw _ => absurd aw (not_awaiting (by rw [hr]; nofun) (by rw [hr]; nofun)))
    (fun k a => by rw [hr] at a; cases a) (fun a => by rcases a with a | a <;> cases a)

theorem selTerm_of_finished {d : Sel} (h : (selStatus d).finished = true) : selTerm d = 1 := by
  cases d <;> simp [selStatus, RS.finished] at h <;> rfl

theorem invL_setStatus {inp : RunInput} {s s' : Sys} {n : Name} {nd : Node} {st' : RS} {new : List Ev} (h : InvL inp s)
    (hn : s.nodes n = some nd) (hne : st' ≠ .none)
    (hk : ∀ k, k ≠ n → s.rpc ≠ .sExec k ∧ (s.susp = some (.node k) → ¬ awaiting s))
    (e1 : s'.nodes = (setNode s n { nd with status := st' }).nodes) (e2 : s'.ready = s.ready)
    (e3 : s'.waiting = s.waiting) (e4 : s'.cur = s.cur) (e5 : s'.toRun = s.toRun) (e6 : s'.susp = s.susp)
    (hev : s'.events = new ++ s.events) (hgo : ∀ m, m ≠ n → new.countP (Ev.isGoOf m) = 0)
    (hterm : st'.finished = true → new.countP (Ev.isTerminalOf n) ≥ 1)
    (hrpc : s'.rpc = .sExec n ∨ s'.rpc = .sTop (some n))
    (hrun : st' = .run → s'.rpc = .sExec n ∨ (cGo s' n = 0 ∧ inp.setup n ≠ [] ∧ nd.pc.inSetup = true)) :
    InvL inp s' := by
  have mono : ∀ m, cTerm s' m = new.countP (Ev.isTerminalOf m) + cTerm s m := fun m => by
    rw [cTerm, hev, List.countP_append]; rfl
  refine invL_iff.mpr ⟨(invL_iff.mp h).1.setStatus st' hn e1 e2 e3 e4 e5 e6 hne (fun k e => (hk k e).2)
    (fun k e a => absurd a (hk k e).1) (fun k e => by rw [cGo, hev, List.countP_append, hgo k e, Nat.zero_add]; rfl)
    (fun m => by rw [mono m]; omega) hrun (fun hf => by have := hterm hf; rw [mono n]; omega), fun a => ?_⟩
  rcases hrpc with e | e <;> (rw [e] at a; rcases a with a | a <;> cases a)

theorem invL_select {inp : RunInput} {s s' : Sys} {n : Name} {nd : Node} {d : Sel} (h : InvL inp s) (h2 : Inv2 inp s)
    (h3 : Inv3 inp s) (hr : s.rpc = .sWait) (hsusp : s.susp = some (.node n)) (hn : s.nodes n = some nd)
    (hsel : selDecision inp n nd = d) (hd : d ≠ .assertFail)
    (e1 : s'.nodes = (applySel inp s n nd d).nodes)
    (e2 : s'.ready = s.ready) (e3 : s'.waiting = s.waiting) (e4 : s'.cur = s.cur) (e5 : s'.toRun = s.toRun)
    (e6 : s'.susp = s.susp)
    (ev : ∃ extra, s'.events = extra ++ (applySel inp s n nd d).events ∧ ∀ m, extra.countP (Ev.isGoOf m) = 0)
    (hrpc : (d = .go ∧ s'.rpc = .sExec n) ∨ (d ≠ .go ∧ s'.rpc = .sTop (some n))) :
    InvL inp s' := by
  obtain ⟨extra, hev, hex⟩ := ev
  have hev' : s'.events = (extra ++ selEvents inp n nd d) ++ s.events := by
    rw [hev, applySel_events, List.append_assoc]
  have sc := selEvents_counts inp n nd d
  refine invL_setStatus h hn (selStatus_ne_none hd) ?_ (e1.trans (applySel_nodes inp s n nd _ hd)) e2 e3 e4 e5 e6 hev' ?_ ?_
    (hrpc.imp And.right And.right) ?_
  · intro k e
    refine ⟨by (rw [hr]; intro x; cases x), fun a => ?_⟩
    rw [hsusp] at a; cases a; exact absurd rfl e
  · intro m e; rw [List.countP_append, hex m, (sc m).go, if_neg (Ne.symm e)]
  · intro hf; rw [List.countP_append, (sc n).term, if_pos rfl, selTerm_of_finished hf]; omega
  · intro hrun
    rcases hrpc with ⟨_, e⟩ | ⟨hng, e⟩
    · exact Or.inl e
    · right
      -- status `run` without `go`: the first pass answered "run the setup-tasks first"
      cases d with
      | go => exact absurd rfl hng
      | runFirst =>
        cases selDecision_spec.of_eq hsel with
        | runFirst hnone _ _ _ _ _ hsetup =>
          obtain ⟨x, a, pcn⟩ := h2.inv1.sp n hsusp
          rw [hn] at a; cases a
          have hpc1 : nd.pc = .afterSelf1 := pcn.resolve_right (fun e' => h.a4b n nd hn e' hnone)
          refine ⟨?_, hsetup, by rw [hpc1]; rfl⟩
          have z0 := h3.z (Or.inl hr) n hsusp
          rw [cGo] at z0
          rw [cGo, hev', List.countP_append, List.countP_append, hex n, (sc n).go, if_pos rfl, z0]; rfl
      | _ => cases hrun

theorem invL_result {inp : RunInput} {s s' : Sys} {n : Name} {nd : Node} (h : InvL inp s) (hr : s.rpc = .sExec n)
    (hn : s.nodes n = some nd) (e1 : s'.nodes = (setNode s n { nd with status := resStatus (inp.outcome n) }).nodes)
    (e2 : s'.ready = s.ready) (e3 : s'.waiting = s.waiting) (e4 : s'.cur = s.cur) (e5 : s'.toRun = s.toRun)
    (e6 : s'.susp = s.susp) (hev : s'.events = (resEvents n (inp.outcome n) ++ [Ev.fin n 0]) ++ s.events)
    (hrpc : s'.rpc = .sTop (some n)) : InvL inp s' := by
  have rc := resEvents_counts n (inp.outcome n)
  have rne : resStatus (inp.outcome n) ≠ .none ∧ resStatus (inp.outcome n) ≠ .run := by
    cases inp.outcome n <;> exact ⟨(fun x => by cases x), (fun x => by cases x)⟩
  refine invL_setStatus h hn rne.1 ?_ e1 e2 e3 e4 e5 e6 hev ?_ ?_ (Or.inr hrpc) (fun x => absurd x rne.2)
  · intro k e
    refine ⟨by (rw [hr]; intro x; cases x; exact e rfl), fun _ a => ?_⟩
    rcases a with a | ⟨r, a⟩ <;> (rw [hr] at a; cases a)
  · intro m _; rw [List.countP_append, (rc m).go]; rfl
  · intro _; rw [List.countP_append, (rc n).term, if_pos rfl]; omega

theorem invL_raise {inp : RunInput} {s : Sys} (h : InvL inp s)
    (hnp : ∀ k x, s.susp = some (.node k) → awaiting s → s.nodes k = some x → x.status ≠ .none ∧ x.status ≠ .run)
    (hex : ∀ k, s.rpc ≠ .sExec k) (hl : Halt) (h8 : hl = .none → s.stop = false → s.susp = some .stopIter) :
    InvL inp (raise s hl) :=
  invL_keep h (h.d.outer rfl rfl rfl rfl rfl rfl) (fun _ y hk => ⟨y, hk, rfl, rfl⟩) ⟨[], rfl, fun _ => rfl⟩ hnp hex
    (fun _ => h8)

theorem serialStep_invL {inp : RunInput} {s s' : Sys} {perm : List Name} (h : InvL inp s) (h2 : Inv2 inp s)
    (h3 : Inv3 inp s) (hs : serialStep inp s perm = some s') : InvL inp s' := by
  have naw : ∀ {r}, s.rpc = r → r ≠ .sWait → (∀ ret, r ≠ .gWait ret) → ¬ awaiting s := fun hr h1 h2 =>
    not_awaiting (hr ▸ h1) fun ret => hr ▸ h2 ret
  have nex : ∀ {r}, s.rpc = r → (∀ k, r ≠ .sExec k) → ∀ k, s.rpc ≠ .sExec k := fun hr h1 k a => h1 k (hr ▸ a)
  -- the generator raised, or yielded something that is not a node: the exception ends `run_tasks`
  have leave : ∀ {o} (hl : Halt), s.rpc = .sWait → s.susp = some o → hl ≠ .none → (∀ k, o ≠ .node k) →
      InvL inp (raise s hl) := fun hl hr hsu hne hno =>
    invL_raise h (fun k _ hk => by rw [hsu] at hk; cases hk; exact absurd rfl (hno k)) (nex hr nofun) hl
      (fun hh => absurd hh hne)
  cases serialStep_spec hs with
  | stop hr hstop =>
    exact invL_raise h (fun _ _ _ aw _ => absurd aw (naw hr nofun nofun)) (nex hr nofun) s.halt
      (fun _ hf => by rw [hstop] at hf; cases hf)
  | send hr _ hsd => exact invL_send h h2 hr hsd
  | tick hr hsu hd => exact invL_dtick h hr hsu hd
  | lost _ hsu hn => obtain ⟨x, a, _⟩ := h2.inv1.sp _ hsu; rw [hn] at a; cases a
  | @go n nd hr hsu hn hd =>
    obtain ⟨f1, f2, f3, f4, _⟩ := applySel_frame inp s n nd .go
    exact invL_select h h2 h3 hr hsu hn hd nofun rfl f1 f2 f3 rfl f4
      ⟨_, startTask_events inp _ n 0, fun m => (startTask_counts inp n 0 m).go⟩ (Or.inl ⟨rfl, rfl⟩)
  | @assertFail n nd hr hsu hn hd =>
    -- the assertion fails on a node that already has a final status: the run is aborted with a crash
    cases selDecision_spec.of_eq hd with
    | assertFail hne hfin =>
      refine invL_raise h ?_ (nex hr nofun) .crash nofun
      intro k x hk _ hx
      rw [hsu] at hk; cases hk
      rw [hn] at hx; cases hx
      refine ⟨hne, fun hrun => ?_⟩
      rcases h.a5 n nd hn hrun with a | ⟨_, a2, _⟩
      · exact nex hr nofun n a
      · exact hfin.elim (fun c => c hrun) a2
  | @select n nd d hr hsu hn hd hg ha =>
    obtain ⟨f1, f2, f3, f4, _⟩ := applySel_frame inp s n nd d
    exact invL_select h h2 h3 hr hsu hn hd ha rfl f1 f2 f3 (applySel_keeps inp s n nd d).toRun f4 ⟨[], rfl, fun _ => rfl⟩
      (Or.inr ⟨hg, rfl⟩)
  | stopIter hr hsu =>
    exact invL_raise h (fun k _ hk => by rw [hsu] at hk; cases hk) (nex hr nofun) s.halt (fun _ _ => hsu)
  | cyclic hr hsu => exact leave .cyclic hr hsu nofun nofun
  | holdOn hr hsu | crash hr hsu => exact leave .crash hr hsu nofun nofun
  | execLost hr hn => have := h2.x _ hr; simp [stOf, hn] at this
  | @result n nd hr hn =>
    obtain ⟨f1, f2, f3, f4, _⟩ := processResult_frame inp { s with events := Ev.fin n 0 :: s.events } n nd
    exact invL_result h hr hn (processResult_nodes ..) f1 f2 f3 (processResult_keeps ..).toRun f4
      ((processResult_events ..).trans (List.append_cons ..)) rfl
  | finish hr =>
    exact invL_keep h (h.d.outer rfl rfl rfl rfl rfl rfl) (fun _ y hk => ⟨y, hk, rfl, rfl⟩)
      ⟨Ev.complete :: s.tdown.map Ev.teardown, by simp [finishRun], fun m => (teardown_counts s.tdown m).1⟩
      (fun _ _ _ aw _ => absurd aw (naw hr nofun nofun)) (nex hr nofun) (fun _ => h.a8 (Or.inl hr))


theorem init_live (inp : RunInput) (b : Name → Prop) : Live inp b (init inp) := by
  refine ⟨⟨?_, ?_, ?_, ?_⟩, ?_, ?_, ?_, ?_⟩
  · intro n nd hn; simp [init] at hn
  · intro n nd hn; simp [init] at hn
  · intro t ht; exact Or.inl ht
  · intro e; simp [init] at e
  · intro n nd hn; simp [init] at hn
  · intro n nd hn; simp [init] at hn
  · intro n nd hn; simp [init] at hn
  · intro n hn; simp [stOf, init, RS.finished] at hn

theorem init_invL (inp : RunInput) : InvL inp (init inp) := by
  refine invL_iff.mpr ⟨init_live inp _, fun a => ?_⟩
  simp only [init] at a; split at a <;> (rcases a with a | a <;> cases a)

theorem reach_invL {inp : RunInput} {s : Sys} (h : Reach inp s) : InvL inp s := by
  induction h with
  | init => exact init_invL inp
  | @next s0 s1 c hr hs ih =>
    cases c with
    | main perm => exact serialStep_invL ih (reach_inv2 hr) (reach_inv3 hr) hs
    | take w => cases hs
    | done w => cases hs

theorem ordOK_go {l : List Ev} (h : OrdOK l) {t : Name} {deps : List Name} (hg : Ev.go t deps ∈ l) :
    ∀ d ∈ deps, finBefore l d := by
  induction l with
  | nil => cases hg
  | cons e rest ih =>
    rcases List.mem_cons.mp hg with rfl | hg'
    · intro d hd
      exact finBefore_mono (fun x hx => List.mem_cons_of_mem _ hx) (h.1 d hd)
    · intro d hd
      exact finBefore_mono (fun x hx => List.mem_cons_of_mem _ hx) (ih h.2 hg' d hd)

/-- the closure of the selection as this run determined it: task_dep and calc_dep as extended by calc results, and the
    setup-tasks of the tasks that `select_task` chose for execution -/
inductive RunCl (inp : RunInput) (s : Sys) : Name → Prop
  | ofSel {t} : t ∈ inp.sel → RunCl inp s t
  | ofTask {t d nd} : RunCl inp s t → s.nodes t = some nd → d ∈ nd.dynTask → RunCl inp s d
  | ofCalc {t d nd} : RunCl inp s t → s.nodes t = some nd → d ∈ nd.dynCalc → RunCl inp s d
  | ofSetup {t d deps} : RunCl inp s t → Ev.go t deps ∈ s.events → d ∈ inp.setup t → RunCl inp s d

/-- the end of a run, for either runner -/
theorem all_processed_of {inp : RunInput} {b : Name → Prop} {s : Sys} (l : Live inp b s) (hb : ∀ t, ¬ b t)
    (h2 : Inv2 inp s) (h3 : Inv3 inp s) (hsu : s.susp = some .stopIter) : ∀ t, RunCl inp s t → cTerm s t = 1 := by
  have hD := l.d
  have a6 := l.a6
  -- a node at `done` has been selected, and nothing is being executed
  have hst : ∀ t x, s.nodes t = some x → x.pc = .done → x.status ≠ .none ∧ x.status ≠ .run := by
    refine fun t x hx hpc => ⟨fun e => ?_, fun e => ?_⟩
    · have := (l.a4 t x hx (by rw [hpc]; rfl) e).1
      rw [hsu] at this; cases this
    · rcases l.a5 t x hx e with a | ⟨_, _, a | ⟨a, _⟩⟩
      · exact hb t a
      · rw [hpc] at a; cases a
      · rw [hpc] at a; cases a
  obtain ⟨q1, q2, q3, q4⟩ := hD.a7 hsu
  have allDone : ∀ k x, s.nodes k = some x → x.pc = .done := by
    intro k x hx
    by_cases hpc : x.pc = .done
    · exact hpc
    · have := hD.a2 k x hx hpc
      rw [q1, q2, q4] at this
      rcases this with a | a | a <;> cases a
  have processed : ∀ t, created s t → cTerm s t = 1 := by
    intro t ⟨x, hx⟩
    obtain ⟨hne, hnr⟩ := hst t x hx (allDone t x hx)
    have hfin : (stOf s t).finished = true := by
      simp only [stOf, hx]
      generalize x.status = st at hne hnr
      cases st <;> first | rfl | exact absurd rfl hne | exact absurd rfl hnr
    have := a6 t hfin
    have := h3.t2 t
    omega
  have mk : ∀ t, RunCl inp s t → created s t := by
    intro t ht
    induction ht with
    | ofSel hm => exact (hD.a3 _ hm).resolve_left fun a => by rw [q3] at a; cases a
    | @ofTask t d nd _ hn hd _ =>
      have hpc := allDone t nd hn
      have hm := (h2.inv1.node t nd hn).m1 (by rw [hpc]; rfl)
      rcases (hD.a1 t nd hn).t d hd with a | ⟨⟨_, a⟩, _⟩ | ⟨_, a, _⟩ | a
      · rw [hm.1] at a; cases a
      · rw [hpc] at a; cases a
      · rw [hpc] at a; cases a
      · exact a
    | @ofCalc t d nd _ hn hd _ =>
      have hpc := allDone t nd hn
      have hm := (h2.inv1.node t nd hn).m1 (by rw [hpc]; rfl)
      rcases (hD.a1 t nd hn).c d hd with a | ⟨_, a, _⟩ | a
      · rw [hm.2.1] at a; cases a
      · rw [hpc] at a; cases a
      · exact a
    | @ofSetup t d deps _ hg hd _ =>
      have hfb := ordOK_go h2.ord hg d (h2.gs t deps hg d (by simp [staticDeps, hd]))
      -- `d` has a finish report, hence a final status, hence a node
      have hpos : cTerm s d ≥ 1 := by
        have : ∃ e ∈ s.events, Ev.isTerminalOf d e = true := by
          rcases hfb with x | x
          · exact ⟨_, x, by simp [Ev.isTerminalOf]⟩
          · exact ⟨_, x, by simp [Ev.isTerminalOf]⟩
        have := List.countP_pos_iff.mpr this
        unfold cTerm; omega
      cases hx : s.nodes d with
      | some x => exact ⟨x, hx⟩
      | none =>
        have := h3.t d (by simp [stOf, hx, RS.finished])
        omega
  exact fun t ht => processed t (mk t ht)

/-- serial runner: a run that ends because the dispatcher has nothing left has reported every member of its closure once -/
theorem all_processed_serial {inp : RunInput} {s : Sys} (hr : Reach inp s) (hh : s.rpc = .halted)
    (hhalt : s.halt = .none) (hstop : s.stop = false) : ∀ t, RunCl inp s t → cTerm s t = 1 :=
  have hL := reach_invL hr
  all_processed_of (invL_iff.mp hL).1 (fun t a => by rw [hh] at a; cases a) (reach_inv2 hr) (reach_inv3 hr)
    (hL.a8 (Or.inr hh) hhalt hstop)

theorem runCl_cl {inp : RunInput} {s : Sys} (m : MInv inp s) (h2 : Inv2 inp s) {t : Name} (h : RunCl inp s t) :
    Cl inp t := by
  induction h with
  | ofSel hm => exact .ofSel hm
  | ofTask _ hn hd _ => exact (m.nodes _ _ hn).dt _ hd
  | ofCalc _ hn hd _ => exact (m.nodes _ _ hn).dc _ hd
  | @ofSetup t d deps _ hg hd _ =>
    -- a setup-task of a task that was chosen has its finish report, and every reported task is in `Cl`
    rcases ordOK_go h2.ord hg d (h2.gs t deps hg d (by simp [staticDeps, hd])) with x | x
    · exact m.ev _ x d (by simp [Ev.mentions])
    · exact m.ev _ x d (by simp [Ev.mentions])

end DoitModel.Run
