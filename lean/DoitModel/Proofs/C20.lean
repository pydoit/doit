import DoitModel.Model.Intro
import DoitModel.Proofs.StatusDecision
/-! # C20 helper lemmas: the frame relation of the introspection commands, `get_log` agreement, reasons -/
namespace DoitModel.Intro
open DoitModel.Status

/-- `s'` differs from `s` at most by the removal of records whose checker differs from the configured one (and by the
    absorbing crash flag) -/
structure Frame (s s' : St) : Prop where
  fs : s'.fs = s.fs
  defs : s'.defs = s.defs
  checker : s'.checker = s.checker
  clock : s'.clock = s.clock
  rcd : ∀ k, s'.rcd k = s.rcd k ∨ (checkerChanged s.checker (s.rcd k) = true ∧ s'.rcd k = Rcd.empty)
  shadow : ∀ k, s'.shadow k = s.shadow k ∨ (checkerChanged s.checker (s.rcd k) = true ∧ s'.shadow k = none)

theorem cc_empty (c : Checker) : checkerChanged c Rcd.empty = false := rfl

theorem Frame.refl (s : St) : Frame s s := ⟨rfl, rfl, rfl, rfl, fun _ => Or.inl rfl, fun _ => Or.inl rfl⟩

theorem Frame.cc_back {s0 s : St} (h : Frame s0 s) {t : Name} (hc : checkerChanged s.checker (s.rcd t) = true) :
    checkerChanged s0.checker (s0.rcd t) = true := by
  rcases h.rcd t with e | ⟨cc, _⟩
  · rw [h.checker, e] at hc; exact hc
  · exact cc

theorem Frame.trans {a b c : St} (h1 : Frame a b) (h2 : Frame b c) : Frame a c := by
  refine ⟨h2.fs.trans h1.fs, h2.defs.trans h1.defs, h2.checker.trans h1.checker, h2.clock.trans h1.clock, ?_, ?_⟩
  · intro k
    rcases h2.rcd k with e2 | ⟨cc2, e2⟩
    · rcases h1.rcd k with e1 | ⟨cc1, e1⟩
      · exact Or.inl (e2.trans e1)
      · exact Or.inr ⟨cc1, e2.trans e1⟩
    · exact Or.inr ⟨h1.cc_back cc2, e2⟩
  · intro k
    rcases h2.shadow k with e2 | ⟨cc2, e2⟩
    · rcases h1.shadow k with e1 | ⟨cc1, e1⟩
      · exact Or.inl (e2.trans e1)
      · exact Or.inr ⟨cc1, e2.trans e1⟩
    · exact Or.inr ⟨h1.cc_back cc2, e2⟩

theorem Frame.ite {s a b : St} {c : Prop} [Decidable c] (ha : c → Frame s a) (hb : ¬c → Frame s b) :
    Frame s (if c then a else b) := by
  by_cases h : c
  · rw [if_pos h]; exact ha h
  · rw [if_neg h]; exact hb h

theorem frame_crashed (s : St) : Frame s { s with crashed := true } :=
  ⟨rfl, rfl, rfl, rfl, fun _ => Or.inl rfl, fun _ => Or.inl rfl⟩

theorem frame_erase {s : St} {t : Name} (h : checkerChanged s.checker (s.rcd t) = true) : Frame s (erase s t) :=
  ⟨rfl, rfl, rfl, rfl,
   fun k => if hk : k = t then Or.inr ⟨hk ▸ h, if_pos hk⟩ else Or.inl (if_neg hk),
   fun k => if hk : k = t then Or.inr ⟨hk ▸ h, if_pos hk⟩ else Or.inl (if_neg hk)⟩

theorem removesRecord_cc {c : Checker} {d : TaskDef} {r : Rcd} {fs : FS} {resOf : Name → Option Res}
    (h : removesRecord c d r fs resOf = true) : checkerChanged c r = true :=
  (Bool.and_eq_true_iff.1 h).2

theorem frame_peek (s : St) (t : Name) : Frame s (step true s (.peek t)) :=
  Frame.ite (fun _ => Frame.refl s) fun _ => Frame.ite (fun _ => frame_crashed s) fun _ =>
    Frame.ite (fun h => frame_erase (removesRecord_cc h)) fun _ => Frame.refl s

theorem frame_info (s : St) (t : Name) : Frame s (step true s (.info t)) :=
  Frame.ite (fun _ => Frame.refl s) fun _ => Frame.ite (fun _ => Frame.refl s) fun _ =>
    Frame.ite (fun _ => frame_crashed s) fun _ => Frame.ite frame_erase fun _ => Frame.refl s

theorem frame_infoOne (s : St) (t : Name) : Frame s (infoOne s t) :=
  Frame.ite (fun _ => Frame.refl s) fun _ => Frame.ite (fun _ => frame_crashed s) fun _ =>
    Frame.ite frame_erase fun _ => Frame.refl s

theorem frame_listOne (s : St) (t : Name) : Frame s (listOne s t) :=
  Frame.ite (fun _ => Frame.refl s) fun _ => frame_peek s t

theorem frame_listSt (s : St) (ts : List Name) : Frame s (listSt s ts) :=
  List.foldlRecOn ts listOne (Frame.refl s) fun b hb t _ => hb.trans (frame_listOne b t)

theorem frame_exec (cmd : Cmd) (hro : cmd.readOnly = true) (s : St) : Frame s (cmd.exec s) := by
  cases cmd with
  | list status ts =>
    cases status
    · exact Frame.refl s
    · exact frame_listSt s ts
  | info t hide =>
    cases hide
    · exact frame_infoOne s t
    · exact Frame.refl s
  | clean dry forget ts =>
    have hd : dry = true := hro
    subst hd
    rw [Cmd.exec, Bool.not_true, Bool.and_false]
    exact Frame.refl s
  | _ => exact Frame.refl s

theorem Frame.same {s s' : St} (h : Frame s s') (hcc : ∀ k, checkerChanged s.checker (s.rcd k) = false) :
    s'.rcd = s.rcd ∧ s'.shadow = s.shadow :=
  ⟨funext fun k => (h.rcd k).resolve_right fun ⟨cc, _⟩ => Bool.false_ne_true ((hcc k).symm.trans cc),
   funext fun k => (h.shadow k).resolve_right fun ⟨cc, _⟩ => Bool.false_ne_true ((hcc k).symm.trans cc)⟩

theorem removesAt_cc {g : Bool} {s : St} {t : Name} (h : removesAt g s t = true) :
    checkerChanged s.checker (s.rcd t) = true := by
  cases g
  · exact removesRecord_cc (Bool.and_eq_true_iff.1 h).2
  · exact (Bool.and_eq_true_iff.1 h).2

theorem listRemoves_cc (s0 s : St) (hf : Frame s0 s) (ts : List Name) :
    ∀ t, t ∈ listRemoves s ts → checkerChanged s0.checker (s0.rcd t) = true := by
  induction ts generalizing s with
  | nil => intro t ht; cases ht
  | cons a rest ih =>
    intro t ht
    rw [listRemoves, List.mem_append, List.mem_ite_nil_right, List.mem_singleton] at ht
    rcases ht with ⟨hc, rfl⟩ | h
    · exact hf.cc_back (removesAt_cc (Bool.and_eq_true_iff.1 hc).2)
    · exact ih (listOne s a) (hf.trans (frame_listOne s a)) t h

theorem removes_cc (cmd : Cmd) (hro : cmd.readOnly = true) (s : St) :
    ∀ t, t ∈ cmd.removes s → checkerChanged s.checker (s.rcd t) = true := by
  intro t ht
  cases cmd with
  | list status ts =>
    cases status
    · cases ht
    · exact listRemoves_cc s s (Frame.refl s) ts t ht
  | info a hide =>
    cases hide
    · rw [Cmd.removes, List.mem_ite_nil_right, List.mem_singleton] at ht
      obtain ⟨hc, rfl⟩ := ht
      exact removesAt_cc (Bool.and_eq_true_iff.1 hc).2
    · cases ht
  | clean dry forget ts =>
    have hd : dry = true := hro
    subst hd
    rw [Cmd.removes, Bool.not_true, Bool.and_false] at ht
    cases ht
  | _ => cases ht

/-- the situations in which, on the tree before the `fix:` commit e6acbba, `get_status(get_log=True).status` differed
    from `get_status(get_log=False).status` (no saved state of the wrong shape; `pinned_getlog_agrees_iff`; on the
    present tree the two never differ, `getlog_agrees`): a file dependency is missing and either (a) no early exit is
    taken, the checker is unchanged and another dependency is listed as changed -- the later `changed_file_dep` reason
    overwrote `error` with `run`; or (b) the `get_log=False` call leaves early with `run` (false uptodate item, no
    dependencies, missing target, changed checker) while the `get_log=True` call went on, met the missing file and,
    no dependency being listed as changed, ended with `error`. -/
def logDisagree (c : Checker) (d : TaskDef) (r : Rcd) (fs : FS) (resOf : Name → Option Res) : Bool :=
  d.deps.any (depMissing fs) &&
    ((!earlyRun d r.getValues resOf fs && !checkerChanged c r && d.deps.any (depListed c r fs))
     || ((earlyRun d r.getValues resOf fs || checkerChanged c r) && !d.deps.any (depListed c (logRcd c r) fs)))

theorem notInPrev_eq (r : Rcd) (p : Path) : notInPrev r p = notSaved r p := rfl

theorem depRaises_eq (c : Checker) (r : Rcd) (fs : FS) : depRaises c r fs = depIs .crash c r fs := by
  funext p
  simp only [depRaises, depIs, depVerdict, notInPrev_eq]
  cases fs p with
  | none => rfl
  | some cur =>
    cases r.fstate p with
    | none => rfl
    | some st => cases notSaved r p <;> rfl

theorem depListed_eq (c : Checker) (r : Rcd) (fs : FS) : depListed c r fs = depIs .modified c r fs := by
  funext p
  simp only [depListed, depIs, depVerdict, notInPrev_eq]
  cases fs p with
  | none => rfl
  | some cur =>
    cases r.fstate p with
    | none => rfl
    | some st => cases notSaved r p <;> rfl

theorem logRcd_no_crash {c : Checker} {r : Rcd} {fs : FS} {deps : List Path}
    (h : deps.any (depIs .crash c r fs) = false) : deps.any (depIs .crash c (logRcd c r) fs) = false := by
  unfold logRcd
  by_cases hcc : checkerChanged c r = true
  · rw [if_pos hcc]; exact any_depIs_crash_empty c fs deps
  · rw [if_neg hcc]; exact h

/-- the two renderings of `get_status(get_log=True)` in the model are the same function -/
theorem logStatus_eq_statusLog (c : Checker) (d : TaskDef) (r : Rcd) (fs : FS) (resOf : Name → Option Res) :
    logStatus c d r fs resOf = statusLog c d r fs resOf := by
  unfold logStatus statusLog
  rw [depRaises_eq, depListed_eq]
  cases hcc : checkerChanged c r with
  | true => rw [Bool.or_true]; cases d.deps.any (depIs .crash c (logRcd c r) fs) <;> rfl
  | false => rw [logRcd_same hcc]

theorem getlog_agrees (c : Checker) (d : TaskDef) (r : Rcd) (fs : FS) (resOf : Name → Option Res)
    (hnc : d.deps.any (depIs .crash c r fs) = false) :
    logStatus c d r fs resOf = statusOf true c d r fs resOf := by
  rw [logStatus_eq_statusLog]; exact statusLog_eq_statusOf c d r fs resOf (logRcd_no_crash hnc)

theorem logStatus_upToDate_iff (c : Checker) (d : TaskDef) (r : Rcd) (fs : FS) (resOf : Name → Option Res) :
    logStatus c d r fs resOf = .upToDate ↔ statusOf true c d r fs resOf = .upToDate := by
  rw [logStatus_eq_statusLog]; exact statusLog_upToDate_iff c d r fs resOf

/-- the tree before the `fix:` commit e6acbba: the two statuses differed exactly in `logDisagree` -/
theorem pinned_getlog_agrees_iff (c : Checker) (d : TaskDef) (r : Rcd) (fs : FS) (resOf : Name → Option Res)
    (hnc : d.deps.any (depIs .crash c r fs) = false) :
    logStatusPinned c d r fs resOf = statusOf true c d r fs resOf ↔ logDisagree c d r fs resOf = false := by
  unfold logStatusPinned logDisagree
  rw [depRaises_eq, depListed_eq, depListed_eq, statusOf_eq, logRcd_no_crash hnc, hnc]
  cases hcc : checkerChanged c r with
  | true =>
    -- the checker changed: `get_log=False` says `run`; the old `get_log=True` said `error` exactly in case (b)
    rw [logRcd_changed hcc]
    simp only [Bool.or_true, Bool.true_or, if_true, Bool.not_true, Bool.and_false, Bool.false_and, Bool.false_or,
      Bool.true_and, Bool.false_eq_true, if_false]
    cases d.deps.any (depMissing fs) <;> cases d.deps.any (depIs .modified c Rcd.empty fs) <;> decide
  | false =>
    -- same record in both: with a missing dependency they part in case (a) (no early exit, one listed) and in
    -- case (b) (early exit, none listed); without one the two cascades give the same answer
    rw [logRcd_same hcc]
    cases earlyRun d r.getValues resOf fs <;> cases d.deps.any (depMissing fs) <;>
      cases d.deps.any (depIs .modified c r fs) <;> cases depsChanged true r d.deps <;> decide

theorem filter_isEmpty {α} (l : List α) (f : α → Bool) : (l.filter f).isEmpty = !l.any f := by
  induction l with
  | nil => rfl
  | cons a rest ih =>
    simp only [List.filter_cons, List.any_cons]
    cases f a <;> simp [ih]

theorem isNone_ckReason (c : Checker) (r : Rcd) : (ckReason c r).isNone = !checkerChanged c r := by
  unfold ckReason checkerChanged
  cases r.checker with
  | none => rfl
  | some c' => by_cases h : c' = c <;> simp [h]

theorem utdEvaluated_false {vals : Values} {resOf : Name → Option Res} {items : List Utd} :
    utdEvaluated vals resOf items = false ↔ ∀ u, u ∈ items → evalUtd vals resOf u = none := by
  unfold utdEvaluated
  rw [List.any_eq_false]
  exact forall_congr' fun u => imp_congr_right fun _ => by
    rw [Bool.not_eq_true, Option.isSome_eq_false_iff, Option.isNone_iff_eq_none]

theorem ckReason_eq_some {c : Checker} {r : Rcd} {a b : Checker} :
    ckReason c r = some (a, b) ↔ r.checker = some a ∧ a ≠ c ∧ b = c := by
  unfold ckReason
  cases r.checker with
  | none => simp
  | some c' =>
    dsimp only
    by_cases h : c' = c
    · subst h
      rw [if_neg (fun h => h rfl)]
      exact ⟨nofun, fun ⟨h1, h2, _⟩ => absurd (Option.some.inj h1).symm h2⟩
    · rw [if_pos h, Option.some.injEq, Prod.mk.injEq, Option.some.injEq]
      exact ⟨fun ⟨h1, h2⟩ => ⟨h1, h1 ▸ h, h2.symm⟩, fun ⟨h1, _, h3⟩ => ⟨h1, h3.symm⟩⟩

theorem depListed_iff {c : Checker} {r : Rcd} {fs : FS} {p : Path} :
    depListed c r fs p = true ↔ ∃ cur, fs p = some cur ∧
      (r.fstate p = none ∨ notInPrev r p = true ∨ ∃ st, r.fstate p = some st ∧ checkModified c st cur = .modified) := by
  unfold depListed
  cases fs p with
  | none => simp
  | some cur => cases r.fstate p <;> simp

theorem ofStatus_upToDate {x : Status} : ofStatus x = .upToDate ↔ x = .upToDate := by
  cases x <;> decide

theorem depsChanged_lists (r : Rcd) (deps : List Path) (h : depsChanged true r deps = true) :
    (((prevDeps r).filter (· ∉ deps)).isEmpty && (deps.filter (· ∉ prevDeps r)).isEmpty) = false := by
  unfold depsChanged at h
  unfold prevDeps
  cases hd : r.deps with
  | none => rw [hd] at h; cases h
  | some prev =>
    rw [hd] at h
    have h : (!sameSet prev deps) = true := h
    rw [Bool.not_eq_true'] at h
    rw [Option.getD_some, filter_isEmpty, filter_isEmpty]
    simp only [sameSet, List.all_eq_not_any_not, decide_not] at h ⊢
    exact h

theorem listOne_id {s : St} {t : Name} (hc : s.crashed = false)
    (hcc : checkerChanged s.checker (s.rcd t) = false) (hst : s.status true t ≠ .crash) : listOne s t = s := by
  have h1 : (s.status true t == Status.crash) = false := beq_false_of_ne hst
  have h2 : removesRecord s.checker (s.defs t) (s.rcd t) s.fs s.resOf = false := by
    rw [removesRecord, hcc, Bool.and_false]
  simp only [listOne, step, peek, hc, h1, h2, Bool.false_eq_true, if_false, ite_self]

theorem runTask_of_decision (s : St) (t : Name) (ok : Bool) (ws : List (Path × Nat × Nat)) (res : Option Res) :
    runTask true s t ok false ws res =
      match decision s t with
      | .ignore => s
      | .upToDate => s
      | .error => erase s t
      | .run => finish (applyWrites (peek s t) ws) t ok res
      | .crash => { s with crashed := true } := by
  unfold decision runTask
  cases (s.rcd t).ign
  · cases s.status true t <;> rfl
  · rfl

end DoitModel.Intro
