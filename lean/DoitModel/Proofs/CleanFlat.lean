import DoitModel.Proofs.CleanDict
/-! `flat` / `_get_leafs` terminate (the fuel of the model is never
    exhausted, on any node table — cyclic ones included) and emit a permutation of the node table's keys. -/
namespace DoitModel.Clean

def FMono (s s' : FState) : Prop := s'.nodes.length ≤ s.nodes.length ∧ ∀ x, x ∈ s.out → x ∈ s'.out

theorem visit_mono {rec : Name → List Name → FState → FState} (hrec : ∀ c g s, FMono s (rec c g s))
    (s : FState) (c : Name) : FMono s (visit rec s c) := by
  unfold visit
  cases hc : alookup c s.nodes with
  | none => exact ⟨Nat.le_refl _, fun _ h => h⟩
  | some g =>
    obtain ⟨h1, h2⟩ := hrec c g { s with nodes := pop1 c s.nodes }
    exact ⟨Nat.le_trans h1 (length_pop1 (mem_keys_of_alookup hc) ▸ Nat.le_succ _), h2⟩

theorem foldl_visit_mono {rec : Name → List Name → FState → FState} (hrec : ∀ c g s, FMono s (rec c g s))
    (cs : List Name) (s : FState) : FMono s (cs.foldl (visit rec) s) :=
  List.foldlRecOn cs _ (motive := FMono s) ⟨Nat.le_refl _, fun _ h => h⟩ fun b hb c _ =>
    ⟨Nat.le_trans (visit_mono hrec b c).1 hb.1, fun x hx => (visit_mono hrec b c).2 x (hb.2 x hx)⟩

theorem getLeafs_mono : ∀ (f : Nat) (name : Name) (ch : List Name) (s : FState), FMono s (getLeafs f name ch s)
  | 0, _, _, _ => ⟨Nat.le_refl _, fun _ h => h⟩
  | f + 1, _, ch, s =>
    ⟨(foldl_visit_mono (getLeafs_mono f) ch s).1,
      fun x hx => List.mem_append_left _ ((foldl_visit_mono (getLeafs_mono f) ch s).2 x hx)⟩

/-- the conservation law: `out ++ keys nodes` gains exactly `name`, since each recursive call is preceded by a
    `pop` of the node it descends into; hence `nodes.length < f` is fuel enough -/
theorem getLeafs_conserves : ∀ (f : Nat) (name : Name) (ch : List Name) (s r : FState),
    getLeafs f name ch s = r → s.oof = false → s.nodes.length < f →
    r.oof = false ∧ (r.out ++ keys r.nodes).Perm (name :: (s.out ++ keys s.nodes)) := by
  intro f
  induction f with
  | zero => intro name ch s r _ _ h; exact absurd h (Nat.not_lt_zero _)
  | succ f ih =>
    intro name ch s r hr hoof hlen
    subst hr
    have loop : (ch.foldl (visit (getLeafs f)) s).oof = false ∧
        ((ch.foldl (visit (getLeafs f)) s).out ++ keys (ch.foldl (visit (getLeafs f)) s).nodes).Perm
          (s.out ++ keys s.nodes) := by
      refine (List.foldlRecOn ch _ (motive := fun (b : FState) => b.nodes.length < f + 1 ∧ b.oof = false ∧
        (b.out ++ keys b.nodes).Perm (s.out ++ keys s.nodes)) ⟨hlen, hoof, List.Perm.refl _⟩ ?_).2
      intro b ⟨hl, ho, hp⟩ c _
      refine ⟨Nat.lt_of_le_of_lt (visit_mono (getLeafs_mono f) b c).1 hl, ?_⟩
      unfold visit
      cases hc : alookup c b.nodes with
      | none => exact ⟨ho, hp⟩
      | some g =>
        rw [← length_pop1 (mem_keys_of_alookup hc)] at hl
        obtain ⟨o, p⟩ := ih c g { b with nodes := pop1 c b.nodes } _ rfl ho (Nat.lt_of_succ_lt_succ hl)
        exact ⟨o, p.trans (List.perm_middle.symm.trans
          ((List.Perm.append_left b.out (keys_pop1_perm (mem_keys_of_alookup hc)).symm).trans hp))⟩
    refine ⟨loop.1, ?_⟩
    show ((ch.foldl (visit (getLeafs f)) s).out ++ [name] ++ keys (ch.foldl (visit (getLeafs f)) s).nodes).Perm _
    rw [List.append_assoc]
    exact List.perm_middle.trans (loop.2.cons name)

theorem flatLoop_induction (lf : Nat) {P : FState → Prop}
    (hstep : ∀ (s : FState) (hd : Name) (ch : List Name) (rest : Nodes), s.nodes = (hd, ch) :: rest →
      rest.length < lf → P s → P (getLeafs lf hd ch { s with nodes := rest })) :
    ∀ (fuel : Nat) (s : FState), s.nodes.length ≤ fuel → s.nodes.length ≤ lf → P s →
      P (flatLoop lf fuel s) ∧ (flatLoop lf fuel s).nodes = [] := by
  intro fuel
  induction fuel with
  | zero =>
    intro s hl _ h
    have hn : s.nodes = [] := List.eq_nil_of_length_eq_zero (Nat.le_zero.1 hl)
    unfold flatLoop
    rw [hn]
    exact ⟨h, hn⟩
  | succ f ih =>
    intro s hl hlf h
    unfold flatLoop
    cases hn : s.nodes with
    | nil => exact ⟨h, hn⟩
    | cons p rest =>
      obtain ⟨hd, ch⟩ := p
      rw [hn] at hl hlf
      have l := (getLeafs_mono lf hd ch { s with nodes := rest }).1
      exact ih _ (Nat.le_trans l (Nat.le_of_succ_le_succ hl)) (Nat.le_trans l (Nat.le_of_succ_le hlf))
        (hstep s hd ch rest hn hlf h)

theorem flat_spec (ns : Nodes) : (flat ns).oof = false ∧ (flat ns).out.Perm (keys ns) := by
  obtain ⟨⟨o, p⟩, hn⟩ := flatLoop_induction (ns.length + 1)
    (P := fun s => s.oof = false ∧ (s.out ++ keys s.nodes).Perm (keys ns))
    (fun s hd ch rest hn hl ⟨o, p⟩ => by
      obtain ⟨o', p'⟩ := getLeafs_conserves _ hd ch { s with nodes := rest } _ rfl o hl
      rw [hn] at p
      exact ⟨o', p'.trans (List.perm_middle.symm.trans p)⟩)
    ns.length { nodes := ns, out := [], oof := false } (Nat.le_refl _) (Nat.le_succ _) ⟨rfl, List.Perm.refl _⟩
  rw [hn, keys, List.map_nil, List.append_nil] at p
  exact ⟨o, p⟩

end DoitModel.Clean
