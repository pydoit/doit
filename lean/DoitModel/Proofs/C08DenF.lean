import DoitModel.Proofs.C08Den
/-! # C08 (I10): on an acyclic graph the executable `denF` is total and is THE denotation -/
namespace DoitModel.Run

/-- `r` is a rank: every task_dep and every setup-task of `n` ranks below `n` -/
def Acyclic (inp : RunInput) (r : Name → Nat) : Prop :=
  ∀ n, (∀ d ∈ inp.taskDep n, r d < r n) ∧ (∀ d ∈ inp.setup n, r d < r n)

theorem not_any_isBot {l : List Name} {f : Name → Den} (h : ∀ d ∈ l, f d ≠ .bot) :
    ¬ (l.any (fun d => (f d).isBot) = true) := by
  rw [List.any_eq_true]
  rintro ⟨d, hd, hb⟩
  have := h d hd
  cases hx : f d <;> simp_all [Den.isBot]

theorem denF_complete {inp : RunInput} {r : Name → Nat} (hr : Acyclic inp r) :
    ∀ (f : Nat) (n : Name), r n < f → denF inp f n ≠ .bot := by
  intro f
  induction f with
  | zero => intro n h; exact absurd h (Nat.not_lt_zero _)
  | succ f ih =>
    intro n h
    have hT := not_any_isBot (f := denF inp f) (l := inp.taskDep n)
      (fun d hd => ih d (by have := (hr n).1 d hd; omega))
    have hS := not_any_isBot (f := denF inp f) (l := inp.setup n)
      (fun d hd => ih d (by have := (hr n).2 d hd; omega))
    have hS' : ¬ (stage1 inp (denF inp f) n = .run ∧ (inp.setup n).any (fun d => (denF inp f d).isBot) = true) :=
      fun x => hS x.2
    simp only [denF, hT, hS', if_false]
    exact combine_ne_bot _ _ _

theorem denF_is_den {inp : RunInput} {r : Name → Nat} (hr : Acyclic inp r) (f : Nat) (n : Name) (h : r n < f) :
    DenOf inp n (denF inp f n) :=
  denF_sound inp f n (denF_complete hr f n h)

theorem DenOf_total {inp : RunInput} {r : Name → Nat} (hr : Acyclic inp r) (n : Name) : ∃ d, DenOf inp n d :=
  ⟨_, denF_is_den hr (r n + 1) n (Nat.lt_succ_self _)⟩

theorem denF_unique {inp : RunInput} {r : Name → Nat} (hr : Acyclic inp r) {n : Name} {d : Den} (h : DenOf inp n d)
    (f : Nat) (hf : r n < f) : denF inp f n = d :=
  (denF_is_den hr f n hf).functional h

theorem DenOf_iff_denF {inp : RunInput} {r : Name → Nat} (hr : Acyclic inp r) (n : Name) (d : Den) (f : Nat)
    (hf : r n < f) : DenOf inp n d ↔ denF inp f n = d :=
  ⟨fun h => denF_unique hr h f hf, fun h => h ▸ denF_is_den hr f n hf⟩

theorem denF_mono {inp : RunInput} {f g : Nat} {n : Name} (h : denF inp f n ≠ .bot) (hg : denF inp g n ≠ .bot) :
    denF inp f n = denF inp g n :=
  (denF_sound inp f n h).functional (denF_sound inp g n hg)

end DoitModel.Run
