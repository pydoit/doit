import DoitModel.Proofs.LoadTotal
/-! definition order: `funcs.sort(key=line)` is a stable sort, the task list is the concatenation of the creators'
    results in that order -/
namespace DoitModel.Load

theorem insertByLine_perm (c : Creator) (l : List Creator) : (insertByLine c l).Perm (c :: l) := by
  induction l with
  | nil => simp [insertByLine]
  | cons x xs ih =>
    unfold insertByLine
    split
    · exact List.Perm.refl _
    · exact (List.Perm.cons x ih).trans (List.Perm.swap c x xs)

theorem sortByLine_ind {motive : List Creator → List Creator → Prop} (nil : motive [] [])
    (step : ∀ c seen l, motive seen l → motive (seen ++ [c]) (insertByLine c l)) (cs : List Creator) :
    motive cs (sortByLine cs) := by
  suffices h : ∀ cs seen acc, motive seen acc →
      motive (seen ++ cs) (cs.foldl (fun acc c => insertByLine c acc) acc) from h cs [] [] nil
  intro cs
  induction cs with
  | nil => intro seen acc h; rwa [List.append_nil]
  | cons c rest ih => intro seen acc h; rw [List.append_cons]; exact ih _ _ (step c seen acc h)

theorem sortByLine_perm (cs : List Creator) : (sortByLine cs).Perm cs :=
  sortByLine_ind (motive := fun cs l => l.Perm cs) (List.Perm.refl _)
    (fun c _ l h => (insertByLine_perm c l).trans ((h.cons c).trans (List.perm_append_comm (l₁ := [c])))) cs

theorem mem_sortByLine (cs : List Creator) (x : Creator) : x ∈ sortByLine cs ↔ x ∈ cs :=
  (sortByLine_perm cs).mem_iff

def SortedByLine (l : List Creator) : Prop := l.Pairwise (fun a b => a.line ≤ b.line)

theorem insertByLine_sorted (c : Creator) (l : List Creator) (h : SortedByLine l) : SortedByLine (insertByLine c l) := by
  induction l with
  | nil => simp [insertByLine, SortedByLine]
  | cons x xs ih =>
    rw [SortedByLine, List.pairwise_cons] at h
    rw [insertByLine]
    by_cases hlt : c.line < x.line
    · rw [if_pos hlt]
      refine List.pairwise_cons.mpr ⟨fun y hy => ?_, List.pairwise_cons.mpr h⟩
      rcases List.mem_cons.mp hy with rfl | hy'
      · exact Nat.le_of_lt hlt
      · exact Nat.le_trans (Nat.le_of_lt hlt) (h.1 y hy')
    · rw [if_neg hlt]
      refine List.pairwise_cons.mpr ⟨fun y hy => ?_, ih h.2⟩
      rcases List.mem_cons.mp ((insertByLine_perm c xs).mem_iff.mp hy) with rfl | hy'
      · exact Nat.le_of_not_lt hlt
      · exact h.1 y hy'

theorem insertByLine_filter (c : Creator) (l : List Creator) (n : Nat) (h : SortedByLine l) :
    (insertByLine c l).filter (fun x => x.line == n) =
      l.filter (fun x => x.line == n) ++ (if c.line == n then [c] else []) := by
  induction l with
  | nil => rw [insertByLine, List.filter_cons]; rfl
  | cons x xs ih =>
    rw [SortedByLine, List.pairwise_cons] at h
    rw [insertByLine]
    by_cases hlt : c.line < x.line
    · rw [if_pos hlt, List.filter_cons]
      by_cases hcn : (c.line == n) = true
      · -- everything after `c` is on a later line than `n`
        have hnil : (x :: xs).filter (fun y => y.line == n) = [] := List.filter_eq_nil_iff.mpr fun y hy hyn => by
          have hc := beq_iff_eq.mp hcn
          have hy' := beq_iff_eq.mp hyn
          have hxy : x.line ≤ y.line := by
            rcases List.mem_cons.mp hy with rfl | hm
            · exact Nat.le_refl _
            · exact h.1 y hm
          rw [hy', ← hc] at hxy
          exact Nat.lt_irrefl _ (Nat.lt_of_lt_of_le hlt hxy)
        rw [if_pos hcn, if_pos hcn, hnil]; rfl
      · rw [if_neg hcn, if_neg hcn, List.append_nil]
    · rw [if_neg hlt, List.filter_cons, List.filter_cons, ih h.2]
      by_cases hx : (x.line == n) = true
      · rw [if_pos hx, if_pos hx]; rfl
      · rw [if_neg hx, if_neg hx]

theorem sortByLine_sorted_stable (cs : List Creator) : SortedByLine (sortByLine cs) ∧
    ∀ n, (sortByLine cs).filter (fun x => x.line == n) = cs.filter (fun x => x.line == n) :=
  sortByLine_ind (motive := fun cs l => SortedByLine l ∧ ∀ n, l.filter (fun x => x.line == n) = cs.filter (fun x => x.line == n))
    ⟨List.Pairwise.nil, fun _ => rfl⟩
    (fun c seen l h => ⟨insertByLine_sorted c l h.1, fun n => by
      rw [insertByLine_filter c l n h.1, h.2, List.filter_append, List.filter_cons, List.filter_nil]⟩) cs

/-- `parts` are the task lists of the creators `cs`, one by one -/
def PartsOf : List Creator → List (List Task) → Prop
  | [], [] => True
  | c :: cs, p :: ps => generate c.name c.result = .ok p ∧ PartsOf cs ps
  | _, _ => False

theorem generateAll_parts (cmds : List Name) (cs : List Creator) (ts : List Task)
    (h : generateAll cmds cs = .ok ts) : ∃ parts, PartsOf cs parts ∧ ts = parts.flatten := by
  induction cs generalizing ts with
  | nil => cases h; exact ⟨[], trivial, rfl⟩
  | cons c rest ih =>
    obtain ⟨seg, more, hseg, _, hmore, rfl⟩ := (generateAll_checked cmds (c :: rest)).of_ok h
    obtain ⟨ps, hps, rfl⟩ := ih more hmore
    exact ⟨seg :: ps, ⟨hseg, hps⟩, rfl⟩

end DoitModel.Load
