import DoitModel.Model.RunData
/-! # C08 (I10): the relational denotation `DenOf` of graphs without calc_dep — functional with no hypothesis on the
    graph, schedule-free; total on acyclic graphs, where the executable `denF` computes it (`Proofs/C08DenF.lean`) -/
namespace DoitModel.Run

def NoCalc (inp : RunInput) : Prop := ∀ n, inp.calcDep n = []

/-- `DenOf inp n d`: `d` is the outcome of `n` in a complete run, derived bottom-up from the outcomes of its
    task_deps and (only when the first pass says `run`) of its setup-tasks.  No acyclicity hypothesis: on a cyclic
    graph no derivation exists. -/
inductive DenOf (inp : RunInput) : Name → Den → Prop
  | mk (n : Name) (dd : Name → Den)
      (hT : ∀ d ∈ inp.taskDep n, DenOf inp d (dd d))
      (hS : stage1 inp dd n = .run → ∀ d ∈ inp.setup n, DenOf inp d (dd d)) :
      DenOf inp n (combine inp dd n)

theorem any_congr {l : List Name} {f g : Name → Bool} (h : ∀ d ∈ l, f d = g d) : l.any f = l.any g := by
  induction l with
  | nil => rfl
  | cons a t ih =>
    simp only [List.any_cons]
    rw [h a (by simp), ih (fun d hd => h d (by simp [hd]))]

theorem stage1_congr {inp : RunInput} {dd dd' : Name → Den} {n : Name} (h : ∀ d ∈ inp.taskDep n, dd d = dd' d) :
    stage1 inp dd n = stage1 inp dd' n := by
  unfold stage1
  rw [any_congr (f := fun d => (dd d).isIgn) (g := fun d => (dd' d).isIgn) (fun d hd => by simp only [h d hd]),
      any_congr (f := fun d => (dd d).isFail) (g := fun d => (dd' d).isFail) (fun d hd => by simp only [h d hd])]

theorem stage2_congr {inp : RunInput} {dd dd' : Name → Den} {n : Name} (h : ∀ d ∈ inp.setup n, dd d = dd' d) :
    stage2 inp dd n = stage2 inp dd' n := by
  unfold stage2
  rw [any_congr (f := fun d => (dd d).isIgn) (g := fun d => (dd' d).isIgn) (fun d hd => by simp only [h d hd]),
      any_congr (f := fun d => (dd d).isFail) (g := fun d => (dd' d).isFail) (fun d hd => by simp only [h d hd])]

theorem combine_congr {inp : RunInput} {dd dd' : Name → Den} {n : Name} (hT : ∀ d ∈ inp.taskDep n, dd d = dd' d)
    (hS : stage1 inp dd n = .run → ∀ d ∈ inp.setup n, dd d = dd' d) : combine inp dd n = combine inp dd' n := by
  unfold combine
  rw [← stage1_congr hT]
  cases h1 : stage1 inp dd n with
  | run => simp only []; exact stage2_congr (hS h1)
  | _ => rfl

theorem resDen_ne_bot (o : Outcome) : resDen o ≠ .bot := by cases o <;> simp [resDen]

theorem stage2_ne_bot (inp : RunInput) (dd : Name → Den) (n : Name) : stage2 inp dd n ≠ .bot := by
  unfold stage2
  split; · simp
  split; · simp
  split
  · exact resDen_ne_bot _
  · simp

theorem combine_ne_bot (inp : RunInput) (dd : Name → Den) (n : Name) : combine inp dd n ≠ .bot := by
  unfold combine
  cases stage1 inp dd n <;> simp [stage2_ne_bot]

theorem DenOf.ne_bot {inp : RunInput} {n : Name} {d : Den} (h : DenOf inp n d) : d ≠ .bot := by
  cases h with
  | mk n dd hT hS => exact combine_ne_bot inp dd n

/-- the denotation is a partial function of the input: no schedule, no choice enters it -/
theorem DenOf.functional {inp : RunInput} {n : Name} {a b : Den} (ha : DenOf inp n a) (hb : DenOf inp n b) : a = b := by
  induction ha generalizing b with
  | mk n dd hT hS ihT ihS =>
    cases hb with
    | mk _ dd' hT' hS' =>
      have eT : ∀ d ∈ inp.taskDep n, dd d = dd' d := fun d hd => ihT d hd (hT' d hd)
      apply combine_congr eT
      intro h1 d hd
      have h1' : stage1 inp dd' n = .run := by rw [← stage1_congr eT]; exact h1
      exact ihS h1 d hd (hS' h1' d hd)

/-- two inputs with the same task table and oracle (`DenOf` reads all of these fields but `calcDep`, which is there so that
    `NoCalc` transfers) -/
structure SameTasks (a b : RunInput) : Prop where
  taskDep : a.taskDep = b.taskDep
  setup : a.setup = b.setup
  ignored : a.ignored = b.ignored
  statusOf : a.statusOf = b.statusOf
  always : a.always = b.always
  outcome : a.outcome = b.outcome
  argsOk : a.argsOk = b.argsOk
  calcDep : a.calcDep = b.calcDep

theorem SameTasks.refl (a : RunInput) : SameTasks a a := ⟨rfl, rfl, rfl, rfl, rfl, rfl, rfl, rfl⟩
theorem SameTasks.symm {a b : RunInput} (h : SameTasks a b) : SameTasks b a :=
  ⟨h.1.symm, h.2.symm, h.3.symm, h.4.symm, h.5.symm, h.6.symm, h.7.symm, h.8.symm⟩

theorem stage1_same {a b : RunInput} (h : SameTasks a b) (dd : Name → Den) (n : Name) :
    stage1 a dd n = stage1 b dd n := by
  unfold stage1 effStatus; rw [h.taskDep, h.ignored, h.statusOf, h.always]

theorem stage2_same {a b : RunInput} (h : SameTasks a b) (dd : Name → Den) (n : Name) :
    stage2 a dd n = stage2 b dd n := by
  unfold stage2; rw [h.setup, h.argsOk, h.outcome]

theorem combine_same {a b : RunInput} (h : SameTasks a b) (dd : Name → Den) (n : Name) :
    combine a dd n = combine b dd n := by
  simp only [combine, stage1_same h, stage2_same h]

theorem DenOf.same {a b : RunInput} (h : SameTasks a b) {n : Name} {d : Den} (hd : DenOf a n d) : DenOf b n d := by
  induction hd with
  | mk n dd hT hS ihT ihS =>
    rw [combine_same h]
    refine DenOf.mk n dd ?_ ?_
    · intro d hd; rw [← h.taskDep] at hd; exact ihT d hd
    · intro h1 d hd; rw [← h.setup] at hd; rw [← stage1_same h] at h1; exact ihS h1 d hd

theorem DenOf_congr {a b : RunInput} (h : SameTasks a b) (n : Name) (d : Den) : DenOf a n d ↔ DenOf b n d :=
  ⟨fun x => x.same h, fun x => x.same h.symm⟩

theorem DenOf_runner (inp : RunInput) (r : RunnerKind) (k : Nat) (n : Name) (d : Den) :
    DenOf { inp with runner := r, numProc := k } n d ↔ DenOf inp n d :=
  DenOf_congr (a := { inp with runner := r, numProc := k }) (b := inp) ⟨rfl, rfl, rfl, rfl, rfl, rfl, rfl, rfl⟩ n d

theorem any_isBot_false {l : List Name} {f : Name → Den} (h : ¬ (l.any (fun d => (f d).isBot) = true)) :
    ∀ d ∈ l, f d ≠ .bot := by
  intro d hd e
  apply h
  rw [List.any_eq_true]
  exact ⟨d, hd, by rw [e]; rfl⟩

theorem denF_sound (inp : RunInput) : ∀ (f : Nat) (n : Name), denF inp f n ≠ .bot → DenOf inp n (denF inp f n) := by
  intro f
  induction f with
  | zero => intro n h; exact absurd rfl h
  | succ f ih =>
    intro n h
    simp only [denF] at h ⊢
    split at h
    · exact absurd rfl h
    · rename_i hT
      simp only [hT] at ⊢
      split at h
      · exact absurd rfl h
      · rename_i hS
        simp only [hS, if_false]
        refine DenOf.mk n (denF inp f) ?_ ?_
        · intro d hd; exact ih d (any_isBot_false hT d hd)
        · intro h1 d hd
          have : ¬ ((inp.setup n).any (fun d => (denF inp f d).isBot) = true) := fun x => hS ⟨h1, x⟩
          exact ih d (any_isBot_false this d hd)

end DoitModel.Run
