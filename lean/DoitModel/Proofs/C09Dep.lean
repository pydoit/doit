import DoitModel.Proofs.RunAcct
import DoitModel.Proofs.DispMove
import DoitModel.Model.RunC09
/-! # C09 — the dependency relation of a run input and the node invariant "every list of an `ExecNode` holds
    dependencies of its task; no ancestor ranks below the task", in every reachable state of both systems

`NDep` / `AllN` carry a ranking of the tasks (`Ranked`: it falls strictly along every dependency, i.e. the graph is acyclic)
only for the field `anc`: a dependency that is also an ancestor would rank both strictly below and not below the task, so
the ancestors test of `_gen_node` cannot fire. -/
namespace DoitModel.Run

/-- `c` can become a calc_dep of `n`: listed, or delivered (`values['calc_dep']`) by something that can -/
inductive CalcOf (inp : RunInput) (n : Name) : Name → Prop
  | base {c} : c ∈ inp.calcDep n → CalcOf inp n c
  | res {p c} : CalcOf inp n p → c ∈ (inp.calcRes p).calcs → CalcOf inp n c
  | resFail {p c} : CalcOf inp n p → c ∈ (inp.calcResFail p).calcs → CalcOf inp n c   -- delivered although `p` failed

/-- task_dep (after expansion: implicit target->file_dep, result_dep …), calc_dep, setup-task, or a task_dep / file_dep
    owner delivered by a calc_dep — also by one whose execution failed (`_process_calc_dep_results` reads `task.values`
    whatever the status) -/
inductive Dep (inp : RunInput) : Name → Name → Prop
  | task {n d} : d ∈ inp.taskDep n → Dep inp n d
  | ofCalc {n c} : CalcOf inp n c → Dep inp n c
  | setup {n d} : d ∈ inp.setup n → Dep inp n d
  | resT {n p d} : CalcOf inp n p → d ∈ (inp.calcRes p).tasks → Dep inp n d
  | resF {n p d} : CalcOf inp n p → d ∈ (inp.calcRes p).files → Dep inp n d
  | resTFail {n p d} : CalcOf inp n p → d ∈ (inp.calcResFail p).tasks → Dep inp n d
  | resFFail {n p d} : CalcOf inp n p → d ∈ (inp.calcResFail p).files → Dep inp n d

def Ranked (inp : RunInput) (rank : Name → Nat) : Prop := ∀ n d, Dep inp n d → rank d < rank n

def Acyclic (inp : RunInput) : Prop := ∃ rank : Name → Nat, Ranked inp rank

def pcDep (inp : RunInput) (n : Name) : PC → Prop
  | .calcIter todo => ∀ d ∈ todo, CalcOf inp n d
  | .taskIter todo => ∀ d ∈ todo, Dep inp n d
  | .setupIter todo => ∀ d ∈ todo, d ∈ inp.setup n
  | _ => True

structure NDep (inp : RunInput) (rank : Name → Nat) (n : Name) (nd : Node) : Prop where
  anc : ∀ a ∈ nd.anc, rank n ≤ rank a
  pt : ∀ d ∈ nd.pendTask, Dep inp n d
  pcalc : ∀ d ∈ nd.pendCalc, CalcOf inp n d
  st : ∀ d ∈ nd.snapTask, Dep inp n d
  sc : ∀ d ∈ nd.snapCalc, CalcOf inp n d
  wr : ∀ d ∈ nd.waitRun, Dep inp n d
  wc : ∀ d ∈ nd.waitRunCalc, CalcOf inp n d
  pcl : pcDep inp n nd.pc

def AllN (inp : RunInput) (rank : Name → Nat) (s : Sys) : Prop := ∀ k y, s.nodes k = some y → NDep inp rank k y

variable {inp : RunInput} {rank : Name → Nat}

def Node.depLists (nd : Node) :=
  (nd.anc, nd.pendTask, nd.pendCalc, nd.snapTask, nd.snapCalc, nd.waitRun, nd.waitRunCalc)

theorem NDep.congr {n : Name} {nd x : Node} (h : NDep inp rank n nd) (e : x.depLists = nd.depLists)
    (hpc : pcDep inp n x.pc) : NDep inp rank n x := by
  simp only [Node.depLists, Prod.mk.injEq] at e
  obtain ⟨e1, e4, e5, e6, e7, e8, e9⟩ := e
  exact ⟨e1 ▸ h.anc, e4 ▸ h.pt, e5 ▸ h.pcalc, e6 ▸ h.st, e7 ▸ h.sc, e8 ▸ h.wr, e9 ▸ h.wc, hpc⟩

theorem mkNode_ndep {t : Name} {anc : List Name} (ha : ∀ a ∈ anc, rank t ≤ rank a) :
    NDep inp rank t (mkNode inp t anc) := by
  have hc : ∀ d ∈ dedup (inp.calcDep t), CalcOf inp t d := fun d hd => CalcOf.base (mem_dedup.mp hd)
  exact ⟨ha, fun d hd => Dep.task hd, hc, nofun, nofun, nofun, nofun, trivial⟩

theorem addDeps_ndepR {n : Name} {nd : Node} {r : CalcRes} (h : NDep inp rank n nd)
    (ht : ∀ d ∈ r.tasks, Dep inp n d) (hf : ∀ d ∈ r.files, Dep inp n d) (hc : ∀ d ∈ r.calcs, CalcOf inp n d) :
    NDep inp rank n (nd.addDeps r) := by
  have nt : ∀ d ∈ newTaskDeps nd r, Dep inp n d := by
    intro d hd
    simp only [newTaskDeps, List.mem_append] at hd
    rcases hd with a | a
    · exact ht d a
    · exact hf d (implicitNew_mem a)
  have nc : ∀ d ∈ newCalcDeps nd r, CalcOf inp n d := by
    intro d hd
    simp only [newCalcDeps, List.mem_filter] at hd
    exact hc d (mem_dedup.mp hd.1)
  refine ⟨h.anc, ?_, ?_, h.st, h.sc, h.wr, h.wc, h.pcl⟩
  · intro d hd; simp only [Node.addDeps, List.mem_append] at hd
    rcases hd with a | a
    · exact h.pt d a
    · exact nt d a
  · intro d hd; simp only [Node.addDeps, List.mem_append, List.mem_filter] at hd
    rcases hd with a | a
    · exact h.pcalc d a
    · exact nc d a.1

theorem addDeps_ndep {n p : Name} {nd : Node} (h : NDep inp rank n nd) (hp : CalcOf inp n p) :
    NDep inp rank n (nd.addDeps (inp.calcRes p)) :=
  addDeps_ndepR h (fun _ a => Dep.resT hp a) (fun _ a => Dep.resF hp a) (fun _ a => CalcOf.res hp a)

theorem deliverF_ndep {n p : Name} {nd : Node} (ex : Bool) (pst : RS) (h : NDep inp rank n nd) (hp : CalcOf inp n p) :
    NDep inp rank n (deliverF inp ex pst p nd) := by
  unfold deliverF; split
  · exact addDeps_ndepR h (fun _ a => Dep.resTFail hp a) (fun _ a => Dep.resFFail hp a) (fun _ a => CalcOf.resFail hp a)
  · exact h

theorem deliver_ndep {n p : Name} {nd : Node} (pst : RS) (h : NDep inp rank n nd) (hp : CalcOf inp n p) :
    NDep inp rank n (deliver inp pst p nd) := by
  unfold deliver; split
  · exact addDeps_ndep h hp
  · exact h

theorem parentStatus_ndep {n : Name} {nd : Node} (pst : RS) (p : Name) (h : NDep inp rank n nd) :
    NDep inp rank n (parentStatus pst p nd) :=
  h.congr rfl h.pcl

theorem absorbDone_ndep {s : Sys} {n : Name} (isCalc : Bool) :
    ∀ (ds : List Name) (nd : Node), NDep inp rank n nd → (isCalc = true → ∀ d ∈ ds, CalcOf inp n d) →
      NDep inp rank n (absorbDone inp s isCalc ds nd) := by
  intro ds
  induction ds with
  | nil => intro nd h _; exact h
  | cons a t ih =>
    intro nd h hds
    have hds' : isCalc = true → ∀ d ∈ t, CalcOf inp n d := fun e d hd => hds e d (List.mem_cons_of_mem _ hd)
    rw [absorbDone]
    by_cases c : unfinished s a = true
    · rw [if_pos c]; exact ih nd h hds'
    rw [if_neg c]
    refine ih _ ?_ hds'
    by_cases hc : isCalc = true
    · rw [if_pos hc]
      have ha := hds hc a (List.mem_cons_self ..)
      exact deliverF_ndep _ _ (deliver_ndep _ (parentStatus_ndep _ _ h) ha) ha
    · rw [if_neg hc]; exact parentStatus_ndep _ _ h

theorem waitNode_ndep {s : Sys} {n : Name} {nd : Node} (ds : List Name) (isCalc : Bool) (pc' : PC)
    (h : NDep inp rank n nd) (hc : isCalc = true → ∀ d ∈ ds, CalcOf inp n d)
    (ht : isCalc = false → ∀ d ∈ ds, Dep inp n d) (hpc : pcDep inp n pc') :
    NDep inp rank n (waitNode inp s nd ds isCalc pc') := by
  have a := absorbDone_ndep (s := s) (rank := rank) isCalc ds nd h hc
  unfold waitNode addWaits
  cases isCalc with
  | true =>
    simp only [if_true]
    refine ⟨a.anc, a.pt, a.pcalc, a.st, a.sc, a.wr, ?_, hpc⟩
    intro d hd
    simp only [List.mem_append, List.mem_filter] at hd
    rcases hd with x | x
    · exact hc rfl d x.1
    · exact a.wc d x
  | false =>
    simp only [Bool.false_eq_true, if_false]
    refine ⟨a.anc, a.pt, a.pcalc, a.st, a.sc, ?_, a.wc, hpc⟩
    intro d hd
    simp only [List.mem_append, List.mem_filter] at hd
    rcases hd with x | x
    · exact ht rfl d x.1
    · exact a.wr d x

theorem wokenNode_ndep {n : Name} {nd : Node} (pst : RS) (p : Name) (h : NDep inp rank n nd) :
    NDep inp rank n (wokenNode inp pst p nd) := by
  have wr : ∀ d ∈ nd.waitRun.filter (· ≠ p), Dep inp n d := fun d hd => h.wr d ((List.mem_filter.mp hd).1)
  unfold wokenNode
  by_cases hp : p ∈ nd.waitRunCalc
  · rw [if_pos hp]
    exact deliver_ndep _ ⟨h.anc, h.pt, h.pcalc, h.st, h.sc, wr,
      fun d hd => h.wc d ((List.mem_filter.mp hd).1), h.pcl⟩ (h.wc p hp)
  · rw [if_neg hp]; exact ⟨h.anc, h.pt, h.pcalc, h.st, h.sc, wr, h.wc, h.pcl⟩

theorem wokenF_ndep {n : Name} {nd : Node} (s : Sys) (pst : RS) (p : Name) (h : NDep inp rank n nd) :
    NDep inp rank n (wokenF inp s pst p nd) := by
  unfold wokenF; split
  · rename_i hp
    exact deliverF_ndep _ _ (wokenNode_ndep pst p h) (h.wc p hp)
  · exact wokenNode_ndep pst p h

theorem addWaiting_ndep {n : Name} {nd : Node} (m : Name) (h : NDep inp rank n nd) :
    NDep inp rank n (nd.addWaiting m) := by
  unfold Node.addWaiting; split
  · exact h
  · exact h.congr rfl h.pcl

theorem allN_setNode {s : Sys} {n : Name} {x : Node} (h : AllN inp rank s) (hx : NDep inp rank n x) :
    AllN inp rank (setNode s n x) := by
  intro k y hk
  simp only [setNode_nodes] at hk
  split at hk
  · rename_i e; subst e; cases hk; exact hx
  · exact h k y hk

theorem allN_congr {s s' : Sys} (h : AllN inp rank s) (e : s'.nodes = s.nodes) : AllN inp rank s' := by
  intro k y hk; rw [e] at hk; exact h k y hk

theorem allN_registerWaiting {s : Sys} (n : Name) (wf : List Name) (h : AllN inp rank s) :
    AllN inp rank (registerWaiting s n wf) := by
  intro k y hk
  rw [registerWaiting_nodes] at hk
  cases hx : s.nodes k with
  | none => rw [hx] at hk; cases hk
  | some x =>
    rw [hx] at hk
    by_cases e : k ∈ wf
    · simp only [e, if_true, Option.some.injEq] at hk; subst hk; exact addWaiting_ndep n (h k x hx)
    · simp only [e, if_false, Option.some.injEq] at hk; subst hk; exact h k x hx

theorem genStep_allN {s : Sys} {n : Name} {nd : Node} (hr : Ranked inp rank) (d : Name) (pc' : PC)
    (h : AllN inp rank s) (hn : s.nodes n = some nd) (hd : Dep inp n d) (hpc : pcDep inp n pc') :
    AllN inp rank (genStep inp s n nd d pc') := by
  have hnd := h n nd hn
  have hx : NDep inp rank n { nd with pc := pc' } := hnd.congr rfl hpc
  generalize hg : genStep inp s n nd d pc' = g
  cases genStep_spec hg with
  | fresh =>
    refine allN_setNode (allN_setNode h (mkNode_ndep ?_)) hx
    intro a ha
    rcases List.mem_append.mp ha with x | x
    · exact Nat.le_trans (Nat.le_of_lt (hr n d hd)) (hnd.anc a x)
    · rw [List.mem_singleton.mp x]; exact Nat.le_refl _
  | cyclic => exact h
  | known => exact allN_setNode h hx

theorem addWaitRun_allN {s : Sys} {n : Name} {nd : Node} (ds : List Name) (c : Bool) (pc' : PC)
    (h : AllN inp rank s) (hn : s.nodes n = some nd) (hc : c = true → ∀ d ∈ ds, CalcOf inp n d)
    (ht : c = false → ∀ d ∈ ds, Dep inp n d) (hpc : pcDep inp n pc') :
    AllN inp rank (addWaitRun inp s n nd ds c pc') := by
  unfold addWaitRun
  exact allN_registerWaiting n _ (allN_setNode h (waitNode_ndep ds c pc' (h n nd hn) hc ht hpc))

theorem NodeStep.allN {s s' : Sys} {n : Name} {nd : Node} {perm : List Name} (hs : NodeStep inp s n nd perm s')
    (hr : Ranked inp rank) (h : AllN inp rank s) (hn : s.nodes n = some nd) : AllN inp rank s' := by
  have hnd := h n nd hn
  have hp := hnd.pcl
  cases hs with
  | move hm =>
    refine allN_setNode h ?_
    cases hm with
    | loopTop _ hperm =>
      have hc : ∀ d ∈ perm, CalcOf inp n d := fun d hd => hnd.pcalc d (hperm.mem_iff.mp hd)
      exact ⟨hnd.anc, nofun, nofun, hnd.pt, hc, hnd.wr, hnd.wc, hc⟩
    | setupGo => exact hnd.congr rfl (fun d hd => hd)
    | _ => exact hnd.congr rfl trivial
  | park hk => exact allN_setNode h (by cases hk <;> exact hnd.congr rfl trivial)
  | yield1 | yield2 => exact allN_setNode h (hnd.congr rfl trivial)
  | calcGen hpc =>
    rw [hpc] at hp
    exact genStep_allN hr _ _ h hn (.ofCalc (hp _ (List.mem_cons_self ..))) fun x hx => hp x (List.mem_cons_of_mem _ hx)
  | taskGen hpc =>
    rw [hpc] at hp
    exact genStep_allN hr _ _ h hn (hp _ (List.mem_cons_self ..)) fun x hx => hp x (List.mem_cons_of_mem _ hx)
  | setupGen hpc =>
    rw [hpc] at hp
    exact genStep_allN hr _ _ h hn (.setup (hp _ (List.mem_cons_self ..))) fun x hx => hp x (List.mem_cons_of_mem _ hx)
  | calcWait => exact addWaitRun_allN _ _ _ h hn (fun _ => hnd.sc) nofun hnd.st
  | taskWait => exact addWaitRun_allN _ _ _ h hn nofun (fun _ => hnd.st) trivial
  | setupWait => exact addWaitRun_allN _ _ _ h hn nofun (fun _ d hd => .setup hd) trivial
  | done => exact h

theorem dtick_allN {s s' : Sys} {perm : List Name} (hr : Ranked inp rank) (h : AllN inp rank s)
    (hs : dtick inp s perm = some s') : AllN inp rank s' := by
  cases dtick_spec hs with
  | node _ hn hs' => exact hs'.allN hr h hn
  | create => exact allN_setNode h (mkNode_ndep fun a ha => by rw [List.mem_singleton.mp ha]; exact Nat.le_refl _)
  | _ => exact h

theorem wakeOne_allN {s : Sys} {pst : RS} {p w : Name} {nd : Node} (h : AllN inp rank s)
    (hw : s.nodes w = some nd) : AllN inp rank (wakeOne inp s pst p w nd) := by
  have := allN_setNode h (wokenF_ndep s pst p (h w nd hw))
  unfold wakeOne; split
  · exact allN_congr this rfl
  · exact this

theorem sendHead_allN {s : Sys} {p : Name} {nd : Node} (h : AllN inp rank s) (hn : s.nodes p = some nd) :
    AllN inp rank (sendHead s p nd) := by
  unfold sendHead; split
  · exact allN_setNode h ((h p nd hn).congr (x := { nd with waitSelect := false }) rfl (h p nd hn).pcl)
  · exact h

theorem send_allN {s s' : Sys} {processed : Option Name} {perm : List Name} (h : AllN inp rank s)
    (hs : send inp s processed perm = some s') : AllN inp rank s' :=
  send_ind (P := AllN inp rank) (fun _ _ _ ha => allN_congr ha rfl) (fun _ _ _ hn _ h => sendHead_allN h hn)
    (fun _ _ _ _ _ _ _ _ hw _ ha => wakeOne_allN ha hw) h hs

theorem allN_status {s s' : Sys} {n : Name} {nd : Node} (st' : RS) (h : AllN inp rank s) (hn : s.nodes n = some nd)
    (e : s'.nodes = (setNode s n { nd with status := st' }).nodes) : AllN inp rank s' :=
  allN_congr (allN_setNode h ((h n nd hn).congr (x := { nd with status := st' }) rfl (h n nd hn).pcl)) e

/-- rank descent: if every parked node awaits a parked node, nothing is parked -/
theorem waiting_descent {s : Sys} (hr : Ranked inp rank) (h : AllN inp rank s)
    (hw : ∀ w ∈ s.waiting, ∃ nd, s.nodes w = some nd ∧ ∃ d, (d ∈ nd.waitRun ∨ d ∈ nd.waitRunCalc) ∧ d ∈ s.waiting) :
    s.waiting = [] := by
  have key : ∀ k w, w ∈ s.waiting → rank w = k → False := by
    intro k
    induction k using Nat.strongRecOn with
    | _ k ih =>
      intro w hwm hk
      obtain ⟨nd, hn, d, hd, hdw⟩ := hw w hwm
      have hdep : Dep inp w d := by
        rcases hd with a | a
        · exact (h w nd hn).wr d a
        · exact Dep.ofCalc ((h w nd hn).wc d a)
      have := hr w d hdep
      exact ih (rank d) (by omega) d hdw rfl
  cases hq : s.waiting with
  | nil => rfl
  | cons w ws => exact (key (rank w) w (by rw [hq]; simp) rfl).elim

theorem init_allN : AllN inp rank (init inp) := by
  intro k y hk; simp [init] at hk

theorem DispMove.allN {s s' : Sys} (m : DispMove inp s s') (hr : Ranked inp rank) (h : AllN inp rank s) :
    AllN inp rank s' := by
  cases m with
  | frame e1 _ _ _ _ => exact allN_congr h e1
  | send _ hs r => exact allN_congr (send_allN h hs) rfl
  | dtick _ _ hs => exact dtick_allN hr h hs
  | status st' hn _ e1 _ _ _ _ => exact allN_status st' h hn e1

theorem reach_allN {s : Sys} (hr : Ranked inp rank) (h : Reach inp s) : AllN inp rank s := by
  induction h with
  | init => exact init_allN
  | @next s0 s1 c _ hs ih =>
    cases c with
    | main perm => exact (serialStep_dispMove hs).allN hr ih
    | take w => cases hs
    | done w => cases hs

theorem preach_allN {s : Sys} (hr : Ranked inp rank) (h : PReach inp s) : AllN inp rank s := by
  induction h with
  | init => exact init_allN
  | @next s0 s1 c _ hs ih => exact (pstep_dispMove hs).allN hr ih

end DoitModel.Run
