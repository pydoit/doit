import DoitModel.Proofs.RunStep
import DoitModel.Proofs.RunSel
import DoitModel.Model.RunMon
/-! # System-level invariant `Inv2` (runner discipline, event order): what the dispatcher, `select_task` and
    `process_task_result` do to it -/
namespace DoitModel.Run

/-- the runner waits for the generator's answer; if it is a node, the runner's next step is `select_task` on it -/
def awaiting (s : Sys) : Prop := s.rpc = .sWait ∨ ∃ ret, s.rpc = .gWait ret

def sentBack (s : Sys) : Option Name :=
  match s.rpc with
  | .sTop p => p
  | .gLoop p _ => p
  | .gEntry p _ => p
  | _ => none

/-- `d` has a finish report among `post`.  Here and below `post` is a tail of the newest-first list `s.events`: the
    events OLDER than the one under consideration. -/
def finBefore (post : List Ev) (d : Name) : Prop := Ev.success d ∈ post ∨ Ev.skipUtd d ∈ post

def EvOK : Ev → List Ev → Prop
  | .go _ deps, post => ∀ d ∈ deps, finBefore post d
  | .start n _, post => ∃ deps, Ev.go n deps ∈ post
  | _, _ => True

/-- newest first -/
def OrdOK : List Ev → Prop
  | [] => True
  | e :: post => EvOK e post ∧ OrdOK post

def staticDeps (inp : RunInput) (n : Name) : List Name := inp.taskDep n ++ inp.calcDep n ++ inp.setup n

/-- The invariant of dispatcher and runner together.
    `sb` (DESIGN.md I3): the node about to be sent back to the dispatcher has a status;
    `sel1`: a node yielded for the first time has none when the runner looks at it;
    `f1`: a task queued for a worker, or being returned by `get_next_job`, has its `go` in the events;
    `g`: `ok` / `utd` come with their report;  `ord`: every `go` is preceded by the finish reports of its dependencies,
    every `start` by its `go` (`OrdOK`);  `gs`: a `go` lists at least the static dependencies;
    `x`: the task the serial runner is executing has status `run`. -/
structure Inv2 (inp : RunInput) (s : Sys) : Prop where
  inv1 : Inv1 inp s
  sb : ∀ p, sentBack s = some p → stOf s p ≠ .none
  sel1 : awaiting s → ∀ n nd, s.susp = some (.node n) → s.nodes n = some nd → nd.pc = .afterSelf1 →
    nd.status = .none
  f1 : ∀ n, (Job.task n ∈ s.jobQ ∨ (∃ ret, s.rpc = .gRet (.task n) ret)) → ∃ deps, Ev.go n deps ∈ s.events
  g : ∀ d, (stOf s d = .ok → Ev.success d ∈ s.events) ∧ (stOf s d = .utd → Ev.skipUtd d ∈ s.events)
  ord : OrdOK s.events
  gs : ∀ n deps, Ev.go n deps ∈ s.events → ∀ d ∈ staticDeps inp n, d ∈ deps
  x : ∀ n, s.rpc = .sExec n → stOf s n = .run

theorem finBefore_mono {post post' : List Ev} {d : Name} (h : ∀ e, e ∈ post → e ∈ post') (hf : finBefore post d) :
    finBefore post' d := by
  rcases hf with a | a
  · exact Or.inl (h _ a)
  · exact Or.inr (h _ a)

theorem finishedIn_trace_iff {inp : RunInput} {s : Sys} {x : Name} :
    finishedIn (trace inp s) x = true ↔ finBefore s.events x := by
  unfold finishedIn
  rw [List.any_eq_true]
  constructor
  · rintro ⟨e, he, hp⟩
    have hm := (mem_trace.mp he).1
    cases e with
    | success m => cases of_decide_eq_true hp; exact Or.inl hm
    | skipUtd m => cases of_decide_eq_true hp; exact Or.inr hm
    | _ => cases hp
  · rintro (a | a)
    · exact ⟨_, mem_trace.mpr ⟨a, rfl⟩, decide_eq_true rfl⟩
    · exact ⟨_, mem_trace.mpr ⟨a, rfl⟩, decide_eq_true rfl⟩

theorem OrdOK_append_plain {new old : List Ev} (h : OrdOK old) (hp : ∀ e ∈ new, ∀ post, EvOK e post) :
    OrdOK (new ++ old) := by
  induction new with
  | nil => exact h
  | cons e t ih => exact ⟨hp e List.mem_cons_self _, ih fun x hx => hp x (List.mem_cons_of_mem _ hx)⟩

theorem mem_statusEv {nd : Node} {n : Name} {e : Ev} (h : e ∈ statusEv nd n) : e = Ev.getStatus n := by
  unfold statusEv at h
  by_cases c : nd.status = .none
  · rw [if_pos c] at h; exact List.mem_singleton.mp h
  · rw [if_neg c] at h; cases h

theorem statusEv_plain (nd : Node) (n : Name) : ∀ e ∈ statusEv nd n, ∀ post, EvOK e post := by
  intro e he post; cases mem_statusEv he; trivial

theorem Cls.good {s : Sys} {nd : Node} {d : Name} (c : Cls s nd d) (hb : nd.bad = []) (hi : nd.ign = []) :
    (stOf s d).good = true :=
  RS.good_of_fin c.1 (fun e => by have := c.2.1 e; rw [hb] at this; cases this)
    (fun e => by have := c.2.2 e; rw [hi] at this; cases this)

/-- at both yield positions nothing is pending, iterated or awaited: every dynamic dependency is closed -/
theorem yield_deps_cls {inp : RunInput} {s : Sys} {n : Name} {nd : Node} (h : Inv2 inp s)
    (hsusp : s.susp = some (.node n)) (hn : s.nodes n = some nd) : ∀ d ∈ nd.dynTask ++ nd.dynCalc, Cls s nd d := by
  have hok := h.inv1.node n nd hn
  obtain ⟨nd', hn', hpc⟩ := h.inv1.sp n hsusp
  rw [hn] at hn'; cases hn'
  have hq : nd.pc.inLoop = false ∧ nd.pc.quiet = true ∧ nd.pc.iterT = false ∧ nd.pc.iterC = false := by
    rcases hpc with e | e <;> (rw [e]; exact ⟨rfl, rfl, rfl, rfl⟩)
  obtain ⟨hpT, hpC, hwC⟩ := hok.m1 hq.1
  have hwR := hok.m2 hq.2.1
  intro d hd
  rcases List.mem_append.mp hd with hd | hd
  · rcases hok.kt d hd with a | ⟨a, _⟩ | a | a
    · rw [hpT] at a; cases a
    · rw [hq.2.2.1] at a; cases a
    · rw [hwR] at a; cases a
    · exact a
  · rcases hok.kc d hd with a | ⟨a, _⟩ | a | a
    · rw [hpC] at a; cases a
    · rw [hq.2.2.2] at a; cases a
    · rw [hwC] at a; cases a
    · exact a

theorem loop_deps_good {inp : RunInput} {s : Sys} {n : Name} {nd : Node} (h : Inv2 inp s)
    (hsusp : s.susp = some (.node n)) (hn : s.nodes n = some nd) (hb : nd.bad = []) (hi : nd.ign = []) :
    ∀ d ∈ nd.dynTask ++ nd.dynCalc, (stOf s d).good = true :=
  fun d hd => (yield_deps_cls h hsusp hn d hd).good hb hi

/-- the answer `go` is given only with `bad_deps` and `ignored_deps` empty -/
theorem go_deps_good {inp : RunInput} {s : Sys} {n : Name} {nd : Node} (h : Inv2 inp s) (haw : awaiting s)
    (hsusp : s.susp = some (.node n)) (hn : s.nodes n = some nd) (hd : selDecision inp n nd = .go) :
    ∀ d ∈ allDeps inp n nd, (stOf s d).good = true := by
  intro d hd'
  unfold allDeps at hd'
  cases selDecision_spec.of_eq hd with
  | go1 _ hi _ hb _ _ hs _ =>
    rw [hs, List.append_nil] at hd'
    exact loop_deps_good h hsusp hn hb hi d hd'
  | go2 hrun _ hi hb _ =>
    rcases List.mem_append.mp hd' with hd' | hd'
    · exact loop_deps_good h hsusp hn hb hi d hd'
    · -- second pass: the generator is past the setup loop, and no setup-task is awaited
      have hok := h.inv1.node n nd hn
      obtain ⟨nd', hn', hpc⟩ := h.inv1.sp n hsusp
      rw [hn] at hn'; cases hn'
      have hpc2 : nd.pc = .afterSelf2 := hpc.resolve_left fun e => by
        have := h.sel1 haw n nd hsusp hn e; rw [hrun] at this; cases this
      rcases hok.ks (by rw [hpc2]; rfl) d hd' with a | a
      · rw [hok.m2 (by rw [hpc2]; rfl)] at a; cases a
      · exact a.good hb hi

theorem good_finBefore {inp : RunInput} {s : Sys} (h : Inv2 inp s) {d : Name} (hg : (stOf s d).good = true) :
    finBefore s.events d := by
  cases hst : stOf s d with
  | utd => exact Or.inr ((h.g d).2 hst)
  | ok => exact Or.inl ((h.g d).1 hst)
  | _ => rw [hst] at hg; cases hg


/-! ### what the dispatcher does not touch: read off the rows of `GenStep` / `NodeStep` / `Dtick` / `SendSpec` -/

/-- fields outside the dispatcher: what `dtick` and `send` leave alone -/
def SameOuter (s s' : Sys) : Prop :=
  s'.events = s.events ∧ s'.rpc = s.rpc ∧ s'.jobQ = s.jobQ ∧ s'.resQ = s.resQ ∧ s'.workers = s.workers ∧
  s'.stop = s.stop ∧ s'.final = s.final ∧ s'.tdown = s.tdown ∧ s'.halt = s.halt ∧ s'.freeProc = s.freeProc ∧
  s'.procCount = s.procCount ∧ s'.nStarted = s.nStarted

/-- a state that differs from `s` in dispatcher fields only; with the seven fields as variables, a row of `NodeStep`,
    `Dtick` or `SendSpec` is matched against it by one unification -/
theorem SameOuter.disp (s : Sys) (nodes ready waiting toRun dispatched cur susp) :
    SameOuter s { s with nodes := nodes, ready := ready, waiting := waiting, toRun := toRun, dispatched := dispatched,
                         cur := cur, susp := susp } :=
  ⟨rfl, rfl, rfl, rfl, rfl, rfl, rfl, rfl, rfl, rfl, rfl, rfl⟩

theorem SameOuter.refl (a : Sys) : SameOuter a a := .disp ..

theorem SameOuter.trans {a b c : Sys} (h1 : SameOuter a b) (h2 : SameOuter b c) : SameOuter a c := by
  obtain ⟨a1, a2, a3, a4, a5, a6, a7, a8, a9, a10, a11, a12⟩ := h1
  obtain ⟨b1, b2, b3, b4, b5, b6, b7, b8, b9, b10, b11, b12⟩ := h2
  exact ⟨b1.trans a1, b2.trans a2, b3.trans a3, b4.trans a4, b5.trans a5, b6.trans a6, b7.trans a7, b8.trans a8,
    b9.trans a9, b10.trans a10, b11.trans a11, b12.trans a12⟩

theorem genStep_outer (inp : RunInput) (s : Sys) (n : Name) (nd : Node) (d : Name) (pc' : PC) :
    SameOuter s (genStep inp s n nd d pc') := by
  generalize hg : genStep inp s n nd d pc' = g
  cases genStep_spec hg with
  | fresh => exact (SameOuter.disp s ..).trans (.disp ..)
  | _ => exact .disp ..

theorem NodeStep.outer {inp : RunInput} {s s' : Sys} {n : Name} {nd : Node} {perm : List Name}
    (hs : NodeStep inp s n nd perm s') : SameOuter s s' := by
  cases hs with
  | calcGen | taskGen | setupGen => exact genStep_outer ..
  | _ => exact .disp ..

theorem dtick_outer {inp : RunInput} {s s' : Sys} {perm : List Name} (hs : dtick inp s perm = some s') :
    SameOuter s s' := by
  cases dtick_spec hs with
  | node _ _ hs => exact hs.outer
  | _ => exact .disp ..

theorem genStep_stOf {inp : RunInput} {s : Sys} {n : Name} {nd : Node} (d : Name) (pc' : PC)
    (hn : s.nodes n = some nd) (x : Name) : stOf (genStep inp s n nd d pc') x = stOf s x := by
  generalize hg : genStep inp s n nd d pc' = g
  cases genStep_spec hg with
  | fresh hd =>
    have e1 := fun y => stOf_update (s' := setNode s d (mkNode inp d (nd.anc ++ [d]))) (stOf_none hd) y
    exact (stOf_update ((e1 n).trans (stOf_some hn)) x).trans (e1 x)
  | cyclic => rfl
  | known => exact stOf_update (stOf_some hn) x

theorem addWaitRun_stOf {inp : RunInput} {s : Sys} {n : Name} {nd : Node} (ds : List Name) (c : Bool) (pc' : PC)
    (hn : s.nodes n = some nd) (x : Name) : stOf (addWaitRun inp s n nd ds c pc') x = stOf s x := by
  rw [addWaitRun_eq, stOf_registerWaiting]
  exact stOf_setNode_same hn (waitNode_facts inp s nd ds c pc').status x

theorem NodeStep.stOf {inp : RunInput} {s s' : Sys} {n : Name} {nd : Node} {perm : List Name}
    (hs : NodeStep inp s n nd perm s') (hn : s.nodes n = some nd) (x : Name) : stOf s' x = stOf s x := by
  cases hs with
  | move hm => exact stOf_update (stOf_some hn) x rfl hm.status
  | park hp => exact stOf_update (stOf_some hn) x rfl hp.status
  | yield1 | yield2 => exact stOf_update (stOf_some hn) x
  | calcGen | taskGen | setupGen => exact genStep_stOf _ _ hn x
  | calcWait | taskWait | setupWait => exact addWaitRun_stOf _ _ _ hn x
  | done => rfl

theorem dtick_stOf {inp : RunInput} {s s' : Sys} {perm : List Name} (hs : dtick inp s perm = some s') (x : Name) :
    stOf s' x = stOf s x := by
  cases dtick_spec hs with
  | node _ hn hs => exact hs.stOf hn x
  | create _ _ _ hnt => exact stOf_update (stOf_none hnt) x
  | _ => rfl

theorem genStep_susp (inp : RunInput) (s : Sys) (n : Name) (nd : Node) (d : Name) (pc' : PC) (m : Name) :
    (genStep inp s n nd d pc').susp = some (.node m) → s.susp = some (.node m) := by
  generalize hg : genStep inp s n nd d pc' = g
  cases genStep_spec hg with
  | cyclic => intro h; cases h
  | _ => exact id

theorem NodeStep.yield {inp : RunInput} {s s' : Sys} {n : Name} {nd : Node} {perm : List Name}
    (hs : NodeStep inp s n nd perm s') (hsusp : s.susp = none) (m : Name) (hy : s'.susp = some (.node m)) :
    m = n ∧ ((nd.pc = .self1 ∧ s'.nodes n = some { nd with pc := .afterSelf1 }) ∨
             (nd.pc = .self2 ∧ s'.nodes n = some { nd with pc := .afterSelf2 })) := by
  cases hs with
  | yield1 hpc => cases hy; exact ⟨rfl, Or.inl ⟨hpc, if_pos rfl⟩⟩
  | yield2 hpc => cases hy; exact ⟨rfl, Or.inr ⟨hpc, if_pos rfl⟩⟩
  | calcGen | taskGen | setupGen => cases hsusp.symm.trans (genStep_susp _ _ _ _ _ _ _ hy)
  | _ => cases hsusp.symm.trans hy

theorem dtick_yield {inp : RunInput} {s s' : Sys} {perm : List Name} (hs : dtick inp s perm = some s')
    (hsusp : s.susp = none) (m : Name) (hy : s'.susp = some (.node m)) :
    ∃ nd, s.nodes m = some nd ∧ ((nd.pc = .self1 ∧ s'.nodes m = some { nd with pc := .afterSelf1 }) ∨
             (nd.pc = .self2 ∧ s'.nodes m = some { nd with pc := .afterSelf2 })) := by
  cases dtick_spec hs with
  | @node n nd _ _ hn hs =>
    obtain ⟨e, h⟩ := hs.yield hsusp m hy
    exact ⟨nd, e ▸ hn, e ▸ h⟩
  | pop | create | skip => cases hsusp.symm.trans hy
  | _ => cases hy

theorem wakeOne_outer (inp : RunInput) (s : Sys) (pst : RS) (p w : Name) (nd : Node) :
    SameOuter s (wakeOne inp s pst p w nd) ∧ (wakeOne inp s pst p w nd).susp = s.susp := by
  unfold wakeOne
  by_cases c : wokenReady p nd = true ∧ w ∈ s.waiting
  · rw [if_pos c]; exact ⟨.disp .., rfl⟩
  · rw [if_neg c]; exact ⟨.disp .., rfl⟩

theorem sendHead_outer (s : Sys) (p : Name) (nd : Node) :
    SameOuter s (sendHead s p nd) ∧ (sendHead s p nd).susp = s.susp := by
  unfold sendHead
  by_cases c : nd.waitSelect = true
  · rw [if_pos c]; exact ⟨.disp .., rfl⟩
  · rw [if_neg c]; exact ⟨.disp .., rfl⟩

theorem send_outer {inp : RunInput} {s s' : Sys} {processed : Option Name} {perm : List Name}
    (hs : send inp s processed perm = some s') :
    SameOuter s s' ∧ (s'.susp = none ∨ s'.susp = some .crash) := by
  refine ⟨send_ind (P := SameOuter s) (fun _ _ _ h => h.trans (.disp ..))
    (fun p nd _ _ _ h => h.trans (sendHead_outer s p nd).1)
    (fun a p nd0 w nd _ _ _ _ _ h => h.trans (wakeOne_outer inp a nd0.status p w nd).1) (.refl s) hs, ?_⟩
  cases send_spec hs with
  | first | running | woken => exact Or.inl rfl
  | _ => exact Or.inr rfl


/-- what `execute_task(n)` on worker `w` reports, newest first: the start of the actions and, except in the process runner,
    `execute` -/
def startEvents (inp : RunInput) (n w : Nat) : List Ev :=
  if inp.runner = .process then [Ev.start n w] else [Ev.start n w, Ev.execute n]

theorem startTask_events_eq (inp : RunInput) (s : Sys) (n w : Nat) :
    (startTask inp s n w).events = startEvents inp n w ++ s.events := by
  unfold startTask startEvents
  by_cases hp : inp.runner = .process
  · rw [if_pos hp, if_pos hp]; rfl
  · rw [if_neg hp, if_neg hp]; rfl

theorem mem_startEvents {inp : RunInput} {n w : Nat} {e : Ev} (h : e ∈ startEvents inp n w) :
    e = Ev.start n w ∨ e = Ev.execute n := by
  unfold startEvents at h
  by_cases hp : inp.runner = .process
  · rw [if_pos hp] at h; exact Or.inl (List.mem_singleton.mp h)
  · rw [if_neg hp] at h
    exact (List.mem_cons.mp h).imp_right List.mem_singleton.mp

/-- A step that changes no status and reports `new`: `Inv1` for the new state, the rule for `select_task` on a node
    at its first yield and the runner's side conditions are given. -/
theorem Inv2.frame {inp : RunInput} {s s' : Sys} (h : Inv2 inp s) (i1 : Inv1 inp s')
    (hst : ∀ x, stOf s' x = stOf s x) (new : List Ev) (hev : s'.events = new ++ s.events)
    (hord : OrdOK (new ++ s.events)) (hgs : ∀ n deps, Ev.go n deps ∈ new → ∀ d ∈ staticDeps inp n, d ∈ deps)
    (hsb : ∀ p, sentBack s' = some p → stOf s p ≠ .none)
    (hsel : awaiting s' → ∀ n nd, s'.susp = some (.node n) → s'.nodes n = some nd → nd.pc = .afterSelf1 →
      nd.status = .none)
    (hf1 : ∀ n, (Job.task n ∈ s'.jobQ ∨ ∃ ret, s'.rpc = .gRet (.task n) ret) → ∃ deps, Ev.go n deps ∈ s'.events)
    (hx : ∀ n, s'.rpc = .sExec n → stOf s n = .run) : Inv2 inp s' := by
  refine ⟨i1, fun p hp => hst p ▸ hsb p hp, hsel, hf1, fun d => ?_, hev ▸ hord, fun n deps hm => ?_,
    fun n hn => hst n ▸ hx n hn⟩
  · rw [hst, hev]
    exact ⟨fun e => List.mem_append_right _ ((h.g d).1 e), fun e => List.mem_append_right _ ((h.g d).2 e)⟩
  · rw [hev] at hm
    exact (List.mem_append.mp hm).elim (hgs n deps) (h.gs n deps)

theorem Inv2.outer {inp : RunInput} {s s' : Sys} (h : Inv2 inp s) (e1 : s'.nodes = s.nodes)
    (e2 : s'.ready = s.ready) (e3 : s'.waiting = s.waiting) (e4 : s'.cur = s.cur) (e5 : s'.susp = s.susp)
    (new : List Ev) (hev : s'.events = new ++ s.events) (hord : OrdOK (new ++ s.events))
    (hgs : ∀ n deps, Ev.go n deps ∈ new → ∀ d ∈ staticDeps inp n, d ∈ deps)
    (hsb : ∀ p, sentBack s' = some p → stOf s p ≠ .none) (haw : awaiting s' → awaiting s)
    (hf1 : ∀ n, (Job.task n ∈ s'.jobQ ∨ ∃ ret, s'.rpc = .gRet (.task n) ret) → ∃ deps, Ev.go n deps ∈ s'.events)
    (hx : ∀ n, s'.rpc = .sExec n → stOf s n = .run) : Inv2 inp s' :=
  h.frame (h.inv1.congr e1 e2 e3 e4 e5) (stOf_congr e1) new hev hord hgs hsb
    (fun ha n nd hs hn => h.sel1 (haw ha) n nd (e5 ▸ hs) (e1 ▸ hn)) hf1 hx

theorem inv2_dtick {inp : RunInput} {s s' : Sys} {perm : List Name} (h : Inv2 inp s) (hsusp : s.susp = none)
    (hs : dtick inp s perm = some s') : Inv2 inp s' := by
  obtain ⟨o1, o2, o3, _⟩ := dtick_outer hs
  refine h.frame (dtick_inv1 h.inv1 hsusp hs) (dtick_stOf hs) [] o1 h.ord nofun
    (fun p hp => h.sb p (by unfold sentBack at hp ⊢; rwa [← o2])) ?_
    (fun n hn => o1 ▸ h.f1 n (o2 ▸ o3 ▸ hn)) (fun n hn => h.x n (o2 ▸ hn))
  -- a node is yielded for the first time from `self1`, before which it has no status
  intro _ n nd' hy hn' hpc
  obtain ⟨nd, hn, hc | hc⟩ := dtick_yield hs hsusp n hy
  · rw [hc.2] at hn'; cases hn'
    exact (h.inv1.node n nd hn).status_none (by rw [hc.1]; rfl)
  · rw [hc.2] at hn'; cases hn'; cases hpc

theorem inv2_send {inp : RunInput} {s s0 : Sys} {node : Option Name} {perm : List Name} (rpc' : RPC)
    (h : Inv2 inp s) (hnode : sentBack s = node) (hs : send inp s node perm = some s0)
    (hr1 : sentBack { s0 with rpc := rpc' } = none) (hr2 : ∀ n ret, rpc' ≠ .gRet (.task n) ret)
    (hr3 : ∀ n, rpc' ≠ .sExec n) : Inv2 inp { s0 with rpc := rpc' } := by
  obtain ⟨⟨o1, _, o3, _⟩, osusp⟩ := send_outer hs
  obtain ⟨i1, hst⟩ := send_inv1 h.inv1 (fun p hp => h.sb p (by rw [hnode, hp])) hs
  refine h.frame (i1.congr rfl rfl rfl rfl rfl) hst [] o1 h.ord nofun (fun p hp => by rw [hr1] at hp; cases hp) ?_ ?_
    (fun n hn => absurd hn (hr3 n))
  · intro _ n nd hy; rcases osusp with e | e <;> cases e.symm.trans hy
  · intro n hn
    rcases hn with a | ⟨ret, a⟩
    · exact o1 ▸ h.f1 n (Or.inl (o3 ▸ a))
    · exact absurd a (hr2 n ret)

/-- The runner gives node `n` (not finished, past its first yield) the status `st` and reports `new`; the shape shared
    by `select_task` and `process_task_result`. -/
theorem Inv2.setStatus {inp : RunInput} {s s' : Sys} {n : Name} {nd : Node} (h : Inv2 inp s) (hn : s.nodes n = some nd)
    (hu : nd.status.finished = false) (hy : nd.pc.yielded1 = true) (st : RS) (hst : st ≠ .none) (new : List Ev)
    (e1 : s'.nodes = (setNode s n { nd with status := st }).nodes) (e2 : s'.ready = s.ready)
    (e3 : s'.waiting = s.waiting) (e4 : s'.cur = s.cur) (e5 : s'.susp = s.susp) (e6 : s'.jobQ = s.jobQ)
    (hev : s'.events = new ++ s.events) (hord : OrdOK (new ++ s.events))
    (hok : st = .ok → Ev.success n ∈ new) (hutd : st = .utd → Ev.skipUtd n ∈ new)
    (hgo : ∀ m deps, Ev.go m deps ∈ new → m = n ∧ deps = allDeps inp n nd)
    (hr1 : ∀ p, sentBack s' = some p → p = n) (hr2 : ¬ awaiting s')
    (hr3 : ∀ m ret, s'.rpc = .gRet (.task m) ret → m = n ∧ Ev.go n (allDeps inp n nd) ∈ new)
    (hr4 : ∀ m, s'.rpc = .sExec m → m = n ∧ st = .run) : Inv2 inp s' := by
  have hst' : ∀ x, stOf s' x = if x = n then st else stOf s x := fun x => by rw [stOf_congr e1, stOf_setNode]
  constructor
  · exact (inv1_status st h.inv1 hn hu hy).congr e1 e2 e3 e4 e5
  · intro p hp; rw [hr1 p hp, hst', if_pos rfl]; exact hst
  · exact fun ha => absurd ha hr2
  · intro m hm
    rw [hev]
    rcases hm with a | ⟨ret, a⟩
    · obtain ⟨deps, hd⟩ := h.f1 m (Or.inl (e6 ▸ a))
      exact ⟨deps, List.mem_append_right _ hd⟩
    · obtain ⟨rfl, hg⟩ := hr3 m ret a
      exact ⟨_, List.mem_append_left _ hg⟩
  · intro x
    rw [hst', hev]
    by_cases e : x = n
    · rw [if_pos e, e]
      exact ⟨fun e' => List.mem_append_left _ (hok e'), fun e' => List.mem_append_left _ (hutd e')⟩
    · rw [if_neg e]
      exact ⟨fun e' => List.mem_append_right _ ((h.g x).1 e'), fun e' => List.mem_append_right _ ((h.g x).2 e')⟩
  · rw [hev]; exact hord
  · intro m deps hm
    rw [hev] at hm
    rcases List.mem_append.mp hm with a | a
    · obtain ⟨rfl, rfl⟩ := hgo m deps a
      have hok := h.inv1.node m nd hn
      intro d hd'
      unfold staticDeps at hd'
      unfold allDeps
      rcases List.mem_append.mp hd' with a | a
      · refine List.mem_append_left _ ?_
        rcases List.mem_append.mp a with a | a
        · exact List.mem_append_left _ (hok.st.1 d a)
        · exact List.mem_append_right _ (hok.st.2 d a)
      · exact List.mem_append_right _ a
    · exact h.gs m deps a
  · intro m hm
    obtain ⟨rfl, e⟩ := hr4 m hm
    rw [hst', if_pos rfl]; exact e

/-- `applySel` in two parts: the status written and the events reported (newest first) -/
def selStatus : Sel → RS
  | .skipIgn => .ign | .unmet => .fail | .depErr => .fail | .utd => .utd
  | .runFirst => .run | .argsErr => .fail | .go => .run | .assertFail => .none

def selEvents (inp : RunInput) (n : Name) (nd : Node) : Sel → List Ev
  | .skipIgn => Ev.skipIgn n :: statusEv nd n
  | .unmet => Ev.failure n .unmet :: statusEv nd n
  | .depErr => Ev.failure n .depErr :: statusEv nd n
  | .utd => Ev.skipUtd n :: statusEv nd n
  | .runFirst => statusEv nd n
  | .argsErr => Ev.failure n .depErr :: statusEv nd n
  | .go => Ev.go n (allDeps inp n nd) :: statusEv nd n
  | .assertFail => []

theorem applySel_nodes (inp : RunInput) (s : Sys) (n : Name) (nd : Node) (d : Sel) (hd : d ≠ .assertFail) :
    (applySel inp s n nd d).nodes = (setNode s n { nd with status := selStatus d }).nodes := by
  cases d <;> first | rfl | exact absurd rfl hd

theorem applySel_events (inp : RunInput) (s : Sys) (n : Name) (nd : Node) (d : Sel) :
    (applySel inp s n nd d).events = selEvents inp n nd d ++ s.events := by
  cases d <;> rfl

/-- What `select_task` and `process_task_result` leave alone: everything but the nodes, the events, `final_result` and
    the stop flag, which is only ever set. -/
structure SameButStatus (s s' : Sys) : Prop where
  ready : s'.ready = s.ready
  waiting : s'.waiting = s.waiting
  toRun : s'.toRun = s.toRun
  dispatched : s'.dispatched = s.dispatched
  cur : s'.cur = s.cur
  susp : s'.susp = s.susp
  rpc : s'.rpc = s.rpc
  tdown : s'.tdown = s.tdown
  halt : s'.halt = s.halt
  freeProc : s'.freeProc = s.freeProc
  procCount : s'.procCount = s.procCount
  nStarted : s'.nStarted = s.nStarted
  jobQ : s'.jobQ = s.jobQ
  resQ : s'.resQ = s.resQ
  workers : s'.workers = s.workers
  stop : s'.stop = false → s.stop = false

/-- with the four written fields as variables, a concrete such state is matched by one unification -/
theorem SameButStatus.set (s : Sys) (nodes events final stop) (h : stop = false → s.stop = false) :
    SameButStatus s { s with nodes := nodes, events := events, final := final, stop := stop } :=
  ⟨rfl, rfl, rfl, rfl, rfl, rfl, rfl, rfl, rfl, rfl, rfl, rfl, rfl, rfl, rfl, h⟩

theorem failNode_keeps (inp : RunInput) (s : Sys) (n : Name) (nd : Node) (k : FailKind) (pre : List Ev) :
    SameButStatus s (failNode inp s n nd k pre) := by
  refine .set s _ _ _ _ fun h => ?_
  by_cases c : inp.continue_ = true
  · rwa [if_pos c] at h
  · rw [if_neg c] at h; cases h

theorem applySel_keeps (inp : RunInput) (s : Sys) (n : Name) (nd : Node) (d : Sel) :
    SameButStatus s (applySel inp s n nd d) := by
  cases d with
  | unmet | depErr | argsErr => exact failNode_keeps ..
  | _ => exact .set s _ _ _ _ id

theorem applySel_frame (inp : RunInput) (s : Sys) (n : Name) (nd : Node) (d : Sel) :
    (applySel inp s n nd d).ready = s.ready ∧ (applySel inp s n nd d).waiting = s.waiting ∧
    (applySel inp s n nd d).cur = s.cur ∧ (applySel inp s n nd d).susp = s.susp ∧
    (applySel inp s n nd d).rpc = s.rpc ∧ (applySel inp s n nd d).jobQ = s.jobQ ∧
    (applySel inp s n nd d).resQ = s.resQ ∧ (applySel inp s n nd d).workers = s.workers :=
  have k := applySel_keeps inp s n nd d
  ⟨k.ready, k.waiting, k.cur, k.susp, k.rpc, k.jobQ, k.resQ, k.workers⟩

theorem selStatus_ne_none {d : Sel} (hd : d ≠ .assertFail) : selStatus d ≠ .none := by
  cases d with
  | assertFail => exact absurd rfl hd
  | _ => intro h; cases h

theorem stOf_applySel (inp : RunInput) (s : Sys) (n : Name) (nd : Node) (d : Sel) (hd : d ≠ .assertFail) (x : Name) :
    stOf (applySel inp s n nd d) x = if x = n then selStatus d else stOf s x := by
  rw [stOf_congr (applySel_nodes inp s n nd d hd), stOf_setNode]

theorem selEvents_ord {inp : RunInput} {s : Sys} {n : Name} {nd : Node} (h : Inv2 inp s) (haw : awaiting s)
    (hsusp : s.susp = some (.node n)) (hn : s.nodes n = some nd) :
    OrdOK (selEvents inp n nd (selDecision inp n nd) ++ s.events) := by
  have plain := OrdOK_append_plain h.ord (statusEv_plain nd n)
  generalize hd : selDecision inp n nd = d
  cases d with
  | go =>
    refine ⟨fun x hx => ?_, plain⟩
    exact finBefore_mono (fun e he => List.mem_append_right _ he) (good_finBefore h (go_deps_good h haw hsusp hn hd x hx))
  | runFirst => exact plain
  | assertFail => exact h.ord
  | _ => exact ⟨trivial, plain⟩

theorem statusEv_noGo (nd : Node) (n m : Name) (deps : List Name) : Ev.go m deps ∉ statusEv nd n :=
  fun h => nomatch mem_statusEv h

theorem mem_selEvents {inp : RunInput} {n : Name} {nd : Node} {d : Sel} {e : Ev} (h : e ∈ selEvents inp n nd d) :
    e = Ev.getStatus n ∨ (e = Ev.go n (allDeps inp n nd) ∧ d = .go) ∨ (e = Ev.skipIgn n ∧ d = .skipIgn) ∨
    (e = Ev.skipUtd n ∧ d = .utd) ∨ ∃ k, e = Ev.failure n k ∧ selStatus d = .fail ∧ (k = .unmet → d = .unmet) := by
  cases d with
  | assertFail => cases h
  | runFirst => exact .inl (mem_statusEv h)
  | go => exact (List.mem_cons.mp h).elim (fun a => .inr (.inl ⟨a, rfl⟩)) fun a => .inl (mem_statusEv a)
  | skipIgn => exact (List.mem_cons.mp h).elim (fun a => .inr (.inr (.inl ⟨a, rfl⟩))) fun a => .inl (mem_statusEv a)
  | utd => exact (List.mem_cons.mp h).elim (fun a => .inr (.inr (.inr (.inl ⟨a, rfl⟩)))) fun a => .inl (mem_statusEv a)
  | unmet =>
    exact (List.mem_cons.mp h).elim (fun a => .inr (.inr (.inr (.inr ⟨_, a, rfl, fun _ => rfl⟩)))) fun a =>
      .inl (mem_statusEv a)
  | depErr | argsErr =>
    exact (List.mem_cons.mp h).elim (fun a => .inr (.inr (.inr (.inr ⟨_, a, rfl, nofun⟩)))) fun a =>
      .inl (mem_statusEv a)

theorem selEvents_go {inp : RunInput} {n m : Name} {nd : Node} {deps : List Name} {d : Sel}
    (h : Ev.go m deps ∈ selEvents inp n nd d) : d = .go ∧ m = n ∧ deps = allDeps inp n nd := by
  rcases mem_selEvents h with e | ⟨e, hd⟩ | ⟨e, _⟩ | ⟨e, _⟩ | ⟨_, e, _⟩ <;> cases e
  exact ⟨hd, rfl, rfl⟩

theorem inv2_select {inp : RunInput} {s : Sys} {n : Name} {nd : Node} (rpc' : RPC) (h : Inv2 inp s)
    (haw : awaiting s) (hsusp : s.susp = some (.node n)) (hn : s.nodes n = some nd)
    (hd : selDecision inp n nd ≠ .assertFail)
    (hr1 : ∀ p, sentBack { s with rpc := rpc' } = some p → p = n)
    (hr2 : ¬ awaiting { s with rpc := rpc' })
    (hr3 : ∀ m ret, rpc' = .gRet (.task m) ret → m = n ∧ selDecision inp n nd = .go)
    (hr4 : ∀ m, rpc' = .sExec m → m = n ∧ selDecision inp n nd = .go) :
    Inv2 inp { applySel inp s n nd (selDecision inp n nd) with rpc := rpc' } := by
  have hord := selEvents_ord h haw hsusp hn
  have hu := selDecision_unfinished hd
  generalize selDecision inp n nd = d at hd hr3 hr4 hord ⊢
  have k := applySel_keeps inp s n nd d
  have hy : nd.pc.yielded1 = true := by
    obtain ⟨nd', a, b⟩ := h.inv1.sp n hsusp
    rw [hn] at a; cases a
    rcases b with e | e <;> (rw [e]; rfl)
  refine h.setStatus hn hu hy (selStatus d) (selStatus_ne_none hd) (selEvents inp n nd d)
    (applySel_nodes inp s n nd d hd) k.ready k.waiting k.cur k.susp k.jobQ (applySel_events inp s n nd d) hord ?_ ?_
    (fun m deps hm => (selEvents_go hm).2) hr1 hr2 ?_ ?_
  · cases d <;> nofun
  · cases d with
    | utd => exact fun _ => List.mem_cons_self
    | _ => nofun
  · intro m ret a
    obtain ⟨e1, e2⟩ := hr3 m ret a
    exact ⟨e1, e2 ▸ List.mem_cons_self⟩
  · intro m a
    obtain ⟨e1, e2⟩ := hr4 m a
    exact ⟨e1, e2 ▸ rfl⟩


/-- `processResult` in two parts: the status written and the event reported -/
def resStatus : Outcome → RS
  | .ok => .ok | _ => .fail

def resEvents (n : Name) : Outcome → List Ev
  | .ok => [Ev.success n]
  | .failed => [Ev.failure n .failed]
  | .error => [Ev.failure n .error]
  | .saveErr => [Ev.failure n .depErr]

theorem mem_resEvents {n : Name} {o : Outcome} {e : Ev} (h : e ∈ resEvents n o) :
    (e = Ev.success n ∧ resStatus o = .ok) ∨ ∃ k, e = Ev.failure n k ∧ resStatus o = .fail ∧ k ≠ .unmet := by
  cases o <;> cases List.mem_singleton.mp h
  · exact .inl ⟨rfl, rfl⟩
  all_goals exact .inr ⟨_, rfl, rfl, nofun⟩

theorem processResult_nodes (inp : RunInput) (s : Sys) (n : Name) (nd : Node) :
    (processResult inp s n nd).nodes = (setNode s n { nd with status := resStatus (inp.outcome n) }).nodes := by
  unfold processResult; cases inp.outcome n <;> rfl

theorem processResult_events (inp : RunInput) (s : Sys) (n : Name) (nd : Node) :
    (processResult inp s n nd).events = resEvents n (inp.outcome n) ++ s.events := by
  unfold processResult; cases inp.outcome n <;> rfl

theorem processResult_keeps (inp : RunInput) (s : Sys) (n : Name) (nd : Node) :
    SameButStatus s (processResult inp s n nd) := by
  unfold processResult
  cases inp.outcome n with
  | ok => exact .set s _ _ _ _ id
  | _ => exact failNode_keeps ..

theorem processResult_frame (inp : RunInput) (s : Sys) (n : Name) (nd : Node) :
    (processResult inp s n nd).ready = s.ready ∧ (processResult inp s n nd).waiting = s.waiting ∧
    (processResult inp s n nd).cur = s.cur ∧ (processResult inp s n nd).susp = s.susp ∧
    (processResult inp s n nd).rpc = s.rpc ∧ (processResult inp s n nd).jobQ = s.jobQ ∧
    (processResult inp s n nd).resQ = s.resQ ∧ (processResult inp s n nd).workers = s.workers :=
  have k := processResult_keeps inp s n nd
  ⟨k.ready, k.waiting, k.cur, k.susp, k.rpc, k.jobQ, k.resQ, k.workers⟩

theorem stOf_processResult (inp : RunInput) (s : Sys) (n : Name) (nd : Node) (x : Name) :
    stOf (processResult inp s n nd) x = if x = n then resStatus (inp.outcome n) else stOf s x := by
  rw [stOf_congr (processResult_nodes inp s n nd), stOf_setNode]

theorem resEvents_plain (n : Name) (o : Outcome) : ∀ e ∈ resEvents n o, ∀ post, EvOK e post := by
  intro e he post
  cases o <;> (cases List.mem_singleton.mp he; trivial)

theorem inv2_result {inp : RunInput} {s : Sys} {n : Name} {nd : Node} (rpc' : RPC) (h : Inv2 inp s)
    (hn : s.nodes n = some nd) (hrun : nd.status = .run)
    (hr1 : ∀ p, sentBack { s with rpc := rpc' } = some p → p = n)
    (hr2 : ¬ awaiting { s with rpc := rpc' })
    (hr3 : ∀ m ret, rpc' ≠ .gRet (.task m) ret) (hr4 : ∀ m, rpc' ≠ .sExec m) :
    Inv2 inp { processResult inp s n nd with rpc := rpc' } := by
  have k := processResult_keeps inp s n nd
  have hy : nd.pc.yielded1 = true := (h.inv1.node n nd hn).l (by rw [hrun]; nofun)
  have hev := processResult_events inp s n nd
  have hnodes := processResult_nodes inp s n nd
  generalize inp.outcome n = o at hev hnodes
  refine h.setStatus hn (by rw [hrun]; rfl) hy (resStatus o) (by cases o <;> nofun) (resEvents n o)
    hnodes k.ready k.waiting k.cur k.susp k.jobQ hev (OrdOK_append_plain h.ord (resEvents_plain n o)) ?_ (by cases o <;> nofun) ?_
    hr1 hr2 (fun m ret a => absurd a (hr3 m ret)) (fun m a => absurd a (hr4 m))
  · cases o with
    | ok => exact fun _ => List.mem_cons_self
    | _ => nofun
  · intro m deps hm
    cases o <;> cases List.mem_singleton.mp hm

end DoitModel.Run
