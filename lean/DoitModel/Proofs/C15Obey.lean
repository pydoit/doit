import DoitModel.Proofs.DelayedAfter2
/-! # Delayed creation: the ordering half of `created_obey`

`nodeDeps s t`: the task_deps of the `Task` object the node of `t` holds (for a created task the object the creator
yielded, with its implicit deps; for a placeholder nobody re-defined the mutated placeholder).  `ObeyCore`: `NodeG`
(`NodeB` with "good" for "finished", while the node is not marked `bad`), "a good status has its good report in the
trace", and `obeyOK (nodeDeps s)`.  One lemma per primitive change of the state here; the walk is in `C15Obey2.lean`. -/
namespace DoitModel.Delayed
open DoitModel.Run (RS Name)

def goodOf (s : Sys) (d : Name) : Bool := (stOf s d).good

def NodeG (good : Name → Bool) (nd : Node) : Prop :=
  (nd.bad = false → ∀ d ∈ nd.task.deps,
      d ∈ nd.pend ∨ ((∃ ds, nd.pc = .taskIter ds) ∧ d ∈ nd.snap) ∨ d ∈ nd.waitRun ∨ good d = true) ∧
  (nd.pc = .self1 → nd.pend = [] ∧ nd.waitRun = [] ∧ nd.task.loader = none) ∧
  (nd.status ≠ .none → nd.pc = .done ∧ nd.task.loader = none)

def nodeDeps (s : Sys) (t : Name) : List Name :=
  match s.nodes t with
  | some nd => nd.task.deps
  | none => []

structure ObeyCore (inp : Input) (s : Sys) : Prop where
  node : ∀ n nd, s.nodes n = some nd → NodeG (goodOf s) nd
  okS : ∀ d, stOf s d = .ok → Ev.success d ∈ s.events
  utdS : ∀ d, stOf s d = .utd → Ev.skipUtd d ∈ s.events
  runS : ∀ d, stOf s d = .run → Ev.start d ∈ s.events
  obey : obeyOK (nodeDeps s) inp.noAct s.events = true
  utd : utdOK inp.utd s.events = true

variable {inp : Input} {s s' : Sys} {n : Name} {nd : Node} {l : LId} {perm : List Name}

theorem nodeG_iff {good : Name → Bool} : NodeG good nd ↔
    (nd.bad = false → ∀ d ∈ nd.task.deps, DepAt good nd d) ∧
    (nd.pc = .self1 → nd.pend = [] ∧ nd.waitRun = [] ∧ nd.task.loader = none) ∧
    (nd.status ≠ .none → nd.pc = .done ∧ nd.task.loader = none) := Iff.rfl

theorem obeyOK_congr (deps deps' : Name → List Name) (na : Name → Bool) :
    ∀ ev : List Ev, (∀ t, Ev.start t ∈ ev → deps t = deps' t) → obeyOK deps na ev = obeyOK deps' na ev := by
  intro ev
  induction ev with
  | nil => intro _; rfl
  | cons e ev ih =>
    intro h
    have ih' := ih (fun t ht => h t (List.mem_cons_of_mem _ ht))
    cases e with
    | start t => simp only [obeyOK, ih', h t (List.mem_cons_self)]
    | _ => simp only [obeyOK, ih']

theorem stOf_congr (h : s'.nodes = s.nodes) : stOf s' = stOf s := by
  funext d; simp only [stOf, h]

theorem nodeDeps_congr (h : s'.nodes = s.nodes) : nodeDeps s' = nodeDeps s := by
  funext d; simp only [nodeDeps, h]

theorem goodOf_of_stOf (h : stOf s' = stOf s) : goodOf s' = goodOf s := by
  funext d; simp only [goodOf, h]

theorem goodOf_congr (h : s'.nodes = s.nodes) : goodOf s' = goodOf s := goodOf_of_stOf (stOf_congr h)

theorem nodeDeps_node (hn : s.nodes n = some nd) : nodeDeps s n = nd.task.deps := by
  unfold nodeDeps; rw [hn]

theorem nodeDeps_none (hn : s.nodes n = none) : nodeDeps s n = [] := by
  unfold nodeDeps; rw [hn]

theorem nodeDeps_setNode (s : Sys) (n : Name) (x : Node) (p : Name) :
    nodeDeps (setNode s n x) p = if p = n then x.task.deps else nodeDeps s p := by
  by_cases h : p = n <;> simp [nodeDeps, setNode, h]

theorem ObeyCore.of_nodes (h : ObeyCore inp s) (hev : s'.events = s.events)
    (hst : stOf s' = stOf s) (hdeps : ∀ t, Ev.start t ∈ s.events → nodeDeps s' t = nodeDeps s t)
    (hnode : ∀ n nd, s'.nodes n = some nd → NodeG (goodOf s) nd) : ObeyCore inp s' := by
  constructor
  · intro n nd hn; rw [goodOf_of_stOf hst]; exact hnode n nd hn
  · intro d hd; rw [hst] at hd; rw [hev]; exact h.okS d hd
  · intro d hd; rw [hst] at hd; rw [hev]; exact h.utdS d hd
  · intro d hd; rw [hst] at hd; rw [hev]; exact h.runS d hd
  · rw [hev, obeyOK_congr (nodeDeps s') (nodeDeps s) inp.noAct s.events hdeps]; exact h.obey
  · rw [hev]; exact h.utd

theorem ObeyCore.congr (h : ObeyCore inp s) (h3 : s'.events = s.events)
    (h4 : s'.nodes = s.nodes) : ObeyCore inp s' :=
  h.of_nodes h3 (stOf_congr h4) (fun t _ => congrFun (nodeDeps_congr h4) t) (fun n nd hn => h.node n nd (h4 ▸ hn))

/-- node `n` is replaced by `x` of the same status; its task object may change only while `n` has no `start` -/
theorem core_upd {x : Node} (h : ObeyCore inp s) (hst : x.status = stOf s n)
    (hg : NodeG (goodOf s) x) (hd : Ev.start n ∈ s.events → x.task.deps = nodeDeps s n) :
    ObeyCore inp (setNode s n x) := by
  refine h.of_nodes rfl (stOf_setNode_eq hst) (fun t ht => ?_) (fun k nd' hk => ?_)
  · rw [nodeDeps_setNode]
    by_cases e : t = n
    · rw [if_pos e, e]; exact hd (e ▸ ht)
    · rw [if_neg e]
  · rcases upd_some hk with ⟨_, rfl⟩ | ⟨_, hk⟩
    · exact hg
    · exact h.node k nd' hk

theorem core_setNode {nd x : Node} (h : ObeyCore inp s)
    (hn : s.nodes n = some nd) (hst : x.status = nd.status) (ht : x.task = nd.task) (hg : NodeG (goodOf s) x) :
    ObeyCore inp (setNode s n x) :=
  core_upd h (hst.trans (stOf_node hn).symm) hg (fun _ => by rw [ht, nodeDeps_node hn])

theorem core_retask {x : Node} (h : ObeyCore inp s)
    (hc : CountOK (stOf s) s.events) (hs0 : stOf s n = .none) (hst : x.status = .none)
    (hg : NodeG (goodOf s) x) : ObeyCore inp (setNode s n x) :=
  core_upd h (hst.trans hs0.symm) hg (fun ht => absurd rfl (hc.fresh n hs0 _ ht))

theorem NodeG.st_none {good : Name → Bool} (h : NodeG good nd) (hpc : nd.pc ≠ .done) :
    nd.status = .none := by
  cases hs : nd.status with
  | none => rfl
  | _ => exact absurd (h.2.2 (by rw [hs]; intro e; cases e)).1 hpc

theorem nodeG_pc {good : Name → Bool} (pc' : PC) (h : NodeG good nd) (h1 : ¬ ∃ ds, nd.pc = .taskIter ds)
    (h2 : pc' = .self1 → nd.pend = [] ∧ nd.waitRun = [] ∧ nd.task.loader = none)
    (h3 : nd.status ≠ .none → pc' = .done ∧ nd.task.loader = none) :
    NodeG good { nd with pc := pc' } :=
  ⟨fun hb d hd => DepAt.pc pc' h1 (h.1 hb d hd), h2, h3⟩

theorem nodeG_mkNode {s₀ : Sys} {d₀ : Name} (good : Name → Bool) (td : TDef) (anc : List Name) : NodeG good (mkNodeI s₀ d₀ td anc) :=
  ⟨fun _ _ hd => Or.inl hd, nofun, fun e => absurd rfl e⟩

theorem core_newNode {s₀ : Sys} {d₀ : Name} {d : Name} (td : TDef) (anc : List Name) (h : ObeyCore inp s)
    (hc : CountOK (stOf s) s.events) (hd : s.nodes d = none) : ObeyCore inp (setNode s d (mkNodeI s₀ d₀ td anc)) :=
  core_retask h hc (stOf_none hd) rfl (nodeG_mkNode _ td anc)

theorem nodeDeps_registerWaiting (s : Sys) (n : Name) (wf : List Name) :
    nodeDeps (registerWaiting s n wf) = nodeDeps s := by
  funext d
  unfold nodeDeps
  rcases registerWaiting_node s n wf d with ⟨h0, h1⟩ | ⟨x, w, h0, h1⟩ <;> rw [h0, h1]

theorem core_registerWaiting (n : Name) (wf : List Name) (h : ObeyCore inp s) :
    ObeyCore inp (registerWaiting s n wf) := by
  refine h.of_nodes rfl (funext (stOf_registerWaiting s n wf))
    (fun t _ => congrFun (nodeDeps_registerWaiting s n wf) t) (fun k nd' hk => ?_)
  rcases registerWaiting_node s n wf k with ⟨_, h1⟩ | ⟨x, w, hx, h1⟩
  · rw [h1] at hk; cases hk
  · rw [h1] at hk; cases hk; exact h.node k x hx

theorem core_genStep {d : Name} {ds : List Name} (h : ObeyCore inp s)
    (hc : CountOK (stOf s) s.events) (hn : s.nodes n = some nd) (hpc : ∃ ds', nd.pc = .taskIter ds')
    (hs : GenSpec s n nd d (.taskIter ds) s') : ObeyCore inp s' := by
  have hg := h.node n nd hn
  have hx : NodeG (goodOf s) { nd with pc := .taskIter ds } := by
    refine ⟨fun hb x hx => DepAt.iter ds (hg.1 hb x hx), nofun, fun hs => ?_⟩
    · obtain ⟨ds', e⟩ := hpc
      have := (hg.2.2 hs).1
      rw [e] at this; cases this
  cases hs with
  | raise e _ => exact h.congr rfl rfl
  | seen => exact core_setNode h hn rfl rfl hx
  | new td hd _ =>
    have h1 := core_newNode (s₀ := s) (d₀ := d) td (nd.anc ++ [d]) h hc hd
    have hf : goodOf (setNode s d (mkNodeI s d td (nd.anc ++ [d]))) = goodOf s :=
      goodOf_of_stOf (stOf_setNode_eq (x := mkNodeI s d td (nd.anc ++ [d])) (stOf_none hd).symm)
    exact (core_setNode (x := { nd with pc := .taskIter ds }) h1 (setNode_other hn hd) rfl rfl (by rw [hf]; exact hx)).congr rfl rfl

theorem RS.finished_of_good {x : RS} (h : x.good = true) : x.finished = true := by
  cases x <;> first | rfl | cases h

theorem good_of_finished_not_bad {x : Name} (hu : unfinished s x = false) (hb : isBad s x = false) :
    goodOf s x = true := by
  unfold unfinished at hu; unfold isBad at hb; unfold goodOf
  cases hst : stOf s x <;> simp_all [RS.finished, RS.good]

theorem core_addWaitRun (h : ObeyCore inp s)
    (hn : s.nodes n = some nd) (hpc : nd.pc = .taskIter []) : ObeyCore inp (addWaitRun s n nd nd.snap .afterDeps) := by
  unfold addWaitRun
  apply core_registerWaiting
  have hg := h.node n nd hn
  refine core_setNode h hn rfl rfl ⟨fun hb x hx => ?_, nofun, fun hs => ?_⟩
  · simp only [Bool.or_eq_false_iff] at hb
    -- a finished dependency that `parent_status` did not find bad is good
    refine DepAt.wait _ _ _ (fun hs hu => good_of_finished_not_bad hu ?_) (hg.1 hb.1 x hx)
    have := hb.2
    rw [List.any_eq_false] at this
    simpa using this x hs
  · have := (hg.2.2 hs).1
    rw [hpc] at this; cases this

theorem core_wakeOne {w : Name} (h : ObeyCore inp s) (hn : s.nodes w = some nd)
    (pst : RS) (p : Name) (hp : stOf s p = pst) (hfin : pst.finished = true) :
    ObeyCore inp (setNode s w (wokenNode pst p nd)) := by
  have hg := h.node w nd hn
  have hx : NodeG (goodOf s) (wokenNode pst p nd) := by
    refine ⟨fun hb x hx => ?_, fun hpc => ?_, hg.2.2⟩
    · simp only [wokenNode, Bool.or_eq_false_iff] at hb
      refine DepAt.woken pst p (fun _ => ?_) (hg.1 hb.1 x hx)
      unfold goodOf; rw [hp]
      have := hb.2
      cases pst <;> simp_all [RS.finished, RS.good]
    · have := hg.2.1 hpc
      simp [wokenNode, this.1, this.2.1, this.2.2]
  exact core_setNode h hn rfl rfl hx

theorem core_feed {p : Name} (h : ObeyCore inp s)
    (hf : feed s p perm = some s') : ObeyCore inp s' := by
  cases feed_spec hf with
  | crash => exact h.congr rfl rfl
  | woke nd s1 hp hfin hu =>
    have h1 := updateWaiting_induct (P := fun x => ObeyCore inp x ∧ stOf x p = nd.status) nd.status p
      (fun x w wd rd wt hx hw => ⟨(core_wakeOne hx.1 hw _ p hx.2 hfin).congr rfl rfl,
        (congrFun (stOf_setNode_eq (x := wokenNode nd.status p wd) (stOf_node hw).symm) p).trans hx.2⟩) perm
      { s with dispatched := s.dispatched.filter (· ≠ p) } s1 ⟨h.congr rfl rfl, stOf_node hp⟩ hu
    exact h1.1.congr rfl rfl
  | skip => exact h.congr rfl rfl

end DoitModel.Delayed
