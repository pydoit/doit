import DoitModel.Proofs.RunPar
import DoitModel.Proofs.RunSerial3
import DoitModel.Proofs.C19Exit
import DoitModel.Proofs.C19Json
/-! # C19: the reporting invariant of the run model, event by event

`Rep` splits into clauses about one task (`RepAt`) and two predicates of the event list.  A clause about task `x` does not
see an event that does not touch `x` (`RepAt.append`), so each kind of event is treated once, for the task it is about.
`Inv19` is `RepInv inp (exOf inp) false (fun _ => 0)`, for every runner kind (the process runner has `exOf inp = false`);
`FSys` (`Proofs/C19FwdWalk.lean`) uses the same lemmas at the flags `true true` with a queue of pending reports. -/
namespace DoitModel.Report
open DoitModel.Run

/-- `execute_task` reports are part of the model's trace (not for the process runner: they travel through the
    result queue, modelled by `Report.FSys`) -/
def exOf (inp : RunInput) : Bool := !(inp.runner == .process)

def cExec (s : Sys) (n : Name) : Nat := s.events.countP (Ev.isExecOf n)

structure Inv19 (inp : RunInput) (s : Sys) : Prop where
  fin : s.final = finalEv s.events
  fl : ∀ n, stOf s n = .fail → ∃ k, Ev.failure n k ∈ s.events
  ig : ∀ n, stOf s n = .ign → Ev.skipIgn n ∈ s.events
  g0 : ∀ n, stOf s n = .none → ∀ e ∈ s.events, Ev.touches n e = false
  g1 : ∀ n, stOf s n ≠ .none → Ev.getStatus n ∈ s.events
  ex : ∀ n, cExec s n = if inp.runner = .process then 0 else cStart s n
  ord : repOrd (exOf inp) false (fun _ => false) s.events = true
  st : ∀ n, cStart s n ≥ 1 → stOf s n = .run ∨ cTerm s n ≥ 1
  tl : truthLiteOrd inp s.events = true

def reportFor (n : Name) : RS → Ev → Prop
  | .ok, e => e = .success n
  | .utd, e => e = .skipUtd n
  | .ign, e => e = .skipIgn n
  | .fail, e => ∃ k, e = .failure n k
  | _, _ => False

theorem any_false_of_countP {α : Type} {p : α → Bool} {l : List α} (h : l.countP p = 0) : l.any p = false := by
  cases ha : l.any p with
  | false => rfl
  | true =>
    obtain ⟨e, he, hp⟩ := List.any_eq_true.mp ha
    have : 0 < l.countP p := List.countP_pos_iff.mpr ⟨e, he, hp⟩
    omega

theorem any_true_of_countP {α : Type} {p : α → Bool} {l : List α} (h : l.countP p ≥ 1) : l.any p = true := by
  obtain ⟨e, he, hp⟩ := List.countP_pos_iff.mp (by omega : 0 < l.countP p)
  exact List.any_eq_true.mpr ⟨e, he, hp⟩

theorem any_gs_of_mem {n : Name} {l : List Ev} (h : Ev.getStatus n ∈ l) : l.any (Ev.isGetStatusOf n) = true :=
  List.any_eq_true.mpr ⟨_, h, by simp [Ev.isGetStatusOf]⟩

theorem any_touch_false {n : Name} {l : List Ev} (h : ∀ e ∈ l, Ev.touches n e = false) :
    l.any (Ev.touches n) = false := by
  cases ha : l.any (Ev.touches n) with
  | false => rfl
  | true =>
    obtain ⟨e, he, hp⟩ := List.any_eq_true.mp ha
    rw [h e he] at hp; cases hp

/-- what the events `evs` (newest first) say about task `n` with `run_status` `r`, while `p` of its `execute_task` reports
    are still on the result queue; `ex`: `execute_task` reports are part of `evs` at all -/
structure RepAt (ex : Bool) (evs : List Ev) (r : RS) (p : Nat) (n : Name) : Prop where
  fl : r = .fail → ∃ k, Ev.failure n k ∈ evs
  ig : r = .ign → Ev.skipIgn n ∈ evs
  g0 : r = .none → ∀ e ∈ evs, Ev.touches n e = false
  g1 : r ≠ .none → Ev.getStatus n ∈ evs
  ex : evs.countP (Ev.isExecOf n) + p = if ex then evs.countP (Ev.isStartOf n) else 0
  st : evs.countP (Ev.isStartOf n) ≥ 1 → r = .run ∨ evs.countP (Ev.isTerminalOf n) ≥ 1

variable {ex fwd : Bool} {evs : List Ev} {r : RS} {p : Nat} {n : Name}

namespace RepAt

theorem cons (h : RepAt ex evs r p n) {e : Ev} (h1 : Ev.isExecOf n e = false) (h2 : Ev.isStartOf n e = false)
    (h3 : r = .none → Ev.touches n e = false) : RepAt ex (e :: evs) r p n := by
  refine ⟨fun a => (h.fl a).imp fun _ hk => List.mem_cons_of_mem _ hk, fun a => List.mem_cons_of_mem _ (h.ig a), ?_,
    fun a => List.mem_cons_of_mem _ (h.g1 a), ?_, ?_⟩
  · intro a x hx
    rcases List.mem_cons.mp hx with rfl | hx
    · exact h3 a
    · exact h.g0 a x hx
  · simp only [List.countP_cons, h1, h2, Bool.false_eq_true, if_false, Nat.add_zero]; exact h.ex
  · simp only [List.countP_cons, h2, Bool.false_eq_true, if_false, Nat.add_zero]
    exact fun hs => (h.st hs).imp id fun t => by omega

theorem exec_zero (h : RepAt ex evs r p n) (hs : evs.countP (Ev.isStartOf n) = 0) :
    evs.countP (Ev.isExecOf n) = 0 := by
  have := h.ex
  rw [hs] at this
  cases ex <;> exact Nat.eq_zero_of_add_eq_zero_right this

theorem append (h : RepAt ex evs r p n) {new : List Ev} (hnew : ∀ e ∈ new, Ev.touches n e = false) :
    RepAt ex (new ++ evs) r p n := by
  induction new with
  | nil => exact h
  | cons e new ih =>
    have u := untouched (hnew e (by simp))
    exact (ih fun x hx => hnew x (by simp [hx])).cons u.1 u.2.1 fun _ => hnew e (by simp)

theorem getStatus (h : RepAt ex evs .none p n) : RepAt ex (.getStatus n :: evs) .run p n := by
  refine ⟨nofun, nofun, nofun, fun _ => List.mem_cons_self, ?_, fun _ => Or.inl rfl⟩
  simp only [List.countP_cons, Ev.isExecOf, Ev.isStartOf, Bool.false_eq_true, if_false, Nat.add_zero]; exact h.ex

theorem final (h : RepAt ex evs .run p n) {e : Ev} (hr : reportFor n r e) : RepAt ex (e :: evs) r p n := by
  have hg : Ev.getStatus n ∈ e :: evs := List.mem_cons_of_mem _ (h.g1 nofun)
  have hk : ∀ {e}, Ev.isTerminalOf n e = true → Ev.isExecOf n e = false → Ev.isStartOf n e = false →
      evs.countP (Ev.isExecOf n) + p = (if ex then evs.countP (Ev.isStartOf n) else 0) →
      (e :: evs).countP (Ev.isExecOf n) + p = (if ex then (e :: evs).countP (Ev.isStartOf n) else 0) ∧
      (r = .run ∨ (e :: evs).countP (Ev.isTerminalOf n) ≥ 1) := by
    intro e a b c d
    simp only [List.countP_cons, a, b, c, Bool.false_eq_true, if_false, if_true, Nat.add_zero]
    exact ⟨d, Or.inr (by omega)⟩
  cases r with
  | none | run => exact hr.elim
  | ok =>
    subst hr; have := hk (e := .success n) (by simp [Ev.isTerminalOf]) rfl rfl h.ex
    exact ⟨nofun, nofun, nofun, fun _ => hg, this.1, fun _ => this.2⟩
  | utd =>
    subst hr; have := hk (e := .skipUtd n) (by simp [Ev.isTerminalOf]) rfl rfl h.ex
    exact ⟨nofun, nofun, nofun, fun _ => hg, this.1, fun _ => this.2⟩
  | ign =>
    subst hr; have := hk (e := .skipIgn n) (by simp [Ev.isTerminalOf]) rfl rfl h.ex
    exact ⟨nofun, fun _ => List.mem_cons_self, nofun, fun _ => hg, this.1, fun _ => this.2⟩
  | fail =>
    obtain ⟨k, rfl⟩ := hr; have := hk (e := .failure n k) (by simp [Ev.isTerminalOf]) rfl rfl h.ex
    exact ⟨fun _ => ⟨k, List.mem_cons_self⟩, nofun, nofun, fun _ => hg, this.1, fun _ => this.2⟩

/-- with forwarded reports one more `execute_task n` is under way -/
theorem start (h : RepAt ex evs .run p n) (w : Nat) :
    RepAt ex (.start n w :: evs) .run (if ex then p + 1 else p) n := by
  refine ⟨nofun, nofun, nofun, fun _ => List.mem_cons_of_mem _ (h.g1 nofun), ?_, fun _ => Or.inl rfl⟩
  have := h.ex
  rw [List.countP_cons_of_neg (by simp [Ev.isExecOf]), List.countP_cons_of_pos (by simp [Ev.isStartOf])]
  cases ex
  · exact this
  · have : evs.countP (Ev.isExecOf n) + p = evs.countP (Ev.isStartOf n) := this
    show evs.countP (Ev.isExecOf n) + (p + 1) = evs.countP (Ev.isStartOf n) + 1
    omega

/-- `execute_task n` reported by the thread that then starts the actions -/
theorem startNow (h : RepAt true evs .run p n) (w : Nat) :
    RepAt true (.start n w :: .execute n :: evs) .run p n := by
  refine ⟨nofun, nofun, nofun, fun _ => List.mem_cons_of_mem _ (List.mem_cons_of_mem _ (h.g1 nofun)), ?_,
    fun _ => Or.inl rfl⟩
  have := h.ex
  simp [Ev.isExecOf, Ev.isStartOf] at this ⊢; omega

theorem execute (h : RepAt true evs .run (p + 1) n) : RepAt true (.execute n :: evs) .run p n := by
  refine ⟨nofun, nofun, nofun, fun _ => List.mem_cons_of_mem _ (h.g1 nofun), ?_, fun _ => Or.inl rfl⟩
  have := h.ex
  simp [Ev.isExecOf, Ev.isStartOf] at this ⊢; omega

end RepAt

structure Rep (inp : RunInput) (ex fwd : Bool) (pend : Name → Nat) (evs : List Ev) (st : Name → RS) : Prop where
  task : ∀ n, RepAt ex evs (st n) (pend n) n
  ord : repOrd ex fwd (fun _ => false) evs = true
  tl : truthLiteOrd inp evs = true

namespace Rep

theorem step {inp : RunInput} {pend pend' : Name → Nat} {st st' : Name → RS} (h : Rep inp ex fwd pend evs st)
    (n : Name) {new : List Ev} (hn : RepAt ex (new ++ evs) (st' n) (pend' n) n)
    (hnew : ∀ e ∈ new, ∀ x, x ≠ n → Ev.touches x e = false) (hst : ∀ x, x ≠ n → st' x = st x)
    (hp : ∀ x, x ≠ n → pend' x = pend x) (hord : repOrd ex fwd (fun _ => false) (new ++ evs) = true)
    (htl : truthLiteOrd inp (new ++ evs) = true) : Rep inp ex fwd pend' (new ++ evs) st' := by
  refine ⟨fun x => ?_, hord, htl⟩
  by_cases hx : x = n
  · subst hx; exact hn
  · rw [hst x hx, hp x hx]; exact (h.task x).append fun e he => hnew e he x hx

end Rep

structure RepInv (inp : RunInput) (ex fwd : Bool) (pend : Name → Nat) (s : Sys) : Prop where
  fin : s.final = finalEv s.events
  rep : Rep inp ex fwd pend s.events (stOf s)

theorem exOf_true {inp : RunInput} (h : inp.runner ≠ .process) : exOf inp = true := by
  unfold exOf; cases hr : inp.runner <;> simp_all

theorem exOf_false {inp : RunInput} (h : inp.runner = .process) : exOf inp = false := by
  unfold exOf; simp [h]

theorem inv19_iff {inp : RunInput} {s : Sys} : Inv19 inp s ↔ RepInv inp (exOf inp) false (fun _ => 0) s := by
  have hex : ∀ n, (cExec s n = if inp.runner = .process then 0 else cStart s n) ↔
      (s.events.countP (Ev.isExecOf n) + 0 = if exOf inp then s.events.countP (Ev.isStartOf n) else 0) := by
    intro n
    by_cases hp : inp.runner = .process
    · simp [hp, exOf_false hp, cExec]
    · simp [hp, exOf_true hp, cExec, cStart]
  constructor
  · intro h
    exact ⟨h.fin, fun n => ⟨h.fl n, h.ig n, h.g0 n, h.g1 n, (hex n).mp (h.ex n), h.st n⟩, h.ord, h.tl⟩
  · intro h
    exact ⟨h.fin, fun n => (h.rep.task n).fl, fun n => (h.rep.task n).ig, fun n => (h.rep.task n).g0,
      fun n => (h.rep.task n).g1, fun n => (hex n).mpr (h.rep.task n).ex, h.rep.ord, fun n => (h.rep.task n).st, h.rep.tl⟩

variable {inp : RunInput} {pend : Name → Nat}

namespace RepInv

theorem same {s s' : Sys} (h : RepInv inp ex fwd pend s) (e1 : s'.events = s.events)
    (e2 : ∀ x, stOf s' x = stOf s x) (e3 : s'.final = s.final) : RepInv inp ex fwd pend s' := by
  refine ⟨by rw [e3, e1]; exact h.fin, ?_⟩
  rw [e1, funext e2]; exact h.rep

end RepInv

theorem Inv19.same {s s' : Sys} (h : Inv19 inp s) (e1 : s'.events = s.events)
    (e2 : ∀ x, stOf s' x = stOf s x) (e3 : s'.final = s.final) : Inv19 inp s' :=
  inv19_iff.mpr ((inv19_iff.mp h).same e1 e2 e3)

theorem init_repInv (inp : RunInput) (ex fwd : Bool) : RepInv inp ex fwd (fun _ => 0) (init inp) :=
  ⟨rfl, fun _ => ⟨nofun, nofun, fun _ _ => nofun, fun h => (h rfl).elim, by cases ex <;> rfl, nofun⟩, rfl, rfl⟩

theorem finalEv_statusEv (nd : Node) (n : Name) (evs : List Ev) : finalEv (statusEv nd n ++ evs) = finalEv evs := by
  unfold statusEv; split <;> simp [finalEv]

theorem applySel_final (inp : RunInput) (s : Sys) (n : Name) (nd : Node) (d : Sel) (h : s.final = finalEv s.events) :
    (applySel inp s n nd d).final = finalEv (selEvents inp n nd d ++ s.events) := by
  cases d <;> simp [applySel, failNode, setNode, selEvents, finalEv, finalEv_statusEv, h]

theorem selEvents_touches (inp : RunInput) (n : Name) (nd : Node) (d : Sel) (x : Name) (hx : x ≠ n) :
    ∀ e ∈ selEvents inp n nd d, Ev.touches x e = false := by
  intro e he
  rcases mem_selEvents he with rfl | ⟨rfl, _⟩ | h
  · exact decide_eq_false (Ne.symm hx)
  · rfl
  · rcases h with ⟨rfl, _⟩ | ⟨rfl, _⟩ | ⟨k, rfl, _⟩ <;> exact decide_eq_false (Ne.symm hx)

/-- the facts after `go` are what the start of the actions (`rep_startSelf`) asks for -/
theorem rep_select {s : Sys} {n : Name} {nd : Node} (h : RepInv inp ex fwd pend s) (h3 : Inv3 inp s)
    (haw : awaiting s) (hsu : s.susp = some (.node n)) (hn : s.nodes n = some nd)
    (hne : selDecision inp n nd ≠ .assertFail) :
    RepInv inp ex fwd pend (applySel inp s n nd (selDecision inp n nd)) ∧ cStart s n = 0 ∧
    (selDecision inp n nd = .go → stOf (applySel inp s n nd .go) n = .run ∧
      cStart (applySel inp s n nd .go) n = 0 ∧ cTerm (applySel inp s n nd .go) n = 0) := by
  have hstn : stOf s n = nd.status := by unfold stOf; rw [hn]
  have hA := h.rep.task n
  rw [hstn] at hA
  have hstart : s.events.countP (Ev.isStartOf n) = 0 :=
    show cStart s n = 0 by have := h3.j n; have := h3.z haw n hsu; omega
  have hterm : s.events.countP (Ev.isTerminalOf n) = 0 :=
    h3.t n (by rw [hstn]; rcases selDecision_pass hne with a | ⟨a, _⟩ <;> rw [a] <;> rfl)
  have hexec := hA.exec_zero hstart
  have afterGo : stOf (applySel inp s n nd .go) n = .run ∧ cStart (applySel inp s n nd .go) n = 0 ∧
      cTerm (applySel inp s n nd .go) n = 0 := by
    have c := counts_append (applySel_events inp s n nd .go) n
    have sc := selEvents_counts inp n nd .go n
    have : cStart s n = 0 := hstart
    refine ⟨by rw [stOf_applySel inp s n nd .go nofun, if_pos rfl]; rfl, by rw [c.2.1, sc.start]; omega, ?_⟩
    rw [c.2.2.2, sc.term, if_pos rfl]; exact (Nat.zero_add _).trans hterm
  refine ⟨?_, hstart, fun _ => afterGo⟩
  -- the `get_status` report of the first pass; nothing else about `n` is older than the report that follows
  obtain ⟨hB, hBo, hBt, hBg, Q⟩ : RepAt ex (statusEv nd n ++ s.events) .run (pend n) n ∧
      repOrd ex fwd (fun _ => false) (statusEv nd n ++ s.events) = true ∧
      truthLiteOrd inp (statusEv nd n ++ s.events) = true ∧
      (statusEv nd n ++ s.events).any (Ev.isGetStatusOf n) = true ∧
      ∀ q : Ev → Bool, q (.getStatus n) = false → s.events.countP q = 0 →
        (statusEv nd n ++ s.events).any q = false := by
    rcases selDecision_pass hne with a | ⟨a, _⟩
    · rw [a] at hA
      rw [show statusEv nd n = [.getStatus n] from if_pos a]
      refine ⟨hA.getStatus, ?_, h.rep.tl, by simp [Ev.isGetStatusOf], fun q h1 h2 => ?_⟩
      · show (!(s.events.any (Ev.touches n)) && repOrd ex fwd (fun _ => false) s.events) = true
        rw [any_touch_false (hA.g0 rfl), h.rep.ord]; rfl
      · show (q (.getStatus n) || s.events.any q) = false
        rw [h1, any_false_of_countP h2]; rfl
    · rw [a] at hA
      rw [show statusEv nd n = [] from if_neg (by rw [a]; nofun)]
      exact ⟨hA, h.rep.ord, h.rep.tl, any_gs_of_mem (hA.g1 nofun), fun q _ h2 => any_false_of_countP h2⟩
  have noFinal := Q _ rfl hterm
  have noStart := Q _ rfl hstart
  have noExec := Q _ rfl hexec
  generalize hd : selDecision inp n nd = d at hne ⊢
  refine ⟨by rw [applySel_events]; exact applySel_final inp s n nd d h.fin, ?_⟩
  rw [applySel_events]
  refine h.rep.step n ?_ (fun e he x hx => selEvents_touches inp n nd d x hx e he)
    (fun x hx => by rw [stOf_applySel inp s n nd d hne, if_neg hx]) (fun _ _ => rfl) ?_ ?_
  · rw [stOf_applySel inp s n nd d hne, if_pos rfl]
    cases d with
    | skipIgn | utd => exact hB.final rfl
    | unmet => exact hB.final ⟨.unmet, rfl⟩
    | depErr | argsErr => exact hB.final ⟨.depErr, rfl⟩
    | go => exact hB.cons rfl rfl nofun
    | runFirst => exact hB
    | assertFail => exact absurd rfl hne
  · cases d with
    | assertFail => exact absurd rfl hne
    | _ => simp [selEvents, repOrd, repOK, firstFinal, hBg, noFinal, noStart, noExec, hBo]
  · cases d with
    | utd =>
      cases selDecision_spec.of_eq hd with
      | utd _ _ hi _ _ hu => simp [selEvents, truthLiteOrd, truthLite, hBt, hu, hi]
    | depErr =>
      cases selDecision_spec.of_eq hd with
      | depErr _ _ _ _ he => simp [selEvents, truthLiteOrd, truthLite, hBt, noStart, he]
    | argsErr =>
      cases selDecision_spec.of_eq hd with
      | argsErr1 _ _ _ _ _ _ _ ha | argsErr2 _ _ _ _ ha => simp [selEvents, truthLiteOrd, truthLite, hBt, noStart, ha]
    | assertFail => exact absurd rfl hne
    | _ => simp [selEvents, truthLiteOrd, truthLite, hBt]

/-- the start mark alone: `execute_task` is not part of the trace, or travels through the queue (one more under way) -/
theorem rep_start {s s' : Sys} {n w : Nat} {pend' : Name → Nat} (h : RepInv inp ex fwd pend s)
    (hx : ex = true → fwd = true) (hrun : stOf s n = .run) (hev : s'.events = Ev.start n w :: s.events)
    (hst : ∀ x, stOf s' x = stOf s x) (hf : s'.final = s.final)
    (hpn : pend' n = if ex then pend n + 1 else pend n) (hpo : ∀ x, x ≠ n → pend' x = pend x) :
    RepInv inp ex fwd pend' s' := by
  have hA := h.rep.task n
  rw [hrun] at hA
  refine ⟨by rw [hf, hev, h.fin]; rfl, ?_⟩
  rw [hev, funext hst]
  refine h.rep.step n (new := [.start n w]) (by rw [hrun, hpn]; exact hA.start w) ?_ (fun _ _ => rfl) hpo ?_ ?_
  · intro e he x hxn
    rw [List.mem_singleton.mp he]; simp [Ev.touches, Ne.symm hxn]
  · cases ex
    · simp [repOrd, repOK, h.rep.ord]
    · have := hx rfl; subst this; simp [repOrd, repOK, h.rep.ord]
  · simp [truthLiteOrd, truthLite, h.rep.tl]

theorem rep_startNow {s s' : Sys} {n w : Nat} (h : RepInv inp true fwd pend s) (hrun : stOf s n = .run)
    (hstart : cStart s n = 0) (hterm : cTerm s n = 0) (hev : s'.events = Ev.start n w :: Ev.execute n :: s.events)
    (hst : ∀ x, stOf s' x = stOf s x) (hf : s'.final = s.final) : RepInv inp true fwd pend s' := by
  have hA := h.rep.task n
  rw [hrun] at hA
  have hexec := hA.exec_zero hstart
  refine ⟨by rw [hf, hev, h.fin]; rfl, ?_⟩
  rw [hev, funext hst]
  refine h.rep.step n (new := [.start n w, .execute n]) (by rw [hrun]; exact hA.startNow w) ?_ (fun _ _ => rfl)
    (fun _ _ => rfl) ?_ ?_
  · intro e he x hxn
    rcases List.mem_cons.mp he with rfl | he
    · simp [Ev.touches, Ne.symm hxn]
    · rw [List.mem_singleton.mp he]; simp [Ev.touches, Ne.symm hxn]
  · simp [repOrd, repOK, firstFinal, Ev.isExecOf, h.rep.ord, any_gs_of_mem (hA.g1 nofun),
      any_false_of_countP hterm, any_false_of_countP hexec]
  · simp [truthLiteOrd, truthLite, h.rep.tl]

/-- `Runner.execute_task` as the runner kind has it: the process runner's `execute_task` report is not in the trace -/
theorem rep_startSelf {s s' : Sys} {n w : Nat} (h : RepInv inp (exOf inp) fwd pend s) (hrun : stOf s n = .run)
    (hstart : cStart s n = 0) (hterm : cTerm s n = 0)
    (hev : s'.events = (if inp.runner = .process then [Ev.start n w] else [Ev.start n w, Ev.execute n]) ++ s.events)
    (hst : ∀ x, stOf s' x = stOf s x) (hf : s'.final = s.final) : RepInv inp (exOf inp) fwd pend s' := by
  by_cases hp : inp.runner = .process
  · rw [if_pos hp] at hev; rw [exOf_false hp] at h ⊢
    exact rep_start h nofun hrun hev hst hf rfl fun _ _ => rfl
  · rw [if_neg hp] at hev; rw [exOf_true hp] at h ⊢
    exact rep_startNow h hrun hstart hterm hev hst hf

theorem rep_ended {s s' : Sys} {n w : Nat} (h : RepInv inp ex fwd pend s) (hrun : stOf s n = .run)
    (hstart : cStart s n ≥ 1) (hev : s'.events = Ev.fin n w :: s.events)
    (hst : ∀ x, stOf s' x = stOf s x) (hf : s'.final = s.final) : RepInv inp ex fwd pend s' := by
  have hA := h.rep.task n
  rw [hrun] at hA
  refine ⟨by rw [hf, hev, h.fin]; rfl, ?_⟩
  rw [hev, funext hst]
  refine h.rep.step n (new := [.fin n w]) (by rw [hrun]; exact hA.cons rfl rfl nofun) ?_ (fun _ _ => rfl)
    (fun _ _ => rfl) ?_ ?_
  · intro e he x hxn
    rw [List.mem_singleton.mp he]; simp [Ev.touches, Ne.symm hxn]
  · simp [repOrd, repOK, h.rep.ord, any_true_of_countP hstart]
  · simp [truthLiteOrd, truthLite, h.rep.tl]

/-- the main process takes the forwarded `execute_task n` from the queue and calls the real reporter -/
theorem rep_execute {s s' : Sys} {n : Nat} {pend' : Name → Nat} (h : RepInv inp true fwd pend s)
    (hrun : stOf s n = .run) (hterm : cTerm s n = 0) (hs1 : cStart s n ≤ 1)
    (hev : s'.events = Ev.execute n :: s.events) (hst : ∀ x, stOf s' x = stOf s x) (hf : s'.final = s.final)
    (hpn : pend n = pend' n + 1) (hpo : ∀ x, x ≠ n → pend' x = pend x) : RepInv inp true fwd pend' s' := by
  have hA := h.rep.task n
  rw [hrun, hpn] at hA
  have hexec : s.events.countP (Ev.isExecOf n) = 0 := by have := hA.ex; unfold cStart at hs1; simp at this; omega
  refine ⟨by rw [hf, hev, h.fin]; rfl, ?_⟩
  rw [hev, funext hst]
  refine h.rep.step n (new := [.execute n]) (by rw [hrun]; exact hA.execute) ?_ (fun _ _ => rfl) hpo ?_ ?_
  · intro e he x hxn
    rw [List.mem_singleton.mp he]; simp [Ev.touches, Ne.symm hxn]
  · simp [repOrd, repOK, firstFinal, h.rep.ord, any_gs_of_mem (hA.g1 nofun), any_false_of_countP hterm,
      any_false_of_countP hexec]
  · simp [truthLiteOrd, truthLite, h.rep.tl]

theorem processResult_final (inp : RunInput) (s : Sys) (n : Name) (nd : Node) (h : s.final = finalEv s.events) :
    (processResult inp s n nd).final = finalEv (resEvents n (inp.outcome n) ++ s.events) := by
  unfold processResult; cases inp.outcome n <;> simp [failNode, setNode, resEvents, finalEv, h]

/-- `hpend`: the forwarded `execute_task n` was delivered before the result of `n` (FIFO) -/
theorem rep_result {s : Sys} {n : Name} {nd : Node} (h : RepInv inp ex fwd pend s) (hn : s.nodes n = some nd)
    (hrun : nd.status = .run) (hterm : cTerm s n = 0) (hfin : cFin s n ≥ 1) (hstart : cStart s n ≥ 1)
    (hpend : pend n = 0) : RepInv inp ex fwd pend (processResult inp s n nd) := by
  have hA := h.rep.task n
  rw [show stOf s n = .run by unfold stOf; rw [hn]; exact hrun, hpend] at hA
  have hasGs := any_gs_of_mem (hA.g1 nofun)
  have noFinal := any_false_of_countP hterm
  have ended := any_true_of_countP hfin
  have hasExec : ex = true → s.events.any (Ev.isExecOf n) = true := by
    intro hx
    have := hA.ex; unfold cStart at hstart
    rw [hx] at this
    exact any_true_of_countP (by simp at this; omega)
  have started := any_true_of_countP hstart
  refine ⟨by rw [processResult_events]; exact processResult_final inp s n nd h.fin, ?_⟩
  rw [processResult_events]
  refine h.rep.step n ?_ ?_ (fun x hx => by rw [stOf_processResult, if_neg hx]) (fun _ _ => rfl) ?_ ?_
  · rw [stOf_processResult, if_pos rfl, hpend]
    cases inp.outcome n
    · exact hA.final rfl
    · exact hA.final ⟨.failed, rfl⟩
    · exact hA.final ⟨.error, rfl⟩
    · exact hA.final ⟨.depErr, rfl⟩
  · intro e he x hxn
    rcases mem_resEvents he with ⟨rfl, _⟩ | ⟨k, rfl, _⟩ <;> exact decide_eq_false (Ne.symm hxn)
  · have X : (!ex || s.events.any (Ev.isExecOf n)) = true := by
      cases ex
      · rfl
      · exact hasExec rfl
    cases inp.outcome n <;> simp [resEvents, repOrd, repOK, firstFinal, hasGs, noFinal, ended, X, h.rep.ord]
  · cases ho : inp.outcome n <;> simp [resEvents, truthLiteOrd, truthLite, h.rep.tl, started, ho]

theorem teardown_neutral {α : Type} (f : List Ev → α) (hf : ∀ t l, f (.teardown t :: l) = f l) (ts : List Name)
    (l : List Ev) : f (ts.map Ev.teardown ++ l) = f l := by
  induction ts with
  | nil => rfl
  | cons t ts ih => exact (hf t _).trans ih

theorem rep_finishRun {s : Sys} (h : RepInv inp ex fwd pend s) : RepInv inp ex fwd pend (finishRun s) := by
  refine ⟨?_, ?_⟩
  · show s.final = finalEv (.complete :: (s.tdown.map Ev.teardown ++ s.events))
    exact h.fin.trans (teardown_neutral finalEv (fun _ _ => rfl) _ _).symm
  · show Rep inp ex fwd pend ((.complete :: s.tdown.map Ev.teardown) ++ s.events) (stOf s)
    have hq : ∀ e ∈ Ev.complete :: s.tdown.map Ev.teardown, ∀ x, Ev.touches x e = false := by
      intro e he x
      rcases List.mem_cons.mp he with rfl | he
      · rfl
      · obtain ⟨t, _, rfl⟩ := List.mem_map.mp he; rfl
    exact ⟨fun x => (h.rep.task x).append fun e he => hq e he x,
      (teardown_neutral (repOrd ex fwd _) (fun _ _ => rfl) _ _).trans h.rep.ord,
      (teardown_neutral (truthLiteOrd inp) (fun _ _ => rfl) _ _).trans h.rep.tl⟩

end DoitModel.Report
