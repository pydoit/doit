import DoitModel.Model.Load
/-! model M6 (loading): dictionary access; `Checked`, the shape in which every loader function is specified
    (it raises InvalidTask / InvalidDodoFile, or returns a result with a stated property); `nodupB` -/
namespace DoitModel.Load

theorem del_cons_eq (k : Attr) (v : RawVal) (rest : TDict) : del ((k, v) :: rest) k = del rest k := by
  simp [del]

theorem del_cons_ne (x k : Attr) (v : RawVal) (rest : TDict) (h : x ≠ k) :
    del ((x, v) :: rest) k = (x, v) :: del rest k := by
  simp [del, h]

theorem get_cons_eq (a : Attr) (v : RawVal) (rest : TDict) : get ((a, v) :: rest) a = some v := by
  simp [get]

theorem get_cons_ne (x a : Attr) (v : RawVal) (rest : TDict) (h : x ≠ a) : get ((x, v) :: rest) a = get rest a := by
  simp [get, h]

theorem get_del_ne (d : TDict) (k a : Attr) (h : a ≠ k) : get (del d k) a = get d a := by
  induction d with
  | nil => rfl
  | cons p rest ih =>
    obtain ⟨x, v⟩ := p
    by_cases hx : x = k
    · subst hx
      rw [del_cons_eq, get_cons_ne _ _ _ _ (Ne.symm h), ih]
    · rw [del_cons_ne _ _ _ _ hx]
      by_cases hxa : x = a
      · subst hxa; rw [get_cons_eq, get_cons_eq]
      · rw [get_cons_ne _ _ _ _ hxa, get_cons_ne _ _ _ _ hxa, ih]

theorem get_append (d1 d2 : TDict) (a : Attr) :
    get (d1 ++ d2) a = match get d1 a with | some v => some v | none => get d2 a := by
  induction d1 with
  | nil => simp only [List.nil_append, get]
  | cons p rest ih =>
    obtain ⟨x, v⟩ := p
    by_cases hxa : x = a
    · subst hxa; simp only [List.cons_append, get_cons_eq]
    · simp only [List.cons_append, get_cons_ne _ _ _ _ hxa]; exact ih

theorem get_del_self (d : TDict) (k : Attr) : get (del d k) k = none := by
  induction d with
  | nil => rfl
  | cons p rest ih =>
    obtain ⟨x, v⟩ := p
    by_cases hx : x = k
    · subst hx; rw [del_cons_eq]; exact ih
    · rw [del_cons_ne _ _ _ _ hx, get_cons_ne _ _ _ _ hx]; exact ih

theorem get_put_ne (d : TDict) (k a : Attr) (v : RawVal) (h : a ≠ k) : get (put d k v) a = get d a := by
  unfold put
  rw [get_append, get_del_ne d k a h]
  cases hg : get d a with
  | some w => rfl
  | none => simp [get, Ne.symm h]

theorem get_put_self (d : TDict) (k : Attr) (v : RawVal) : get (put d k v) k = some v := by
  unfold put
  rw [get_append, get_del_self]
  simp [get]

theorem mem_del (d : TDict) (k : Attr) (p : Attr × RawVal) : p ∈ del d k ↔ p ∈ d ∧ p.1 ≠ k := by
  simp [del, List.mem_filter]

theorem mem_put (d : TDict) (k : Attr) (v : RawVal) (p : Attr × RawVal) :
    p ∈ put d k v ↔ (p ∈ d ∧ p.1 ≠ k) ∨ p = (k, v) := by
  simp [put, mem_del]

/-- an exception doit raises on purpose -/
def Err.Raised : Err → Prop
  | .crash _ => False
  | _ => True

/-- `x` does not crash, and a result it returns satisfies `P` -/
def Checked {α : Type} (x : R α) (P : α → Prop) : Prop :=
  match x with
  | .ok r => P r
  | .error e => e.Raised

variable {α : Type} {x : R α} {P Q : α → Prop}

@[elab_as_elim]
theorem Checked.on {motive : R α → Prop} (x : R α) (hx : Checked x Q)
    (error : ∀ e, e.Raised → motive (.error e)) (ok : ∀ a, x = .ok a → Q a → motive (.ok a)) : motive x := by
  cases x with
  | error e => exact error e hx
  | ok a => exact ok a rfl hx

theorem Checked.guard {c : Prop} [Decidable c] {e : Err} (he : e.Raised) (h : ¬c → Checked x P) :
    Checked (if c then .error e else x) P := by
  by_cases hc : c
  · rw [if_pos hc]; exact he
  · rw [if_neg hc]; exact h hc

theorem Checked.of_ok {r : α} (h : Checked x P) (hx : x = .ok r) : P r := by
  subst hx; exact h

theorem Checked.no_crash (h : Checked x P) (e : Exn) : x ≠ .error (.crash e) := by
  intro hx; subst hx; exact h

theorem Checked.mono (h : Checked x P) (hpq : ∀ r, x = .ok r → P r → Q r) : Checked x Q := by
  cases x with
  | error e => exact h
  | ok r => exact hpq r rfl h

theorem nodupB_iff (l : List Name) : nodupB l = true ↔ l.Nodup := by
  induction l with
  | nil => simp [nodupB]
  | cons x xs ih => simp [nodupB, ih, List.nodup_cons]

end DoitModel.Load
