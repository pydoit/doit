import DoitModel.Model.Cmds
/-! # C13 — `forget`: the records removed are exactly those of the target list; the target list is the documented set -/
namespace DoitModel.Cmds
open DoitModel.Status

theorem erase_rcd (s : St) (t k : Name) : (erase s t).rcd k = if k = t then Rcd.empty else s.rcd k := rfl

theorem setIgn_rcd (s : St) (t k : Name) :
    (setIgn s t).rcd k = if k = t then { s.rcd t with ign := true } else s.rcd k := rfl

theorem eraseList_rcd (l : List Name) (s : St) (k : Name) :
    (eraseList s l).rcd k = if k ∈ l then Rcd.empty else s.rcd k := by
  induction l generalizing s with
  | nil => simp [eraseList]
  | cons a as ih =>
    simp only [eraseList, List.foldl_cons] at ih ⊢
    rw [ih (erase s a), erase_rcd]
    by_cases h1 : k ∈ as
    · simp [h1]
    · by_cases h2 : k = a
      · simp [h2]
      · simp [h1, h2]

theorem taskFold_shape {f : St → Name → St}
    (hf : ∀ s t, (∀ k, k ≠ t → (f s t).rcd k = s.rcd k) ∧ (f s t).fs = s.fs ∧ (f s t).defs = s.defs ∧
      (f s t).checker = s.checker) (l : List Name) (s : St) :
    (∀ k, k ∉ l → (l.foldl f s).rcd k = s.rcd k) ∧ (l.foldl f s).fs = s.fs ∧ (l.foldl f s).defs = s.defs ∧
    (l.foldl f s).checker = s.checker :=
  List.foldlRecOn (motive := fun b => (∀ k, k ∉ l → b.rcd k = s.rcd k) ∧ b.fs = s.fs ∧ b.defs = s.defs ∧
      b.checker = s.checker) l f ⟨fun _ _ => rfl, rfl, rfl, rfl⟩ fun b hb a ha =>
    ⟨fun k hk => ((hf b a).1 k fun e => hk (e ▸ ha)).trans (hb.1 k hk), (hf b a).2.1.trans hb.2.1,
      (hf b a).2.2.1.trans hb.2.2.1, (hf b a).2.2.2.trans hb.2.2.2⟩

theorem erase_shape (s : St) (t : Name) :
    (∀ k, k ≠ t → (erase s t).rcd k = s.rcd k) ∧ (erase s t).fs = s.fs ∧ (erase s t).defs = s.defs ∧
    (erase s t).checker = s.checker := ⟨fun _ hk => if_neg hk, rfl, rfl, rfl⟩

theorem wf_mem {g : Graph} (hwf : g.WF = true) {t d : Name} (ht : t ∈ g.names) (hd : d ∈ g.succs t ++ g.calcDep t) :
    d ∈ g.names :=
  of_decide_eq_true (List.all_eq_true.1 (List.all_eq_true.1 hwf t ht) d hd)

theorem mem_withSubs (g : Graph) (l : List Name) (x : Name) :
    x ∈ withSubs g l ↔ x ∈ l ∨ ∃ t ∈ l, x ∈ subtasks g t := by
  simp only [withSubs, List.mem_flatMap, List.mem_cons]
  constructor
  · rintro ⟨t, ht, h | h⟩
    · exact Or.inl (h ▸ ht)
    · exact Or.inr ⟨t, ht, h⟩
  · rintro (h | ⟨t, ht, h⟩)
    · exact ⟨x, h, Or.inl rfl⟩
    · exact ⟨t, ht, Or.inr h⟩

theorem pushDeps_queue_mem (processed : List Name) (ds q : List Name) (x : Name) :
    x ∈ (pushDeps processed q ds).1 → x ∈ q ∨ x ∈ ds := by
  fun_induction pushDeps processed q ds with
  | case1 => exact Or.inl
  | case2 q d ds _ ih => exact fun h => (ih h).imp_right (List.mem_cons_of_mem _)
  | case3 q d ds _ ih =>
    intro h
    rcases ih h with h | h
    · rcases List.mem_append.1 h with h | h
      · exact Or.inl h
      · exact Or.inr (List.mem_singleton.1 h ▸ List.mem_cons_self)
    · exact Or.inr (List.mem_cons_of_mem _ h)

theorem pushDeps_yield_mem (processed : List Name) (ds q : List Name) (x : Name) :
    x ∈ (pushDeps processed q ds).2 → x ∈ ds := by
  fun_induction pushDeps processed q ds with
  | case1 => exact id
  | case2 q d ds _ ih => exact fun h => (List.mem_cons.1 h).elim (· ▸ List.mem_cons_self) fun h => List.mem_cons_of_mem _ (ih h)
  | case3 q d ds _ ih => exact fun h => List.mem_cons_of_mem _ (ih h)

theorem pushDeps_queue_mono (processed : List Name) (ds q : List Name) (x : Name) (hx : x ∈ q) :
    x ∈ (pushDeps processed q ds).1 := by
  fun_induction pushDeps processed q ds with
  | case1 => exact hx
  | case2 q d ds _ ih => exact ih hx
  | case3 q d ds _ ih => exact ih (List.mem_append_left _ hx)

theorem pushDeps_covers (processed : List Name) (ds q : List Name) (x : Name) (hx : x ∈ ds) :
    x ∈ processed ∨ x ∈ (pushDeps processed q ds).1 := by
  fun_induction pushDeps processed q ds with
  | case1 => cases hx
  | case2 q d ds hc ih =>
    rcases List.mem_cons.1 hx with rfl | h
    · exact hc.imp_right (pushDeps_queue_mono _ _ _ _)
    · exact ih h
  | case3 q d ds _ ih =>
    rcases List.mem_cons.1 hx with rfl | h
    · exact Or.inr (pushDeps_queue_mono _ _ _ _ (List.mem_append_right _ List.mem_cons_self))
    · exact ih h

theorem tdIter_sound (g : Graph) (sel : List Name) (fuel : Nat) (processed q : List Name) :
    ∀ out, (∀ x ∈ q, Reach g sel x) → tdIter g fuel processed q = some out → ∀ x ∈ out, Reach g sel x := by
  fun_induction tdIter g fuel processed q with
  | case1 => rintro _ _ ⟨⟩ x hx; cases hx
  | case2 => intro _ _ h; cases h
  | case3 => intro _ _ h; cases h
  | case4 fuel processed t q rest hr ih =>
    rintro _ hq ⟨⟩ x hx
    have ht : Reach g sel t := hq t List.mem_cons_self
    have hq' : ∀ y ∈ (pushDeps (t :: processed) q (g.succs t)).1, Reach g sel y := by
      intro y hy
      rcases pushDeps_queue_mem _ _ _ _ hy with hy | hy
      · exact hq y (List.mem_cons_of_mem _ hy)
      · exact Reach.step ht hy
    rcases List.mem_cons.1 hx with hx | hx
    · exact hx ▸ ht
    · rcases List.mem_append.1 hx with hx | hx
      · exact Reach.step ht (pushDeps_yield_mem _ _ _ _ hx)
      · exact ih _ hq' hr x hx

/-- completeness: breadth-first invariant (successors of processed names are processed or queued) ⇒ when the
    iteration ends, everything queued was yielded and the yielded ∪ processed set is closed under successors -/
theorem tdIter_complete (g : Graph) (fuel : Nat) (processed q : List Name) :
    ∀ out, (∀ y ∈ processed, ∀ x ∈ g.succs y, x ∈ processed ∨ x ∈ q) →
      tdIter g fuel processed q = some out →
      (∀ x ∈ q, x ∈ out) ∧
      ∀ y, (y ∈ processed ∨ y ∈ out) → ∀ x ∈ g.succs y, x ∈ processed ∨ x ∈ out := by
  fun_induction tdIter g fuel processed q with
  | case1 =>
    rintro _ hpre ⟨⟩
    exact ⟨nofun, fun y hy x hx => hy.elim (fun hy => hpre y hy x hx) nofun⟩
  | case2 => intro _ _ h; cases h
  | case3 => intro _ _ h; cases h
  | case4 fuel processed t q rest hr ih =>
    rintro _ hpre ⟨⟩
    have hpre' : ∀ y ∈ t :: processed, ∀ x ∈ g.succs y,
        x ∈ t :: processed ∨ x ∈ (pushDeps (t :: processed) q (g.succs t)).1 := by
      intro y hy x hx
      rcases List.mem_cons.1 hy with rfl | hy
      · exact pushDeps_covers _ _ _ _ hx
      · rcases hpre y hy x hx with h | h
        · exact Or.inl (List.mem_cons_of_mem _ h)
        · rcases List.mem_cons.1 h with h | h
          · exact Or.inl (h ▸ List.mem_cons_self)
          · exact Or.inr (pushDeps_queue_mono _ _ _ _ h)
    obtain ⟨hq, hcl⟩ := ih _ hpre' hr
    refine ⟨?_, ?_⟩
    · intro x hx
      rcases List.mem_cons.1 hx with hx | hx
      · exact hx ▸ List.mem_cons_self
      · exact List.mem_cons_of_mem _ (List.mem_append_right _ (hq x (pushDeps_queue_mono _ _ _ _ hx)))
    · intro y hy x hx
      have hy' : y ∈ t :: processed ∨ y ∈ rest := by
        rcases hy with hy | hy
        · exact Or.inl (List.mem_cons_of_mem _ hy)
        · rcases List.mem_cons.1 hy with hy | hy
          · exact Or.inl (hy ▸ List.mem_cons_self)
          · rcases List.mem_append.1 hy with hy | hy
            · exact (pushDeps_covers (t :: processed) (g.succs t) q y (pushDeps_yield_mem _ _ _ _ hy)).imp_right (hq y)
            · exact Or.inr hy
      rcases hcl y hy' x hx with h | h
      · rcases List.mem_cons.1 h with h | h
        · exact Or.inr (h ▸ List.mem_cons_self)
        · exact Or.inl h
      · exact Or.inr (List.mem_cons_of_mem _ (List.mem_append_right _ h))

theorem tdIter_iff_reach (g : Graph) (fuel : Nat) (sel out : List Name) (h : tdIter g fuel [] sel = some out) (x : Name) :
    x ∈ out ↔ Reach g sel x := by
  constructor
  · exact tdIter_sound g sel fuel [] sel out (fun y hy => Reach.base hy) h x
  · intro hr
    obtain ⟨hq, hcl⟩ := tdIter_complete g fuel [] sel out nofun h
    induction hr with
    | base hx => exact hq _ hx
    | step _ hxy ih =>
      rcases hcl _ (Or.inr ih) _ hxy with h | h
      · cases h
      · exact h

/-- the selection `forget` is documented to clear (property text): everything under `--all`; otherwise the named
    tasks -- the default tasks, or all tasks if none are configured, when none is named -- with their sub-tasks, plus
    their declared `task_dep` / `setup` closure under `--follow-sub` -/
def ForgetSel (g : Graph) (a : ForgetArgs) (dflt : Option (List Name)) (x : Name) : Prop :=
  a.all = true ∨
  (¬(a.names = [] ∧ a.disableDefault = true) ∧
    if a.followSub = true then Reach g ((selTasks a.names dflt).getD g.names) x
    else x ∈ (selTasks a.names dflt).getD g.names ∨ ∃ t ∈ (selTasks a.names dflt).getD g.names, x ∈ subtasks g t)

theorem not_forgetSel {g : Graph} {a : ForgetArgs} {dflt : Option (List Name)} {x : Name} (hall : ¬a.all = true)
    (hn : (a.names.isEmpty && a.disableDefault) = true) : ¬ForgetSel g a dflt x := by
  rw [Bool.and_eq_true, List.isEmpty_iff] at hn
  exact fun h => h.elim hall fun h => h.1 hn

theorem forgetSel_iff {g : Graph} {a : ForgetArgs} {dflt : Option (List Name)} {x : Name} (hall : ¬a.all = true)
    (hn : ¬(a.names.isEmpty && a.disableDefault) = true) :
    ForgetSel g a dflt x ↔
      if a.followSub = true then Reach g ((selTasks a.names dflt).getD g.names) x
      else x ∈ (selTasks a.names dflt).getD g.names ∨ ∃ t ∈ (selTasks a.names dflt).getD g.names, x ∈ subtasks g t :=
  ⟨fun h => h.elim (absurd · hall) (·.2), fun h => Or.inr ⟨fun h' => hn (by rw [h'.1, h'.2]; rfl), h⟩⟩

theorem firstUnknown_some {g : Graph} {l : List Name} {n : Name} (h : firstUnknown g l = some n) : n ∈ l ∧ n ∉ g.names := by
  unfold firstUnknown at h
  have h1 := List.mem_of_find?_eq_some h
  have h2 := List.find?_some h
  simp at h2
  exact ⟨h1, h2⟩

theorem firstUnknown_none {g : Graph} {l : List Name} (h : firstUnknown g l = none) : ∀ n ∈ l, n ∈ g.names := by
  unfold firstUnknown at h
  intro n hn
  have := List.find?_eq_none.1 h n hn
  simpa using this

theorem forgetTarget_spec (g : Graph) (a : ForgetArgs) (dflt : Option (List Name)) :
    match forgetTarget true g a dflt with
    | .tasks l => ∀ x, x ∈ l ↔ ForgetSel g a dflt x
    | .everything => ∀ x, ForgetSel g a dflt x
    | .nothing => ∀ x, ¬ForgetSel g a dflt x
    | .notATask n => a.all = false ∧ n ∈ (selTasks a.names dflt).getD [] ∧ n ∉ g.names
    | .crash => False
    | .fuel => True := by
  unfold forgetTarget
  by_cases hall : a.all = true
  · rw [if_pos hall]; exact fun x => Or.inl hall
  by_cases hn : (a.names.isEmpty && a.disableDefault) = true
  · rw [if_neg hall, if_pos hn]; exact fun x => not_forgetSel hall hn
  rw [if_neg hall, if_neg hn]
  cases hu : firstUnknown g ((selTasks a.names dflt).getD []) with
  | some n => exact ⟨Bool.not_eq_true _ ▸ hall, firstUnknown_some hu⟩
  | none =>
    have hbase : forgetBase true g (selTasks a.names dflt) = some ((selTasks a.names dflt).getD g.names) := by
      cases selTasks a.names dflt <;> rfl
    simp only [hbase, forgetExpand]
    by_cases hs : a.followSub = true
    · rw [if_pos hs]
      cases ht : tdIter g (tdFuel g ((selTasks a.names dflt).getD g.names)) [] ((selTasks a.names dflt).getD g.names) with
      | none => trivial
      | some l => exact fun x => by rw [tdIter_iff_reach g _ _ _ ht x, forgetSel_iff hall hn, if_pos hs]
    · rw [if_neg hs]
      exact fun x => by rw [mem_withSubs, forgetSel_iff hall hn, if_neg hs]

theorem eraseAll_rcd (s : St) (k : Name) : (eraseAll s).rcd k = Rcd.empty := rfl

theorem tdIter_calcDep (g : Graph) (c : Name → List Name) (fuel : Nat) (P q : List Name) :
    tdIter { g with calcDep := c } fuel P q = tdIter g fuel P q := by
  induction fuel generalizing P q with
  | zero => cases q <;> rfl
  | succ n ih =>
    cases q with
    | nil => rfl
    | cons t q =>
      simp only [tdIter]
      have hs : Graph.succs { g with calcDep := c } t = g.succs t := rfl
      rw [hs, ih]

theorem forgetTarget_calcDep (fixed : Bool) (g : Graph) (c : Name → List Name) (a : ForgetArgs) (dflt : Option (List Name)) :
    forgetTarget fixed { g with calcDep := c } a dflt = forgetTarget fixed g a dflt := by
  unfold forgetTarget
  have h1 : ∀ l, firstUnknown { g with calcDep := c } l = firstUnknown g l := fun _ => rfl
  have h2 : ∀ o, forgetBase fixed { g with calcDep := c } o = forgetBase fixed g o := fun _ => rfl
  have h3 : ∀ fs base, forgetExpand { g with calcDep := c } fs base = forgetExpand g fs base := by
    intro fs base
    unfold forgetExpand
    have hf : tdFuel { g with calcDep := c } base = tdFuel g base := rfl
    have hw : withSubs { g with calcDep := c } base = withSubs g base := rfl
    rw [hf, tdIter_calcDep, hw]
  simp only [h1, h2, h3]

end DoitModel.Cmds
