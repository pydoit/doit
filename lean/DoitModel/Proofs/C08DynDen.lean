import DoitModel.Proofs.C08Den
/-! # C08 (I10) with dynamic `calc_dep` edges: the relational denotation `Dyn.DenOf`

The calc_deps of `n` are the least set containing `calcDep n` and closed under what its members deliver
(`values['calc_dep']`); the task_deps are `taskDep n` plus what those members deliver (`values['task_dep']`, owners of
`values['file_dep']`).  A member `c` delivers `delivOf inp c d` (`Model/RunData.lean`) for its own derived outcome `d`.
The derivation is bottom-up; on a cyclic graph none exists.  `Proofs/C08Dyn*.lean` live in `DoitModel.Run.Dyn`; the
definitions for graphs without calc_dep have the same names in `DoitModel.Run`. -/
namespace DoitModel.Run.Dyn

/-! Four relations give the calc_deps of a task, by where the facts about the delivering tasks come from: `CalcOf` (an
assignment `dd` of outcomes, here), `CalcS` (the statuses of a state, `C08DynLists`), `CalcR` (derived outcomes,
`C08DynClosureIn`), `CalcAny` (whatever the outcomes, `C08DynTotal`; a copy of C09's `Run.CalcOf`). -/

inductive CalcOf (inp : RunInput) (dd : Name → Den) (n : Name) : Name → Prop
  | static {c : Name} : c ∈ inp.calcDep n → CalcOf inp dd n c
  | deliv {c x : Name} : CalcOf inp dd n c → x ∈ (delivOf inp c (dd c)).calcs → CalcOf inp dd n x

/-- every dependency `select_task(n)` looks at in its first pass: task_deps, calc_deps, and what the calc_deps
    deliver as task_deps (`delivOf`) -/
def DepOf (inp : RunInput) (dd : Name → Den) (n x : Name) : Prop :=
  x ∈ inp.taskDep n ∨ CalcOf inp dd n x ∨
  ∃ c, CalcOf inp dd n c ∧ (x ∈ (delivOf inp c (dd c)).tasks ∨ x ∈ (delivOf inp c (dd c)).files)

theorem stage1L_static (inp : RunInput) (dd : Name → Den) (n : Name) : stage1L inp dd (inp.taskDep n) n = stage1 inp dd n := rfl
theorem combineL_static (inp : RunInput) (dd : Name → Den) (n : Name) :
    combineL inp dd (inp.taskDep n) n = combine inp dd n := rfl

/-- `DenOf inp n d`: `d` is the outcome of `n` in a complete run; `L` lists the dependencies of `n` (`DepOf`) under the
    outcomes `dd`, each of which is derived -/
inductive DenOf (inp : RunInput) : Name → Den → Prop
  | mk (n : Name) (dd : Name → Den) (L : List Name)
      (hL : ∀ x, x ∈ L ↔ DepOf inp dd n x)
      (hT : ∀ d ∈ L, DenOf inp d (dd d))
      (hS : stage1L inp dd L n = .run → ∀ d ∈ inp.setup n, DenOf inp d (dd d)) :
      DenOf inp n (combineL inp dd L n)

/-- the tests passed on the way to each answer of `stage1L` (and of `stage1`, the case `L = inp.taskDep n`) -/
inductive Stage1LSpec (inp : RunInput) (dd : Name → Den) (L : List Name) (n : Name) : Stage1 → Prop
  | ign : (L.any (fun d => (dd d).isIgn) = true ∨ inp.ignored n = true) → Stage1LSpec inp dd L n .ign
  | unmet : ¬ (L.any (fun d => (dd d).isIgn) = true ∨ inp.ignored n = true) → L.any (fun d => (dd d).isFail) = true →
      Stage1LSpec inp dd L n .unmet
  | depErr : ¬ (L.any (fun d => (dd d).isIgn) = true ∨ inp.ignored n = true) → ¬ L.any (fun d => (dd d).isFail) = true →
      inp.statusOf n = .error → Stage1LSpec inp dd L n .depErr
  | utd : ¬ (L.any (fun d => (dd d).isIgn) = true ∨ inp.ignored n = true) → ¬ L.any (fun d => (dd d).isFail) = true →
      inp.statusOf n ≠ .error → effStatus inp n = .utd → Stage1LSpec inp dd L n .utd
  | run : ¬ (L.any (fun d => (dd d).isIgn) = true ∨ inp.ignored n = true) → ¬ L.any (fun d => (dd d).isFail) = true →
      inp.statusOf n ≠ .error → effStatus inp n ≠ .utd → Stage1LSpec inp dd L n .run

theorem stage1L_spec (inp : RunInput) (dd : Name → Den) (L : List Name) (n : Name) :
    Stage1LSpec inp dd L n (stage1L inp dd L n) := by
  unfold stage1L
  by_cases c1 : L.any (fun d => (dd d).isIgn) = true ∨ inp.ignored n = true
  · rw [if_pos c1]; exact .ign c1
  rw [if_neg c1]
  by_cases c2 : L.any (fun d => (dd d).isFail) = true
  · rw [if_pos c2]; exact .unmet c1 c2
  rw [if_neg c2]
  by_cases c3 : inp.statusOf n = .error
  · rw [if_pos c3]; exact .depErr c1 c2 c3
  rw [if_neg c3]
  by_cases c4 : effStatus inp n = .utd
  · rw [if_pos c4]; exact .utd c1 c2 c3 c4
  · rw [if_neg c4]; exact .run c1 c2 c3 c4

theorem stage1L_spec.of_eq {inp : RunInput} {dd : Name → Den} {L : List Name} {n : Name} {a : Stage1}
    (h : stage1L inp dd L n = a) : Stage1LSpec inp dd L n a := h ▸ stage1L_spec inp dd L n

theorem any_congr_set {l l' : List Name} {f g : Name → Bool} (hl : ∀ x, x ∈ l ↔ x ∈ l') (h : ∀ d ∈ l, f d = g d) :
    l.any f = l'.any g := by
  rw [Bool.eq_iff_iff, List.any_eq_true, List.any_eq_true]
  constructor
  · rintro ⟨x, hx, e⟩; exact ⟨x, (hl x).mp hx, by rw [← h x hx]; exact e⟩
  · rintro ⟨x, hx, e⟩; exact ⟨x, (hl x).mpr hx, by rw [h x ((hl x).mpr hx)]; exact e⟩

theorem stage1L_congr {inp : RunInput} {dd dd' : Name → Den} {L L' : List Name} {n : Name}
    (hl : ∀ x, x ∈ L ↔ x ∈ L') (h : ∀ d ∈ L, dd d = dd' d) : stage1L inp dd L n = stage1L inp dd' L' n := by
  unfold stage1L
  rw [any_congr_set (f := fun d => (dd d).isIgn) (g := fun d => (dd' d).isIgn) hl (fun d hd => by simp only [h d hd]),
      any_congr_set (f := fun d => (dd d).isFail) (g := fun d => (dd' d).isFail) hl (fun d hd => by simp only [h d hd])]

theorem combineL_congr {inp : RunInput} {dd dd' : Name → Den} {L L' : List Name} {n : Name}
    (hl : ∀ x, x ∈ L ↔ x ∈ L') (hT : ∀ d ∈ L, dd d = dd' d)
    (hS : stage1L inp dd L n = .run → ∀ d ∈ inp.setup n, dd d = dd' d) : combineL inp dd L n = combineL inp dd' L' n := by
  unfold combineL
  rw [← stage1L_congr hl hT]
  cases h1 : stage1L inp dd L n with
  | run => simp only []; exact stage2_congr (hS h1)
  | _ => rfl

theorem combineL_ne_bot (inp : RunInput) (dd : Name → Den) (L : List Name) (n : Name) : combineL inp dd L n ≠ .bot := by
  unfold combineL
  cases stage1L inp dd L n <;> simp [stage2_ne_bot]

theorem DenOf.ne_bot {inp : RunInput} {n : Name} {d : Den} (h : DenOf inp n d) : d ≠ .bot := by
  cases h with
  | mk n dd L hL hT hS => exact combineL_ne_bot inp dd L n

theorem CalcOf.transfer {inp : RunInput} {dd dd' : Name → Den} {n : Name}
    (h : ∀ c, CalcOf inp dd n c → CalcOf inp dd' n c → dd c = dd' c) {x : Name} (hx : CalcOf inp dd n x) :
    CalcOf inp dd' n x := by
  induction hx with
  | static hc => exact CalcOf.static hc
  | deliv hc hm ih => exact CalcOf.deliv ih (by rw [← h _ hc ih]; exact hm)

theorem DepOf.transfer {inp : RunInput} {dd dd' : Name → Den} {n : Name}
    (h : ∀ c, CalcOf inp dd n c → CalcOf inp dd' n c → dd c = dd' c) {x : Name} (hx : DepOf inp dd n x) :
    DepOf inp dd' n x := by
  rcases hx with a | a | ⟨c, hc, hm⟩
  · exact Or.inl a
  · exact Or.inr (Or.inl (a.transfer h))
  · have hc' := hc.transfer h
    exact Or.inr (Or.inr ⟨c, hc', by rw [← h c hc hc']; exact hm⟩)

theorem DepOf.ofCalc {inp : RunInput} {dd : Name → Den} {n c : Name} (h : CalcOf inp dd n c) : DepOf inp dd n c :=
  Or.inr (Or.inl h)

/-- two justified dependency lists of the same task are the same set with the same outcomes, provided derived outcomes
    of members of the first are unique -/
theorem dep_agree {inp : RunInput} {n : Name} {dd dd' : Name → Den} {L L' : List Name}
    (hL : ∀ x, x ∈ L ↔ DepOf inp dd n x) (hL' : ∀ x, x ∈ L' ↔ DepOf inp dd' n x)
    (hT' : ∀ d ∈ L', DenOf inp d (dd' d))
    (uniq : ∀ d ∈ L, ∀ b, DenOf inp d b → dd d = b) :
    (∀ x, x ∈ L ↔ x ∈ L') ∧ ∀ d ∈ L, dd d = dd' d := by
  have agree : ∀ c, CalcOf inp dd n c → CalcOf inp dd' n c → dd c = dd' c := fun c h1 h2 =>
    uniq c ((hL c).mpr (DepOf.ofCalc h1)) _ (hT' c ((hL' c).mpr (DepOf.ofCalc h2)))
  have agree' : ∀ c, CalcOf inp dd' n c → CalcOf inp dd n c → dd' c = dd c := fun c h1 h2 => (agree c h2 h1).symm
  have sub : ∀ x, x ∈ L ↔ x ∈ L' := fun x =>
    ⟨fun hx => (hL' x).mpr (((hL x).mp hx).transfer agree), fun hx => (hL x).mpr (((hL' x).mp hx).transfer agree')⟩
  exact ⟨sub, fun d hd => uniq d hd _ (hT' d ((sub d).mp hd))⟩

/-- the denotation is a partial function of the input: no schedule, no choice enters it -/
theorem DenOf.functional {inp : RunInput} {n : Name} {a b : Den} (ha : DenOf inp n a) (hb : DenOf inp n b) : a = b := by
  induction ha generalizing b with
  | mk n dd L hL hT hS ihT ihS =>
    cases hb with
    | mk _ dd' L' hL' hT' hS' =>
      obtain ⟨sub, eT⟩ := dep_agree hL hL' hT' (fun d hd b hb => ihT d hd hb)
      apply combineL_congr sub eT
      intro h1 d hd
      have h1' : stage1L inp dd' L' n = .run := by rw [← stage1L_congr sub eT]; exact h1
      exact ihS h1 d hd (hS' h1' d hd)

structure SameTasksC (a b : RunInput) : Prop where
  base : SameTasks a b
  calcRes : a.calcRes = b.calcRes
  calcResFail : a.calcResFail = b.calcResFail

theorem SameTasksC.refl (a : RunInput) : SameTasksC a a := ⟨SameTasks.refl a, rfl, rfl⟩
theorem SameTasksC.symm {a b : RunInput} (h : SameTasksC a b) : SameTasksC b a := ⟨h.1.symm, h.2.symm, h.3.symm⟩

theorem delivOf_same {a b : RunInput} (h : SameTasksC a b) (c : Name) (d : Den) : delivOf a c d = delivOf b c d := by
  unfold delivOf startedFail
  rw [h.calcRes, h.calcResFail, h.base.statusOf, h.base.argsOk]

theorem delivOf_cases (inp : RunInput) (c : Name) (d : Den) :
    (d.rs.good = true ∧ delivOf inp c d = inp.calcRes c) ∨
    (d.rs.good = false ∧ startedFail inp c d = true ∧ delivOf inp c d = inp.calcResFail c) ∨
    (delivOf inp c d = {}) := by
  unfold delivOf
  by_cases h1 : d.rs.good = true
  · exact Or.inl ⟨h1, by simp [h1]⟩
  · by_cases h2 : startedFail inp c d = true
    · exact Or.inr (Or.inl ⟨by simpa using h1, h2, by simp [h1, h2]⟩)
    · exact Or.inr (Or.inr (by simp [h1, h2]))

theorem delivOf_bot (inp : RunInput) (c : Name) : delivOf inp c .bot = {} := by
  simp [delivOf, startedFail, Den.rs, RS.good]

theorem startedFail_rs {inp : RunInput} {c : Name} {d : Den} (h : startedFail inp c d = true) : d.rs = .fail := by
  cases d with
  | fail k => rfl
  | _ => simp [startedFail] at h

theorem delivOf_startedFail {inp : RunInput} {c : Name} {d : Den} (hs : startedFail inp c d = true) :
    delivOf inp c d = inp.calcResFail c := by
  simp [delivOf, startedFail_rs hs, hs, RS.good]

theorem delivOf_good {inp : RunInput} {c : Name} {d : Den} (hg : d.rs.good = true) : delivOf inp c d = inp.calcRes c := by
  simp [delivOf, hg]

theorem CalcOf.same {a b : RunInput} (h : SameTasksC a b) {dd : Name → Den} {n x : Name} (hx : CalcOf a dd n x) :
    CalcOf b dd n x := by
  induction hx with
  | static hc => exact CalcOf.static (by rw [← h.base.calcDep]; exact hc)
  | deliv _ hm ih => exact CalcOf.deliv ih (by rw [← delivOf_same h]; exact hm)

theorem DepOf.same {a b : RunInput} (h : SameTasksC a b) {dd : Name → Den} {n x : Name} (hx : DepOf a dd n x) :
    DepOf b dd n x := by
  rcases hx with c | c | ⟨c, hc, hm⟩
  · exact Or.inl (by rw [← h.base.taskDep]; exact c)
  · exact Or.inr (Or.inl (c.same h))
  · exact Or.inr (Or.inr ⟨c, hc.same h, by rw [← delivOf_same h]; exact hm⟩)

theorem stage1L_same {a b : RunInput} (h : SameTasks a b) (dd : Name → Den) (L : List Name) (n : Name) :
    stage1L a dd L n = stage1L b dd L n := by
  unfold stage1L effStatus; rw [h.ignored, h.statusOf, h.always]

theorem combineL_same {a b : RunInput} (h : SameTasks a b) (dd : Name → Den) (L : List Name) (n : Name) :
    combineL a dd L n = combineL b dd L n := by
  simp only [combineL, stage1L_same h, stage2_same h]

theorem DenOf.same {a b : RunInput} (h : SameTasksC a b) {n : Name} {d : Den} (hd : DenOf a n d) : DenOf b n d := by
  induction hd with
  | mk n dd L hL hT hS ihT ihS =>
    rw [combineL_same h.base]
    refine DenOf.mk n dd L ?_ ihT ?_
    · intro x; rw [hL x]; exact ⟨fun y => y.same h, fun y => y.same h.symm⟩
    · intro h1 d hd; rw [← h.base.setup] at hd; rw [← stage1L_same h.base] at h1; exact ihS h1 d hd

theorem DenOf_congr {a b : RunInput} (h : SameTasksC a b) (n : Name) (d : Den) : DenOf a n d ↔ DenOf b n d :=
  ⟨fun x => x.same h, fun x => x.same h.symm⟩

theorem CalcOf.noCalc {inp : RunInput} (hnc : NoCalc inp) {dd : Name → Den} {n x : Name} (h : CalcOf inp dd n x) :
    False := by
  induction h with
  | static hc => rw [hnc] at hc; cases hc
  | deliv _ _ ih => exact ih

theorem DepOf_noCalc {inp : RunInput} (hnc : NoCalc inp) (dd : Name → Den) (n x : Name) :
    DepOf inp dd n x ↔ x ∈ inp.taskDep n := by
  constructor
  · rintro (a | a | ⟨c, hc, _⟩)
    · exact a
    · exact (a.noCalc hnc).elim
    · exact (hc.noCalc hnc).elim
  · exact Or.inl

theorem DenOf_of_static {inp : RunInput} (hnc : NoCalc inp) {n : Name} {d : Den} (h : Run.DenOf inp n d) :
    DenOf inp n d := by
  induction h with
  | mk n dd hT hS ihT ihS =>
    rw [← combineL_static]
    exact DenOf.mk n dd (inp.taskDep n) (fun x => (DepOf_noCalc hnc dd n x).symm) ihT
      (fun h1 => ihS (by rw [← stage1L_static]; exact h1))

theorem DenOf_to_static {inp : RunInput} (hnc : NoCalc inp) {n : Name} {d : Den} (h : DenOf inp n d) :
    Run.DenOf inp n d := by
  induction h with
  | mk n dd L hL hT hS ihT ihS =>
    have sub : ∀ x, x ∈ L ↔ x ∈ inp.taskDep n := fun x => (hL x).trans (DepOf_noCalc hnc dd n x)
    have e1 : stage1L inp dd L n = stage1 inp dd n := stage1L_congr sub (fun _ _ => rfl)
    have e : combineL inp dd L n = combine inp dd n := combineL_congr sub (fun _ _ => rfl) (fun _ _ _ => rfl)
    rw [e]
    exact Run.DenOf.mk n dd (fun d hd => ihT d ((sub d).mpr hd)) (fun h1 => ihS (by rw [e1]; exact h1))

theorem DenOf_noCalc {inp : RunInput} (hnc : NoCalc inp) (n : Name) (d : Den) : DenOf inp n d ↔ Run.DenOf inp n d :=
  ⟨DenOf_to_static hnc, DenOf_of_static hnc⟩

end DoitModel.Run.Dyn
