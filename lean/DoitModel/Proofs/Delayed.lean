import DoitModel.Proofs.DelayedSpec
/-! # Delayed creation: quiet steps

`Quiet s s'`: a step that does not evaluate a creator — the task table, the `created` flags and the creator events
are untouched, and every node holds either the `Task` object it held before or the one the table has under its name.
Every operation of the model except `loaderStep` is quiet (`step_quiet`); `OnceCore`, `EvalInv`, `RedefInv` are
preserved by quiet steps for free. -/
namespace DoitModel.Delayed
open DoitModel.Run (RS Name)

/-- task `n` of the initial table carries loader object `l` -/
def Holder (inp : Input) (n : Name) (l : LId) : Prop :=
  ∃ td0, lookup0 inp.tasks0 n = some td0 ∧ td0.loader = some l

structure Quiet (s s' : Sys) : Prop where
  tasks : s'.tasks = s.tasks
  created : s'.created = s.created
  ev : ∃ pre, s'.events = pre ++ s.events ∧ ∀ e ∈ pre, ∀ c, e ≠ Ev.creator c
  nodes : ∀ n nd', s'.nodes n = some nd' →
    (∃ nd, s.nodes n = some nd ∧ nd'.task = nd.task) ∨ s.tasks n = some nd'.task
  evald : s'.evaluated = s.evaluated

theorem Quiet.of_eq {s s' : Sys} (h1 : s'.tasks = s.tasks) (h2 : s'.created = s.created)
    (h3 : s'.events = s.events) (h4 : s'.nodes = s.nodes) (h5 : s'.evaluated = s.evaluated) : Quiet s s' :=
  ⟨h1, h2, ⟨[], by simp [h3], by simp⟩, fun n nd' h => Or.inl ⟨nd', by rw [← h4]; exact h, rfl⟩, h5⟩

theorem Quiet.trans {s s' s'' : Sys} (q : Quiet s s') (q' : Quiet s' s'') : Quiet s s'' := by
  refine ⟨q'.tasks.trans q.tasks, q'.created.trans q.created, ?_, ?_, q'.evald.trans q.evald⟩
  · obtain ⟨p1, h1, g1⟩ := q.ev
    obtain ⟨p2, h2, g2⟩ := q'.ev
    refine ⟨p2 ++ p1, by rw [h2, h1, List.append_assoc], ?_⟩
    intro e he
    rcases List.mem_append.mp he with h | h
    · exact g2 e h
    · exact g1 e h
  · intro n nd'' h
    rcases q'.nodes n nd'' h with ⟨nd', h1, h2⟩ | h1
    · rcases q.nodes n nd' h1 with ⟨nd, h3, h4⟩ | h3
      · exact Or.inl ⟨nd, h3, h2.trans h4⟩
      · exact Or.inr (by rw [h2]; exact h3)
    · exact Or.inr (by rw [← q.tasks]; exact h1)

theorem Quiet.then_eq {s s' s'' : Sys} (q : Quiet s s') (h1 : s''.tasks = s'.tasks) (h2 : s''.created = s'.created)
    (h3 : s''.events = s'.events) (h4 : s''.nodes = s'.nodes) (h5 : s''.evaluated = s'.evaluated) : Quiet s s'' :=
  q.trans (Quiet.of_eq h1 h2 h3 h4 h5)

theorem Quiet.add_ev {s s' : Sys} (e : Ev) (he : ∀ c, e ≠ Ev.creator c)
    (h1 : s'.tasks = s.tasks) (h2 : s'.created = s.created)
    (h3 : s'.events = e :: s.events) (h4 : s'.nodes = s.nodes) (h5 : s'.evaluated = s.evaluated) : Quiet s s' :=
  ⟨h1, h2, ⟨[e], by simp [h3], by simpa using he⟩, fun n nd' h => Or.inl ⟨nd', by rw [← h4]; exact h, rfl⟩, h5⟩

theorem quiet_setNode {s : Sys} {n : Name} {nd x : Node} (hn : s.nodes n = some nd) (ht : x.task = nd.task) :
    Quiet s (setNode s n x) := by
  refine ⟨rfl, rfl, ⟨[], rfl, by simp⟩, fun k nd' h => ?_, rfl⟩
  rcases upd_some h with ⟨rfl, rfl⟩ | ⟨_, h⟩
  · exact Or.inl ⟨nd, hn, ht⟩
  · exact Or.inl ⟨nd', h, rfl⟩

theorem quiet_newNode {s₀ : Sys} {d₀ : Name} {s : Sys} {d : Name} {td : TDef} (anc : List Name) (ht : s.tasks d = some td) :
    Quiet s (setNode s d (mkNodeI s₀ d₀ td anc)) := by
  refine ⟨rfl, rfl, ⟨[], rfl, by simp⟩, fun k nd' h => ?_, rfl⟩
  rcases upd_some h with ⟨rfl, rfl⟩ | ⟨_, h⟩
  · exact Or.inr ht
  · exact Or.inl ⟨nd', h, rfl⟩

theorem quiet_registerWaiting (s : Sys) (n : Name) (wf : List Name) : Quiet s (registerWaiting s n wf) := by
  refine ⟨rfl, rfl, ⟨[], rfl, by simp⟩, fun k nd' h => ?_, rfl⟩
  rcases registerWaiting_node s n wf k with ⟨_, h1⟩ | ⟨x, w, hx, h1⟩
  · rw [h1] at h; cases h
  · rw [h1] at h; cases h; exact Or.inl ⟨x, hx, rfl⟩

theorem quiet_genStep {s s' : Sys} {n : Name} {nd : Node} {d : Name} {pc' : PC} (hn : s.nodes n = some nd)
    (hs : GenSpec s n nd d pc' s') : Quiet s s' := by
  cases hs with
  | raise e _ => exact Quiet.of_eq rfl rfl rfl rfl rfl
  | seen => exact quiet_setNode hn rfl
  | new td hd ht =>
    have hn' := setNode_other (x := mkNodeI s d td (nd.anc ++ [d])) hn hd
    exact ((quiet_newNode _ ht).trans (quiet_setNode (x := { nd with pc := pc' }) hn' rfl)).then_eq rfl rfl rfl rfl rfl

theorem quiet_addWaitRun {s : Sys} {n : Name} {nd : Node} (hn : s.nodes n = some nd) (ds : List Name) (pc' : PC) :
    Quiet s (addWaitRun s n nd ds pc') :=
  (quiet_setNode (x := { nd with waitRun := ds.filter (unfinished s) ++ nd.waitRun,
                                  bad := nd.bad || ds.any (isBad s), pc := pc' }) hn rfl).trans
    (quiet_registerWaiting _ _ _)

theorem quiet_feed {s s' : Sys} {p : Name} {perm : List Name} (h : feed s p perm = some s') : Quiet s s' := by
  cases feed_spec h with
  | crash => exact Quiet.of_eq rfl rfl rfl rfl rfl
  | skip => exact Quiet.of_eq rfl rfl rfl rfl rfl
  | woke nd s1 _ _ hu =>
    have q : Quiet s s1 := updateWaiting_induct (P := Quiet s) nd.status p
      (fun x w wd rd wt q hw =>
        q.trans ((quiet_setNode (x := wokenNode nd.status p wd) hw rfl).then_eq rfl rfl rfl rfl rfl))
      perm { s with dispatched := s.dispatched.filter (· ≠ p) } s1 (Quiet.of_eq rfl rfl rfl rfl rfl) hu
    exact q.then_eq rfl rfl rfl rfl rfl

theorem tick_cases {inp : Input} {s s' : Sys} (h : TickSpec inp s s') :
    (Quiet s s' ∧ (Calm s s' ∨ ∃ n nd, s.cur = some n ∧ s.nodes n = some nd ∧ nd.pc = .self1 ∧
      s' = { setNode s n { nd with pc := .done } with dispatched := addDispatched s n, susp := .yielded n })) ∨
    ∃ n nd l, s.cur = some n ∧ s.nodes n = some nd ∧ nd.pc = .loaderPc ∧ nd.task.loader = some l ∧
      LoaderSpec inp s n nd l s' := by
  cases h with
  | node n nd s' hc hn hs =>
    cases hs with
    | move pc' w c _ _ _ _ _ =>
      exact .inl ⟨(quiet_setNode (x := { nd with pc := pc' }) hn rfl).then_eq rfl rfl rfl rfl rfl, .inl ⟨rfl, rfl, .inl rfl⟩⟩
    | loop _ => exact .inl ⟨quiet_setNode hn rfl, .inl ⟨rfl, rfl, .inl rfl⟩⟩
    | gen d ds s' _ hg =>
      refine .inl ⟨quiet_genStep hn hg, .inl ?_⟩
      cases hg with
      | raise e he => exact ⟨rfl, rfl, .inr ⟨nofun, fun x h => he x (by cases h; rfl)⟩⟩
      | seen => exact ⟨rfl, rfl, .inl rfl⟩
      | new td _ _ => exact ⟨rfl, rfl, .inl rfl⟩
    | wait _ => exact .inl ⟨quiet_addWaitRun hn _ _, .inl ⟨rfl, rfl, .inl rfl⟩⟩
    | load l s' hpc hl hs => exact .inr ⟨n, nd, l, hc, hn, hpc, hl, hs⟩
    | yield hpc =>
      exact .inl ⟨(quiet_setNode (x := { nd with pc := .done }) hn rfl).then_eq rfl rfl rfl rfl rfl,
        .inr ⟨n, nd, hc, hn, hpc, rfl⟩⟩
    | done _ => exact .inl ⟨Quiet.of_eq rfl rfl rfl rfl rfl, .inl ⟨rfl, rfl, .inl rfl⟩⟩
  | root t ts td _ _ htt => exact .inl ⟨(quiet_newNode [t] htt).then_eq rfl rfl rfl rfl rfl, .inl ⟨rfl, rfl, .inl rfl⟩⟩
  | sched su cu rd tr hp _ => exact .inl ⟨Quiet.of_eq rfl rfl rfl rfl rfl, .inl ⟨rfl, rfl, hp⟩⟩

theorem dtick_cases (inp : Input) (s : Sys) :
    Quiet s (dtick inp s) ∨
    ∃ n nd l, s.nodes n = some nd ∧ nd.task.loader = some l ∧ dtick inp s = loaderStep inp s n nd l :=
  (tick_cases dtick_spec).imp (·.1) fun ⟨n, nd, l, hc, hn, hpc, hl, _⟩ =>
    ⟨n, nd, l, hn, hl, dtick_loader hc hn hpc hl⟩

theorem quiet_status {s s1 : Sys} {n : Name} {nd : Node} {st : RS} {e : Ev} (hn : s.nodes n = some nd)
    (h1 : s1.tasks = s.tasks) (h2 : s1.created = s.created) (h3 : s1.events = e :: s.events)
    (h4 : s1.nodes = (setNode s n { nd with status := st }).nodes) (h5 : s1.evaluated = s.evaluated)
    (he : ∀ c, e ≠ Ev.creator c) : Quiet s s1 :=
  (quiet_setNode (x := { nd with status := st }) hn rfl).trans (Quiet.add_ev e he h1 h2 h3 h4 h5)

theorem quiet_handBack {inp : Input} {s s' : Sys} {n : Name} {perm : List Name}
    (h : handBack inp s n perm = some s') : Quiet s s' := by
  rcases handBack_cases h with rfl | hf
  · exact Quiet.of_eq rfl rfl rfl rfl rfl
  · exact quiet_feed hf

theorem quiet_selectStep {inp : Input} {s s' : Sys} {n : Name} {perm : List Name}
    (h : selectStep inp s n perm = some s') : Quiet s s' := by
  cases selectStep_spec h with
  | crash => exact Quiet.of_eq rfl rfl rfl rfl rfl
  | unmet nd s' hn _ _ hb =>
    refine Quiet.trans ?_ (quiet_handBack hb)
    exact quiet_status (st := .fail) (e := .unmet n) hn rfl rfl rfl rfl rfl nofun
  | utd nd s' hn _ _ _ hb =>
    refine Quiet.trans ?_ (quiet_handBack hb)
    exact quiet_status (st := .utd) (e := .skipUtd n) hn rfl rfl rfl rfl rfl nofun
  | start nd hn _ _ _ => exact quiet_status (st := .run) (e := .start n) hn rfl rfl rfl rfl rfl nofun

theorem quiet_finishStep {inp : Input} {s s' : Sys} {n : Name} {perm : List Name}
    (h : finishStep inp s n perm = some s') : Quiet s s' := by
  obtain ⟨nd, b, _, hn, _, hb, hs'⟩ := finishStep_cases h
  have q : Quiet s b := by
    cases hb with
    | failure => exact quiet_status (st := .fail) (e := .failure n) hn rfl rfl rfl rfl rfl nofun
    | success => exact quiet_status (st := .ok) (e := .success n) hn rfl rfl rfl rfl rfl nofun
  rcases hs' with rfl | hf
  · exact q
  · exact q.trans (quiet_feed hf)

theorem step_quiet {inp : Input} {s s' : Sys} {c : Choice} (h : step inp s c = some s') :
    Quiet s s' ∨ ∃ n nd l, s.nodes n = some nd ∧ nd.task.loader = some l ∧ s' = loaderStep inp s n nd l := by
  cases step_spec h with
  | tick _ => exact dtick_cases inp s
  | select n perm s' _ hs => exact .inl (quiet_selectStep hs)
  | resume => exact .inl (Quiet.of_eq rfl rfl rfl rfl rfl)
  | finish n perm s' hf => exact .inl (quiet_finishStep hf)

end DoitModel.Delayed
