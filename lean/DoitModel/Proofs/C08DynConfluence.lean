import DoitModel.Proofs.C08DynClosure
import DoitModel.Proofs.C08Confluence
import DoitModel.Proofs.C08DynTotal
/-! # C08 (I10) confluence for ANY task graph, dynamic `calc_dep` edges included

Statuses and reports are the denotation `Dyn.DenOf` in every reachable state, complete runs report exactly `Dyn.DenCl`;
hence two complete runs of the same task table, oracles and selection agree on every report and on the exit code.  No
acyclicity hypothesis: a run that ends normally has derived every outcome it reports. -/
namespace DoitModel.Run.Dyn

theorem reachable_invDen {inp : RunInput} {s : Sys} (hr : Reach inp s ∨ PReach inp s) : InvDen inp s := by
  rcases hr with h | h
  · exact reach_invDen h
  · exact preach_invDen h

theorem status_is_den {inp : RunInput} {s : Sys} (hr : Reach inp s ∨ PReach inp s) (t : Name)
    (hf : (stOf s t).finished = true) : ∃ d, DenOf inp t d ∧ d.rs = stOf s t :=
  (reachable_invDen hr).fin t hf

theorem report_is_den {inp : RunInput} {s : Sys} (hr : Reach inp s ∨ PReach inp s) (t : Name)
    (d : Den) (h : ∃ e ∈ s.events, Ev.den? t e = some d) : DenOf inp t d := by
  obtain ⟨e, he, hd⟩ := h
  exact (reachable_invDen hr).den.rep e he t d hd

theorem reportOf_is_den {inp : RunInput} {s : Sys} (hr : Reach inp s ∨ PReach inp s) (t : Name)
    (d : Den) (h : reportOf (trace inp s) t = some d) : DenOf inp t d := by
  unfold reportOf at h
  obtain ⟨e, he, hd⟩ := List.exists_of_findSome?_eq_some h
  apply report_is_den hr t d
  refine ⟨e, ?_, hd⟩
  unfold trace at he
  exact (List.mem_filter.mp (List.mem_reverse.mp he)).1

/-! ### two runs whose denotations are comparable (`hden`: from `SameTasksC`, or from `SameTasks` and `NoCalc`) -/

theorem confluent_status_of {inp1 inp2 : RunInput} {s1 s2 : Sys} (hden : ∀ t d, DenOf inp2 t d → DenOf inp1 t d)
    (h1 : Reach inp1 s1 ∨ PReach inp1 s1) (h2 : Reach inp2 s2 ∨ PReach inp2 s2) (t : Name)
    (f1 : (stOf s1 t).finished = true) (f2 : (stOf s2 t).finished = true) : stOf s1 t = stOf s2 t := by
  obtain ⟨d1, a1, b1⟩ := status_is_den h1 t f1
  obtain ⟨d2, a2, b2⟩ := status_is_den h2 t f2
  rw [← b1, ← b2, a1.functional (hden _ _ a2)]

theorem confluent_report_of {inp1 inp2 : RunInput} {s1 s2 : Sys} (hden : ∀ t d, DenOf inp2 t d → DenOf inp1 t d)
    (h1 : Reach inp1 s1 ∨ PReach inp1 s1) (h2 : Reach inp2 s2 ∨ PReach inp2 s2) (t : Name) (d1 d2 : Den)
    (r1 : ∃ e ∈ s1.events, Ev.den? t e = some d1) (r2 : ∃ e ∈ s2.events, Ev.den? t e = some d2) : d1 = d2 :=
  (report_is_den h1 t d1 r1).functional (hden _ _ (report_is_den h2 t d2 r2))

theorem confluent_reportOf_of {inp1 inp2 : RunInput} {s1 s2 : Sys} (hden : ∀ t d, DenOf inp2 t d → DenOf inp1 t d)
    (h1 : Reach inp1 s1 ∨ PReach inp1 s1) (h2 : Reach inp2 s2 ∨ PReach inp2 s2) (t : Name)
    (r1 : (reportOf (trace inp1 s1) t).isSome = true) (r2 : (reportOf (trace inp2 s2) t).isSome = true) :
    reportOf (trace inp1 s1) t = reportOf (trace inp2 s2) t := by
  obtain ⟨d1, e1⟩ := Option.isSome_iff_exists.mp r1
  obtain ⟨d2, e2⟩ := Option.isSome_iff_exists.mp r2
  rw [e1, e2]
  have := (reportOf_is_den h1 t d1 e1).functional (hden _ _ (reportOf_is_den h2 t d2 e2))
  rw [this]

theorem status_matches_report_of {inp1 inp2 : RunInput} {s1 s2 : Sys} (hden : ∀ t d, DenOf inp2 t d → DenOf inp1 t d)
    (h1 : Reach inp1 s1 ∨ PReach inp1 s1) (h2 : Reach inp2 s2 ∨ PReach inp2 s2) (t : Name) (d : Den)
    (f1 : (stOf s1 t).finished = true) (r2 : ∃ e ∈ s2.events, Ev.den? t e = some d) : stOf s1 t = d.rs := by
  obtain ⟨d1, a1, b1⟩ := status_is_den h1 t f1
  rw [← b1, a1.functional (hden _ _ (report_is_den h2 t d r2))]

theorem confluent_exit_of {inp1 inp2 : RunInput} {s1 s2 : Sys} (hden : ∀ t d, DenOf inp2 t d → DenOf inp1 t d)
    (h1 : Reach inp1 s1 ∨ PReach inp1 s1) (h2 : Reach inp2 s2 ∨ PReach inp2 s2)
    (hh1 : s1.halt = .none) (hh2 : s2.halt = .none)
    (hset : ∀ t, (∃ d, ∃ e ∈ s1.events, Ev.den? t e = some d) ↔ (∃ d, ∃ e ∈ s2.events, Ev.den? t e = some d)) :
    exitCode s1 = exitCode s2 := by
  rw [exit_of_reports h1 hh1, exit_of_reports h2 hh2]
  apply exitOfTrace_set
  intro k
  simp only [List.mem_reverse]
  constructor
  · rintro ⟨n, hn⟩
    have r1 : ∃ e ∈ s1.events, Ev.den? n e = some (.fail k) := ⟨_, hn, by simp [Ev.den?]⟩
    obtain ⟨d2, e2, he2, hd2⟩ := (hset n).mp ⟨_, r1⟩
    have := confluent_report_of hden h1 h2 n _ d2 r1 ⟨e2, he2, hd2⟩
    subst this
    exact ⟨n, by rw [← den?_fail hd2]; exact he2⟩
  · rintro ⟨n, hn⟩
    have r2 : ∃ e ∈ s2.events, Ev.den? n e = some (.fail k) := ⟨_, hn, by simp [Ev.den?]⟩
    obtain ⟨d1, e1, he1, hd1⟩ := (hset n).mpr ⟨_, r2⟩
    have := confluent_report_of hden h1 h2 n d1 _ ⟨e1, he1, hd1⟩ r2
    subst this
    exact ⟨n, by rw [← den?_fail hd1]; exact he1⟩

theorem denSub_of_same {inp1 inp2 : RunInput} (hsame : SameTasksC inp1 inp2) : ∀ t d, DenOf inp2 t d → DenOf inp1 t d :=
  fun _ _ h => h.same hsame.symm

theorem confluent_status {inp1 inp2 : RunInput} {s1 s2 : Sys} (hsame : SameTasksC inp1 inp2)
    (h1 : Reach inp1 s1 ∨ PReach inp1 s1) (h2 : Reach inp2 s2 ∨ PReach inp2 s2) (t : Name)
    (f1 : (stOf s1 t).finished = true) (f2 : (stOf s2 t).finished = true) : stOf s1 t = stOf s2 t :=
  confluent_status_of (denSub_of_same hsame) h1 h2 t f1 f2

theorem confluent_report {inp1 inp2 : RunInput} {s1 s2 : Sys} (hsame : SameTasksC inp1 inp2)
    (h1 : Reach inp1 s1 ∨ PReach inp1 s1) (h2 : Reach inp2 s2 ∨ PReach inp2 s2) (t : Name) (d1 d2 : Den)
    (r1 : ∃ e ∈ s1.events, Ev.den? t e = some d1) (r2 : ∃ e ∈ s2.events, Ev.den? t e = some d2) : d1 = d2 :=
  confluent_report_of (denSub_of_same hsame) h1 h2 t d1 d2 r1 r2

theorem status_matches_report {inp1 inp2 : RunInput} {s1 s2 : Sys} (hsame : SameTasksC inp1 inp2)
    (h1 : Reach inp1 s1 ∨ PReach inp1 s1) (h2 : Reach inp2 s2 ∨ PReach inp2 s2) (t : Name) (d : Den)
    (f1 : (stOf s1 t).finished = true) (r2 : ∃ e ∈ s2.events, Ev.den? t e = some d) : stOf s1 t = d.rs :=
  status_matches_report_of (denSub_of_same hsame) h1 h2 t d f1 r2

theorem complete_runs_same_reportOf_of {inp1 inp2 : RunInput} {s1 s2 : Sys}
    (hden : ∀ t d, DenOf inp2 t d → DenOf inp1 t d)
    (h1 : Reach inp1 s1 ∨ PReach inp1 s1) (h2 : Reach inp2 s2 ∨ PReach inp2 s2) (t : Name)
    (hiff : Reported s1 t ↔ Reported s2 t) :
    reportOf (trace inp1 s1) t = reportOf (trace inp2 s2) t := by
  rw [← reportOf_isSome_iff inp1, ← reportOf_isSome_iff inp2] at hiff
  cases hx : reportOf (trace inp1 s1) t with
  | none =>
    cases hy : reportOf (trace inp2 s2) t with
    | none => rfl
    | some d => rw [hx, hy] at hiff; simp at hiff
  | some d =>
    have a : (reportOf (trace inp1 s1) t).isSome = true := by rw [hx]; rfl
    rw [← hx]
    exact confluent_reportOf_of hden h1 h2 t a (hiff.mp a)

theorem R1_same {a b : RunInput} (h : SameTasksC a b) {n : Name} (r : R1 a n) : R1 b n := by
  obtain ⟨dd, L, hL, hT, h1⟩ := r
  refine ⟨dd, L, ?_, fun d hd => (hT d hd).same h, by rw [← stage1L_same h.base]; exact h1⟩
  intro x; rw [hL x]; exact ⟨fun y => y.same h, fun y => y.same h.symm⟩

theorem CalcR_same {a b : RunInput} (h : SameTasksC a b) {n c : Name} (r : CalcR a n c) : CalcR b n c := by
  induction r with
  | static hc => exact CalcR.static (by rw [← h.base.calcDep]; exact hc)
  | deliv _ hd hm ih => exact CalcR.deliv ih (hd.same h) (by rw [← delivOf_same h]; exact hm)

theorem DenCl_same {a b : RunInput} (h : SameTasksC a b) (hsel : ∀ t, t ∈ a.sel → t ∈ b.sel) {t : Name}
    (c : DenCl a t) : DenCl b t := by
  induction c with
  | ofSel hm => exact DenCl.ofSel (hsel _ hm)
  | ofTask _ hd ih => exact DenCl.ofTask ih (by rw [← h.base.taskDep]; exact hd)
  | ofCalc _ hc ih => exact DenCl.ofCalc ih (CalcR_same h hc)
  | ofDeliv _ hc hd hm ih => exact DenCl.ofDeliv ih (CalcR_same h hc) (hd.same h) (by rw [← delivOf_same h]; exact hm)
  | ofSetup _ hr hd ih => exact DenCl.ofSetup ih (R1_same h hr) (by rw [← h.base.setup]; exact hd)

theorem complete_runs_same_reported {inp1 inp2 : RunInput} {s1 s2 : Sys} (hsame : SameTasksC inp1 inp2)
    (hsel : ∀ t, t ∈ inp1.sel ↔ t ∈ inp2.sel)
    (h1 : Reach inp1 s1 ∨ PReach inp1 s1) (h2 : Reach inp2 s2 ∨ PReach inp2 s2)
    (e1 : s1.rpc = .halted ∧ s1.halt = .none ∧ s1.stop = false)
    (e2 : s2.rpc = .halted ∧ s2.halt = .none ∧ s2.stop = false) (t : Name) :
    Reported s1 t ↔ Reported s2 t := by
  rw [reported_iff_closure h1 e1.1 e1.2.1 e1.2.2, reported_iff_closure h2 e2.1 e2.2.1 e2.2.2]
  exact ⟨DenCl_same hsame (fun t => (hsel t).mp), DenCl_same hsame.symm (fun t => (hsel t).mpr)⟩

theorem complete_runs_same_exit {inp1 inp2 : RunInput} {s1 s2 : Sys} (hsame : SameTasksC inp1 inp2)
    (hsel : ∀ t, t ∈ inp1.sel ↔ t ∈ inp2.sel)
    (h1 : Reach inp1 s1 ∨ PReach inp1 s1) (h2 : Reach inp2 s2 ∨ PReach inp2 s2)
    (e1 : s1.rpc = .halted ∧ s1.halt = .none ∧ s1.stop = false)
    (e2 : s2.rpc = .halted ∧ s2.halt = .none ∧ s2.stop = false) : exitCode s1 = exitCode s2 :=
  confluent_exit_of (denSub_of_same hsame) h1 h2 e1.2.1 e2.2.1 (complete_runs_same_reported hsame hsel h1 h2 e1 e2)

theorem complete_runs_same_reportOf {inp1 inp2 : RunInput} {s1 s2 : Sys} (hsame : SameTasksC inp1 inp2)
    (hsel : ∀ t, t ∈ inp1.sel ↔ t ∈ inp2.sel)
    (h1 : Reach inp1 s1 ∨ PReach inp1 s1) (h2 : Reach inp2 s2 ∨ PReach inp2 s2)
    (e1 : s1.rpc = .halted ∧ s1.halt = .none ∧ s1.stop = false)
    (e2 : s2.rpc = .halted ∧ s2.halt = .none ∧ s2.stop = false) (t : Name) :
    reportOf (trace inp1 s1) t = reportOf (trace inp2 s2) t :=
  complete_runs_same_reportOf_of (denSub_of_same hsame) h1 h2 t (complete_runs_same_reported hsame hsel h1 h2 e1 e2 t)

/-- the exit code of a complete run is the denotation's: `exitOfDens` over the outcomes of the closure, however the
    closure is enumerated (`L`) and the outcomes are computed (`den`) -/
theorem complete_exit_is_den {inp : RunInput} {s : Sys} (hr : Reach inp s ∨ PReach inp s)
    (hend : s.rpc = .halted) (hhalt : s.halt = .none) (hstop : s.stop = false)
    (L : List Name) (hL : ∀ t, t ∈ L ↔ DenCl inp t) (den : Name → Den) (hden : ∀ t ∈ L, DenOf inp t (den t)) :
    exitCode s = exitOfDens (L.map den) := by
  rw [exit_of_reports hr hhalt, exitOfTrace_eq_exitOfDens]
  apply exitOfDens_failset
  intro k
  simp only [List.mem_filterMap, List.mem_reverse, List.mem_map]
  constructor
  · rintro ⟨e, he, hd⟩
    cases e <;> simp [Ev.failDen] at hd
    rename_i n k'; subst hd
    have hrep : ∃ e ∈ s.events, Ev.den? n e = some (.fail k') := ⟨_, he, by simp [Ev.den?]⟩
    have hcl := reported_in_closure hr n ⟨_, hrep⟩
    have hn : n ∈ L := (hL n).mpr hcl
    exact ⟨n, hn, (hden n hn).functional (report_is_den hr n _ hrep)⟩
  · rintro ⟨n, hn, hd⟩
    obtain ⟨d, e, he, hde⟩ := closure_reported hr hend hhalt hstop n ((hL n).mp hn)
    have := (report_is_den hr n d ⟨e, he, hde⟩).functional (hden n hn)
    rw [this, hd] at hde
    exact ⟨e, he, by rw [den?_fail hde]; rfl⟩

/-- an input with dynamic edges: `1` (selected) has calc_dep `0`; `0` succeeds and delivers task_dep `2` and calc_dep
    `4`; `4` succeeds and delivers a file_dep owned by `5`; `2` fails; `3` (selected) has task_dep `2`; `--continue` -/
def exC08calc : RunInput :=
  { taskDep := fun n => if n = 3 then [2] else []
    calcDep := fun n => if n = 1 then [0] else []
    setup := fun _ => []
    sel := [1, 3], continue_ := true
    outcome := fun n => if n = 2 then .failed else .ok
    calcRes := fun n => if n = 0 then { tasks := [2], calcs := [4] } else if n = 4 then { files := [5] } else {}
    runner := .thread, numProc := 2 }

instance : NoFailDeliver exC08calc := ⟨fun _ => rfl⟩

/-- a calc task that fails DURING its execution: `1` (selected) has calc_dep `0`; the first action of `0` returns
    `task_dep: [2]`, `calc_dep: [3]`, a later one fails; `2` and `3` are still created, executed and reported, and `1`
    is `unmet`; `--continue` -/
def exC08fail : RunInput :=
  { taskDep := fun _ => []
    calcDep := fun n => if n = 1 then [0] else []
    setup := fun _ => []
    sel := [1], continue_ := true
    outcome := fun n => if n = 0 then .failed else .ok
    calcResFail := fun n => if n = 0 then { tasks := [2], calcs := [3] } else {}
    runner := .thread, numProc := 2 }

theorem exC08calc_calcAny : ∀ n c, CalcAny exC08calc n c → n = 1 ∧ (c = 0 ∨ c = 4) := by
  intro n c h
  induction h with
  | base h =>
    simp only [exC08calc] at h
    split at h
    · rename_i hn; simp at h; exact ⟨hn, Or.inl h⟩
    · simp at h
  | @res p c _ h ih =>
    refine ⟨ih.1, ?_⟩
    rcases ih.2 with rfl | rfl
    · simp [exC08calc] at h; exact Or.inr h
    · simp [exC08calc] at h
  | @resFail p c _ h ih => simp [exC08calc] at h

theorem exC08calc_ranked : Ranked exC08calc (fun n => if n = 1 ∨ n = 3 then 1 else 0) ∧
    ∀ n d, Dep exC08calc n d → d < 6 := by
  have key : ∀ n d, Dep exC08calc n d → (n = 1 ∨ n = 3) ∧ (d = 0 ∨ d = 2 ∨ d = 4 ∨ d = 5) := by
    intro n d h
    cases h with
    | task h =>
      simp only [exC08calc] at h
      split at h
      · rename_i hn; simp at h; exact ⟨Or.inr hn, Or.inr (Or.inl h)⟩
      · simp at h
    | ofCalc h =>
      obtain ⟨rfl, h | h⟩ := exC08calc_calcAny _ _ h
      · exact ⟨Or.inl rfl, Or.inl h⟩
      · exact ⟨Or.inl rfl, Or.inr (Or.inr (Or.inl h))⟩
    | setup h => simp [exC08calc] at h
    | resT hc h =>
      obtain ⟨rfl, rfl | rfl⟩ := exC08calc_calcAny _ _ hc
      · simp [exC08calc] at h; exact ⟨Or.inl rfl, Or.inr (Or.inl h)⟩
      · simp [exC08calc] at h
    | resF hc h =>
      obtain ⟨rfl, rfl | rfl⟩ := exC08calc_calcAny _ _ hc
      · simp [exC08calc] at h
      · simp [exC08calc] at h; exact ⟨Or.inl rfl, Or.inr (Or.inr (Or.inr h))⟩
    | resTFail hc h => simp [exC08calc] at h
    | resFFail hc h => simp [exC08calc] at h
  constructor
  · intro n d h
    obtain ⟨hn, hd⟩ := key n d h
    have hd' : ¬ (d = 1 ∨ d = 3) := by rcases hd with rfl | rfl | rfl | rfl <;> decide
    simp [hn, hd']
  · intro n d h
    obtain ⟨_, hd⟩ := key n d h
    rcases hd with rfl | rfl | rfl | rfl <;> decide

end DoitModel.Run.Dyn
