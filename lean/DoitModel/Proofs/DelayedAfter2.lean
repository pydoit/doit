import DoitModel.Proofs.DelayedAfter
import DoitModel.Proofs.DelayedOnce
/-! # Delayed creation: `AfterInv` is preserved by every step (C15 `after_trigger`) -/
namespace DoitModel.Delayed
open DoitModel.Run (RS Name)

theorem afterOK_cons_quiet (trig : CId → List Name) (e : Ev) (ev : List Ev) (he : ∀ c, e ≠ Ev.creator c) :
    afterOK trig (e :: ev) = afterOK trig ev := by
  cases e with
  | creator c => exact absurd rfl (he c)
  | _ => rfl

theorem after_status {inp : Input} {s s1 : Sys} {n : Name} {nd : Node} {a st' : RS} {e : Ev} (h : AfterInv inp s)
    (hn : s.nodes n = some nd) (ha : nd.status = a) (hm : StatusMove n a st' e) (h1 : s1.tasks = s.tasks)
    (h3 : s1.events = e :: s.events) (h4 : s1.nodes = (setNode s n { nd with status := st' }).nodes) :
    AfterInv inp s1 := by
  refine AfterInv.congr (s := { setNode s n { nd with status := st' } with events := e :: s.events }) ?_ h1 h3 h4
  have hu : nd.status.finished = false := by rw [ha]; cases hm <;> rfl
  have hmono : ∀ d, finOf s d = true →
      finOf { setNode s n { nd with status := st' } with events := e :: s.events } d = true := by
    intro d hd
    by_cases hdn : d = n
    · subst hdn; simp [finOf, stOf, hn, hu] at hd
    · simpa [finOf, stOf, setNode, hdn] using hd
  refine ⟨fun k nd' hk => ?_, h.tab, fun d hd => ?_, ?_, ?_⟩
  · rcases upd_some hk with ⟨_, rfl⟩ | ⟨_, hk⟩
    · obtain ⟨hb, ht⟩ := h.node n nd hn
      exact ⟨NodeB.mono (nd := { nd with status := st' }) ⟨hb.1, hb.2⟩ hmono, ht⟩
    · exact ⟨(h.node k nd' hk).1.mono hmono, (h.node k nd' hk).2⟩
  · simp only [List.any_cons, Bool.or_eq_true]
    by_cases hdn : d = n
    · subst hdn
      have hf : st'.finished = true := by simpa [finOf, stOf, setNode] using hd
      refine Or.inl ?_
      cases hm
      case start => cases hf
      all_goals simp [Ev.reports]
    · exact Or.inr (h.rep d (by simpa [finOf, stOf, setNode, hdn] using hd))
  · exact (afterOK_cons_quiet _ _ _ fun c => by cases hm <;> nofun).trans h.aft
  · have hst : stOf { setNode s n { nd with status := st' } with events := e :: s.events } = updSt (stOf s) n st' :=
      funext fun d => stOf_setNode s n _ d
    rw [hst]; exact hm.count h.cnt (by simp only [stOf, hn, ha])

theorem nodeB_pc {fin : Name → Bool} {nd : Node} (pc' : PC) (h : NodeB fin nd) (h1 : ¬ ∃ ds, nd.pc = .taskIter ds)
    (h2 : pc' = .loaderPc → nd.pend = [] ∧ nd.waitRun = []) : NodeB fin { nd with pc := pc' } :=
  ⟨fun d hd => DepAt.pc pc' h1 (h.1 d hd), h2⟩

theorem after_regex {inp : Input} {s r : Sys} {l : LId} {g : GId} (h : AfterInv inp s) (hr : RegexSpec inp s l g r) :
    AfterInv inp r := by
  obtain ⟨gf, gt, su, rfl, _⟩ := hr.frame
  exact h.congr rfl rfl rfl

theorem after_finishLoader {inp : Input} {s s' : Sys} {n : Name} {nd : Node} {l : LId} {tk' : TDef}
    (h : AfterInv inp s) (hn : s.nodes n = some nd) (ht : tk'.loader = none) (hs : FinLoaderSpec s n nd l tk' s') :
    AfterInv inp s' := by
  have hreset : ∀ t : TDef, TrigIn inp t → AfterInv inp (setNode s n { nd with task := t, pend := t.deps, pc := .start }) :=
    fun t htr => after_setNode h hn rfl ⟨fun d hd => Or.inl hd, nofun⟩ htr
  have htk : TrigIn inp tk' := fun l0 h0 => by rw [ht] at h0; cases h0
  cases hs with
  | crash _ => exact h.congr rfl rfl rfl
  | same cur _ _ =>
    refine (hreset tk' htk).setTasks rfl rfl fun k td hk => ?_
    rcases upd_some hk with ⟨_, rfl⟩ | ⟨_, hk⟩
    · exact htk
    · exact h.tab k td hk
  | other cur hc _ => exact (hreset cur (h.tab n cur hc)).congr rfl rfl rfl

theorem after_afterCreate {inp : Input} {s s' : Sys} {n : Name} {nd : Node} {l : LId}
    (h : AfterInv inp s) (hn : s.nodes n = some nd) (hs : AfterCreateSpec inp s n nd l s') : AfterInv inp s' := by
  cases hs with
  | plain _ => exact after_finishLoader h hn rfl finishLoader_spec
  | raised g r e _ hr _ => exact after_regex h hr
  | rx g r _ hr _ =>
    have hr' := after_regex h hr
    obtain ⟨gf, gt, su, rfl, _⟩ := hr.frame
    exact after_finishLoader hr' hn rfl finishLoader_spec

/-- the creator call: every trigger of the creator has a terminal report already (that is C15 `after_trigger`) -/
theorem after_evalCreator {b : Bool} {inp : Input} {s : Sys} {n : Name} {nd : Node} {l : LId} (tname : Name)
    (h : AfterInv inp s) (hn : s.nodes n = some nd) (hpc : nd.pc = .loaderPc) (hl : nd.task.loader = some l) :
    AfterInv inp (evalCreator inp s l tname b) ∧ (evalCreator inp s l tname b).nodes n = some nd := by
  obtain ⟨hb, ht⟩ := h.node n nd hn
  have hrep : ∀ d ∈ trigOf inp (inp.creatorOf l), s.events.any (Ev.reports d) = true := by
    intro d hd
    have hdep := ht l hl d hd
    obtain ⟨hp, hw⟩ := hb.2 hpc
    rcases hb.1 d hdep with h3 | h3 | h3 | h3
    · rw [hp] at h3; cases h3
    · rw [hpc] at h3; obtain ⟨⟨_, e⟩, _⟩ := h3; cases e
    · rw [hw] at h3; cases h3
    · exact h.rep d h3
  have haft : afterOK (trigOf inp) (Ev.creator (inp.creatorOf l) :: s.events) = true := by
    simp only [afterOK, Bool.and_eq_true, List.all_eq_true]
    exact ⟨hrep, h.aft⟩
  have hrep' : ∀ d, finOf s d = true → (Ev.creator (inp.creatorOf l) :: s.events).any (Ev.reports d) = true := by
    intro d hd
    simp only [List.any_cons, Bool.or_eq_true]
    exact Or.inr (h.rep d hd)
  unfold evalCreator
  cases hr : regTargets s.targets (targetPairs (inp.make (inp.creatorOf l) tname)) with
  | none => exact ⟨⟨h.node, h.tab, hrep', haft, h.cnt.creator _⟩, hn⟩
  | some tg =>
    refine ⟨⟨h.node, ?_, hrep', haft, h.cnt.creator _⟩, hn⟩
    intro k td hk l0 h0
    exact h.tab k td (insertNew_old _ _ _ _ _ _ _ hk h0) l0 h0

theorem after_loaderStep {inp : Input} {s s' : Sys} {n : Name} {nd : Node} {l : LId} (h : AfterInv inp s)
    (hn : s.nodes n = some nd) (hpc : nd.pc = .loaderPc) (hl : nd.task.loader = some l)
    (hs : LoaderSpec inp s n nd l s') : AfterInv inp s' := by
  cases hs with
  | crash => exact h.congr rfl rfl rfl
  | raised tT e _ _ _ => exact (after_evalCreator _ h hn hpc hl).1
  | created tT s' _ _ _ ha =>
    obtain ⟨h1, hn1⟩ := after_evalCreator (b := nd.bad) (toLoad inp l n) h hn hpc hl
    exact after_afterCreate h1 hn1 ha
  | loaded tT s' _ _ ha => exact after_afterCreate h hn ha

theorem after_nodeStep {inp : Input} {s s' : Sys} {n : Name} {nd : Node} (h : AfterInv inp s) (hn : s.nodes n = some nd)
    (hs : NodeStepSpec inp s n nd s') : AfterInv inp s' := by
  obtain ⟨hb, ht⟩ := h.node n nd hn
  cases hs with
  | move pc' w c _ hit _ _ hld =>
    exact (after_setNode (x := { nd with pc := pc' }) h hn rfl
      (nodeB_pc pc' hb (fun ⟨ds, e⟩ => hit ds e) hld) ht).congr rfl rfl rfl
  | loop hpc =>
    exact after_setNode h hn rfl ⟨fun d hd => DepAt.loop hpc (hb.1 d hd), nofun⟩ ht
  | gen d ds s' _ hg => exact after_genStep h hn hg
  | wait _ => exact after_addWaitRun h hn
  | load l s' hpc hl hs => exact after_loaderStep h hn hpc hl hs
  | yield hpc =>
    exact (after_setNode (x := { nd with pc := .done }) h hn rfl
      (nodeB_pc .done hb (fun ⟨ds, e⟩ => by rw [hpc] at e; cases e) nofun) ht).congr rfl rfl rfl
  | done _ => exact h.congr rfl rfl rfl

theorem after_dtick {inp : Input} {s s' : Sys} (h : AfterInv inp s) (hs : TickSpec inp s s') : AfterInv inp s' := by
  cases hs with
  | node n nd s' _ hn hs => exact after_nodeStep h hn hs
  | root t ts td _ hn htt => exact (after_newNode [t] h hn htt).congr rfl rfl rfl
  | sched su cu rd tr _ _ => exact h.congr rfl rfl rfl

theorem after_handBack {inp : Input} {s s' : Sys} {n : Name} {perm : List Name}
    (hb : handBack inp s n perm = some s') (h : AfterInv inp s) : AfterInv inp s' := by
  rcases handBack_cases hb with rfl | hf
  · exact h.congr rfl rfl rfl
  · exact after_feed h hf

theorem after_selectStep {inp : Input} {s s' : Sys} {n : Name} {perm : List Name} (h : AfterInv inp s)
    (hs : SelectSpec inp s n perm s') : AfterInv inp s' := by
  cases hs with
  | crash => exact h.congr rfl rfl rfl
  | unmet nd s' hn h0 _ hb => exact after_handBack hb (after_status h hn h0 .unmet rfl rfl rfl)
  | utd nd s' hn h0 _ _ hb => exact after_handBack hb (after_status h hn h0 .skip rfl rfl rfl)
  | start nd hn h0 _ _ => exact after_status h hn h0 .start rfl rfl rfl

theorem after_finishStep {inp : Input} {s s' : Sys} {n : Name} {perm : List Name} (h : AfterInv inp s)
    (hs : finishStep inp s n perm = some s') : AfterInv inp s' := by
  obtain ⟨nd, b, _, hn, hrun, hb, hs'⟩ := finishStep_cases hs
  have q : AfterInv inp b := by
    cases hb with
    | failure => exact after_status h hn hrun .failure rfl rfl rfl
    | success => exact after_status h hn hrun .success rfl rfl rfl
  rcases hs' with rfl | hf
  · exact q
  · exact after_feed q hf

/-- hypothesis of `after_trigger`: every task of the initial table that carries a loader object has all triggers
    of that loader's creator among its task_deps (`Task.__init__` appends `loader.task_dep`) -/
def TrigWF (inp : Input) : Prop := ∀ n td, lookup0 inp.tasks0 n = some td → TrigIn inp td

theorem after_init {inp : Input} (wf : TrigWF inp) : AfterInv inp (init inp) :=
  ⟨fun _ _ h => by simp [init] at h, wf, fun d hd => by simp [finOf, stOf, init, RS.finished] at hd, rfl,
   ⟨fun _ _ _ he => by simp [init] at he, fun _ _ _ he => by simp [init] at he, fun _ => by simp [init],
    fun _ => by simp [init]⟩⟩

theorem after_step {inp : Input} {s s' : Sys} {c : Choice} (h : AfterInv inp s) (hs : step inp s c = some s') :
    AfterInv inp s' := by
  cases step_spec hs with
  | tick _ => exact after_dtick h dtick_spec
  | select n perm s' _ hsel => exact after_selectStep h (selectStep_spec hsel)
  | resume => exact h.congr rfl rfl rfl
  | finish n perm s' hf => exact after_finishStep h hf

theorem after_reach {inp : Input} (wf : TrigWF inp) {s : Sys} (hr : Reach inp s) : AfterInv inp s := by
  induction hr with
  | init => exact after_init wf
  | next _ hs ih => exact after_step ih hs

/-- the transition system does not read `execOf`: `step` at the two inputs unfolds to the same term -/
theorem reach_execOf {inp : Input} (f : LId → Option Name) {s : Sys} (hr : Reach inp s) :
    Reach { inp with execOf := f } s := by
  induction hr with
  | init => exact Reach.init
  | next _ hs ih => exact Reach.next ih hs

theorem trigOf_execOf_none (inp : Input) (c : CId) : trigOf { inp with execOf := fun _ => none } c = [] := by
  unfold trigOf
  rw [List.filterMap_eq_nil_iff]
  intro p _
  cases p.2.loader with
  | none => rfl
  | some l => exact ite_self _

/-- `CountOK` needs no trigger hypothesis: without `executed` tasks `TrigWF` holds of every input -/
theorem count_reach {inp : Input} {s : Sys} (hr : Reach inp s) : CountOK (stOf s) s.events :=
  (after_reach (inp := { inp with execOf := fun _ => none })
    (fun _ _ _ l _ d hd => by rw [trigOf_execOf_none] at hd; cases hd) (reach_execOf _ hr)).cnt

end DoitModel.Delayed
