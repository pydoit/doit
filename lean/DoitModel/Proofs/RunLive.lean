import DoitModel.Proofs.RunClosure2
/-! # Dispatcher bookkeeping for "everything needed is processed": every dependency of a node gets a node, every
    unfinished generator is in a queue, every selected task is popped -/
namespace DoitModel.Run

def created (s : Sys) (d : Name) : Prop := ∃ nd, s.nodes d = some nd

/-- the task_deps / calc_deps of a node are pending, about to be visited by the current `for` loop, or have a node -/
structure NodeA (s : Sys) (nd : Node) : Prop where
  t : ∀ d ∈ nd.dynTask, d ∈ nd.pendTask ∨ ((∃ todo, nd.pc = .calcIter todo) ∧ d ∈ nd.snapTask) ∨
        (∃ todo, nd.pc = .taskIter todo ∧ d ∈ todo) ∨ created s d
  c : ∀ d ∈ nd.dynCalc, d ∈ nd.pendCalc ∨ (∃ todo, nd.pc = .calcIter todo ∧ d ∈ todo) ∨ created s d

/-- the dispatcher's part; the clauses are numbered across `InvD` and the runner's part `InvL` / `InvP` (`a4 a4b a5 a6 a8`) -/
structure InvD (inp : RunInput) (s : Sys) : Prop where
  a1 : ∀ n nd, s.nodes n = some nd → NodeA s nd
  a2 : ∀ n nd, s.nodes n = some nd → nd.pc ≠ .done → n ∈ s.ready ∨ n ∈ s.waiting ∨ s.cur = some n
  a3 : ∀ t ∈ inp.sel, t ∈ s.toRun ∨ created s t
  a7 : s.susp = some .stopIter → s.cur = none ∧ s.ready = [] ∧ s.toRun = [] ∧ s.waiting = []

def Keeps (s s' : Sys) : Prop := ∀ d, created s d → created s' d

theorem NodeA.mono {s s' : Sys} {nd : Node} (h : NodeA s nd) (k : Keeps s s') : NodeA s' nd :=
  ⟨fun d hd => by
     rcases h.t d hd with a | a | a | a
     · exact Or.inl a
     · exact Or.inr (Or.inl a)
     · exact Or.inr (Or.inr (Or.inl a))
     · exact Or.inr (Or.inr (Or.inr (k d a))),
   fun d hd => by
     rcases h.c d hd with a | a | a
     · exact Or.inl a
     · exact Or.inr (Or.inl a)
     · exact Or.inr (Or.inr (k d a))⟩

/-- From node `a` to node `b`: pending lists grow, new dynamic deps are pending, and what the `for` loops of `a` still had
    to visit is still to be visited by `b` or has a node. -/
theorem NodeA.step {s : Sys} {a b : Node} (h : NodeA s a)
    (hpt : ∀ x, x ∈ a.pendTask → x ∈ b.pendTask) (hpcalc : ∀ x, x ∈ a.pendCalc → x ∈ b.pendCalc)
    (hnt : ∀ x, x ∈ b.dynTask → x ∈ a.dynTask ∨ x ∈ b.pendTask)
    (hnc : ∀ x, x ∈ b.dynCalc → x ∈ a.dynCalc ∨ x ∈ b.pendCalc)
    (ht : ∀ x, ((∃ todo, a.pc = .calcIter todo) ∧ x ∈ a.snapTask) ∨ (∃ todo, a.pc = .taskIter todo ∧ x ∈ todo) →
      ((∃ todo, b.pc = .calcIter todo) ∧ x ∈ b.snapTask) ∨ (∃ todo, b.pc = .taskIter todo ∧ x ∈ todo) ∨ created s x)
    (hc : ∀ x, (∃ todo, a.pc = .calcIter todo ∧ x ∈ todo) → (∃ todo, b.pc = .calcIter todo ∧ x ∈ todo) ∨ created s x) :
    NodeA s b :=
  ⟨fun d hd => by
     rcases hnt d hd with a1 | a1
     · rcases h.t d a1 with x | x | x | x
       · exact Or.inl (hpt d x)
       · exact Or.inr (ht d (Or.inl x))
       · exact Or.inr (ht d (Or.inr x))
       · exact Or.inr (Or.inr (Or.inr x))
     · exact Or.inl a1,
   fun d hd => by
     rcases hnc d hd with a1 | a1
     · rcases h.c d a1 with x | x | x
       · exact Or.inl (hpcalc d x)
       · exact Or.inr (hc d x)
       · exact Or.inr (Or.inr x)
     · exact Or.inl a1⟩

theorem NodeA.grow {s : Sys} {a b : Node} (h : NodeA s a) (hpc : b.pc = a.pc) (hsn : b.snapTask = a.snapTask)
    (hpt : ∀ x, x ∈ a.pendTask → x ∈ b.pendTask) (hpcalc : ∀ x, x ∈ a.pendCalc → x ∈ b.pendCalc)
    (hnt : ∀ x, x ∈ b.dynTask → x ∈ a.dynTask ∨ x ∈ b.pendTask)
    (hnc : ∀ x, x ∈ b.dynCalc → x ∈ a.dynCalc ∨ x ∈ b.pendCalc) : NodeA s b :=
  h.step hpt hpcalc hnt hnc (by rw [hpc, hsn]; exact fun _ y => y.imp id Or.inl) (by rw [hpc]; exact fun _ y => Or.inl y)

theorem NodeA.ofGrow {s : Sys} {a b : Node} (h : NodeA s a) (g : Grow a b) : NodeA s b :=
  h.grow g.pc g.snapTask g.pendTask g.pendCalc g.newTask g.newCalc

theorem NodeA.ofUpd {s : Sys} {a b : Node} {pst : RS} {p : Name} (h : NodeA s a) (g : Upd pst p a b) : NodeA s b :=
  h.grow g.pc g.snapTask g.pendTask g.pendCalc g.newTask g.newCalc

theorem keeps_setNode {s : Sys} {n : Name} (x : Node) : Keeps s (setNode s n x) := by
  intro d ⟨nd, hd⟩
  by_cases e : d = n
  · exact ⟨x, by simp [setNode, e]⟩
  · exact ⟨nd, by simp [setNode, e, hd]⟩

theorem Keeps.trans {a b c : Sys} (h1 : Keeps a b) (h2 : Keeps b c) : Keeps a c := fun d h => h2 d (h1 d h)
theorem Keeps.of_eq {a b : Sys} (h : b.nodes = a.nodes) : Keeps a b := fun d ⟨nd, hd⟩ => ⟨nd, by rw [h]; exact hd⟩

theorem keeps_registerWaiting (s : Sys) (n : Name) (wf : List Name) : Keeps s (registerWaiting s n wf) := by
  intro d ⟨nd, hd⟩
  rw [created, registerWaiting_nodes, hd]
  by_cases e : d ∈ wf
  · exact ⟨nd.addWaiting n, by simp [e]⟩
  · exact ⟨nd, by simp [e]⟩

theorem nodeA_addWaiting {s : Sys} {nd : Node} (m : Name) (h : NodeA s nd) : NodeA s (nd.addWaiting m) := by
  unfold Node.addWaiting; split
  · exact h
  · exact ⟨h.t, h.c⟩

def AllA (s : Sys) : Prop := ∀ n nd, s.nodes n = some nd → NodeA s nd

theorem allA_setNode {s : Sys} {n : Name} {x : Node} (h : AllA s) (hx : NodeA s x) : AllA (setNode s n x) := by
  intro k y hk
  simp only [setNode_nodes] at hk
  split at hk
  · cases hk; exact hx.mono (keeps_setNode x)
  · exact (h k y hk).mono (keeps_setNode x)

theorem allA_registerWaiting {s : Sys} (n : Name) (wf : List Name) (h : AllA s) : AllA (registerWaiting s n wf) := by
  intro k y hk
  rw [registerWaiting_nodes] at hk
  cases hx : s.nodes k with
  | none => rw [hx] at hk; cases hk
  | some x =>
    rw [hx] at hk
    by_cases e : k ∈ wf
    · simp only [e, if_true, Option.some.injEq] at hk; subst hk
      exact (nodeA_addWaiting n (h k x hx)).mono (keeps_registerWaiting s n wf)
    · simp only [e, if_false, Option.some.injEq] at hk; subst hk
      exact (h k x hx).mono (keeps_registerWaiting s n wf)

theorem allA_congr {s s' : Sys} (h : AllA s) (e : s'.nodes = s.nodes) : AllA s' := by
  intro k y hk; rw [e] at hk; exact (h k y hk).mono (Keeps.of_eq e)


theorem NodeA.setPc {s : Sys} {nd : Node} (pc' : PC) (h : NodeA s nd) (h1 : nd.pc.iterT = false)
    : NodeA s { nd with pc := pc' } := by
  refine h.step (fun _ y => y) (fun _ y => y) (fun _ y => Or.inl y) (fun _ y => Or.inl y) ?_ ?_
  · rintro x (⟨⟨todo, a⟩, _⟩ | ⟨todo, a, _⟩) <;> (rw [a] at h1; cases h1)
  · rintro x ⟨todo, a, _⟩; rw [a] at h1; cases h1

theorem mkNode_nodeA (inp : RunInput) (s : Sys) (t : Name) (anc : List Name) : NodeA s (mkNode inp t anc) :=
  ⟨fun _ hd => Or.inl hd, fun _ hd => Or.inl hd⟩

/-- afterwards `d` has a node, which `hx` may use for the current node at the loop's next position -/
theorem genStep_allA {inp : RunInput} {s : Sys} {n : Name} {nd : Node} (d : Name) (pc' : PC) (h : AllA s)
    (hx : ∀ s', Keeps s s' → created s' d → NodeA s' { nd with pc := pc' }) :
    AllA (genStep inp s n nd d pc') := by
  generalize hg : genStep inp s n nd d pc' = g
  cases genStep_spec hg with
  | fresh =>
    have a1 : AllA (setNode s d (mkNode inp d (nd.anc ++ [d]))) := allA_setNode h (mkNode_nodeA inp s d _)
    exact allA_congr (allA_setNode a1 (hx _ (keeps_setNode _) ⟨_, setNode_self _ _ _⟩)) rfl
  | cyclic => exact allA_congr h rfl
  | known hd => exact allA_setNode h (hx s (fun _ a => a) ⟨_, hd⟩)

theorem addWaitRun_allA {inp : RunInput} {s : Sys} {n : Name} {nd : Node} (ds : List Name) (c : Bool) (pc' : PC)
    (h : AllA s) (hx : NodeA s (waitNode inp s nd ds c pc')) : AllA (addWaitRun inp s n nd ds c pc') := by
  unfold addWaitRun
  exact allA_registerWaiting n _ (allA_setNode h hx)

theorem waitNode_nodeA {inp : RunInput} {s : Sys} {nd : Node} (ds : List Name) (c : Bool) (pc' : PC) (h : NodeA s nd)
    (ht : ∀ d, ((∃ todo, nd.pc = .calcIter todo) ∧ d ∈ nd.snapTask) ∨ (∃ todo, nd.pc = .taskIter todo ∧ d ∈ todo) →
      ((∃ todo, pc' = .calcIter todo) ∧ d ∈ nd.snapTask) ∨ (∃ todo, pc' = .taskIter todo ∧ d ∈ todo))
    (hc : ∀ d, (∃ todo, nd.pc = .calcIter todo ∧ d ∈ todo) → (∃ todo, pc' = .calcIter todo ∧ d ∈ todo)) :
    NodeA s (waitNode inp s nd ds c pc') := by
  have f := waitNode_facts inp s nd ds c pc'
  refine h.step f.pendTask f.pendCalc f.newTask f.newCalc ?_ ?_ <;> rw [f.pc]
  · rw [f.snapTask]; exact fun d y => (ht d y).imp id Or.inl
  · exact fun d y => Or.inl (hc d y)

theorem nodeMove_nodeA {inp : RunInput} {s : Sys} {n : Name} {nd x : Node} {perm : List Name}
    (hm : NodeMove inp n nd perm x) (hA : NodeA s nd) : NodeA s x := by
  cases hm with
  | loopTop hpc hp =>
    refine ⟨?_, ?_⟩
    · intro d hd
      rcases hA.t d hd with a | ⟨⟨todo, a⟩, _⟩ | ⟨todo, a, _⟩ | a
      · exact Or.inr (Or.inl ⟨⟨perm, rfl⟩, a⟩)
      · rw [hpc] at a; cases a
      · rw [hpc] at a; cases a
      · exact Or.inr (Or.inr (Or.inr a))
    · intro d hd
      rcases hA.c d hd with a | ⟨todo, a, _⟩ | a
      · exact Or.inr (Or.inl ⟨perm, rfl, hp.mem_iff.mpr a⟩)
      · rw [hpc] at a; cases a
      · exact Or.inr (Or.inr a)
  | again hpc | depsDone hpc | noSetup hpc | selected hpc | setupGo hpc | setupSkip hpc | setupDone hpc | finish hpc =>
    exact hA.setPc _ (by rw [hpc]; rfl)

theorem nodePark_nodeA {inp : RunInput} {s : Sys} {n : Name} {nd x : Node} (hp : NodePark inp n nd x) (hA : NodeA s nd) :
    NodeA s x := by
  cases hp with
  | deps hpc | setup hpc => exact hA.setPc _ (by rw [hpc]; rfl)
  | select hpc => have y := hA.setPc .setupDecide (by rw [hpc]; rfl); exact ⟨y.t, y.c⟩

theorem nodeStep_allA {inp : RunInput} {s s' : Sys} {n : Name} {nd : Node} {perm : List Name} (h : AllA s)
    (hn : s.nodes n = some nd) (hs : NodeStep inp s n nd perm s') : AllA s' := by
  have hA := h n nd hn
  cases hs with
  | move hm => exact allA_setNode h (nodeMove_nodeA hm hA)
  | park hp => exact allA_congr (allA_setNode h (nodePark_nodeA hp hA)) rfl
  | yield1 hpc | yield2 hpc => exact allA_congr (allA_setNode h (hA.setPc _ (by rw [hpc]; rfl))) rfl
  | done => exact allA_congr h rfl
  | @calcGen d ds hpc =>
    refine genStep_allA (nd := nd) d _ h (fun s1 k1 cr => (hA.mono k1).step (fun _ y => y) (fun _ y => y)
      (fun _ y => Or.inl y) (fun _ y => Or.inl y) ?_ ?_)
    · rintro x (⟨_, a⟩ | ⟨todo, a, _⟩)
      · exact Or.inl ⟨⟨ds, rfl⟩, a⟩
      · rw [hpc] at a; cases a
    · rintro x ⟨todo, a, b⟩
      rw [hpc] at a; cases a
      rcases List.mem_cons.mp b with rfl | b
      · exact Or.inr cr
      · exact Or.inl ⟨ds, rfl, b⟩
  | calcWait hpc =>
    refine addWaitRun_allA _ _ _ h (waitNode_nodeA _ _ _ hA ?_ ?_)
    · intro d hd
      rcases hd with ⟨_, a⟩ | ⟨todo, a, _⟩
      · exact Or.inr ⟨nd.snapTask, rfl, a⟩
      · rw [hpc] at a; cases a
    · intro d ⟨todo, a, b⟩; rw [hpc] at a; cases a; cases b
  | @taskGen d ds hpc =>
    refine genStep_allA (nd := nd) d _ h (fun s1 k1 cr => (hA.mono k1).step (fun _ y => y) (fun _ y => y)
      (fun _ y => Or.inl y) (fun _ y => Or.inl y) ?_ ?_)
    · rintro x (⟨⟨todo, a⟩, _⟩ | ⟨todo, a, b⟩) <;> (rw [hpc] at a; cases a)
      rcases List.mem_cons.mp b with rfl | b
      · exact Or.inr (Or.inr cr)
      · exact Or.inr (Or.inl ⟨ds, rfl, b⟩)
    · rintro x ⟨todo, a, _⟩; rw [hpc] at a; cases a
  | taskWait hpc =>
    refine addWaitRun_allA _ _ _ h (waitNode_nodeA _ _ _ hA ?_ ?_)
    · intro d hd
      rcases hd with ⟨⟨todo, a⟩, _⟩ | ⟨todo, a, b⟩
      · rw [hpc] at a; cases a
      · rw [hpc] at a; cases a; cases b
    · intro d ⟨todo, a, _⟩; rw [hpc] at a; cases a
  | @setupGen d ds hpc => exact genStep_allA (nd := nd) d _ h (fun s1 k1 _ => (hA.mono k1).setPc _ (by rw [hpc]; rfl))
  | setupWait hpc =>
    refine addWaitRun_allA _ _ _ h (waitNode_nodeA _ _ _ hA ?_ ?_)
    · intro d hd
      rcases hd with ⟨⟨todo, a⟩, _⟩ | ⟨todo, a, _⟩ <;> (rw [hpc] at a; cases a)
    · intro d ⟨todo, a, _⟩; rw [hpc] at a; cases a


/-- how one `node.step()` moves the queues: they only grow; the current node stays current, or it was parked in
    `waiting`, or its generator was already exhausted; a node that did not exist before is in `ready` -/
structure QStep (s s' : Sys) (n : Name) (nd : Node) : Prop where
  ready : ∀ x, x ∈ s.ready → x ∈ s'.ready
  waiting : ∀ x, x ∈ s.waiting → x ∈ s'.waiting
  cur : s'.cur = s.cur ∨ (s'.cur = none ∧ (n ∈ s'.waiting ∨ nd.pc = .done))
  fresh : ∀ k y, s'.nodes k = some y → s.nodes k = none → k ∈ s'.ready ∧ y.pc = .loopTop
  toRun : s'.toRun = s.toRun

theorem setNode_fresh {s : Sys} {n : Name} {nd x : Node} (hn : s.nodes n = some nd) :
    ∀ k y, (setNode s n x).nodes k = some y → s.nodes k = none → False := by
  intro k y hk hnone
  by_cases e1 : k = n
  · subst e1; rw [hn] at hnone; cases hnone
  · simp [setNode, e1, hnone] at hk

theorem genStep_q {inp : RunInput} {s : Sys} {n : Name} {nd : Node} (d : Name) (pc' : PC) (hn : s.nodes n = some nd) :
    QStep s (genStep inp s n nd d pc') n nd := by
  generalize hg : genStep inp s n nd d pc' = g
  cases genStep_spec hg with
  | fresh hd =>
    refine ⟨fun x hx => List.mem_append_left _ hx, fun x hx => hx, Or.inl rfl, ?_, rfl⟩
    intro k y hk hnone
    have hk' : (if k = n then some { nd with pc := pc' } else
        if k = d then some (mkNode inp d (nd.anc ++ [d])) else s.nodes k) = some y := hk
    by_cases e1 : k = n
    · rw [e1, hn] at hnone; cases hnone
    · rw [if_neg e1] at hk'
      by_cases e2 : k = d
      · rw [if_pos e2] at hk'; cases hk'
        exact ⟨List.mem_append_right _ (List.mem_singleton.mpr e2), rfl⟩
      · rw [if_neg e2, hnone] at hk'; cases hk'
  | cyclic => exact ⟨fun _ h => h, fun _ h => h, Or.inl rfl, (fun k y hk hnone => by rw [hnone] at hk; cases hk), rfl⟩
  | known =>
    exact ⟨fun _ h => h, fun _ h => h, Or.inl rfl, fun k y hk hnone => (setNode_fresh hn k y hk hnone).elim, rfl⟩

theorem addWaitRun_q {inp : RunInput} {s : Sys} {n : Name} {nd : Node} (ds : List Name) (c : Bool) (pc' : PC)
    (hn : s.nodes n = some nd) : QStep s (addWaitRun inp s n nd ds c pc') n nd := by
  refine ⟨fun x hx => hx, fun x hx => hx, Or.inl rfl, ?_, rfl⟩
  intro k y hk hnone
  unfold addWaitRun at hk
  rw [registerWaiting_nodes] at hk
  by_cases e1 : k = n
  · subst e1; rw [hn] at hnone; cases hnone
  · simp [setNode, e1, hnone] at hk

theorem nodeStep_q {inp : RunInput} {s s' : Sys} {n : Name} {nd : Node} {perm : List Name}
    (hn : s.nodes n = some nd) (hs : NodeStep inp s n nd perm s') : QStep s s' n nd := by
  cases hs with
  | calcGen | taskGen | setupGen => exact genStep_q _ _ hn
  | calcWait | taskWait | setupWait => exact addWaitRun_q _ _ _ hn
  | @move x | @yield1 | @yield2 =>
    exact ⟨fun _ h => h, fun _ h => h, Or.inl rfl, fun k y hk hnone => (setNode_fresh hn k y hk hnone).elim, rfl⟩
  | @park x =>
    exact ⟨fun _ h => h, fun _ h => List.mem_append_left _ h,
      Or.inr ⟨rfl, Or.inl (List.mem_append_right _ (List.mem_singleton.mpr rfl))⟩,
      fun k y hk hnone => (setNode_fresh (x := x) hn k y hk hnone).elim, rfl⟩
  | done hpc =>
    exact ⟨fun _ h => h, fun _ h => h, Or.inr ⟨rfl, Or.inr hpc⟩, (fun k y hk hnone => by rw [hnone] at hk; cases hk), rfl⟩

end DoitModel.Run
