import DoitModel.Model.Delayed
/-! # Delayed creation: relational specifications of the step functions

One inductive per branching function of `Model/Delayed.lean`; an invariant is carried over a function by `cases` on its
specification.  The rows are as fine as the invariants of C15 need: branches that no invariant tells apart share a row
(`NodeStepSpec.move`, `TickSpec.sched`, the `crash` rows) and carry no test.  `Calm`: what every step outside the
loader section and `yield this_task` leaves alone. -/
namespace DoitModel.Delayed
open DoitModel.Run (RS Name)

variable {inp : Input} {s s' : Sys} {n : Name} {nd : Node} {l : LId} {perm : List Name}

/-- case analysis on an `if` in a hypothesis, without restating the condition -/
theorem ite_elim {α : Sort _} {c : Prop} [Decidable c] {a b r : α} {P : Prop} (h : (if c then a else b) = r)
    (ht : c → a = r → P) (hf : ¬ c → b = r → P) : P := by
  by_cases hc : c
  · exact ht hc ((if_pos hc).symm.trans h)
  · exact hf hc ((if_neg hc).symm.trans h)

theorem upd_some {α : Type} {f : Name → Option α} {n k : Name} {x y : α}
    (h : (if k = n then some x else f k) = some y) : (k = n ∧ y = x) ∨ (k ≠ n ∧ f k = some y) := by
  by_cases e : k = n
  · rw [if_pos e] at h; cases h; exact Or.inl ⟨e, rfl⟩
  · rw [if_neg e] at h; exact Or.inr ⟨e, h⟩

theorem setNode_other {d : Name} {x : Node} (hn : s.nodes n = some nd) (hd : s.nodes d = none) :
    (setNode s d x).nodes n = some nd := by
  have hnd : n ≠ d := by intro e; subst e; rw [hn] at hd; cases hd
  simp [setNode, hnd, hn]

inductive GenSpec (s : Sys) (n : Name) (nd : Node) (d : Name) (pc' : PC) : Sys → Prop
  | raise (e : Err) : (∀ x, e ≠ .notFound x) → GenSpec s n nd d pc' { s with susp := .err e }
  | seen : GenSpec s n nd d pc' (setNode s n { nd with pc := pc' })
  | new (td : TDef) : s.nodes d = none → s.tasks d = some td →
      GenSpec s n nd d pc'
        { setNode (setNode s d (mkNodeI s d td (nd.anc ++ [d]))) n { nd with pc := pc' } with ready := s.ready ++ [d] }

theorem genStep_spec {d : Name} {pc' : PC} :
    GenSpec s n nd d pc' (genStep s n nd d pc') := by
  unfold genStep
  cases hd : s.nodes d with
  | some x =>
    simp only []
    by_cases ha : d ∈ nd.anc
    · rw [if_pos ha]; exact .raise _ nofun
    · rw [if_neg ha]; exact .seen
  | none =>
    simp only []
    cases ht : s.tasks d with
    | none => exact .raise _ nofun
    | some td => exact .new td hd ht

inductive RegexSpec (inp : Input) (s : Sys) (l : LId) (g : GId) : Sys → Prop
  | found (o : Name) : s.targets (inp.gtarget g) = some o →
      RegexSpec inp s l g { s with gfound := fun k => if k = g then true else s.gfound k }
  | crash : RegexSpec inp s l g { s with susp := .err .crash }
  | exhausted : s.targets (inp.gtarget g) = none →
      RegexSpec inp s l g
        { s with gtasks := fun k => if k = g then [] else s.gtasks k, susp := .err (.notFound (inp.gtarget g)) }
  | next (b : Name) : (s.gtasks g).filter (· ≠ b) ≠ [] →
      RegexSpec inp s l g { s with gtasks := fun k => if k = g then (s.gtasks g).filter (· ≠ b) else s.gtasks k }

theorem regexBlock_spec {g : GId} :
    RegexSpec inp s l g (regexBlock inp s l g) := by
  unfold regexBlock
  cases ht : s.targets (inp.gtarget g) with
  | some o => exact .found o ht
  | none =>
    simp only []
    cases hb : inp.baseOf l with
    | none => exact .crash
    | some b =>
      simp only []
      by_cases hmem : b ∈ s.gtasks g
      · rw [if_pos hmem]
        by_cases hf : (s.gtasks g).filter (· ≠ b) = []
        · rw [if_pos hf]; exact .exhausted ht
        · rw [if_neg hf]; exact .next b hf
      · rw [if_neg hmem]; exact .crash

theorem RegexSpec.frame {s r : Sys} {g : GId} (h : RegexSpec inp s l g r) :
    ∃ gf gt su, r = { s with gfound := gf, gtasks := gt, susp := su } ∧ (su = s.susp ∨ ∃ e, su = .err e) := by
  cases h with
  | found o _ => exact ⟨_, _, _, rfl, Or.inl rfl⟩
  | crash => exact ⟨_, _, _, rfl, Or.inr ⟨_, rfl⟩⟩
  | exhausted _ => exact ⟨_, _, _, rfl, Or.inr ⟨_, rfl⟩⟩
  | next b _ => exact ⟨_, _, _, rfl, Or.inl rfl⟩

inductive FinLoaderSpec (s : Sys) (n : Name) (nd : Node) (l : LId) (tk' : TDef) : Sys → Prop
  | crash : s.tasks n = none →
      FinLoaderSpec s n nd l tk' { s with created := fun k => if k = l then true else s.created k, susp := .err .crash }
  | same (cur : TDef) : s.tasks n = some cur → cur.oid = tk'.oid →
      FinLoaderSpec s n nd l tk'
        { s with created := fun k => if k = l then true else s.created k,
                 tasks := fun k => if k = n then some tk' else s.tasks k,
                 nodes := fun k => if k = n then some { nd with task := tk', pend := tk'.deps, pc := .start }
                                   else s.nodes k }
  | other (cur : TDef) : s.tasks n = some cur → cur.oid ≠ tk'.oid →
      FinLoaderSpec s n nd l tk'
        { s with created := fun k => if k = l then true else s.created k,
                 nodes := fun k => if k = n then some { nd with task := cur, pend := cur.deps, pc := .start }
                                   else s.nodes k }

theorem finishLoader_spec {tk' : TDef} :
    FinLoaderSpec s n nd l tk' (finishLoader s n nd l tk') := by
  unfold finishLoader
  cases hc : s.tasks n with
  | none => exact .crash hc
  | some cur =>
    simp only []
    by_cases ho : cur.oid = tk'.oid
    · rw [if_pos ho]; exact .same cur hc ho
    · rw [if_neg ho]; exact .other cur hc ho

theorem FinLoaderSpec.susp {tk' : TDef}
    (h : FinLoaderSpec s n nd l tk' s') : s'.susp = s.susp ∨ s'.susp = .err .crash := by
  cases h with
  | crash _ => exact Or.inr rfl
  | same _ _ _ => exact Or.inl rfl
  | other _ _ _ => exact Or.inl rfl

inductive AfterCreateSpec (inp : Input) (s : Sys) (n : Name) (nd : Node) (l : LId) : Sys → Prop
  | plain : nd.task.rx = none → AfterCreateSpec inp s n nd l (finishLoader s n nd l (mutated s nd.task))
  | raised (g : GId) (r : Sys) (e : Err) : nd.task.rx = some g → RegexSpec inp s l g r → r.susp = .err e →
      AfterCreateSpec inp s n nd l r
  | rx (g : GId) (r : Sys) : nd.task.rx = some g → RegexSpec inp s l g r → (∀ e, r.susp ≠ .err e) →
      AfterCreateSpec inp s n nd l (finishLoader r n nd l (mutated s nd.task))

theorem afterCreate_spec :
    AfterCreateSpec inp s n nd l (afterCreate inp s n nd l) := by
  unfold afterCreate
  cases hrx : nd.task.rx with
  | none => exact .plain hrx
  | some g =>
    simp only []
    cases hs : (regexBlock inp s l g).susp with
    | err e => exact .raised g _ e hrx regexBlock_spec hs
    | _ => exact .rx g _ hrx regexBlock_spec (fun e he => by rw [hs] at he; cases he)

/-- `if this_loader and not this_loader.created and ref not in self.evaluated_creators` (the last conjunct is absent
    from the pinned dispatcher) -/
theorem mustCreate_iff {tT : TDef} : mustCreate inp s l tT = true ↔
    (∃ l', tT.loader = some l' ∧ s.created l' = false) ∧ (inp.pinnedOnce = true ∨ inp.creatorOf l ∉ s.evaluated) := by
  unfold mustCreate
  cases tT.loader <;> simp

inductive LoaderSpec (inp : Input) (s : Sys) (n : Name) (nd : Node) (l : LId) : Sys → Prop
  | crash : LoaderSpec inp s n nd l { s with susp := .err .crash }
  | raised (tT : TDef) (e : Err) : s.tasks (toLoad inp l n) = some tT → mustCreate inp s l tT = true →
      (evalCreator inp s l (toLoad inp l n) nd.bad).susp = .err e →
      LoaderSpec inp s n nd l (evalCreator inp s l (toLoad inp l n) nd.bad)
  | created (tT : TDef) (s' : Sys) : s.tasks (toLoad inp l n) = some tT → mustCreate inp s l tT = true →
      (∀ e, (evalCreator inp s l (toLoad inp l n) nd.bad).susp ≠ .err e) →
      AfterCreateSpec inp (evalCreator inp s l (toLoad inp l n) nd.bad) n nd l s' → LoaderSpec inp s n nd l s'
  | loaded (tT : TDef) (s' : Sys) : s.tasks (toLoad inp l n) = some tT → mustCreate inp s l tT = false →
      AfterCreateSpec inp s n nd l s' → LoaderSpec inp s n nd l s'

theorem loaderStep_spec :
    LoaderSpec inp s n nd l (loaderStep inp s n nd l) := by
  unfold loaderStep
  cases hT : s.tasks (toLoad inp l n) with
  | none => exact .crash
  | some tT =>
    simp only []
    by_cases hm : mustCreate inp s l tT = true
    · rw [if_pos hm]
      cases hs : (evalCreator inp s l (toLoad inp l n) nd.bad).susp with
      | err e => exact .raised tT e hT hm hs
      | _ => exact .created tT _ hT hm (fun e he => by rw [hs] at he; cases he) afterCreate_spec
    · rw [if_neg hm]
      exact .loaded tT _ hT (by simpa using hm) afterCreate_spec

theorem evalCreator_facts {b : Bool} (inp : Input) (s : Sys) (l : LId) (tname : Name) :
    (evalCreator inp s l tname b).nodes = s.nodes ∧
    ((evalCreator inp s l tname b).susp = s.susp ∨ (evalCreator inp s l tname b).susp = .err .dupTarget) := by
  unfold evalCreator
  cases regTargets s.targets (targetPairs (inp.make (inp.creatorOf l) tname)) with
  | none => exact ⟨rfl, Or.inr rfl⟩
  | some tg => exact ⟨rfl, Or.inl rfl⟩

theorem AfterCreateSpec.susp (h : AfterCreateSpec inp s n nd l s') : s'.susp = s.susp ∨ ∃ e, s'.susp = .err e := by
  cases h with
  | plain _ => exact finishLoader_spec.susp.imp_right fun h => ⟨_, h⟩
  | raised g r e _ _ he => exact Or.inr ⟨e, he⟩
  | rx g r _ hr hno =>
    have hr' : r.susp = s.susp := by
      obtain ⟨gf, gt, su, rfl, hsu⟩ := hr.frame
      exact hsu.resolve_right fun ⟨e, he⟩ => hno e he
    rcases (finishLoader_spec (s := r) (tk' := mutated s nd.task)).susp with h1 | h1
    · exact Or.inl (h1.trans hr')
    · exact Or.inr ⟨_, h1⟩

theorem LoaderSpec.susp (h : LoaderSpec inp s n nd l s') : s'.susp = s.susp ∨ ∃ e, s'.susp = .err e := by
  cases h with
  | crash => exact Or.inr ⟨_, rfl⟩
  | raised tT e _ _ he => exact Or.inr ⟨e, he⟩
  | created tT s' _ _ hno ha =>
    rcases ha.susp with h1 | h1
    · rcases (evalCreator_facts inp s l (toLoad inp l n)).2 with h2 | h2
      · exact Or.inl (h1.trans h2)
      · exact absurd h2 (hno _)
    · exact Or.inr h1
  | loaded tT s' _ _ ha => exact ha.susp

inductive NodeStepSpec (inp : Input) (s : Sys) (n : Name) (nd : Node) : Sys → Prop
  /-- the moves that only set the pc (and, for `yield 'wait'`, park the node).  The last two side conditions are what
      the node-local invariants ask of a node arriving at `self1` (`NodeG`) and at `loaderPc` (`NodeB`). -/
  | move (pc' : PC) (w : List Name) (c : Option Name) : nd.pc ≠ .done → (∀ ds, nd.pc ≠ .taskIter ds) →
      (∀ ds, pc' ≠ .taskIter ds) → (pc' = .self1 → nd.pc = .loaderPc ∧ nd.task.loader = none) →
      (pc' = .loaderPc → nd.pend = [] ∧ nd.waitRun = []) →
      NodeStepSpec inp s n nd { setNode s n { nd with pc := pc' } with waiting := w, cur := c }
  | loop : nd.pc = .loopTop →
      NodeStepSpec inp s n nd (setNode s n { nd with snap := nd.pend, pend := [], pc := .taskIter nd.pend })
  | gen (d : Name) (ds : List Name) (s' : Sys) : nd.pc = .taskIter (d :: ds) → GenSpec s n nd d (.taskIter ds) s' →
      NodeStepSpec inp s n nd s'
  | wait : nd.pc = .taskIter [] → NodeStepSpec inp s n nd (addWaitRun s n nd nd.snap .afterDeps)
  | load (l : LId) (s' : Sys) : nd.pc = .loaderPc → nd.task.loader = some l → LoaderSpec inp s n nd l s' →
      NodeStepSpec inp s n nd s'
  | yield : nd.pc = .self1 →
      NodeStepSpec inp s n nd
        { setNode s n { nd with pc := .done } with dispatched := addDispatched s n, susp := .yielded n }
  | done : nd.pc = .done → NodeStepSpec inp s n nd { s with cur := none }

theorem nodeStep_spec :
    NodeStepSpec inp s n nd (nodeStep inp s n nd) := by
  unfold nodeStep
  cases hpc : nd.pc with
  | start =>
    simp only []
    by_cases hr : rxFound s nd.task = true
    · rw [if_pos hr]; exact .move .done s.waiting s.cur (hpc ▸ nofun) (hpc ▸ nofun) nofun nofun nofun
    · rw [if_neg hr]; exact .move .loopTop s.waiting s.cur (hpc ▸ nofun) (hpc ▸ nofun) nofun nofun nofun
  | loopTop => exact .loop hpc
  | taskIter todo =>
    cases todo with
    | nil => exact .wait hpc
    | cons d ds => exact .gen d ds _ hpc genStep_spec
  | afterDeps =>
    simp only []
    by_cases hp : nd.pend ≠ []
    · rw [if_pos hp]; exact .move .loopTop s.waiting s.cur (hpc ▸ nofun) (hpc ▸ nofun) nofun nofun nofun
    · rw [if_neg hp]
      by_cases hw : nd.waitRun ≠ []
      · rw [if_pos hw]; exact .move .loopTop _ _ (hpc ▸ nofun) (hpc ▸ nofun) nofun nofun nofun
      · rw [if_neg hw]; exact .move .loaderPc s.waiting s.cur (hpc ▸ nofun) (hpc ▸ nofun) nofun nofun
          (fun _ => ⟨Decidable.not_not.mp hp, Decidable.not_not.mp hw⟩)
  | loaderPc =>
    simp only []
    cases hl : nd.task.loader with
    | none => exact .move .self1 s.waiting s.cur (hpc ▸ nofun) (hpc ▸ nofun) nofun (fun _ => ⟨hpc, hl⟩) nofun
    | some l => exact .load l _ hpc hl loaderStep_spec
  | self1 => exact .yield hpc
  | done => exact .done hpc

/-- what a step that neither yields a node nor gives up on a target does to `susp` -/
def Plain (su su' : Susp) : Prop := su' = su ∨ ((∀ m, su' ≠ .yielded m) ∧ ∀ x, su' ≠ .err (.notFound x))

theorem Plain.trans {a b c : Susp} (h : Plain a b) (h' : Plain b c) : Plain a c := by
  rcases h' with h' | h'
  · rw [h']; exact h
  · exact Or.inr h'

inductive TickSpec (inp : Input) (s : Sys) : Sys → Prop
  | node (n : Name) (nd : Node) (s' : Sys) : s.cur = some n → s.nodes n = some nd → NodeStepSpec inp s n nd s' →
      TickSpec inp s s'
  | root (t : Name) (ts : List Name) (td : TDef) : s.toRun = t :: ts → s.nodes t = none → s.tasks t = some td →
      TickSpec inp s { setNode s t (mkNodeI s t td [t]) with cur := some t, toRun := ts }
  /-- `_get_next_node` / `_check_deadlock` without a new node -/
  | sched (su : Susp) (cu : Option Name) (rd tr : List Name) : Plain s.susp su → (∀ t ∈ tr, t ∈ s.toRun) →
      TickSpec inp s { s with susp := su, cur := cu, ready := rd, toRun := tr }

theorem dtick_spec : TickSpec inp s (dtick inp s) := by
  have raise : ∀ e : Err, (∀ x, e ≠ .notFound x) → Plain s.susp (.err e) :=
    fun e he => Or.inr ⟨nofun, fun x h => he x (by cases h; rfl)⟩
  unfold dtick
  cases hc : s.cur with
  | some n =>
    simp only []
    cases hn : s.nodes n with
    | none => exact .sched _ _ _ _ (raise _ nofun) (fun _ h => h)
    | some nd => exact .node n nd _ hc hn nodeStep_spec
  | none =>
    simp only []
    cases hr : s.ready with
    | cons r rs => exact .sched _ _ _ _ (Or.inl rfl) (fun _ h => h)
    | nil =>
      simp only []
      cases ht : s.toRun with
      | nil =>
        simp only []
        by_cases hw : s.waiting ≠ []
        · rw [if_pos hw]
          by_cases hd : s.dispatched = []
          · rw [if_pos hd]; exact .sched _ _ _ _ (raise _ nofun) (fun _ h => ht ▸ h)
          · rw [if_neg hd]
            exact .sched _ _ _ _ (Or.inr ⟨nofun, nofun⟩) (fun _ h => ht ▸ h)
        · rw [if_neg hw]
          exact .sched _ _ _ _ (Or.inr ⟨nofun, nofun⟩) (fun _ h => ht ▸ h)
      | cons t ts =>
        simp only []
        cases hn : s.nodes t with
        | some x => exact .sched _ _ _ _ (Or.inl rfl) (fun _ h => ht ▸ List.mem_cons_of_mem _ h)
        | none =>
          simp only []
          cases htt : s.tasks t with
          | none => exact .sched _ _ _ _ (raise _ nofun) (fun _ h => ht ▸ h)
          | some td => exact .root t ts td ht hn htt

theorem dtick_loader (hc : s.cur = some n) (hn : s.nodes n = some nd) (hpc : nd.pc = .loaderPc)
    (hl : nd.task.loader = some l) : dtick inp s = loaderStep inp s n nd l := by
  unfold dtick nodeStep; simp only [hc, hn, hpc, hl]

theorem registerWaiting_node (s : Sys) (n : Name) (wf : List Name) (k : Name) :
    (s.nodes k = none ∧ (registerWaiting s n wf).nodes k = none) ∨
    ∃ x w, s.nodes k = some x ∧ (registerWaiting s n wf).nodes k = some { x with waitingMe := w } := by
  cases hx : s.nodes k with
  | none => exact Or.inl ⟨rfl, by simp only [registerWaiting, hx]⟩
  | some x =>
    have hk : (registerWaiting s n wf).nodes k = if k ∈ wf then some (x.addWaiting n) else some x := by
      simp only [registerWaiting, hx]
    rw [hk]
    by_cases hm : k ∈ wf
    · rw [if_pos hm]; unfold Node.addWaiting
      by_cases c : n ∈ x.waitingMe
      · rw [if_pos c]; exact Or.inr ⟨x, x.waitingMe, rfl, rfl⟩
      · rw [if_neg c]; exact Or.inr ⟨x, _, rfl, rfl⟩
    · rw [if_neg hm]; exact Or.inr ⟨x, x.waitingMe, rfl, rfl⟩

/-- `_update_waiting` is a sequence of `wokenNode` updates, each possibly moving the node from `waiting` to `ready` -/
theorem updateWaiting_induct {P : Sys → Prop} (pst : RS) (p : Name)
    (hw : ∀ s w nd rd wt, P s → s.nodes w = some nd →
      P { setNode s w (wokenNode pst p nd) with ready := rd, waiting := wt }) (perm : List Name) :
    ∀ (s s' : Sys), P s → updateWaiting pst p s perm = some s' → P s' := by
  induction perm with
  | nil => intro s s' h hu; simp only [updateWaiting] at hu; cases hu; exact h
  | cons w ws ih =>
    intro s s' h hu
    simp only [updateWaiting] at hu
    cases hn : s.nodes w with
    | none => simp only [hn] at hu; exact ih s s' h hu
    | some nd =>
      simp only [hn] at hu
      refine ite_elim hu (fun _ hu => nomatch hu) fun _ hu => ih _ _ ?_ hu
      unfold wakeOne
      by_cases c' : (nd.waitRun.filter (· ≠ p)).isEmpty ∧ w ∈ s.waiting
      · rw [if_pos c']; exact hw s w nd _ _ h hn
      · rw [if_neg c']; exact hw s w nd s.ready s.waiting h hn

inductive FeedSpec (s : Sys) (p : Name) (perm : List Name) : Sys → Prop
  | crash : FeedSpec s p perm { s with susp := .err .crash }
  | woke (nd : Node) (s1 : Sys) : s.nodes p = some nd → nd.status.finished = true →
      updateWaiting nd.status p { s with dispatched := s.dispatched.filter (· ≠ p) } perm = some s1 →
      FeedSpec s p perm { s1 with susp := .running }
  | skip : FeedSpec s p perm { s with dispatched := s.dispatched.filter (· ≠ p), susp := .running }

theorem feed_spec {p : Name} (h : feed s p perm = some s') :
    FeedSpec s p perm s' := by
  unfold feed at h
  cases hp : s.nodes p with
  | none => simp only [hp] at h; cases h; exact .crash
  | some nd =>
    simp only [hp] at h
    refine ite_elim h (fun hfin h => ite_elim h (fun _ h => ?_) (fun _ h => nomatch h))
      (fun _ h => by cases h; exact .skip)
    cases hu : updateWaiting nd.status p { s with dispatched := s.dispatched.filter (· ≠ p) } perm with
    | none => simp only [hu] at h; cases h; exact .crash
    | some s1 => simp only [hu] at h; cases h; exact .woke nd s1 hp hfin hu

theorem handBack_cases
    (h : handBack inp s n perm = some s') : s' = { s with susp := .idle } ∨ feed s n perm = some s' :=
  ite_elim h (fun _ h => by cases h; exact Or.inl rfl) (fun _ h => Or.inr h)

inductive SelectSpec (inp : Input) (s : Sys) (n : Name) (perm : List Name) : Sys → Prop
  | crash : SelectSpec inp s n perm { s with susp := .err .crash }
  | unmet (nd : Node) (s' : Sys) : s.nodes n = some nd → nd.status = .none → nd.bad = true →
      handBack inp (failSys inp s n nd (.unmet n) 2) n perm = some s' → SelectSpec inp s n perm s'
  | utd (nd : Node) (s' : Sys) : s.nodes n = some nd → nd.status = .none → nd.bad = false → inp.utd n = true →
      handBack inp { setNode s n { nd with status := .utd } with events := Ev.skipUtd n :: s.events } n perm = some s' →
      SelectSpec inp s n perm s'
  | start (nd : Node) : s.nodes n = some nd → nd.status = .none → nd.bad = false → inp.utd n = false →
      SelectSpec inp s n perm
        { setNode s n { nd with status := .run } with
          events := Ev.start n :: s.events, running := s.running ++ [n], susp := .idle }

theorem selectStep_spec (h : selectStep inp s n perm = some s') : SelectSpec inp s n perm s' := by
  unfold selectStep at h
  cases hn : s.nodes n with
  | none => simp only [hn] at h; cases h; exact .crash
  | some nd =>
    simp only [hn] at h
    refine ite_elim h (fun _ h => by cases h; exact .crash) fun h0 h => ?_
    have h0 : nd.status = .none := Decidable.not_not.mp h0
    refine ite_elim h (fun hb h => .unmet nd s' hn h0 hb h) fun hb h => ?_
    have hb : nd.bad = false := Bool.not_eq_true _ ▸ hb
    refine ite_elim h (fun hu h => .utd nd s' hn h0 hb hu h) fun hu h => ?_
    cases h; exact .start nd hn h0 hb (Bool.not_eq_true _ ▸ hu)

/-- `process_task_result(node)`: the new status of the node and its report -/
inductive ResultSpec (inp : Input) (s : Sys) (n : Name) (nd : Node) : Sys → Prop
  | failure : ResultSpec inp s n nd
      { failSys inp s n nd (.failure n) (if s.final = 2 then 2 else 1) with running := s.running.filter (· ≠ n) }
  | success : ResultSpec inp s n nd
      { setNode s n { nd with status := .ok } with
        events := Ev.success n :: s.events, running := s.running.filter (· ≠ n) }

theorem finishStep_cases (h : finishStep inp s n perm = some s') :
    ∃ nd b, (s.susp = .idle ∨ s.susp = .holdOn ∨ s.susp = .stopIter) ∧ s.nodes n = some nd ∧ nd.status = .run ∧
      ResultSpec inp s n nd b ∧ (s' = b ∨ feed b n perm = some s') := by
  unfold finishStep at h
  refine ite_elim h (fun hg h => ?_) (fun _ h => nomatch h)
  cases hn : s.nodes n with
  | none => simp only [hn] at h; cases h
  | some nd =>
    simp only [hn] at h
    refine ite_elim h (fun _ h => nomatch h) fun hrun h => ?_
    have hrun : nd.status = .run := Decidable.not_not.mp hrun
    refine ite_elim h (fun _ h => ⟨nd, _, hg.2, rfl, hrun, .failure, ?_⟩)
      (fun _ h => ⟨nd, _, hg.2, rfl, hrun, .success, ?_⟩)
    · exact ite_elim h (fun _ h => Or.inr h) (fun _ h => by cases h; exact Or.inl rfl)
    · exact ite_elim h (fun _ h => by cases h; exact Or.inl rfl) (fun _ h => Or.inr h)

inductive StepSpec (inp : Input) (s : Sys) : Sys → Prop
  | tick : s.susp = .running → StepSpec inp s (dtick inp s)
  | select (n : Name) (perm : List Name) (s' : Sys) : s.susp = .yielded n → selectStep inp s n perm = some s' →
      StepSpec inp s s'
  | resume : StepSpec inp s { s with susp := .running }
  | finish (n : Name) (perm : List Name) (s' : Sys) : finishStep inp s n perm = some s' → StepSpec inp s s'

theorem step_spec {c : Choice} (h : step inp s c = some s') : StepSpec inp s s' := by
  cases c with
  | tick perm =>
    simp only [step] at h
    cases hsu : s.susp with
    | running => simp only [hsu] at h; cases h; exact .tick hsu
    | yielded n => simp only [hsu] at h; exact .select n perm s' hsu h
    | _ => simp [hsu] at h
  | resume => exact ite_elim h (fun _ h => by cases h; exact .resume) (fun _ h => nomatch h)
  | finish n perm => exact .finish n perm s' h

def Calm (s s' : Sys) : Prop := s'.targets = s.targets ∧ s'.gtasks = s.gtasks ∧ Plain s.susp s'.susp

theorem Calm.trans {s s' s'' : Sys} (c : Calm s s') (c' : Calm s' s'') : Calm s s'' :=
  ⟨c'.1.trans c.1, c'.2.1.trans c.2.1, c.2.2.trans c'.2.2⟩

theorem Calm.yielded (c : Calm s s') {m : Name} (h : s'.susp = .yielded m) : s.susp = .yielded m := by
  rcases c.2.2 with h1 | h1
  · rw [← h1]; exact h
  · exact absurd h (h1.1 m)

theorem Calm.notFound (c : Calm s s') {x : Name} (h : s'.susp = .err (.notFound x)) :
    s.susp = .err (.notFound x) := by
  rcases c.2.2 with h1 | h1
  · rw [← h1]; exact h
  · exact absurd h (h1.2 x)

/-- the runner handed a node back: the generator was resumed, left idle, or raised (never `notFound`) -/
def Resumed (s s' : Sys) : Prop :=
  s'.targets = s.targets ∧ s'.gtasks = s.gtasks ∧ (∀ m, s'.susp ≠ .yielded m) ∧ ∀ x, s'.susp ≠ .err (.notFound x)

theorem Resumed.calm (h : Resumed s s') : Calm s s' := ⟨h.1, h.2.1, Or.inr h.2.2⟩

theorem resumed_feed {p : Name} (h : feed s p perm = some s') : Resumed s s' := by
  cases feed_spec h with
  | crash => exact ⟨rfl, rfl, nofun, nofun⟩
  | woke nd s1 _ _ hu =>
    have c : Calm s s1 := updateWaiting_induct (P := Calm s) nd.status p
      (fun x w wd rd wt hx _ => hx.trans ⟨rfl, rfl, Or.inl rfl⟩) perm
      { s with dispatched := s.dispatched.filter (· ≠ p) } s1 ⟨rfl, rfl, Or.inl rfl⟩ hu
    exact ⟨c.1, c.2.1, nofun, nofun⟩
  | skip => exact ⟨rfl, rfl, nofun, nofun⟩

theorem resumed_handBack (h : handBack inp s n perm = some s') : Resumed s s' := by
  rcases handBack_cases h with rfl | h
  · exact ⟨rfl, rfl, nofun, nofun⟩
  · exact resumed_feed h

theorem resumed_selectStep (h : SelectSpec inp s n perm s') : Resumed s s' := by
  cases h with
  | crash => exact ⟨rfl, rfl, nofun, nofun⟩
  | unmet nd s' _ _ _ hb => have c := resumed_handBack hb; exact ⟨c.1, c.2.1, c.2.2⟩
  | utd nd s' _ _ _ _ hb => have c := resumed_handBack hb; exact ⟨c.1, c.2.1, c.2.2⟩
  | start nd => exact ⟨rfl, rfl, nofun, nofun⟩

theorem calm_finishStep (h : finishStep inp s n perm = some s') : Calm s s' := by
  obtain ⟨nd, b, _, _, _, hb, hs'⟩ := finishStep_cases h
  have q : Calm s b := by cases hb <;> exact ⟨rfl, rfl, Or.inl rfl⟩
  rcases hs' with rfl | hf
  · exact q
  · exact q.trans (resumed_feed hf).calm

end DoitModel.Delayed
