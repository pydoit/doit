import DoitModel.Proofs.StatusSteps
/-! # M2 — the invariant tying records to the ghost state, preserved by every history operation -/
namespace DoitModel.Status

/-- a stored md5 state never lies about a file that still has the mtime it was taken at.  `m ≤ clock` lets this survive
    later writes: a file written since has a larger mtime (`PairOk.later`; the idea behind C06b) -/
def StOk (fs : FS) (clock : Nat) (r : Rcd) : Prop :=
  ∀ p m sz c, r.fstate p = some (.md5 m sz c) →
    m ≤ clock ∧ ∀ cur, fs p = some cur → cur.mtime = m → cur.size = sz ∧ cur.cid = c

def SawOk (fs : FS) (clock : Nat) (e : Exec) : Prop :=
  ∀ p sm, e.saw p = some sm → sm.mtime ≤ clock ∧ ∀ cur, fs p = some cur → cur.mtime = sm.mtime → cur = sm

/-- the record of a task with no recorded successful execution holds nothing but (possibly) the ignore mark -/
def AgreeNone (r : Rcd) : Prop :=
  r.values = none ∧ r.result = none ∧ r.checker = none ∧ r.deps = none ∧ ∀ p, r.fstate p = none

/-- the record says exactly what the last recorded successful execution saw (stale per-file keys are allowed) -/
def AgreeSome (r : Rcd) (e : Exec) : Prop :=
  r.values = some e.values ∧ r.result = e.result ∧ r.checker = some e.checker ∧ r.deps = some e.deps ∧
  ∀ p, p ∈ e.deps → ∃ sm, e.saw p = some sm ∧ r.fstate p = some (stateOf e.checker sm)

def Agree (r : Rcd) : Option Exec → Prop
  | none => AgreeNone r
  | some e => AgreeSome r e

structure Inv (s : St) : Prop where
  clk : ∀ p m, s.fs p = some m → m.mtime ≤ s.clock
  st : ∀ t, StOk s.fs s.clock (s.rcd t)
  saw : ∀ t e, s.shadow t = some e → SawOk s.fs s.clock e
  agree : ∀ t, Agree (s.rcd t) (s.shadow t)

theorem StOk_empty (fs clock) : StOk fs clock Rcd.empty := fun _ _ _ _ h => nomatch h

def PairOk (fs : FS) (clock : Nat) (r : Rcd) (sh : Option Exec) : Prop :=
  StOk fs clock r ∧ (∀ e, sh = some e → SawOk fs clock e) ∧ Agree r sh

theorem Inv.pair {s : St} (h : Inv s) (t : Name) : PairOk s.fs s.clock (s.rcd t) (s.shadow t) :=
  ⟨h.st t, h.saw t, h.agree t⟩

theorem Inv.of_pairs {s : St} (hclk : ∀ p m, s.fs p = some m → m.mtime ≤ s.clock)
    (hp : ∀ t, PairOk s.fs s.clock (s.rcd t) (s.shadow t)) : Inv s :=
  ⟨hclk, fun t => (hp t).1, fun t => (hp t).2.1, fun t => (hp t).2.2⟩

theorem PairOk.empty (fs : FS) (clock : Nat) : PairOk fs clock Rcd.empty none :=
  ⟨StOk_empty fs clock, nofun, (⟨rfl, rfl, rfl, rfl, fun _ => rfl⟩ : AgreeNone _)⟩

theorem PairOk.ign {fs : FS} {clock : Nat} {r : Rcd} {sh : Option Exec} (h : PairOk fs clock r sh) (b : Bool) :
    PairOk fs clock { r with ign := b } sh := by
  refine ⟨h.1, h.2.1, ?_⟩
  cases sh with
  | none => exact h.2.2
  | some e => exact h.2.2

theorem PairOk.later {a b : St} (hl : Later a b) {r : Rcd} {sh : Option Exec} (h : PairOk a.fs a.clock r sh) :
    PairOk b.fs b.clock r sh := by
  refine ⟨fun p m sz c hp => ?_, fun e he p sm hp => ?_, h.2.2⟩
  · have := h.1 p m sz c hp
    refine ⟨Nat.le_trans this.1 hl.1, fun cur hcur hm => ?_⟩
    rcases hl.2 p cur hcur with ha | hlt
    · exact this.2 cur ha hm
    · omega
  · have := h.2.1 e he p sm hp
    refine ⟨Nat.le_trans this.1 hl.1, fun cur hcur hm => ?_⟩
    rcases hl.2 p cur hcur with ha | hlt
    · exact this.2 cur ha hm
    · omega

theorem Inv.of_later {a b : St} (h : Inv a) (hl : Later a b) (hr : b.rcd = a.rcd) (hs : b.shadow = a.shadow) : Inv b := by
  refine .of_pairs (fun p m hm => ?_) (fun t => by rw [hr, hs]; exact (h.pair t).later hl)
  rcases hl.2 p m hm with h0 | h1
  · exact Nat.le_trans (h.clk p m h0) hl.1
  · exact h1.2

theorem Inv.update {s : St} (h : Inv s) (t : Name) {r : Rcd} {sh : Option Exec} (hp : PairOk s.fs s.clock r sh) :
    Inv { s with rcd := fun k => if k = t then r else s.rcd k, shadow := fun k => if k = t then sh else s.shadow k } := by
  refine .of_pairs h.clk fun k => ?_
  dsimp only
  by_cases hk : k = t
  · rw [if_pos hk, if_pos hk]; exact hp
  · rw [if_neg hk, if_neg hk]; exact h.pair k

theorem init_inv : Inv St.init := .of_pairs (fun _ _ h => nomatch h) fun _ => .empty _ _

theorem markIgn_inv {s : St} (t : Name) (h : Inv s) : Inv (markIgn s t) := by
  refine .of_pairs h.clk fun k => ?_
  dsimp only [markIgn]
  by_cases hk : k = t
  · rw [if_pos hk, hk]; exact (h.pair t).ign true
  · rw [if_neg hk]; exact h.pair k

theorem commit_ign_inv {s : St} (t : Name) (r : Rcd) (e : Exec) (b : Bool) (h : Inv (commit s t r e)) :
    Inv (commit s t { r with ign := b } e) := by
  refine .of_pairs h.clk fun k => ?_
  have := h.pair k
  dsimp only [commit] at this ⊢
  by_cases hk : k = t
  · rw [if_pos hk] at this ⊢; exact this.ign b
  · rw [if_neg hk] at this ⊢; exact this

theorem saveSuccess_ok {c : Checker} {deps : List Path} {r0 r : Rcd} {fs : FS} {vals : Values} {res : Option Res}
    (hs : saveSuccess c deps r0 fs vals res = .ok r) :
    deps.any (depMissing fs) = false ∧ deps.any (saveCrashAt c r0 fs) = false ∧
    r = { values := some vals, result := res.orElse fun _ => r0.result, checker := some c, deps := some deps,
          fstate := fun p => if p ∈ deps then savedState c r0 fs p else r0.fstate p, ign := r0.ign } := by
  unfold saveSuccess at hs
  cases h1 : deps.any (depMissing fs) with
  | true => rw [h1] at hs; cases hs
  | false =>
    cases h2 : deps.any (saveCrashAt c r0 fs) with
    | true => rw [h1, h2] at hs; cases hs
    | false => rw [h1, h2] at hs; exact ⟨rfl, rfl, (SaveOut.ok.inj hs).symm⟩

theorem exists_of_not_missing {fs : FS} {deps : List Path} (h : deps.any (depMissing fs) = false) {p : Path}
    (hp : p ∈ deps) : ∃ cur, fs p = some cur := by
  have := any_false_of h hp
  unfold depMissing at this
  cases hf : fs p with
  | none => rw [hf] at this; cases this
  | some cur => exact ⟨cur, rfl⟩

theorem getState_cases (c : Checker) (cur : FMeta) (o : Option FState) :
    getState c cur o = .new (stateOf c cur) ∨
    (∃ sz c', c = .md5 ∧ o = some (.md5 cur.mtime sz c') ∧ getState c cur o = .keep) ∨
    (∃ m, c = .md5 ∧ o = some (.ts m) ∧ getState c cur o = .crash) := by
  cases c with
  | ts => exact Or.inl rfl
  | md5 =>
    cases o with
    | none => exact Or.inl rfl
    | some st =>
      cases st with
      | ts m =>
        by_cases hm : m = 0
        · exact Or.inl (if_pos hm)
        · exact Or.inr (Or.inr ⟨m, rfl, rfl, if_neg hm⟩)
      | md5 m sz c' =>
        by_cases hm : m = cur.mtime
        · exact Or.inr (Or.inl ⟨sz, c', rfl, hm ▸ rfl, if_pos hm⟩)
        · exact Or.inl (if_neg hm)

theorem savedState_eq {c : Checker} {r : Rcd} {fs : FS} {clock : Nat} {p : Path} {cur : FMeta}
    (hst : StOk fs clock r) (hcur : fs p = some cur) (hnc : saveCrashAt c r fs p = false) :
    savedState c r fs p = some (stateOf c cur) := by
  unfold saveCrashAt at hnc
  unfold savedState
  rw [hcur] at hnc ⊢
  dsimp only at hnc ⊢
  rcases getState_cases c cur (r.fstate p) with h1 | ⟨sz, c', hc, ho, h1⟩ | ⟨m, _, _, h1⟩
  · rw [h1]
  · -- the shortcut keeps a state taken at the present mtime: by `StOk` it is the present file's
    have := (hst p _ sz c' ho).2 cur hcur rfl
    rw [h1, ho, hc, ← this.1, ← this.2]; rfl
  · rw [h1] at hnc; cases hnc

theorem save_commit_inv {s : St} (t : Name) (r0 r : Rcd) (deps : List Path) (vals : Values) (res : Option Res)
    (h : Inv s) (hr0 : StOk s.fs s.clock r0)
    (hs : saveSuccess s.checker deps r0 s.fs vals res = .ok r) :
    Inv (commit s t r ⟨deps, s.fs, vals, r.result, s.checker⟩) := by
  obtain ⟨hmiss, hcr, rfl⟩ := saveSuccess_ok hs
  have hsv : ∀ p, p ∈ deps → ∃ cur, s.fs p = some cur ∧ savedState s.checker r0 s.fs p = some (stateOf s.checker cur) :=
    fun p hp => (exists_of_not_missing hmiss hp).imp fun cur hcur =>
      ⟨hcur, savedState_eq hr0 hcur (any_false_of hcr hp)⟩
  refine h.update t ⟨fun p m sz c hp => ?_, fun e he p sm hp => ?_, (⟨rfl, rfl, rfl, rfl, fun p hp => ?_⟩ : AgreeSome _ _)⟩
  · dsimp only at hp
    by_cases hpd : p ∈ deps
    · rw [if_pos hpd] at hp
      obtain ⟨cur, hcur, hsave⟩ := hsv p hpd
      rw [hsave] at hp
      -- a state of the md5 shape written now is the present file's
      cases hc : s.checker with
      | ts => rw [hc] at hp; cases hp
      | md5 =>
        rw [hc] at hp
        cases hp
        refine ⟨h.clk p cur hcur, fun cur' hcur' _ => ?_⟩
        cases hcur.symm.trans hcur'
        exact ⟨rfl, rfl⟩
    · rw [if_neg hpd] at hp
      exact hr0 p m sz c hp
  · cases he
    exact ⟨h.clk p sm hp, fun cur hcur _ => Option.some.inj (hcur.symm.trans hp)⟩
  · obtain ⟨cur, hcur, hsave⟩ := hsv p hp
    exact ⟨cur, hcur, (if_pos hp).trans hsave⟩

theorem Prim.inv {fixed : Bool} {s s' : St} (hp : Prim fixed s s') (h : Inv s) : Inv s' := by
  cases hp with
  | crash _ => exact ⟨h.clk, h.st, h.saw, h.agree⟩
  | erase t => exact h.update t (.empty _ _)
  | write p sz c => exact h.of_later (writeFile_later s p sz c) rfl rfl
  | markIgn t => exact markIgn_inv t h
  | save t r0 vals res r h0 hs =>
    refine save_commit_inv t r0 r _ vals res h ?_ hs
    rcases h0 with rfl | rfl
    · exact h.st t
    · exact StOk_empty _ _

theorem step_inv {fixed : Bool} {s : St} (op : Op) (hop : op.faithful = true) (h : Inv s) : Inv (step fixed s op) := by
  generalize hs : step fixed s op = s'
  cases step_spec.of_eq hs with
  | touch p => exact h.of_later (touch_later s p) rfl rfl
  | delete p => exact h.of_later (delete_later s p) rfl rfl
  | editKeep p sz c => cases hop
  | prims _ _ hst => exact hst.preserves (fun _ _ => Prim.inv) h
  | _ => exact ⟨h.clk, h.st, h.saw, h.agree⟩

theorem foldl_inv {fixed : Bool} (ops : List Op) (hf : Faithful ops = true) (s : St) (h : Inv s) :
    Inv (ops.foldl (step fixed) s) :=
  foldl_preserves (fun _ o => step_inv o) ops (List.all_eq_true.mp hf) h

theorem hist_inv {fixed : Bool} (ops : List Op) (hf : Faithful ops = true) : Inv (runHist fixed ops) :=
  foldl_inv ops hf _ init_inv

end DoitModel.Status
