import DoitModel.Proofs.RunPar
/-! # Closure invariant: only members of the dependency closure of the selection ever get a node, a job or an event -/
namespace DoitModel.Run

/-- `select_task` can set `run_status = 'run'` for `t`: not ignored and not up-to-date -/
def MayRun (inp : RunInput) (t : Name) : Prop := inp.ignored t = false ∧ effStatus inp t = .run

/-- the dependency closure of the selection (static over-approximation of what the dispatcher can reach): closed under
    task_dep, calc_dep, whatever a member delivers as calc result, and the setup-tasks of members that may run -/
inductive Cl (inp : RunInput) : Name → Prop
  | ofSel {t} : t ∈ inp.sel → Cl inp t
  | ofTask {t d} : Cl inp t → d ∈ inp.taskDep t → Cl inp d
  | ofCalc {t d} : Cl inp t → d ∈ inp.calcDep t → Cl inp d
  | ofSetup {t d} : Cl inp t → MayRun inp t → d ∈ inp.setup t → Cl inp d
  | ofRes {c d} : Cl inp c →
      (d ∈ (inp.calcRes c).tasks ∨ d ∈ (inp.calcRes c).files ∨ d ∈ (inp.calcRes c).calcs) → Cl inp d
  | ofResFail {c d} : Cl inp c →      -- what `c` returned before its execution failed is delivered too (`deliverF`)
      (d ∈ (inp.calcResFail c).tasks ∨ d ∈ (inp.calcResFail c).files ∨ d ∈ (inp.calcResFail c).calcs) → Cl inp d

/-- `setupIter` carries `inp.setup n` too: at the loop's end `_node_add_wait_run` gets `task.setup_tasks` itself, not a snapshot -/
def pcCl (inp : RunInput) (n : Name) : PC → Prop
  | .calcIter todo => ∀ d ∈ todo, Cl inp d
  | .taskIter todo => ∀ d ∈ todo, Cl inp d
  | .setupIter todo => (∀ d ∈ todo, Cl inp d) ∧ (∀ d ∈ inp.setup n, Cl inp d)
  | _ => True

/-- `run` is what puts the setup-tasks of `n` into the closure (`Cl.ofSetup`) -/
structure NCl (inp : RunInput) (n : Name) (nd : Node) : Prop where
  self : Cl inp n
  dt : ∀ d ∈ nd.dynTask, Cl inp d
  dc : ∀ d ∈ nd.dynCalc, Cl inp d
  pt : ∀ d ∈ nd.pendTask, Cl inp d
  pcalc : ∀ d ∈ nd.pendCalc, Cl inp d
  st : ∀ d ∈ nd.snapTask, Cl inp d
  sc : ∀ d ∈ nd.snapCalc, Cl inp d
  pcl : pcCl inp n nd.pc
  run : nd.status = .run → MayRun inp n

/-- every task the state names anywhere is in the closure -/
structure MInv (inp : RunInput) (s : Sys) : Prop where
  nodes : ∀ n nd, s.nodes n = some nd → NCl inp n nd
  toRun : ∀ t ∈ s.toRun, Cl inp t
  ev : ∀ e ∈ s.events, ∀ n, Ev.mentions n e = true → Cl inp n
  jobs : ∀ n, Job.task n ∈ s.jobQ → Cl inp n
  held : ∀ n ret, s.rpc = .gRet (.task n) ret → Cl inp n
  wk : ∀ w n, s.workers w = .running n → Cl inp n
  rq : ∀ n ∈ s.resQ, Cl inp n
  td : ∀ n ∈ s.tdown, Cl inp n
  ex : ∀ n, s.rpc = .sExec n → Cl inp n
  yl : ∀ n, s.susp = some (.node n) → Cl inp n

theorem NCl.of_eq {inp : RunInput} {n : Name} {a b : Node} (h : NCl inp n a) (e1 : b.dynTask = a.dynTask)
    (e2 : b.dynCalc = a.dynCalc) (e3 : b.pendTask = a.pendTask) (e4 : b.pendCalc = a.pendCalc)
    (e5 : b.snapTask = a.snapTask) (e6 : b.snapCalc = a.snapCalc) (hpc : pcCl inp n b.pc)
    (hrun : b.status = .run → MayRun inp n) : NCl inp n b :=
  ⟨h.self, e1 ▸ h.dt, e2 ▸ h.dc, e3 ▸ h.pt, e4 ▸ h.pcalc, e5 ▸ h.st, e6 ▸ h.sc, hpc, hrun⟩

theorem mkNode_ncl {inp : RunInput} {t : Name} (anc : List Name) (h : Cl inp t) : NCl inp t (mkNode inp t anc) := by
  refine ⟨h, fun d hd => Cl.ofTask h hd, ?_, fun d hd => Cl.ofTask h hd, ?_, ?_, ?_, trivial, ?_⟩
  · intro d hd; exact Cl.ofCalc h (mem_dedup.mp hd)
  · intro d hd; exact Cl.ofCalc h (mem_dedup.mp hd)
  · intro d hd; simp [mkNode] at hd
  · intro d hd; simp [mkNode] at hd
  · intro e; simp [mkNode] at e

theorem implicitNew_mem {acc fs : List Name} {x : Name} : x ∈ implicitNew acc fs → x ∈ fs := by
  induction fs generalizing acc with
  | nil => simp [implicitNew]
  | cons f t ih =>
    simp only [implicitNew]
    split
    · intro h; exact List.mem_cons_of_mem _ (ih h)
    · intro h
      rcases List.mem_cons.mp h with rfl | h
      · simp
      · exact List.mem_cons_of_mem _ (ih h)

theorem addDeps_ncl {inp : RunInput} {n : Name} {nd : Node} {r : CalcRes} (h : NCl inp n nd)
    (hr : ∀ d, (d ∈ r.tasks ∨ d ∈ r.files ∨ d ∈ r.calcs) → Cl inp d) : NCl inp n (nd.addDeps r) := by
  have nt : ∀ d ∈ newTaskDeps nd r, Cl inp d := by
    intro d hd
    simp only [newTaskDeps, List.mem_append] at hd
    rcases hd with a | a
    · exact hr d (Or.inl a)
    · exact hr d (Or.inr (Or.inl (implicitNew_mem a)))
  have nc : ∀ d ∈ newCalcDeps nd r, Cl inp d := by
    intro d hd
    simp only [newCalcDeps, List.mem_filter] at hd
    exact hr d (Or.inr (Or.inr (mem_dedup.mp hd.1)))
  refine ⟨h.self, ?_, ?_, ?_, ?_, h.st, h.sc, h.pcl, h.run⟩
  · intro d hd; simp only [Node.addDeps, List.mem_append] at hd
    rcases hd with a | a
    · exact h.dt d a
    · exact nt d a
  · intro d hd; simp only [Node.addDeps, List.mem_append] at hd
    rcases hd with a | a
    · exact h.dc d a
    · exact nc d a
  · intro d hd; simp only [Node.addDeps, List.mem_append] at hd
    rcases hd with a | a
    · exact h.pt d a
    · exact nt d a
  · intro d hd; simp only [Node.addDeps, List.mem_append, List.mem_filter] at hd
    rcases hd with a | a
    · exact h.pcalc d a
    · exact nc d a.1

theorem deliver_ncl {inp : RunInput} {n : Name} {nd : Node} (pst : RS) {p : Name} (h : NCl inp n nd)
    (hp : Cl inp p) : NCl inp n (deliver inp pst p nd) := by
  unfold deliver; split
  · exact addDeps_ncl h (fun d hd => Cl.ofRes hp hd)
  · exact h

theorem deliverF_ncl {inp : RunInput} {n : Name} {nd : Node} (ex : Bool) (pst : RS) {p : Name} (h : NCl inp n nd)
    (hp : Cl inp p) : NCl inp n (deliverF inp ex pst p nd) := by
  unfold deliverF; split
  · exact addDeps_ncl h (fun d hd => Cl.ofResFail hp hd)
  · exact h

theorem parentStatus_ncl {inp : RunInput} {n : Name} {nd : Node} (pst : RS) (p : Name) (h : NCl inp n nd) :
    NCl inp n (parentStatus pst p nd) :=
  h.of_eq rfl rfl rfl rfl rfl rfl h.pcl h.run

theorem absorbDone_ncl {inp : RunInput} {s : Sys} {n : Name} (isCalc : Bool) :
    ∀ (ds : List Name) (nd : Node), NCl inp n nd → (∀ d ∈ ds, Cl inp d) → NCl inp n (absorbDone inp s isCalc ds nd) := by
  intro ds
  induction ds with
  | nil => intro nd h _; exact h
  | cons a t ih =>
    intro nd h hds
    simp only [absorbDone]
    split
    · exact ih nd h (fun d hd => hds d (by simp [hd]))
    · apply ih _ _ (fun d hd => hds d (by simp [hd]))
      split
      · exact deliverF_ncl _ _ (deliver_ncl _ (parentStatus_ncl _ _ h) (hds a (by simp))) (hds a (by simp))
      · exact parentStatus_ncl _ _ h

theorem waitNode_ncl {inp : RunInput} {s : Sys} {n : Name} {nd : Node} (ds : List Name) (isCalc : Bool) (pc' : PC)
    (h : NCl inp n nd) (hds : ∀ d ∈ ds, Cl inp d) (hpc : pcCl inp n pc') :
    NCl inp n (waitNode inp s nd ds isCalc pc') := by
  have a := absorbDone_ncl (s := s) isCalc ds nd h hds
  unfold waitNode addWaits
  split <;> exact a.of_eq rfl rfl rfl rfl rfl rfl hpc a.run

theorem wokenNode_ncl {inp : RunInput} {n : Name} {nd : Node} (pst : RS) {p : Name} (h : NCl inp n nd)
    (hp : Cl inp p) : NCl inp n (wokenNode inp pst p nd) := by
  unfold wokenNode
  split
  · exact deliver_ncl _ (h.of_eq rfl rfl rfl rfl rfl rfl h.pcl h.run) hp
  · exact h.of_eq rfl rfl rfl rfl rfl rfl h.pcl h.run

theorem wokenF_ncl {inp : RunInput} {n : Name} {nd : Node} (s : Sys) (pst : RS) {p : Name} (h : NCl inp n nd)
    (hp : Cl inp p) : NCl inp n (wokenF inp s pst p nd) := by
  unfold wokenF
  split
  · exact deliverF_ncl _ _ (wokenNode_ncl pst h hp) hp
  · exact wokenNode_ncl pst h hp

theorem addWaiting_ncl {inp : RunInput} {n : Name} {nd : Node} (m : Name) (h : NCl inp n nd) :
    NCl inp n (nd.addWaiting m) := by
  unfold Node.addWaiting; split
  · exact h
  · exact h.of_eq rfl rfl rfl rfl rfl rfl h.pcl h.run


theorem MInv.disp {inp : RunInput} {s s' : Sys} (h : MInv inp s) (o : SameOuter s s')
    (hn : ∀ n nd, s'.nodes n = some nd → NCl inp n nd) (ht : ∀ t ∈ s'.toRun, t ∈ s.toRun)
    (hy : ∀ n, s'.susp = some (.node n) → Cl inp n) : MInv inp s' := by
  obtain ⟨o1, o2, o3, o4, o5, _, _, o8, _⟩ := o
  exact ⟨hn, fun t a => h.toRun t (ht t a), by rw [o1]; exact h.ev, by rw [o3]; exact h.jobs,
    by rw [o2]; exact h.held, by rw [o5]; exact h.wk, by rw [o4]; exact h.rq, by rw [o8]; exact h.td,
    by rw [o2]; exact h.ex, hy⟩

theorem ncl_setNode {inp : RunInput} {s : Sys} {n : Name} {x : Node} (h : ∀ k y, s.nodes k = some y → NCl inp k y)
    (hx : NCl inp n x) : ∀ k y, (setNode s n x).nodes k = some y → NCl inp k y := by
  intro k y hk
  simp only [setNode_nodes] at hk
  split at hk
  · rename_i e; subst e; cases hk; exact hx
  · exact h k y hk

theorem ncl_registerWaiting {inp : RunInput} {s : Sys} (n : Name) (wf : List Name)
    (h : ∀ k y, s.nodes k = some y → NCl inp k y) :
    ∀ k y, (registerWaiting s n wf).nodes k = some y → NCl inp k y := by
  intro k y hk
  rw [registerWaiting_nodes] at hk
  cases hx : s.nodes k with
  | none => rw [hx] at hk; cases hk
  | some x =>
    rw [hx] at hk
    by_cases e : k ∈ wf
    · simp only [e, if_true, Option.some.injEq] at hk; subst hk; exact addWaiting_ncl n (h k x hx)
    · simp only [e, if_false, Option.some.injEq] at hk; subst hk; exact h k x hx

theorem genStep_ncl {inp : RunInput} {s : Sys} {n : Name} {nd : Node} (d : Name) (pc' : PC)
    (h : ∀ k y, s.nodes k = some y → NCl inp k y) (hn : s.nodes n = some nd) (hd : Cl inp d)
    (hpc : pcCl inp n pc') : ∀ k y, (genStep inp s n nd d pc').nodes k = some y → NCl inp k y := by
  have hx : NCl inp n { nd with pc := pc' } := (h n nd hn).of_eq rfl rfl rfl rfl rfl rfl hpc (h n nd hn).run
  generalize hg : genStep inp s n nd d pc' = g
  cases genStep_spec hg with
  | fresh => exact ncl_setNode (ncl_setNode h (mkNode_ncl _ hd)) hx
  | cyclic => exact h
  | known => exact ncl_setNode h hx

theorem genStep_susp_none (inp : RunInput) (s : Sys) (n : Name) (nd : Node) (d : Name) (pc' : PC)
    (hs : s.susp = none) (m : Name) : (genStep inp s n nd d pc').susp ≠ some (.node m) := by
  intro e; have := genStep_susp inp s n nd d pc' m e; rw [hs] at this; cases this

theorem addWaitRun_ncl {inp : RunInput} {s : Sys} {n : Name} {nd : Node} (ds : List Name) (c : Bool) (pc' : PC)
    (h : ∀ k y, s.nodes k = some y → NCl inp k y) (hn : s.nodes n = some nd) (hds : ∀ d ∈ ds, Cl inp d)
    (hpc : pcCl inp n pc') : ∀ k y, (addWaitRun inp s n nd ds c pc').nodes k = some y → NCl inp k y := by
  unfold addWaitRun
  exact ncl_registerWaiting n _ (ncl_setNode h (waitNode_ncl ds c pc' (h n nd hn) hds hpc))

theorem NodeMove.ncl {inp : RunInput} {n : Name} {nd x : Node} {perm : List Name} (h : NodeMove inp n nd perm x)
    (hnd : NCl inp n nd) : NCl inp n x := by
  cases h with
  | loopTop _ hperm =>
    have hsnap : ∀ d ∈ perm, Cl inp d := fun d hd => hnd.pcalc d (hperm.mem_iff.mp hd)
    exact ⟨hnd.self, hnd.dt, hnd.dc, by simp, by simp, hnd.pt, hsnap, hsnap, hnd.run⟩
  | setupGo _ hrun =>
    have hall : ∀ d ∈ inp.setup n, Cl inp d := fun d hd => Cl.ofSetup hnd.self (hnd.run hrun) hd
    exact hnd.of_eq rfl rfl rfl rfl rfl rfl ⟨hall, hall⟩ hnd.run
  | _ => exact hnd.of_eq rfl rfl rfl rfl rfl rfl trivial hnd.run

theorem NodePark.ncl {inp : RunInput} {n : Name} {nd x : Node} (h : NodePark inp n nd x) (hnd : NCl inp n nd) :
    NCl inp n x := by
  cases h <;> exact hnd.of_eq rfl rfl rfl rfl rfl rfl trivial hnd.run

theorem NodeStep.ncl {inp : RunInput} {s s' : Sys} {n : Name} {nd : Node} {perm : List Name}
    (h : ∀ k y, s.nodes k = some y → NCl inp k y) (hn : s.nodes n = some nd) (hs : NodeStep inp s n nd perm s') :
    ∀ k y, s'.nodes k = some y → NCl inp k y := by
  have hnd := h n nd hn
  have hp := hnd.pcl
  cases hs with
  | move hm => exact ncl_setNode h (hm.ncl hnd)
  | park hk => exact ncl_setNode h (hk.ncl hnd)
  | yield1 | yield2 => exact ncl_setNode h (hnd.of_eq rfl rfl rfl rfl rfl rfl trivial hnd.run)
  | @calcGen d ds hpc | @taskGen d ds hpc =>
    rw [hpc] at hp
    exact genStep_ncl d _ h hn (hp d (by simp)) (fun x hx => hp x (by simp [hx]))
  | @setupGen d ds hpc =>
    rw [hpc] at hp
    exact genStep_ncl d _ h hn (hp.1 d (by simp)) ⟨fun x hx => hp.1 x (by simp [hx]), hp.2⟩
  | calcWait => exact addWaitRun_ncl _ _ _ h hn hnd.sc hnd.st
  | taskWait => exact addWaitRun_ncl _ _ _ h hn hnd.st trivial
  | setupWait hpc => rw [hpc] at hp; exact addWaitRun_ncl _ _ _ h hn hp.2 trivial
  | done => exact h

theorem nodeStep_ncl {inp : RunInput} {s s' : Sys} {n : Name} {nd : Node} {perm : List Name}
    (h : ∀ k y, s.nodes k = some y → NCl inp k y) (hn : s.nodes n = some nd)
    (hs : nodeStep inp s n nd perm = some s') : ∀ k y, s'.nodes k = some y → NCl inp k y :=
  (nodeStep_spec hs).ncl h hn

theorem genStep_toRun (inp : RunInput) (s : Sys) (n : Name) (nd : Node) (d : Name) (pc' : PC) :
    (genStep inp s n nd d pc').toRun = s.toRun := by
  generalize hg : genStep inp s n nd d pc' = g
  cases genStep_spec hg <;> rfl

theorem NodeStep.toRun {inp : RunInput} {s s' : Sys} {n : Name} {nd : Node} {perm : List Name}
    (h : NodeStep inp s n nd perm s') : s'.toRun = s.toRun := by
  cases h with
  | calcGen | taskGen | setupGen => exact genStep_toRun ..
  | _ => rfl

theorem Dtick.toRun {inp : RunInput} {s s' : Sys} {perm : List Name} (h : Dtick inp s perm s') :
    s'.toRun = s.toRun ∨
      ∃ t, s.toRun = t :: s'.toRun ∧ s.cur = none ∧ s.ready = [] ∧ ∃ nd, s'.nodes t = some nd := by
  cases h with
  | node _ _ hns => exact .inl hns.toRun
  | @create t ts hc hr ht => exact .inr ⟨t, ht, hc, hr, mkNode inp t [t], if_pos rfl⟩
  | @skip t ts x hc hr ht hn => exact .inr ⟨t, ht, hc, hr, x, hn⟩
  | _ => exact .inl rfl

theorem dtick_minv {inp : RunInput} {s s' : Sys} {perm : List Name} (h : MInv inp s) (hsusp : s.susp = none)
    (hs : dtick inp s perm = some s') : MInv inp s' := by
  have hsp := dtick_spec hs
  have ht : ∀ t ∈ s'.toRun, t ∈ s.toRun := by
    rcases hsp.toRun with e | ⟨t, e, _⟩ <;> rw [e]
    · exact fun _ a => a
    · exact fun _ a => List.mem_cons_of_mem _ a
  have hn' : ∀ k y, s'.nodes k = some y → NCl inp k y := by
    cases hsp with
    | node _ hn hns => exact hns.ncl h.nodes hn
    | @create t ts _ _ e => exact ncl_setNode h.nodes (mkNode_ncl _ (h.toRun t (by rw [e]; exact List.mem_cons_self)))
    | _ => exact h.nodes
  refine h.disp (dtick_outer hs) hn' ht ?_
  -- a node is yielded from `self1` / `self2` only: it exists
  intro n hn
  obtain ⟨nd, _, hc⟩ := dtick_yield hs hsusp n hn
  rcases hc with ⟨_, e⟩ | ⟨_, e⟩ <;> exact (hn' n _ e).self

theorem wakeOne_ncl {inp : RunInput} {s : Sys} {pst : RS} {p w : Name} {nd : Node}
    (h : ∀ k y, s.nodes k = some y → NCl inp k y) (hw : s.nodes w = some nd) (hp : Cl inp p) :
    ∀ k y, (wakeOne inp s pst p w nd).nodes k = some y → NCl inp k y := by
  have := ncl_setNode h (wokenF_ncl s pst (h w nd hw) hp)
  unfold wakeOne; split
  · exact this
  · exact this

theorem sendHead_ncl {inp : RunInput} {s : Sys} {p : Name} {nd : Node}
    (h : ∀ k y, s.nodes k = some y → NCl inp k y) (hn : s.nodes p = some nd) :
    ∀ k y, (sendHead s p nd).nodes k = some y → NCl inp k y := by
  have hnd := h p nd hn
  unfold sendHead; split
  · exact ncl_setNode h (hnd.of_eq rfl rfl rfl rfl rfl rfl hnd.pcl hnd.run)
  · exact h

theorem wakeOne_toRun (inp : RunInput) (s : Sys) (pst : RS) (p w : Name) (nd : Node) :
    (wakeOne inp s pst p w nd).toRun = s.toRun := by
  unfold wakeOne; split <;> rfl

theorem sendHead_toRun (s : Sys) (p : Name) (nd : Node) : (sendHead s p nd).toRun = s.toRun := by
  unfold sendHead; split <;> rfl

theorem send_toRun {inp : RunInput} {s s' : Sys} {processed : Option Name} {perm : List Name}
    (hs : send inp s processed perm = some s') : s'.toRun = s.toRun :=
  send_ind (P := fun a => a.toRun = s.toRun) (fun _ _ _ h => h) (fun _ _ _ _ _ _ => sendHead_toRun ..)
    (fun _ _ _ _ _ _ _ _ _ _ h => (wakeOne_toRun ..).trans h) rfl hs

theorem send_nclNodes {inp : RunInput} {s s' : Sys} {processed : Option Name} {perm : List Name}
    (h : ∀ k y, s.nodes k = some y → NCl inp k y) (hs : send inp s processed perm = some s') :
    ∀ k y, s'.nodes k = some y → NCl inp k y :=
  send_ind (P := fun a => ∀ k y, a.nodes k = some y → NCl inp k y) (fun _ _ _ ha => ha)
    (fun _ _ _ hn _ ha => sendHead_ncl ha hn)
    (fun _ p nd0 _ _ _ hn0 _ hw _ ha => wakeOne_ncl ha hw (h p nd0 hn0).self) h hs

theorem send_minv {inp : RunInput} {s s0 : Sys} {processed : Option Name} {perm : List Name} (rpc' : RPC)
    (h : MInv inp s) (hs : send inp s processed perm = some s0)
    (hr2 : ∀ n ret, rpc' ≠ .gRet (.task n) ret) (hr3 : ∀ n, rpc' ≠ .sExec n) :
    MInv inp { s0 with rpc := rpc' } := by
  obtain ⟨⟨o1, o2, o3, o4, o5, _, _, o8, _⟩, osusp⟩ := send_outer hs
  have ht := send_toRun hs
  have hn := send_nclNodes h.nodes hs
  refine ⟨hn, ?_, ?_, ?_, ?_, ?_, ?_, ?_, ?_, ?_⟩
  · intro t a; exact h.toRun t (by rw [← ht]; exact a)
  · show ∀ e ∈ s0.events, _; rw [o1]; exact h.ev
  · show ∀ n, Job.task n ∈ s0.jobQ → _; rw [o3]; exact h.jobs
  · intro n ret a; exact absurd a (hr2 n ret)
  · show ∀ w n, s0.workers w = _ → _; rw [o5]; exact h.wk
  · show ∀ n ∈ s0.resQ, _; rw [o4]; exact h.rq
  · show ∀ n ∈ s0.tdown, _; rw [o8]; exact h.td
  · intro n a; exact absurd a (hr3 n)
  · intro n a; rcases osusp with e | e <;> (simp only [e] at a; cases a)

theorem sel_mayRun {inp : RunInput} {n : Name} {nd : Node} (hst : nd.status ≠ .run)
    (hd : selStatus (selDecision inp n nd) = .run) : MayRun inp n := by
  generalize hdd : selDecision inp n nd = d at hd
  have eff : inp.statusOf n ≠ .error → effStatus inp n ≠ .utd → effStatus inp n = .run := by
    unfold effStatus; split
    · intros; rfl
    · cases inp.statusOf n <;> simp
  cases selDecision_spec.of_eq hdd with
  | runFirst _ _ hi _ he hu | go1 _ _ hi _ he hu => exact ⟨hi, eff he hu⟩
  | go2 hr => exact absurd hr hst
  | _ => cases hd

/-- `select_task` / `process_task_result` / start of execution: what the runner itself does -/
theorem MInv.runner {inp : RunInput} {s s' : Sys} {n : Name} {nd : Node} (h : MInv inp s)
    (hn : s.nodes n = some nd) (st' : RS) (hrun : st' = .run → nd.status = .run ∨ MayRun inp n)
    (e1 : s'.nodes = (setNode s n { nd with status := st' }).nodes) (e2 : s'.toRun = s.toRun)
    (hev : ∀ e ∈ s'.events, e ∈ s.events ∨ ∀ m, Ev.mentions m e = true → m = n)
    (e3 : s'.jobQ = s.jobQ) (e4 : s'.workers = s.workers) (e5 : ∀ m ∈ s'.resQ, m ∈ s.resQ)
    (e6 : ∀ m ∈ s'.tdown, m ∈ s.tdown ∨ m = n)
    (hh : ∀ m ret, s'.rpc = .gRet (.task m) ret → m = n) (hx : ∀ m, s'.rpc = .sExec m → m = n)
    (e7 : s'.susp = s.susp) : MInv inp s' := by
  have hnd := h.nodes n nd hn
  have cn : Cl inp n := hnd.self
  refine ⟨?_, by rw [e2]; exact h.toRun, ?_, by rw [e3]; exact h.jobs, fun m r a => (hh m r a) ▸ cn,
    by rw [e4]; exact h.wk, fun m a => h.rq m (e5 m a), ?_, fun m a => (hx m a) ▸ cn, by rw [e7]; exact h.yl⟩
  · rw [e1]
    refine ncl_setNode h.nodes (hnd.of_eq rfl rfl rfl rfl rfl rfl hnd.pcl ?_)
    intro e
    rcases hrun e with a | a
    · exact hnd.run a
    · exact a
  · intro e he m hm
    rcases hev e he with a | a
    · exact h.ev e a m hm
    · exact (a m hm) ▸ cn
  · intro m hm
    rcases e6 m hm with a | a
    · exact h.td m a
    · exact a ▸ cn

end DoitModel.Run
