import DoitModel.Proofs.RunPar
import DoitModel.Proofs.RunMove
import DoitModel.Proofs.C08Den
/-! # C08 (I10): the invariants stated with the denotation `DenOf` of graphs without calc_dep, as definitions

`NodeS` / `InvN` (soundness of `bad_deps` / `ignored_deps`), `InvE` (statuses, `go` marks and reports agree with `DenOf`),
`InvDen`.  They hold in every reachable state of a `NoCalc` input (`reach_invDen` in `Proofs/C08DynStatic.lean`, from
`Dyn.InvDen`).  Further, facts about `select_task` / `process_task_result` that mention no denotation. -/
namespace DoitModel.Run

/-- the setup-tasks have been passed to `_node_add_wait_run` (or the generator is exhausted) -/
def PC.late : PC → Bool
  | .afterSetup | .self2 | .afterSelf2 | .done => true
  | _ => false
/-- inside the `if node.run_status == 'run'` branch -/
def PC.ph2 : PC → Bool
  | .setupIter _ | .afterSetup | .self2 | .afterSelf2 => true
  | _ => false

/-- where an entry of `wait_run` / `bad_deps` / `ignored_deps` of node `n` can come from -/
def Src (inp : RunInput) (n : Name) (pc : PC) (p : Name) : Prop :=
  p ∈ inp.taskDep n ∨ (pc.late = true ∧ p ∈ inp.setup n)

structure NodeS (inp : RunInput) (s : Sys) (n : Name) (nd : Node) : Prop where
  noC : nd.pendCalc = [] ∧ nd.snapCalc = [] ∧ nd.waitRunCalc = []
  pend : ∀ d ∈ nd.pendTask, d ∈ inp.taskDep n
  snap : ∀ d ∈ nd.snapTask, d ∈ inp.taskDep n
  wait : ∀ d ∈ nd.waitRun, Src inp n nd.pc d
  bad : ∀ p ∈ nd.bad, stOf s p = .fail ∧ Src inp n nd.pc p
  ign : ∀ p ∈ nd.ign, stOf s p = .ign ∧ Src inp n nd.pc p
  ph2 : nd.pc.ph2 = true → nd.status ≠ .none

theorem NodeS.stable {inp : RunInput} {s s' : Sys} {n : Name} {a : Node} (h : NodeS inp s n a) (hst : Stable s s') :
    NodeS inp s' n a := by
  refine ⟨h.noC, h.pend, h.snap, h.wait, ?_, ?_, h.ph2⟩
  · intro p hp
    obtain ⟨a1, a2⟩ := h.bad p hp
    exact ⟨by rw [hst p (by rw [a1]; rfl)]; exact a1, a2⟩
  · intro p hp
    obtain ⟨a1, a2⟩ := h.ign p hp
    exact ⟨by rw [hst p (by rw [a1]; rfl)]; exact a1, a2⟩

def InvN (inp : RunInput) (s : Sys) : Prop := ∀ n nd, s.nodes n = some nd → NodeS inp s n nd

theorem stable_create {inp : RunInput} {s : Sys} {t : Name} (anc : List Name) (ht : s.nodes t = none) :
    ∀ x, stOf (setNode s t (mkNode inp t anc)) x = stOf s x := by
  intro d; rw [stOf_setNode]
  by_cases e : d = t
  · subst e; simp only [stOf, ht, mkNode, if_true]
  · rw [if_neg e]

/-- the first pass of `select_task(n)` said `run`, justified by derived outcomes of the task_deps -/
def R1 (inp : RunInput) (n : Name) : Prop :=
  ∃ dd : Name → Den, (∀ d ∈ inp.taskDep n, DenOf inp d (dd d)) ∧ stage1 inp dd n = .run

/-- `select_task(n)` answered `True`: both passes are through, the outcome of `n` is what its actions do -/
def GoOK (inp : RunInput) (n : Name) : Prop :=
  ∃ dd : Name → Den, (∀ d ∈ inp.taskDep n, DenOf inp d (dd d)) ∧ stage1 inp dd n = .run ∧
    (∀ d ∈ inp.setup n, DenOf inp d (dd d)) ∧ stage2 inp dd n = resDen (inp.outcome n)

structure InvE (inp : RunInput) (s : Sys) : Prop where
  fin : ∀ n, (stOf s n).finished = true → ∃ d, DenOf inp n d ∧ d.rs = stOf s n
  run1 : ∀ n, stOf s n = .run → R1 inp n
  go : ∀ n deps, Ev.go n deps ∈ s.events → GoOK inp n
  rep : ∀ e ∈ s.events, ∀ t d, Ev.den? t e = some d → DenOf inp t d

/-- events that carry neither a terminal report nor a `go` mark -/
def Ev.plainD (e : Ev) : Prop := (∀ t, Ev.den? t e = none) ∧ (∀ n deps, e ≠ .go n deps)

theorem InvE.frame {inp : RunInput} {s s' : Sys} (h : InvE inp s) (hst : ∀ x, stOf s' x = stOf s x)
    (new : List Ev) (hev : s'.events = new ++ s.events) (hp : ∀ e ∈ new, Ev.plainD e) : InvE inp s' := by
  constructor
  · intro n hn; rw [hst] at hn ⊢; exact h.fin n hn
  · intro n hn; rw [hst] at hn; exact h.run1 n hn
  · intro n deps hm; rw [hev] at hm
    rcases List.mem_append.mp hm with a | a
    · exact absurd rfl ((hp _ a).2 n deps)
    · exact h.go n deps a
  · intro e he t d hd; rw [hev] at he
    rcases List.mem_append.mp he with a | a
    · rw [(hp e a).1 t] at hd; cases hd
    · exact h.rep e a t d hd

theorem InvE.congr {inp : RunInput} {s s' : Sys} (h : InvE inp s) (e1 : s'.nodes = s.nodes)
    (e2 : s'.events = s.events) : InvE inp s' :=
  h.frame (stOf_congr e1) [] (by simpa using e2) (by simp)

theorem statusEv_plainD (nd : Node) (n : Name) : ∀ e ∈ statusEv nd n, Ev.plainD e := by
  intro e he; unfold statusEv at he; split at he
  · simp at he; subst he; exact ⟨fun _ => rfl, fun _ _ x => by cases x⟩
  · cases he

def selDen : Sel → Option Den
  | .skipIgn => some .ign | .unmet => some (.fail .unmet) | .depErr => some (.fail .depErr) | .utd => some .utd
  | .argsErr => some (.fail .depErr) | _ => none

theorem selStatus_fin {dec : Sel} (h : (selStatus dec).finished = true) :
    ∃ d, selDen dec = some d ∧ d.rs = selStatus dec := by
  cases dec <;> first | exact ⟨_, rfl, rfl⟩ | cases h

theorem selStatus_run {dec : Sel} (h : selStatus dec = .run) : dec = .runFirst ∨ dec = .go := by
  cases dec <;> first | exact Or.inl rfl | exact Or.inr rfl | cases h

theorem go_mem_selEvents {inp : RunInput} {n m : Name} {nd : Node} {deps : List Name} {dec : Sel}
    (h : Ev.go m deps ∈ selEvents inp n nd dec) : dec = .go ∧ m = n := by
  cases dec <;> simp [selEvents, statusEv_noGo] at h
  exact ⟨rfl, h.1⟩

theorem den?_selEvents {inp : RunInput} {n t : Name} {nd : Node} {dec : Sel} {e : Ev} {d : Den}
    (he : e ∈ selEvents inp n nd dec) (hd : Ev.den? t e = some d) : t = n ∧ selDen dec = some d := by
  have hs : e ∉ statusEv nd n := fun h' => by rw [(statusEv_plainD nd n e h').1 t] at hd; cases hd
  cases dec <;> simp only [selEvents, List.mem_cons, hs, or_false, List.not_mem_nil] at he <;> subst he <;>
    simp only [Ev.den?, Option.ite_none_right_eq_some, Option.some.injEq, reduceCtorEq] at hd <;>
    exact ⟨hd.1.symm, congrArg some hd.2⟩

theorem resDen_rs (o : Outcome) : (resDen o).rs = resStatus o := by cases o <;> rfl

theorem den?_resEvents {n t : Name} {o : Outcome} {e : Ev} {d : Den} (he : e ∈ resEvents n o)
    (hd : Ev.den? t e = some d) : t = n ∧ d = resDen o := by
  cases o <;> simp only [resEvents, List.mem_singleton] at he <;> subst he <;>
    simp only [Ev.den?, Option.ite_none_right_eq_some, Option.some.injEq] at hd <;> exact ⟨hd.1.symm, hd.2.symm⟩

theorem Den.isIgn_iff (d : Den) : d.isIgn = true ↔ d.rs = .ign := by cases d <;> simp [Den.isIgn, Den.rs]
theorem Den.isFail_iff (d : Den) : d.isFail = true ↔ d.rs = .fail := by cases d <;> simp [Den.isFail, Den.rs]

/-- "some dependency in `L` has outcome `r`" is the same as "the list `X` (bad_deps / ignored_deps) is non-empty" when
    `X` is complete and sound for `L` -/
theorem any_iff_ne_nil (dd : Name → Den) (st : Name → RS) (L X : List Name) (r : RS) (f : Den → Bool)
    (hf : ∀ d, f d = true ↔ d.rs = r)
    (hL : ∀ d ∈ L, (dd d).rs = st d ∧ (st d = r → d ∈ X)) (hX : ∀ p ∈ X, st p = r ∧ p ∈ L) :
    L.any (fun d => f (dd d)) = true ↔ X ≠ [] := by
  rw [List.any_eq_true]
  constructor
  · rintro ⟨d, hd, hfd⟩
    have := (hL d hd).2 (by rw [← (hL d hd).1]; exact (hf _).mp hfd)
    intro e; rw [e] at this; cases this
  · intro hne
    cases hX' : X with
    | nil => exact absurd hX' hne
    | cons p t =>
      have := hX p (by rw [hX']; simp)
      exact ⟨p, this.2, (hf _).mpr (by rw [(hL p this.2).1]; exact this.1)⟩

theorem sel2_stage2 {inp : RunInput} {n : Name} {nd : Node} {dd : Name → Den} (h0 : nd.status = .run)
    (hs : inp.setup n ≠ [])
    (hI : (inp.setup n).any (fun d => (dd d).isIgn) = true ↔ nd.ign ≠ [])
    (hB : (inp.setup n).any (fun d => (dd d).isFail) = true ↔ nd.bad ≠ []) :
    match selDecision inp n nd with
    | .skipIgn => stage2 inp dd n = .ign
    | .unmet => stage2 inp dd n = .fail .unmet
    | .go => stage2 inp dd n = resDen (inp.outcome n)
    | .argsErr => stage2 inp dd n = .fail .depErr
    | _ => False := by
  unfold selDecision stage2
  have hn : ¬ (nd.status ≠ .run ∨ inp.setup n = []) := by rw [h0]; simp [hs]
  have h0' : ¬ (nd.status = .none) := by rw [h0]; simp
  simp only [h0', hn, if_false, hI, hB]
  by_cases c1 : nd.ign ≠ []
  · simp [c1]
  · by_cases c2 : nd.bad ≠ []
    · simp [c1, c2]
    · by_cases c3 : inp.argsOk n = true
      · simp [c1, c2, c3]
      · simp [c1, c2, c3]

theorem secondPass_report {inp : RunInput} {dd : Name → Den} {n : Name} {dec : Sel} {d : Den}
    (k : match dec with
      | .skipIgn => stage2 inp dd n = .ign
      | .unmet => stage2 inp dd n = .fail .unmet
      | .go => stage2 inp dd n = resDen (inp.outcome n)
      | .argsErr => stage2 inp dd n = .fail .depErr
      | _ => False) (h : selDen dec = some d) : stage2 inp dd n = d := by
  cases dec <;> cases h <;> first | exact k | exact k.elim

/-- node-local soundness of `bad_deps`/`ignored_deps` + agreement of statuses, `go` marks and reports with `DenOf` -/
structure InvDen (inp : RunInput) (s : Sys) : Prop where
  nodeS : InvN inp s
  den : InvE inp s

theorem InvDen.rep {inp : RunInput} {s : Sys} (h : InvDen inp s) (n : Name) :
    (Ev.success n ∈ s.events → DenOf inp n .ok) ∧ (Ev.skipUtd n ∈ s.events → DenOf inp n .utd) ∧
    (Ev.skipIgn n ∈ s.events → DenOf inp n .ign) ∧ (∀ k, Ev.failure n k ∈ s.events → DenOf inp n (.fail k)) :=
  ⟨fun a => h.den.rep _ a n _ (by simp [Ev.den?]), fun a => h.den.rep _ a n _ (by simp [Ev.den?]),
   fun a => h.den.rep _ a n _ (by simp [Ev.den?]), fun k a => h.den.rep _ a n _ (by simp [Ev.den?])⟩

theorem resStatus_ne_none (o : Outcome) : resStatus o ≠ .none := by cases o <;> simp [resStatus]

theorem go_of_cGo {s : Sys} {n : Name} (h : cGo s n ≥ 1) : ∃ deps, Ev.go n deps ∈ s.events := by
  unfold cGo at h
  obtain ⟨e, he, hp⟩ := List.countP_pos_iff.mp h
  cases e <;> simp [Ev.isGoOf] at hp
  subst hp
  exact ⟨_, he⟩

theorem work_plainD {new : List Ev} (h : ∀ e ∈ new, e.work = true) : ∀ e ∈ new, Ev.plainD e := by
  intro e he
  have := h e he
  cases e with
  | execute | start | fin => exact ⟨fun _ => rfl, fun _ _ x => by cases x⟩
  | _ => cases this

theorem teardown_plainD (l : List Name) : ∀ e ∈ Ev.complete :: l.map Ev.teardown, Ev.plainD e := by
  intro e he
  simp only [List.mem_cons, List.mem_map] at he
  rcases he with rfl | ⟨a, _, rfl⟩ <;> exact ⟨fun _ => rfl, fun _ _ x => by cases x⟩

/-- the task whose result is processed is in execution and was answered `go` -/
theorem result_run {inp : RunInput} {s : Sys} {n : Name} {nd : Node} (h2 : Inv2 inp s) (h3 : Inv3 inp s)
    (hn : s.nodes n = some nd) (src : s.rpc = .sExec n ∨ n ∈ s.resQ) : nd.status = .run ∧ cGo s n ≥ 1 := by
  have hst : stOf s n = nd.status := by simp only [stOf, hn]
  have := h3.j n
  rcases src with hr | hq
  · exact ⟨hst.symm.trans (h2.x n hr), by have := (h3.x3 n hr).1; omega⟩
  · exact ⟨hst.symm.trans (h3.q1 n hq).2, by have := (h3.q1 n hq).1; have := (h3.p0 n).2; omega⟩

end DoitModel.Run
