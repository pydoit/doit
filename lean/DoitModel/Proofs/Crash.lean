import DoitModel.Model.Crash
/-! Kill and interruption soundness (C06).  Every disk model keeps its stores legitimate (`LegitStore`): each primitive
    is a point update by nothing or by a record the run saved, so whatever a later invocation reads back is
    legitimate.  The interruption lemmas say which effects a run has at all. -/
namespace DoitModel.Crash

theorem legit_mono_save (old : Store) (effs : List Eff) (t : T) (r : R) (h : Eff.save t r ∈ effs) :
    Legit old effs t r := Or.inr h

def LegitStore (old : Store) (effs : List Eff) (s : Store) : Prop := ∀ t r, s t = some r → Legit old effs t r

variable {old : Store} {effs : List Eff}

theorem legitStore_old (old : Store) (effs : List Eff) : LegitStore old effs old := fun _ _ h => Or.inl h

theorem LegitStore.upd {s : Store} (h : LegitStore old effs s) (t : T) (v : Option R)
    (hv : ∀ r, v = some r → Legit old effs t r) : LegitStore old effs (fun x => if x = t then v else s x) := by
  intro x r hx
  by_cases hxt : x = t
  · exact hxt ▸ hv r ((if_pos hxt).symm.trans hx)
  · exact h x r ((if_neg hxt).symm.trans hx)

theorem LegitStore.save {s : Store} (h : LegitStore old effs s) (t : T) (r : R) (hs : Eff.save t r ∈ effs) :
    LegitStore old effs (fun x => if x = t then some r else s x) :=
  h.upd t (some r) fun _ hr => by cases hr; exact Or.inr hs

theorem LegitStore.remove {s : Store} (h : LegitStore old effs s) (t : T) :
    LegitStore old effs (fun x => if x = t then none else s x) :=
  h.upd t none fun _ hr => nomatch hr

theorem LegitStore.slot {s : Store} (h : LegitStore old effs s) (t : T) : SlotLegit old effs t (slotOf (s t)) := by
  cases hs : s t with
  | none => exact True.intro
  | some r => exact h t r hs

theorem foldl_legit (es : List Eff) : ∀ s : Store, (∀ e ∈ es, e ∈ effs) → LegitStore old effs s →
    LegitStore old effs (es.foldl applyEff s) := by
  induction es with
  | nil => intro _ _ h; exact h
  | cons e es ih =>
    intro s hs h
    refine ih _ (fun e' he' => hs e' (List.mem_cons_of_mem _ he')) ?_
    have he := hs e (List.mem_cons_self ..)
    cases e with
    | save t r => exact h.save t r he
    | remove t => exact h.remove t

theorem finalStore_legit (old : Store) (effs : List Eff) : LegitStore old effs (finalStore old effs) :=
  foldl_legit effs old (fun _ h => h) (legitStore_old old effs)

theorem json_fold_cases (d : JDisk) (prims : List JPrim) (fin : Store)
    (hp : ∀ p ∈ prims, p = .trunc ∨ p = .chunk ∨ p = .last fin) :
    prims.foldl jApply d = d ∨ prims.foldl jApply d = .torn ∨ prims.foldl jApply d = .complete fin := by
  induction prims generalizing d with
  | nil => exact .inl rfl
  | cons p ps ih =>
    rcases ih (jApply d p) fun q hq => hp q (List.mem_cons_of_mem _ hq) with h | h | h
    · rcases hp p (List.mem_cons_self ..) with hp' | hp' | hp' <;> subst hp'
      · exact .inr (.inl h)
      · exact .inr (.inl h)
      · exact .inr (.inr h)
    · exact .inr (.inl h)
    · exact .inr (.inr h)

theorem qFold_committed (prims : List QPrim) : ∀ d : QDisk, QPrim.commit ∉ prims →
    (prims.foldl qApply d).committed = d.committed := by
  induction prims with
  | nil => intro _ _; rfl
  | cons p ps ih =>
    intro d hp
    rw [List.mem_cons, not_or] at hp
    cases p with
    | commit => exact absurd rfl hp.1
    | _ => exact ih _ hp.2

theorem commit_not_mem_take (effs : List Eff) (dirty : List (T × R)) (k : Nat)
    (hk : k < (sqliteProtocol effs dirty).length) : QPrim.commit ∉ (sqliteProtocol effs dirty).take k := by
  intro hm
  unfold sqliteProtocol at hk hm
  rw [List.length_append, List.length_singleton] at hk
  rw [List.take_append_of_le_length (Nat.le_of_lt_succ hk)] at hm
  have := List.mem_of_mem_take hm
  simp only [List.mem_append, List.mem_map] at this
  rcases this with ⟨t, _, h⟩ | ⟨q, _, h⟩ <;> cases h

theorem qFold_legit (prims : List QPrim) : ∀ d : QDisk,
    (∀ t r, QPrim.upsert t r ∈ prims → Eff.save t r ∈ effs) →
    LegitStore old effs d.committed → LegitStore old effs d.txn →
    LegitStore old effs (prims.foldl qApply d).committed ∧ LegitStore old effs (prims.foldl qApply d).txn := by
  induction prims with
  | nil => intro _ _ hc ht; exact ⟨hc, ht⟩
  | cons p ps ih =>
    intro d hp hc ht
    have hp' := fun t r h => hp t r (List.mem_cons_of_mem _ h)
    cases p with
    | delete t => exact ih _ hp' hc (ht.remove t)
    | upsert t r => exact ih _ hp' hc (ht.save t r (hp t r (List.mem_cons_self ..)))
    | commit => exact ih _ hp' ht ht

theorem sqliteProtocol_upserts (effs : List Eff) (dirty : List (T × R))
    (hd : ∀ p ∈ dirty, Eff.save p.1 p.2 ∈ effs) (t : T) (r : R)
    (h : QPrim.upsert t r ∈ sqliteProtocol effs dirty) : Eff.save t r ∈ effs := by
  simp only [sqliteProtocol, List.mem_append, List.mem_map, List.mem_singleton] at h
  rcases h with (⟨x, _, h⟩ | ⟨q, hq, h⟩) | h <;> cases h
  exact hd q hq

structure DInv (old : Store) (effs : List Eff) (d : DDisk) : Prop where
  memLegit : LegitStore old effs d.mem
  diskLegit : ∀ t, SlotLegit old effs t (d.disk t)

theorem dInit_inv (old : Store) (effs : List Eff) : DInv old effs (dInit old) :=
  ⟨legitStore_old old effs, (legitStore_old old effs).slot⟩

/-- a torn commit keeps a subset of the index -/
theorem LegitStore.kept {s : Store} (h : LegitStore old effs s) (keep : T → Bool) (t : T) :
    SlotLegit old effs t (if keep t then commitDisk s t else .absent) := by
  cases keep t
  · exact True.intro
  · exact h.slot t

/-- a primitive is admissible when the record it writes was saved by the run -/
def PrimOk (effs : List Eff) : DPrim → Prop
  | .set t r => Eff.save t r ∈ effs
  | _ => True

theorem dApply_inv (seen : SetSeen) (d : DDisk) (p : DPrim)
    (hp : PrimOk effs p) (h : DInv old effs d) : DInv old effs (dApply seen d p) := by
  cases p with
  | del t => exact ⟨h.memLegit.remove t, (h.memLegit.remove t).slot⟩
  | set t r =>
    refine ⟨h.memLegit.save t r hp, fun x => ?_⟩
    show SlotLegit old effs x (if x = t then _ else d.disk x)
    by_cases hxt : x = t
    · rw [if_pos hxt]
      cases seen
      · exact h.diskLegit x
      · exact hxt ▸ Or.inr hp
      · exact True.intro
    · rw [if_neg hxt]; exact h.diskLegit x
  | close => exact ⟨h.memLegit, h.memLegit.slot⟩

theorem dCrashIn_inv (seen : SetSeen) (torn : Bool) (keep : T → Bool)
    (d : DDisk) (p : DPrim) (hp : PrimOk effs p) (h : DInv old effs d) :
    DInv old effs (dCrashIn seen torn keep d p) := by
  cases p with
  | set t r => exact dApply_inv seen d (.set t r) hp h
  | del t => exact ⟨h.memLegit.remove t, (h.memLegit.remove t).kept keep⟩
  | close => exact ⟨h.memLegit, h.memLegit.kept keep⟩

theorem dbmRun_inv (seens : Nat → SetSeen) (prims : List DPrim)
    (hp : ∀ p ∈ prims, PrimOk effs p) (i : Nat) (d : DDisk) (h : DInv old effs d) :
    DInv old effs (dbmRun seens i d prims) := by
  induction prims generalizing i d with
  | nil => exact h
  | cons p ps ih =>
    exact ih (fun q hq => hp q (List.mem_cons_of_mem _ hq)) _ _
      (dApply_inv _ d p (hp p (List.mem_cons_self ..)) h)

theorem dbmProtocol_ok (effs : List Eff) (dirty : List (T × R))
    (hd : ∀ p ∈ dirty, Eff.save p.1 p.2 ∈ effs) : ∀ p ∈ dbmProtocol effs dirty, PrimOk effs p := by
  intro p hp
  simp only [dbmProtocol, List.mem_append, List.mem_map, List.mem_singleton] at hp
  rcases hp with (⟨t, _, rfl⟩ | ⟨q, hq, rfl⟩) | rfl
  · trivial
  · exact hd q hq
  · trivial

theorem dRecover_legit {d : DDisk} (h : DInv old effs d) :
    match dRecover d with
    | .unreadable => True
    | .store f => ∀ t, SlotLegit old effs t (f t) := by
  unfold dRecover
  cases d.broken
  · exact h.diskLegit
  · exact True.intro

/-- folding a step that only ever adds the record of the `save` it processes yields saved records only -/
theorem foldl_saved (f : List (T × R) → Eff → List (T × R))
    (hf : ∀ acc e p, p ∈ f acc e → p ∈ acc ∨ e = Eff.save p.1 p.2) (es : List Eff) :
    ∀ acc : List (T × R), (∀ e ∈ es, e ∈ effs) → (∀ p ∈ acc, Eff.save p.1 p.2 ∈ effs) →
      ∀ p ∈ es.foldl f acc, Eff.save p.1 p.2 ∈ effs := by
  induction es with
  | nil => intro _ _ h; exact h
  | cons e es ih =>
    intro acc hs h
    refine ih _ (fun e' he' => hs e' (List.mem_cons_of_mem _ he')) fun q hq => ?_
    rcases hf acc e q hq with hq | he
    · exact h q hq
    · exact he ▸ hs e (List.mem_cons_self ..)

theorem dirtyOf_saved (effs : List Eff) : ∀ p ∈ dirtyOf effs, Eff.save p.1 p.2 ∈ effs := by
  refine foldl_saved _ (fun acc e p hp => ?_) effs [] (fun _ h => h) (fun _ h => nomatch h)
  cases e with
  | save t r =>
    rcases List.mem_append.mp hp with hp | hp
    · exact .inl (List.mem_filter.mp hp).1
    · cases List.mem_singleton.mp hp; exact .inr rfl
  | remove t => exact .inl (List.mem_filter.mp hp).1

theorem runEffects_untouched (c : Bool) (t : T) : ∀ (ps : List (T × Outcome)) (s : Store), t ∉ ps.map (·.1) →
    (runEffects c ps).foldl applyEff s t = s t := by
  intro ps
  induction ps with
  | nil => intro _ _; rfl
  | cons q qs ih =>
    intro s hq
    obtain ⟨u, ou⟩ := q
    rw [List.map_cons, List.mem_cons, not_or] at hq
    cases ou with
    | ok r => exact (ih _ hq.2).trans (if_neg hq.1)
    | fail =>
      cases c
      · exact if_neg hq.1
      · exact (ih _ hq.2).trans (if_neg hq.1)
    | interrupt => rfl

theorem runEffects_interrupt (c : Bool) (ti : T) (post : List (T × Outcome)) : ∀ pre : List (T × Outcome),
    runEffects c (pre ++ (ti, Outcome.interrupt) :: post) = runEffects c pre := by
  intro pre
  induction pre with
  | nil => rfl
  | cons p ps ih =>
    obtain ⟨u, o⟩ := p
    cases o with
    | ok r => exact congrArg (Eff.save u r :: ·) ih
    | fail =>
      cases c
      · rfl
      · exact congrArg (Eff.remove u :: ·) ih
    | interrupt => rfl

end DoitModel.Crash
