import DoitModel.Proofs.C05Inv
/-! # C05 (d) — the serial runner without `--continue` starts nothing after the first failure report -/
namespace DoitModel.Run

def failIn (l : List Ev) : Prop := ∃ n k, Ev.failure n k ∈ l

/-- (newest first) no `start` is newer than a failure report -/
def NSA : List Ev → Prop
  | [] => True
  | e :: rest => (e.isStart = true → ¬ failIn rest) ∧ NSA rest

/-- `sd`: once a failure is reported `_stop_running` is set and the runner neither selects nor executes -/
structure InvS (inp : RunInput) (s : Sys) : Prop where
  sd : failIn s.events → s.stop = true ∧ s.rpc ≠ .sWait ∧ ∀ m, s.rpc ≠ .sExec m
  ns : NSA s.events

theorem failIn_append {a b : List Ev} : failIn (a ++ b) ↔ failIn a ∨ failIn b := by
  constructor
  · rintro ⟨n, k, h⟩
    rcases List.mem_append.mp h with x | x
    · exact Or.inl ⟨n, k, x⟩
    · exact Or.inr ⟨n, k, x⟩
  · rintro (⟨n, k, h⟩ | ⟨n, k, h⟩)
    · exact ⟨n, k, List.mem_append.mpr (Or.inl h)⟩
    · exact ⟨n, k, List.mem_append.mpr (Or.inr h)⟩

theorem NSA_append_nostart {new old : List Ev} (h : NSA old) (hn : ∀ e ∈ new, e.isStart = false) : NSA (new ++ old) := by
  induction new with
  | nil => exact h
  | cons e t ih =>
    refine ⟨fun he => ?_, ih (fun x hx => hn x (by simp [hx]))⟩
    have := hn e (by simp); rw [this] at he; cases he

theorem NSA_append_nofail {new old : List Ev} (h : NSA old) (ho : ¬ failIn old) (hn : ¬ failIn new) :
    NSA (new ++ old) := by
  induction new with
  | nil => exact h
  | cons e t ih =>
    have ht : ¬ failIn t := fun ⟨n, k, x⟩ => hn ⟨n, k, by simp [x]⟩
    refine ⟨fun _ hf => ?_, ih ht⟩
    rcases failIn_append.mp hf with x | x
    · exact ht x
    · exact ho x

theorem invS_frame {inp : RunInput} {s s' : Sys} (h : InvS inp s) (e1 : s'.events = s.events) (e2 : s'.stop = s.stop)
    (hr : failIn s.events → s'.rpc ≠ .sWait ∧ ∀ m, s'.rpc ≠ .sExec m) : InvS inp s' :=
  ⟨fun hf => by rw [e1] at hf; rw [e2]; exact ⟨(h.sd hf).1, hr hf⟩, by rw [e1]; exact h.ns⟩

theorem selEvents_nostart (inp : RunInput) (n : Name) (nd : Node) (d : Sel) :
    ∀ e ∈ selEvents inp n nd d, e.isStart = false := by
  intro e h
  rcases mem_selEvents h with rfl | ⟨rfl, _⟩ | ⟨rfl, _⟩ | ⟨rfl, _⟩ | ⟨_, rfl, _⟩ <;> rfl

theorem failNode_stop {inp : RunInput} (s : Sys) (n : Name) (nd : Node) (k : FailKind) (pre : List Ev)
    (hc : inp.continue_ = false) : (failNode inp s n nd k pre).stop = true := by
  simp [failNode, hc]

theorem applySel_stop_fail {inp : RunInput} (s : Sys) (n : Name) (nd : Node) (d : Sel) (hc : inp.continue_ = false)
    (hf : failIn (selEvents inp n nd d)) : (applySel inp s n nd d).stop = true := by
  obtain ⟨m, k, h⟩ := hf
  have hs := (selEvents_failure h).2.1
  cases d <;> first | exact failNode_stop s n nd _ _ hc | cases hs

theorem processResult_stop_fail {inp : RunInput} (s : Sys) (n : Name) (nd : Node) (hc : inp.continue_ = false)
    (hf : resStatus (inp.outcome n) = .fail) : (processResult inp s n nd).stop = true := by
  unfold processResult
  cases ho : inp.outcome n <;> first | exact failNode_stop _ n nd _ _ hc | (rw [ho] at hf; cases hf)

theorem invS_report {inp : RunInput} {s s' : Sys} (h : InvS inp s) (new : List Ev) (hev : s'.events = new ++ s.events)
    (hns : ∀ e ∈ new, e.isStart = false) (hstop : failIn new ∨ failIn s.events → s'.stop = true)
    (hr : s'.rpc ≠ .sWait ∧ ∀ m, s'.rpc ≠ .sExec m) : InvS inp s' :=
  ⟨fun hf => ⟨hstop (failIn_append.mp (hev ▸ hf)), hr⟩, by rw [hev]; exact NSA_append_nostart h.ns hns⟩

theorem serialStep_invS {inp : RunInput} {s s' : Sys} {perm : List Name} (hc : inp.continue_ = false) (h : InvS inp s)
    (hs : serialStep inp s perm = some s') : InvS inp s' := by
  -- at `sWait` / `sExec` no failure has been reported yet
  have nofW : s.rpc = .sWait → ¬ failIn s.events := fun hr hf => (h.sd hf).2.1 hr
  have nofX : ∀ {n}, s.rpc = .sExec n → ¬ failIn s.events := fun hr hf => (h.sd hf).2.2 _ hr
  cases serialStep_spec hs with
  | stop => exact invS_frame h rfl rfl (fun _ => ⟨nofun, nofun⟩)
  | send _ hstop hsd =>
    have o := (send_outer hsd).1
    exact invS_frame h o.1 o.2.2.2.2.2.1 (fun hf => by rw [(h.sd hf).1] at hstop; cases hstop)
  | tick hr _ hd =>
    exact invS_frame h (dtick_outer hd).1 (dtick_outer hd).2.2.2.2.2.1 (fun hf => absurd hf (nofW hr))
  | @go n nd hr =>
    have hev : (startTask inp (applySel inp s n nd .go) n 0).events =
        ((if inp.runner = .process then [Ev.start n 0] else [Ev.start n 0, Ev.execute n]) ++
          selEvents inp n nd .go) ++ s.events := by
      rw [startTask_events, applySel_events, List.append_assoc]
    have nof2 : ¬ failIn ((if inp.runner = .process then [Ev.start n 0] else [Ev.start n 0, Ev.execute n]) ++
          selEvents inp n nd .go) := by
      rintro ⟨m, k, x⟩
      rcases List.mem_append.mp x with a | a
      · cases startEvents_work inp n 0 _ a
      · cases (selEvents_failure a).2.1
    exact ⟨fun hf => absurd (failIn_append.mp (hev ▸ hf)) (fun x => x.elim nof2 (nofW hr)),
      by show NSA (startTask inp _ n 0).events; rw [hev]; exact NSA_append_nofail h.ns (nofW hr) nof2⟩
  | @select n nd d hr =>
    exact invS_report h _ (applySel_events inp s n nd d) (selEvents_nostart inp n nd d)
      (fun hf => hf.elim (applySel_stop_fail s n nd d hc) (fun x => absurd x (nofW hr))) ⟨nofun, nofun⟩
  | @result n nd hr =>
    refine invS_report h (resEvents n (inp.outcome n) ++ [Ev.fin n 0])
      ((processResult_events inp _ n nd).trans (List.append_assoc _ [Ev.fin n 0] s.events).symm) (fun e he => ?_)
      (fun hf => ?_) ⟨nofun, nofun⟩
    · rcases List.mem_append.mp he with a | a
      · rcases mem_resEvents a with ⟨rfl, _⟩ | ⟨_, rfl, _⟩ <;> rfl
      · cases List.mem_singleton.mp a; rfl
    · rcases hf with ⟨m, k, x⟩ | x
      · rcases List.mem_append.mp x with a | a
        · exact processResult_stop_fail _ n nd hc (resEvents_failure a).2.1
        · cases List.mem_singleton.mp a
      · exact absurd x (nofX hr)
  | finish =>
    refine invS_report h (Ev.complete :: s.tdown.map Ev.teardown) rfl (fun e he => ?_) (fun hf => ?_) ⟨nofun, nofun⟩
    · rcases List.mem_cons.mp he with rfl | he
      · rfl
      · obtain ⟨a, _, rfl⟩ := List.mem_map.mp he; rfl
    · rcases hf with ⟨m, k, x⟩ | x
      · rcases List.mem_cons.mp x with e | x
        · cases e
        · obtain ⟨a, _, e⟩ := List.mem_map.mp x; cases e
      · exact (h.sd x).1
  | lost hr | assertFail hr | stopIter hr | cyclic hr | holdOn hr | crash hr =>
    exact invS_frame h rfl rfl (fun hf => absurd hf (nofW hr))
  | execLost hr => exact invS_frame h rfl rfl (fun hf => absurd hf (nofX hr))

theorem reach_invS {inp : RunInput} {s : Sys} (hc : inp.continue_ = false) (h : Reach inp s) : InvS inp s := by
  induction h with
  | init => exact ⟨fun ⟨n, k, x⟩ => by simp [init] at x, by simp [init, NSA]⟩
  | @next s0 s1 c _ hs ih =>
    cases c with
    | main perm => exact serialStep_invS hc ih hs
    | take w => cases hs
    | done w => cases hs

theorem NSA_split {l : List Ev} (h : NSA l) {post pre : List Ev} {d : Name} {k : FailKind}
    (he : l = post ++ Ev.failure d k :: pre) : ∀ e ∈ post, e.isStart = false := by
  induction post generalizing l with
  | nil => intro e he'; cases he'
  | cons p ps ih =>
    subst he
    intro e he'
    rcases List.mem_cons.mp he' with a | a
    · subst a
      cases hp : e.isStart with
      | false => rfl
      | true => exact absurd ⟨d, k, by simp⟩ (h.1 hp)
    · exact ih h.2 rfl e a

end DoitModel.Run
