import DoitModel.Proofs.RunClosure
/-! # The closure invariant `MInv` along the serial and the parallel transition systems -/
namespace DoitModel.Run

def OnlyMentions (l : List Ev) (n : Name) : Prop := ∀ e ∈ l, ∀ m, Ev.mentions m e = true → m = n

theorem OnlyMentions.nil (n : Name) : OnlyMentions [] n := fun _ h => nomatch h

theorem OnlyMentions.cons {e : Ev} {l : List Ev} {n : Name} (he : ∀ m, Ev.mentions m e = true → m = n)
    (hl : OnlyMentions l n) : OnlyMentions (e :: l) n := by
  intro x hx m hm
  rcases List.mem_cons.mp hx with rfl | hx
  · exact he m hm
  · exact hl x hx m hm

theorem statusEv_only (nd : Node) (n : Name) : OnlyMentions (statusEv nd n) n := by
  unfold statusEv; split
  · exact (OnlyMentions.nil n).cons fun m hm => (of_decide_eq_true hm).symm
  · exact .nil n

theorem selEvents_only (inp : RunInput) (n : Name) (nd : Node) (d : Sel) : OnlyMentions (selEvents inp n nd d) n := by
  have hs := statusEv_only nd n
  cases d with
  | runFirst => exact hs
  | assertFail => exact .nil n
  | _ => exact hs.cons fun m hm => (of_decide_eq_true hm).symm

theorem resEvents_only (n : Name) (o : Outcome) : OnlyMentions (resEvents n o) n := by
  cases o <;> exact (OnlyMentions.nil n).cons fun m hm => (of_decide_eq_true hm).symm

theorem init_minv (inp : RunInput) : MInv inp (init inp) := by
  refine ⟨?_, fun t ht => Cl.ofSel ht, ?_, ?_, ?_, ?_, ?_, ?_, ?_, ?_⟩
  · intro n nd hn; simp [init] at hn
  · intro e he; simp [init] at he
  · intro n hn; simp [init] at hn
  · intro n ret hn; simp only [init] at hn; split at hn <;> cases hn
  · intro w n hn; simp [init] at hn
  · intro n hn; simp [init] at hn
  · intro n hn; simp [init] at hn
  · intro n hn; simp only [init] at hn; split at hn <;> cases hn
  · intro n hn; simp [init] at hn

theorem minv_rpc {inp : RunInput} {s s' : Sys} (h : MInv inp s) (e1 : s'.nodes = s.nodes) (e2 : s'.toRun = s.toRun)
    (e3 : s'.events = s.events) (e4 : s'.jobQ = s.jobQ) (e5 : s'.workers = s.workers) (e6 : s'.resQ = s.resQ)
    (e7 : s'.tdown = s.tdown) (e8 : s'.susp = s.susp)
    (hh : ∀ m ret, s'.rpc ≠ .gRet (.task m) ret) (hx : ∀ m, s'.rpc ≠ .sExec m) : MInv inp s' :=
  ⟨by rw [e1]; exact h.nodes, by rw [e2]; exact h.toRun, by rw [e3]; exact h.ev, by rw [e4]; exact h.jobs,
   fun m r a => absurd a (hh m r), by rw [e5]; exact h.wk, by rw [e6]; exact h.rq, by rw [e7]; exact h.td,
   fun m a => absurd a (hx m), by rw [e8]; exact h.yl⟩

theorem minv_raise {inp : RunInput} {s : Sys} (h : MInv inp s) (hl : Halt) : MInv inp (raise s hl) :=
  minv_rpc h rfl rfl rfl rfl rfl rfl rfl rfl (fun m r a => by cases a) (fun m a => by cases a)

theorem minv_finishRun {inp : RunInput} {s : Sys} (h : MInv inp s) : MInv inp (finishRun s) := by
  refine ⟨h.nodes, h.toRun, ?_, h.jobs, (fun m r a => by cases a), h.wk, h.rq, h.td, (fun m a => by cases a), h.yl⟩
  intro e he m hm
  have he' : e = Ev.complete ∨ (∃ x ∈ s.tdown, Ev.teardown x = e) ∨ e ∈ s.events := by
    simpa [finishRun] using he
  rcases he' with rfl | ⟨x, hx, rfl⟩ | he'
  · simp [Ev.mentions] at hm
  · simp [Ev.mentions] at hm
    subst hm; exact h.td x hx
  · exact h.ev e he' m hm

theorem minv_select {inp : RunInput} {s : Sys} {n : Name} {nd : Node} (rpc' : RPC) (h : MInv inp s)
    (hn : s.nodes n = some nd) (hd : selDecision inp n nd ≠ .assertFail)
    (hh : ∀ m ret, rpc' = .gRet (.task m) ret → m = n) (hx : ∀ m, rpc' = .sExec m → m = n) :
    MInv inp { applySel inp s n nd (selDecision inp n nd) with rpc := rpc' } := by
  have f := applySel_keeps inp s n nd (selDecision inp n nd)
  refine h.runner hn (selStatus (selDecision inp n nd)) ?_ (applySel_nodes inp s n nd _ hd) f.toRun ?_ f.jobQ f.workers
    (fun m hm => f.resQ ▸ hm) (fun m hm => Or.inl (f.tdown ▸ hm)) hh hx f.susp
  · intro e
    by_cases hr : nd.status = .run
    · exact Or.inl hr
    · exact Or.inr (sel_mayRun hr e)
  · intro e he
    have : e ∈ (applySel inp s n nd (selDecision inp n nd)).events := he
    rw [applySel_events] at this
    rcases List.mem_append.mp this with a | a
    · exact Or.inr (selEvents_only inp n nd _ e a)
    · exact Or.inl a

theorem minv_result {inp : RunInput} {s s1 : Sys} {n : Name} {nd : Node} (rpc' : RPC) (h : MInv inp s)
    (hn : s.nodes n = some nd)
    (e1 : s1.nodes = s.nodes) (e2 : s1.toRun = s.toRun) (e3 : s1.jobQ = s.jobQ) (e4 : s1.workers = s.workers)
    (e5 : ∀ m ∈ s1.resQ, m ∈ s.resQ) (e6 : s1.tdown = s.tdown) (e7 : s1.susp = s.susp)
    (pre : List Ev) (hev : s1.events = pre ++ s.events) (hpre : OnlyMentions pre n)
    (hh : ∀ m ret, rpc' ≠ .gRet (.task m) ret) (hx : ∀ m, rpc' ≠ .sExec m) :
    MInv inp { processResult inp s1 n nd with rpc := rpc' } := by
  have f := processResult_keeps inp s1 n nd
  have hnodes : (processResult inp s1 n nd).nodes = (setNode s n { nd with status := resStatus (inp.outcome n) }).nodes := by
    rw [processResult_nodes]; funext k; simp [setNode, e1]
  refine h.runner hn (resStatus (inp.outcome n)) ?_ hnodes (f.toRun.trans e2) ?_ (f.jobQ.trans e3) (f.workers.trans e4)
    (fun m hm => e5 m (f.resQ ▸ hm)) (fun m hm => Or.inl (e6 ▸ f.tdown ▸ hm))
    (fun m r a => absurd a (hh m r)) (fun m a => absurd a (hx m)) (f.susp.trans e7)
  · intro e; cases ho : inp.outcome n <;> simp [ho, resStatus] at e
  · intro e he
    have : e ∈ (processResult inp s1 n nd).events := he
    rw [processResult_events, hev] at this
    rcases List.mem_append.mp this with a | a
    · exact Or.inr (resEvents_only n _ e a)
    · exact (List.mem_append.mp a).symm.imp_right (hpre e)

theorem startTask_minv_parts {inp : RunInput} {s : Sys} {n w : Nat} (h : MInv inp s) (cn : Cl inp n) :
    (∀ e ∈ (startTask inp s n w).events, ∀ m, Ev.mentions m e = true → Cl inp m) ∧
    (∀ m ∈ (startTask inp s n w).tdown, Cl inp m) := by
  constructor
  · intro e he m hm
    rw [startTask_events] at he
    rcases List.mem_append.mp he with a | a
    · have : m = n := by
        split at a <;> simp at a
        · subst a; simp [Ev.mentions] at hm; exact hm.symm
        · rcases a with a | a <;> (subst a; simp [Ev.mentions] at hm; exact hm.symm)
      exact this ▸ cn
    · exact h.ev e a m hm
  · intro m hm
    simp only [startTask] at hm
    split at hm
    · rcases List.mem_append.mp hm with a | a
      · exact h.td m a
      · simp at a; exact a ▸ cn
    · exact h.td m hm

theorem serialStep_minv {inp : RunInput} {s s' : Sys} {perm : List Name} (h : MInv inp s)
    (hs : serialStep inp s perm = some s') : MInv inp s' := by
  cases serialStep_spec hs with
  | stop | stopIter =>
    exact minv_rpc h rfl rfl rfl rfl rfl rfl rfl rfl (fun m r a => by cases a) (fun m a => by cases a)
  | send _ _ hsd => exact send_minv .sWait h hsd (fun n r a => by cases a) (fun n a => by cases a)
  | tick _ hsu hd => exact dtick_minv h hsu hd
  | select _ _ hn hd _ ha =>
    subst hd; exact minv_select _ h hn ha (fun m r a => by cases a) (fun m a => by cases a)
  | @go n nd _ _ hn hd =>
    have h1 := minv_select (.sExec n) h hn (by rw [hd]; simp) (fun m r a => by cases a) (fun m a => by cases a; rfl)
    rw [hd] at h1
    have cn := (h.nodes n nd hn).self
    obtain ⟨pe, pt⟩ := startTask_minv_parts (inp := inp) (n := n) (w := 0) h1 cn
    exact ⟨h1.nodes, h1.toRun, pe, h1.jobs, (fun m r a => by cases a), h1.wk, h1.rq, pt,
      (fun m a => by cases a; exact cn), h1.yl⟩
  | lost | assertFail | cyclic | holdOn | crash | execLost => exact minv_raise h _
  | @result n nd _ hn =>
    exact minv_result (s1 := { s with events := Ev.fin n 0 :: s.events }) (.sTop (some n)) h hn rfl rfl rfl rfl
      (fun m a => a) rfl rfl [Ev.fin n 0] rfl ((OnlyMentions.nil n).cons fun m hm => (of_decide_eq_true hm).symm)
      (fun m r a => by cases a) (fun m a => by cases a)
  | finish => exact minv_finishRun h

theorem reach_minv {inp : RunInput} {s : Sys} (h : Reach inp s) : MInv inp s := by
  induction h with
  | init => exact init_minv inp
  | @next s0 s1 c _ hs ih =>
    cases c with
    | main perm => exact serialStep_minv ih hs
    | take w => cases hs
    | done w => cases hs


theorem takeStep_minv {inp : RunInput} {s s' : Sys} {w : Nat} (h : MInv inp s)
    (hs : takeStep inp s w = some s') : MInv inp s' := by
  have hjobs : ∀ {j js}, s.jobQ = j :: js → ∀ n, Job.task n ∈ js → Cl inp n :=
    fun hq n hn => h.jobs n (by rw [hq]; exact List.mem_cons_of_mem _ hn)
  cases takeStep_spec hs with
  | hold _ hq => exact ⟨h.nodes, h.toRun, h.ev, hjobs hq, h.held, h.wk, h.rq, h.td, h.ex, h.yl⟩
  | stop _ hq =>
    exact ⟨h.nodes, h.toRun, h.ev, hjobs hq, h.held,
      fun k n hk => h.wk k n (setWorker_running (fun _ e => by cases e) hk), h.rq, h.td, h.ex, h.yl⟩
  | @task n js _ hq =>
    have cn : Cl inp n := h.jobs n (by rw [hq]; exact List.mem_cons_self)
    obtain ⟨pe, pt⟩ := startTask_minv_parts (inp := inp) (n := n) (w := w) h cn
    refine ⟨h.nodes, h.toRun, pe, hjobs hq, h.held, ?_, h.rq, pt, h.ex, h.yl⟩
    intro k m hk
    rcases setWorker_cases (s := startTask inp s n w) hk with ⟨_, e⟩ | ⟨_, hk'⟩
    · cases e; exact cn
    · exact h.wk k m hk'

theorem doneStep_minv {inp : RunInput} {s s' : Sys} {w : Nat} (h : MInv inp s)
    (hs : doneStep s w = some s') : MInv inp s' := by
  cases doneStep_spec hs with | @done n hw => ?_
  have cn := h.wk w n hw
  refine ⟨h.nodes, h.toRun, ?_, h.jobs, h.held,
    fun k m hk => h.wk k m (setWorker_running (fun _ e => by cases e) hk), ?_, h.td, h.ex, h.yl⟩
  · intro e he m hm
    rcases List.mem_cons.mp he with rfl | a
    · simp [Ev.mentions] at hm; exact hm ▸ cn
    · exact h.ev e a m hm
  · intro m hm
    rcases List.mem_append.mp hm with a | a
    · exact h.rq m a
    · exact List.mem_singleton.mp a ▸ cn

theorem gReturn_minv {inp : RunInput} {s : Sys} {job : Job} {ret : Ret} (h : MInv inp s)
    (hr : s.rpc = .gRet job ret) : MInv inp (gReturn s job ret) := by
  have hd := gReturn_handed s job ret
  have hj : ∀ n, Job.task n ∈ (gReturn s job ret).jobQ → Cl inp n := by
    intro n hn
    rcases hd.jobQ with e | ⟨_, e⟩ <;> rw [e] at hn
    · rcases List.mem_append.mp hn with a | a
      · exact h.jobs n a
      · exact h.held n ret (List.mem_singleton.mp a ▸ hr)
    · exact h.jobs n hn
  refine ⟨by rw [hd.nodes]; exact h.nodes, by rw [hd.toRun]; exact h.toRun, by rw [hd.events]; exact h.ev, hj, ?_,
    fun k m a => h.wk k m (hd.workers k m a), by rw [hd.resQ]; exact h.rq, by rw [hd.tdown]; exact h.td, ?_,
    by rw [hd.susp]; exact h.yl⟩
  · exact fun m r a => absurd a ((free_facts hd.free).2.2.2 m r)
  · exact fun m a => absurd a ((free_facts hd.free).2.2.1 m)

theorem mainStep_minv {inp : RunInput} {s s' : Sys} {perm : List Name} (h : MInv inp s)
    (hs : mainStep inp s perm = some s') : MInv inp s' := by
  cases mainStep_spec hs with
  | entryStop | entry | holdOn | stopIter | join | joined =>
    exact minv_rpc h rfl rfl rfl rfl rfl rfl rfl rfl (fun m r a => by cases a) (fun m a => by cases a)
  | @send _ ret _ _ hsd => exact send_minv (.gWait ret) h hsd (fun n r a => by cases a) (fun n a => by cases a)
  | tick _ hsu hd => exact dtick_minv h hsu hd
  | select _ _ hn hd _ ha =>
    subst hd; exact minv_select _ h hn ha (fun m r a => by cases a) (fun m a => by cases a)
  | @go ret n nd _ _ hn hd =>
    have h1 := minv_select (.gRet (.task n) ret) h hn (by rw [hd]; simp) (fun m r a => by cases a; rfl)
      (fun m a => by cases a)
    rwa [hd] at h1
  | lost | assertFail | cyclic | crash | resultLost => exact minv_raise h _
  | ret hr => exact gReturn_minv h hr
  | @result n rest nd _ _ hq hn =>
    have h1 := minv_result (s1 := { s with resQ := rest }) (.gEntry (some n) (.feedLoop (s.freeProc + 1))) h hn
      rfl rfl rfl rfl (fun m a => by rw [hq]; exact List.mem_cons_of_mem _ a) rfl rfl [] rfl (.nil n)
      (fun m r a => by cases a) (fun m a => by cases a)
    exact ⟨h1.nodes, h1.toRun, h1.ev, h1.jobs, (fun m r a => by cases a), h1.wk, h1.rq, h1.td,
      (fun m a => by cases a), h1.yl⟩
  | finish => exact minv_finishRun h

theorem preach_minv {inp : RunInput} {s : Sys} (h : PReach inp s) : MInv inp s := by
  induction h with
  | init => exact init_minv inp
  | @next s0 s1 c _ hs ih =>
    cases c with
    | main perm => exact mainStep_minv ih hs
    | take w => exact takeStep_minv ih hs
    | done w => exact doneStep_minv ih hs

end DoitModel.Run
