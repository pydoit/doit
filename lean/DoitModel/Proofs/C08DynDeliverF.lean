import DoitModel.Proofs.RunDeliver
/-! # What a processed calc_dep that failed after an action ran delivers (`calcResFail`) is in the node's dynamic lists:
    the chain `DeliveredT` / `DCnT` / `AllDCT` of `Proofs/RunDeliver.lean` at the table `calcResFail` and the test "failed,
    and `P`", `P` a predicate on failed calc tasks for which a start event is known (`StartB`) -/
namespace DoitModel.Run

def DeliveredF (inp : RunInput) (nd : Node) (c : Name) : Prop :=
  (∀ x ∈ (inp.calcResFail c).tasks, x ∈ nd.dynTask) ∧ (∀ x ∈ (inp.calcResFail c).files, x ∈ nd.dynTask) ∧
  (∀ x ∈ (inp.calcResFail c).calcs, x ∈ nd.dynCalc)

def DCnF (inp : RunInput) (P : Name → Prop) (s : Sys) (nd : Node) : Prop :=
  ∀ c ∈ nd.dynCalc, Processed nd c → stOf s c = .fail → P c → DeliveredF inp nd c

def AllDCF (inp : RunInput) (P : Name → Prop) (s : Sys) : Prop := ∀ n nd, s.nodes n = some nd → DCnF inp P s nd

def StartB (P : Name → Prop) (s : Sys) : Prop := ∀ c, stOf s c = .fail → P c → started s c = true

/-- everything in the delivery `r` is among the dynamic deps of `nd` (`Delivered` / `DeliveredF` are the cases
    `r = calcRes c` / `calcResFail c`) -/
def Node.Has (nd : Node) (r : CalcRes) : Prop :=
  (∀ x ∈ r.tasks, x ∈ nd.dynTask) ∧ (∀ x ∈ r.files, x ∈ nd.dynTask) ∧ (∀ x ∈ r.calcs, x ∈ nd.dynCalc)

def failedAnd (P : Name → Prop) (st : RS) (c : Name) : Prop := st = .fail ∧ P c

theorem dcnF_iff {inp : RunInput} {P : Name → Prop} {s : Sys} {nd : Node} :
    DCnF inp P s nd ↔ DCnT inp.calcResFail (failedAnd P) s nd :=
  ⟨fun h c hc hp k => h c hc hp k.1 k.2, fun h c hc hp hf hP => h c hc hp ⟨hf, hP⟩⟩

theorem allDCF_iff {inp : RunInput} {P : Name → Prop} {s : Sys} :
    AllDCF inp P s ↔ AllDCT inp.calcResFail (failedAnd P) s :=
  ⟨fun h n nd hn => dcnF_iff.mp (h n nd hn), fun h n nd hn => dcnF_iff.mpr (h n nd hn)⟩

theorem dlv_failed {inp : RunInput} {P : Name → Prop} {s : Sys} (hB : StartB P s) :
    Dlv inp inp.calcResFail (failedAnd P) s := by
  intro d nd ⟨hf, hp⟩
  unfold deliverF; rw [if_pos ⟨hf, hB d hf hp⟩]
  exact addDeps_delivered inp.calcResFail _ d

theorem DCnF.grow {inp : RunInput} {P : Name → Prop} {s : Sys} {a b : Node} (h : DCnF inp P s a) (g : Grow a b) :
    DCnF inp P s b :=
  dcnF_iff.mpr ((dcnF_iff.mp h).grow g)

theorem DCnF.stable {inp : RunInput} {P : Name → Prop} {s s' : Sys} {n : Name} {nd : Node} (h : DCnF inp P s nd)
    (hok : NodeOK inp s n nd) (hst : Stable s s') : DCnF inp P s' nd :=
  dcnF_iff.mpr ((dcnF_iff.mp h).stable hok hst)

theorem allDCF_congr {inp : RunInput} {P : Name → Prop} {s s' : Sys} (h : AllDCF inp P s) (e : s'.nodes = s.nodes) :
    AllDCF inp P s' :=
  allDCF_iff.mpr (allDC_congr (allDCF_iff.mp h) e)

theorem dtick_allDCF {inp : RunInput} {P : Name → Prop} {s s' : Sys} {perm : List Name} (h : AllDCF inp P s)
    (hB : StartB P s) (hs : dtick inp s perm = some s') : AllDCF inp P s' :=
  allDCF_iff.mpr (dtick_allDC (dlv_failed hB) (allDCF_iff.mp h) hs)

theorem send_allDCF {inp : RunInput} {P : Name → Prop} {s s' : Sys} {processed : Option Name} {perm : List Name}
    (h : AllDCF inp P s) (hB : StartB P s) (hs : send inp s processed perm = some s') : AllDCF inp P s' :=
  allDCF_iff.mpr (send_allDC (dlv_failed hB) (allDCF_iff.mp h) hs)

theorem allDCF_status {inp : RunInput} {P : Name → Prop} {s s' : Sys} {n : Name} {nd : Node} (h : AllDCF inp P s)
    (h1 : Inv1 inp s) (hn : s.nodes n = some nd) (hu : nd.status.finished = false) (st' : RS)
    (e1 : s'.nodes = (setNode s n { nd with status := st' }).nodes) : AllDCF inp P s' :=
  allDCF_iff.mpr (allDC_status (allDCF_iff.mp h) h1 hn hu st' e1)

theorem init_allDCF (inp : RunInput) (P : Name → Prop) : AllDCF inp P (init inp) :=
  fun _ _ hn => nomatch hn

theorem started_congr {s s' : Sys} (e : s'.events = s.events) (p : Name) : started s' p = started s p := by
  unfold started; rw [e]

theorem wakeOne_frame (inp : RunInput) (s : Sys) (pst : RS) (p w : Name) (nd : Node) :
    (wakeOne inp s pst p w nd).nodes = (setNode s w (wokenF inp s pst p nd)).nodes ∧
    (wakeOne inp s pst p w nd).events = s.events := by
  unfold wakeOne
  by_cases c : wokenReady p nd = true ∧ w ∈ s.waiting
  · rw [if_pos c]; exact ⟨rfl, rfl⟩
  · rw [if_neg c]; exact ⟨rfl, rfl⟩

theorem wakeOne_events (inp : RunInput) (s : Sys) (pst : RS) (p w : Name) (nd : Node) :
    (wakeOne inp s pst p w nd).events = s.events := (wakeOne_frame inp s pst p w nd).2

theorem sendHead_events (s : Sys) (p : Name) (nd : Node) : (sendHead s p nd).events = s.events := by
  unfold sendHead
  by_cases c : nd.waitSelect = true
  · rw [if_pos c]; rfl
  · rw [if_neg c]

end DoitModel.Run
