import DoitModel.Model.Status
/-! # M2 — what an operation does to a state, said once

The commands that handle records (`run`, `reset-dep`, `info`, the status-only commands, a failure before execution, `forget`,
`ignore`) and `edit` are sequences of five elementary changes (`Prim`); the other operations change files, a definition or the
configured checker only.  `step_spec` says so for `step`; an invariant of histories is then proved by one fact per elementary
change.  The last part (`Later`, `step_later`) is a fact of its own: a faithful step only moves the file system forward. -/
namespace DoitModel.Status

theorem any_false_of {α} {l : List α} {f : α → Bool} (h : l.any f = false) {x : α} (hx : x ∈ l) : f x = false :=
  List.any_eq_false.mp h x hx |> Bool.eq_false_iff.mpr

theorem all_take {α} {f : α → Bool} {l : List α} (h : l.all f = true) (k : Nat) : (l.take k).all f = true :=
  List.all_eq_true.mpr fun x hx => List.all_eq_true.mp h x (List.mem_of_mem_take hx)

theorem foldl_preserves {α σ : Type} {f : σ → α → σ} {ok : α → Prop} {P : σ → Prop}
    (hstep : ∀ s o, ok o → P s → P (f s o)) (ops : List α) (hall : ∀ o, o ∈ ops → ok o) {s : σ} (h : P s) :
    P (ops.foldl f s) :=
  List.foldlRecOn (motive := P) ops f h fun b hb o ho => hstep b o (hall o ho) hb

/-- the exits of `statusOf`, each with the tests passed on the way to it -/
inductive StatusSpec (fixed : Bool) (c : Checker) (d : TaskDef) (r : Rcd) (fs : FS) (resOf : Name → Option Res) :
    Status → Prop
  | early : earlyRun d r.getValues resOf fs = true → StatusSpec fixed c d r fs resOf .run
  | checker : earlyRun d r.getValues resOf fs = false → checkerChanged c r = true → StatusSpec fixed c d r fs resOf .run
  | missing : earlyRun d r.getValues resOf fs = false → checkerChanged c r = false →
      d.deps.any (depMissing fs) = true → StatusSpec fixed c d r fs resOf .error
  | crash : earlyRun d r.getValues resOf fs = false → checkerChanged c r = false →
      d.deps.any (depMissing fs) = false → d.deps.any (depIs .crash c r fs) = true → StatusSpec fixed c d r fs resOf .crash
  | modified : earlyRun d r.getValues resOf fs = false → checkerChanged c r = false →
      d.deps.any (depMissing fs) = false → d.deps.any (depIs .crash c r fs) = false →
      d.deps.any (depIs .modified c r fs) = true → StatusSpec fixed c d r fs resOf .run
  | deps : earlyRun d r.getValues resOf fs = false → checkerChanged c r = false →
      d.deps.any (depMissing fs) = false → d.deps.any (depIs .crash c r fs) = false →
      d.deps.any (depIs .modified c r fs) = false → depsChanged fixed r d.deps = true → StatusSpec fixed c d r fs resOf .run
  | upToDate : earlyRun d r.getValues resOf fs = false → checkerChanged c r = false →
      d.deps.any (depMissing fs) = false → d.deps.any (depIs .crash c r fs) = false →
      d.deps.any (depIs .modified c r fs) = false → depsChanged fixed r d.deps = false →
      StatusSpec fixed c d r fs resOf .upToDate

theorem statusOf_spec (fixed : Bool) (c : Checker) (d : TaskDef) (r : Rcd) (fs : FS) (resOf : Name → Option Res) :
    StatusSpec fixed c d r fs resOf (statusOf fixed c d r fs resOf) := by
  unfold statusOf fileVerdict
  cases h1 : earlyRun d r.getValues resOf fs with
  | true => exact .early h1
  | false =>
  cases h2 : checkerChanged c r with
  | true => exact .checker h1 h2
  | false =>
  cases h3 : d.deps.any (depMissing fs) with
  | true => exact .missing h1 h2 h3
  | false =>
  cases h4 : d.deps.any (depIs .crash c r fs) with
  | true => exact .crash h1 h2 h3 h4
  | false =>
  cases h5 : d.deps.any (depIs .modified c r fs) with
  | true => exact .modified h1 h2 h3 h4 h5
  | false =>
  cases h6 : depsChanged fixed r d.deps with
  | true => exact .deps h1 h2 h3 h4 h5 h6
  | false => exact .upToDate h1 h2 h3 h4 h5 h6

theorem statusOf_spec.of_eq {fixed : Bool} {c : Checker} {d : TaskDef} {r : Rcd} {fs : FS} {resOf : Name → Option Res}
    {a : Status} (h : statusOf fixed c d r fs resOf = a) : StatusSpec fixed c d r fs resOf a :=
  h ▸ statusOf_spec fixed c d r fs resOf

theorem statusOf_eq (fixed : Bool) (c : Checker) (d : TaskDef) (r : Rcd) (fs : FS) (resOf : Name → Option Res) :
    statusOf fixed c d r fs resOf =
      if earlyRun d r.getValues resOf fs || checkerChanged c r then .run
      else if d.deps.any (depMissing fs) then .error
      else if d.deps.any (depIs .crash c r fs) then .crash
      else if d.deps.any (depIs .modified c r fs) || depsChanged fixed r d.deps then .run
      else .upToDate := by
  generalize ha : statusOf fixed c d r fs resOf = a
  cases statusOf_spec.of_eq ha with
  | early h1 => rw [h1]; rfl
  | checker h1 h2 => rw [h1, h2]; rfl
  | missing h1 h2 h3 => rw [h1, h2, h3]; rfl
  | crash h1 h2 h3 h4 => rw [h1, h2, h3, h4]; rfl
  | modified h1 h2 h3 h4 h5 => rw [h1, h2, h3, h4, h5]; rfl
  | deps h1 h2 h3 h4 h5 h6 => rw [h1, h2, h3, h4, h5, h6]; rfl
  | upToDate h1 h2 h3 h4 h5 h6 => rw [h1, h2, h3, h4, h5, h6]; rfl

theorem statusOf_upToDate_iff {fixed : Bool} {c : Checker} {d : TaskDef} {r : Rcd} {fs : FS} {resOf : Name → Option Res} :
    statusOf fixed c d r fs resOf = .upToDate ↔
      earlyRun d r.getValues resOf fs = false ∧ checkerChanged c r = false ∧ d.deps.any (depMissing fs) = false ∧
      d.deps.any (depIs .crash c r fs) = false ∧ d.deps.any (depIs .modified c r fs) = false ∧
      depsChanged fixed r d.deps = false := by
  constructor
  · intro h
    cases statusOf_spec.of_eq h with
    | upToDate h1 h2 h3 h4 h5 h6 => exact ⟨h1, h2, h3, h4, h5, h6⟩
  · rintro ⟨h1, h2, h3, h4, h5, h6⟩
    rw [statusOf_eq, h1, h2, h3, h4, h5, h6]; rfl

theorem statusOf_error {fixed : Bool} {c : Checker} {d : TaskDef} {r : Rcd} {fs : FS} {resOf : Name → Option Res}
    (h : statusOf fixed c d r fs resOf = .error) : d.deps.any (depMissing fs) = true := by
  cases statusOf_spec.of_eq h with
  | missing _ _ h3 => exact h3

theorem logRcd_same {c : Checker} {r : Rcd} (h : checkerChanged c r = false) : logRcd c r = r := by
  unfold logRcd; rw [if_neg (h ▸ Bool.false_ne_true)]

theorem logRcd_changed {c : Checker} {r : Rcd} (h : checkerChanged c r = true) : logRcd c r = Rcd.empty := by
  unfold logRcd; rw [if_pos h]

theorem any_depIs_crash_empty (c : Checker) (fs : FS) (deps : List Path) :
    deps.any (depIs .crash c Rcd.empty fs) = false := by
  rw [List.any_eq_false]
  intro p _
  unfold depIs
  cases fs p <;> exact Bool.false_ne_true

/-- `get_log=True` adds only the `TypeError` of its unconditional file loop: after a checker change that loop reads an
    empty record; otherwise both calls make the same tests, `get_log=False` the crash test later -/
theorem statusLog_eq (c : Checker) (d : TaskDef) (r : Rcd) (fs : FS) (resOf : Name → Option Res) :
    statusLog c d r fs resOf =
      if d.deps.any (depIs .crash c (logRcd c r) fs) then .crash else statusOf true c d r fs resOf := by
  unfold statusLog
  rw [statusOf_eq]
  cases hcc : checkerChanged c r with
  | true => rw [logRcd_changed hcc, any_depIs_crash_empty, Bool.or_true]; rfl
  | false =>
    rw [logRcd_same hcc, Bool.or_false]
    cases d.deps.any (depIs .crash c r fs) <;> rfl

/-- the only exception among the checkers' comparisons: `MD5Checker` unpacking the float of `TimestampChecker` -/
theorem checkModified_crash {c : Checker} {st : FState} {cur : FMeta} (h : checkModified c st cur = .crash) :
    c = .md5 ∧ ∃ m, st = .ts m := by
  cases c with
  | md5 =>
    cases st with
    | ts m => exact ⟨rfl, m, rfl⟩
    | md5 m sz c' =>
      simp only [checkModified] at h
      by_cases h1 : cur.mtime = m
      · rw [if_pos h1] at h; cases h
      rw [if_neg h1] at h
      by_cases h2 : cur.size ≠ sz
      · rw [if_pos h2] at h; cases h
      rw [if_neg h2] at h
      by_cases h3 : c' ≠ cur.cid
      · rw [if_pos h3] at h; cases h
      · rw [if_neg h3] at h; cases h
  | ts =>
    cases st with
    | md5 m sz c' => cases h
    | ts m =>
      simp only [checkModified] at h
      by_cases h1 : cur.mtime ≠ m
      · rw [if_pos h1] at h; cases h
      · rw [if_neg h1] at h; cases h

theorem depVerdict_crash {c : Checker} {r : Rcd} {cur : FMeta} {p : Path} (h : depVerdict c r cur p = .crash) :
    c = .md5 ∧ ∃ m, r.fstate p = some (.ts m) := by
  unfold depVerdict at h
  cases hs : r.fstate p with
  | none => rw [hs] at h; cases h
  | some st =>
    rw [hs] at h
    dsimp only at h
    by_cases hn : notSaved r p = true
    · rw [if_pos hn] at h; cases h
    · rw [if_neg hn] at h
      obtain ⟨hc, m, rfl⟩ := checkModified_crash h
      exact ⟨hc, m, rfl⟩

/-- where an unhandled exception comes from: `get_status`, with or without log, meets a saved state of the wrong shape, or
    `save_success` does while `reset-dep` calls it -/
inductive Crashes (fixed : Bool) (s : St) : Prop
  | status (t : Name) : s.status fixed t = .crash → Crashes fixed s
  | log (t : Name) : s.statusLog t = .crash → Crashes fixed s
  | save (t : Name) (r0 : Rcd) (vals : Values) (res : Option Res) : (r0 = s.rcd t ∨ r0 = Rcd.empty) →
      saveSuccess s.checker (s.defs t).deps r0 s.fs vals res = .crash → Crashes fixed s

/-- the elementary changes; `save` is `save_success` on the record of `t` (or on an empty one, after `get_status` dropped it) -/
inductive Prim (fixed : Bool) (s : St) : St → Prop
  | crash : Crashes fixed s → Prim fixed s { s with crashed := true }
  | erase (t : Name) : Prim fixed s (erase s t)
  | write (p : Path) (sz c : Nat) : Prim fixed s (writeFile s p sz c)
  | markIgn (t : Name) : Prim fixed s (markIgn s t)
  | save (t : Name) (r0 : Rcd) (vals : Values) (res : Option Res) (r : Rcd) : (r0 = s.rcd t ∨ r0 = Rcd.empty) →
      saveSuccess s.checker (s.defs t).deps r0 s.fs vals res = .ok r →
      Prim fixed s (commit s t r ⟨(s.defs t).deps, s.fs, vals, r.result, s.checker⟩)

inductive Steps (fixed : Bool) : St → St → Prop
  | refl (s : St) : Steps fixed s s
  | tail {a b c : St} : Steps fixed a b → Prim fixed b c → Steps fixed a c

variable {fixed : Bool}

theorem Steps.one {a b : St} (h : Prim fixed a b) : Steps fixed a b := .tail (.refl a) h

theorem Steps.trans {a b c : St} (h1 : Steps fixed a b) (h2 : Steps fixed b c) : Steps fixed a c := by
  induction h2 with
  | refl => exact h1
  | tail _ hp ih => exact .tail ih hp

theorem Steps.preserves {P : St → Prop} (hP : ∀ a b, Prim fixed a b → P a → P b) {a b : St}
    (h : Steps fixed a b) (ha : P a) : P b := by
  induction h with
  | refl => exact ha
  | tail _ hp ih => exact hP _ _ hp ih

theorem erase_rcd_self (s : St) (t : Name) : (erase s t).rcd t = Rcd.empty := if_pos rfl
theorem commit_rcd_self (s : St) (t : Name) (r : Rcd) (e : Exec) : (commit s t r e).rcd t = r := if_pos rfl
theorem markIgn_rcd_self (s : St) (t : Name) : (markIgn s t).rcd t = { s.rcd t with ign := true } := if_pos rfl

theorem applyWrites_steps (s : St) (ws : List (Path × Nat × Nat)) : Steps fixed s (applyWrites s ws) := by
  induction ws generalizing s with
  | nil => exact .refl s
  | cons w rest ih => exact (Steps.one (.write w.1 w.2.1 w.2.2)).trans (ih _)

theorem peek_steps (s : St) (t : Name) : Steps fixed s (peek s t) := by
  unfold peek
  cases removesRecord s.checker (s.defs t) (s.rcd t) s.fs s.resOf with
  | true => exact .one (.erase t)
  | false => exact .refl s

theorem peek_rcd (s : St) (t : Name) : (peek s t).rcd t = s.rcd t ∨ (peek s t).rcd t = Rcd.empty := by
  unfold peek
  cases removesRecord s.checker (s.defs t) (s.rcd t) s.fs s.resOf with
  | true => exact Or.inr (erase_rcd_self s t)
  | false => exact Or.inl rfl

theorem finish_steps (s : St) (t : Name) (ok : Bool) (res : Option Res) :
    Steps fixed s (finish s t ok res) := by
  unfold finish
  cases ok with
  | false => exact .one (.erase t)
  | true =>
    rw [if_pos rfl]
    cases hs : saveSuccess s.checker (s.defs t).deps (s.rcd t) s.fs (newValues (s.defs t) s.resOf) res with
    | ok r => exact .one (.save t _ _ res r (Or.inl rfl) hs)
    | missing => exact .one (.erase t)
    | crash => exact .one (.erase t)

theorem runTask_steps (s : St) (t : Name) (ok always : Bool) (ws : List (Path × Nat × Nat))
    (res : Option Res) : Steps fixed s (runTask fixed s t ok always ws res) := by
  unfold runTask
  cases (s.rcd t).ign with
  | true => exact .refl s
  | false =>
  cases hst : s.status fixed t with
  | crash => exact .one (.crash (.status t hst))
  | error => exact .one (.erase t)
  | upToDate =>
    cases always with
    | true => exact (applyWrites_steps s ws).trans (finish_steps _ t ok res)
    | false => exact .refl s
  | run => exact ((peek_steps s t).trans (applyWrites_steps _ ws)).trans (finish_steps _ t ok res)

theorem resetDep_steps (s : St) (t : Name) : Steps fixed s (resetDep fixed s t) := by
  unfold resetDep
  cases (s.defs t).deps.any (depMissing s.fs) with
  | true => exact .refl s
  | false =>
  cases hst : s.status fixed t with
  | crash => exact .one (.crash (.status t hst))
  | error => exact .refl s
  | upToDate => exact .refl s
  | run =>
    have h0 := peek_rcd s t
    cases hs : saveSuccess s.checker (s.defs t).deps ((peek s t).rcd t) s.fs (s.rcd t).getValues (s.rcd t).result with
    | ok r => exact .one (.save t _ _ _ r h0 hs)
    | missing => exact .refl s
    | crash => exact .one (.crash (.save t _ _ _ h0 hs))

theorem resetDepKeep_steps (s : St) (t : Name) : Steps fixed s (resetDepKeep fixed s t) := by
  unfold resetDepKeep
  cases (s.rcd t).ign with
  | true => exact .tail (resetDep_steps s t) (.markIgn t)
  | false => exact resetDep_steps s t

theorem info_steps (s : St) (t : Name) : Steps fixed s (info s t) := by
  unfold info
  cases (s.rcd t).ign with
  | true => exact .refl s
  | false =>
  cases hc : s.statusLog t == .crash with
  | true => exact .one (.crash (.log t (beq_iff_eq.mp hc)))
  | false =>
  cases checkerChanged s.checker (s.rcd t) with
  | true => exact .one (.erase t)
  | false => exact .refl s

/-- one operation: nothing once crashed; a change of files, of a definition or of the configured checker; or elementary changes -/
inductive StepSpec (fixed : Bool) (s : St) : Op → St → Prop
  | dead (op : Op) : s.crashed = true → StepSpec fixed s op s
  | touch (p : Path) : StepSpec fixed s (.touch p)
      { s with fs := fun q => if q = p then touchMeta s.clock (s.fs p) else s.fs q, clock := s.clock + 1 }
  | delete (p : Path) : StepSpec fixed s (.delete p) { s with fs := fun q => if q = p then none else s.fs q }
  | editKeep (p : Path) (sz c : Nat) : StepSpec fixed s (.editKeep p sz c)
      { s with fs := fun q => if q = p then keepMtime sz c (s.fs p) else s.fs q }
  | redefine (t : Name) (d : TaskDef) : StepSpec fixed s (.redefine t d)
      { s with defs := fun k => if k = t then d else s.defs k }
  | switchChecker (c : Checker) : StepSpec fixed s (.switchChecker c) { s with checker := c }
  | prims (op : Op) {s' : St} : s.crashed = false → Steps fixed s s' → StepSpec fixed s op s'

theorem step_spec (fixed : Bool) (s : St) (op : Op) : StepSpec fixed s op (step fixed s op) := by
  unfold step
  by_cases hc : s.crashed = true
  · rw [if_pos hc]; exact .dead op hc
  rw [if_neg hc]
  have hc : s.crashed = false := Bool.eq_false_iff.mpr hc
  cases op with
  | edit p sz c => exact .prims _ hc (.one (.write p sz c))
  | touch p => exact .touch p
  | delete p => exact .delete p
  | editKeep p sz c => exact .editKeep p sz c
  | redefine t d => exact .redefine t d
  | run t ok always ws res => exact .prims _ hc (runTask_steps s t ok always ws res)
  | unmet t => exact .prims _ hc (.one (.erase t))
  | forget t => exact .prims _ hc (.one (.erase t))
  | ignore t => exact .prims _ hc (.one (.markIgn t))
  | resetDep t => exact .prims _ hc (resetDepKeep_steps s t)
  | peek t =>
    refine .prims _ hc ?_
    dsimp only
    cases h : s.status fixed t == .crash with
    | true => exact .one (.crash (.status t (beq_iff_eq.mp h)))
    | false => exact peek_steps s t
  | info t => exact .prims _ hc (info_steps s t)
  | switchChecker c => exact .switchChecker c

theorem step_spec.of_eq {s s' : St} {op : Op} (h : step fixed s op = s') : StepSpec fixed s op s' :=
  h ▸ step_spec fixed s op

/-- `b` is a later point than `a` as far as files are concerned: a file of `b` is the very file `a` had, or was written since -/
def Later (a b : St) : Prop :=
  a.clock ≤ b.clock ∧ ∀ p cur, b.fs p = some cur → a.fs p = some cur ∨ (a.clock < cur.mtime ∧ cur.mtime ≤ b.clock)

theorem Later.refl (a : St) : Later a a := ⟨Nat.le_refl _, fun _ _ h => Or.inl h⟩

theorem Later.trans {a b c : St} (h1 : Later a b) (h2 : Later b c) : Later a c := by
  refine ⟨Nat.le_trans h1.1 h2.1, fun p cur hc => ?_⟩
  rcases h2.2 p cur hc with hb | ⟨hlt, hle⟩
  · rcases h1.2 p cur hb with ha | ⟨hlt, hle⟩
    · exact Or.inl ha
    · exact Or.inr ⟨hlt, Nat.le_trans hle h2.1⟩
  · exact Or.inr ⟨Nat.lt_of_le_of_lt h1.1 hlt, hle⟩

theorem later_update (s : St) (p : Path) (o : Option FMeta) (clock' : Nat) (hck : s.clock ≤ clock')
    (ho : ∀ m, o = some m → s.clock < m.mtime ∧ m.mtime ≤ clock') :
    Later s { s with fs := fun q => if q = p then o else s.fs q, clock := clock' } := by
  refine ⟨hck, fun q cur hq => ?_⟩
  dsimp only at hq
  by_cases hqp : q = p
  · rw [if_pos hqp] at hq; exact Or.inr (ho cur hq)
  · rw [if_neg hqp] at hq; exact Or.inl hq

theorem writeFile_later (s : St) (p : Path) (sz c : Nat) : Later s (writeFile s p sz c) :=
  later_update s p _ _ (Nat.le_succ _) fun _ hm => by cases hm; exact ⟨Nat.lt_succ_self _, Nat.le_refl _⟩

theorem touch_later (s : St) (p : Path) :
    Later s { s with fs := fun q => if q = p then touchMeta s.clock (s.fs p) else s.fs q, clock := s.clock + 1 } :=
  later_update s p _ _ (Nat.le_succ _) fun _ hm => by
    cases hf : s.fs p with
    | none => rw [hf] at hm; cases hm
    | some m0 => rw [hf] at hm; cases hm; exact ⟨Nat.lt_succ_self _, Nat.le_refl _⟩

theorem delete_later (s : St) (p : Path) : Later s { s with fs := fun q => if q = p then none else s.fs q } :=
  later_update s p none _ (Nat.le_refl _) nofun

theorem Prim.later {a b : St} (h : Prim fixed a b) : Later a b := by
  cases h with
  | write p sz c => exact writeFile_later a p sz c
  | _ => exact Later.refl a

theorem Steps.later {a b : St} (h : Steps fixed a b) : Later a b :=
  h.preserves (P := Later a) (fun _ _ hp hl => hl.trans hp.later) (Later.refl a)

theorem step_later {s : St} (op : Op) (hop : op.faithful = true) : Later s (step fixed s op) := by
  generalize hs : step fixed s op = s'
  cases step_spec.of_eq hs with
  | touch p => exact touch_later s p
  | delete p => exact delete_later s p
  | editKeep p sz c => cases hop
  | prims _ _ h => exact h.later
  | _ => exact Later.refl s

end DoitModel.Status
