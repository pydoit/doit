import DoitModel.Proofs.C09Tick
/-! # C09 — accounting of `TaskDispatcher.dispatched`: while the run goes on, a node in `dispatched` is out at the runner
    (being selected, in the job queue, executing, in the result queue, or about to be fed back), and a yielded node is in
    `dispatched`.  That a task in flight is in `dispatched` is `InvF` (`Proofs/C09Flight.lean`). -/
namespace DoitModel.Run

variable {inp : RunInput}

theorem mem_addDispatched (s : Sys) (n m : Name) : m ∈ addDispatched s n ↔ m ∈ s.dispatched ∨ m = n := by
  unfold addDispatched
  by_cases h : n ∈ s.dispatched
  · rw [if_pos h]; exact ⟨Or.inl, fun a => a.elim id fun e => e ▸ h⟩
  · rw [if_neg h, List.mem_append, List.mem_singleton]

theorem wakeOne_dispatched (inp : RunInput) (s : Sys) (pst : RS) (p w : Name) (nd : Node) :
    (wakeOne inp s pst p w nd).dispatched = s.dispatched := by
  unfold wakeOne; split <;> rfl

theorem updateWaiting_dispatched (inp : RunInput) (pst : RS) (p : Name) :
    ∀ (perm : List Name) (s s' : Sys), updateWaiting inp pst p s perm = some s' → s'.dispatched = s.dispatched := by
  intro perm
  induction perm with
  | nil => intro s s' hs; cases hs; rfl
  | cons w ws ih =>
    intro s s' hs
    simp only [updateWaiting] at hs
    cases hw : s.nodes w with
    | none => simp only [hw] at hs; exact ih s s' hs
    | some nd =>
      simp only [hw] at hs
      by_cases c : wakeCrash p nd = true
      · rw [if_pos c] at hs; cases hs
      · rw [if_neg c] at hs; rw [ih _ s' hs, wakeOne_dispatched]

theorem sendHead_dispatched (s : Sys) (p : Name) (nd : Node) :
    (sendHead s p nd).dispatched = s.dispatched.filter (· ≠ p) := by
  unfold sendHead; split <;> rfl

/-- (`some p ≠ some n`: the shape `send_dispatched` needs for `processed ≠ some n`) -/
theorem mem_sendHead_dispatched {s : Sys} {p n : Name} {nd : Node} :
    n ∈ (sendHead s p nd).dispatched ↔ n ∈ s.dispatched ∧ some p ≠ some n := by
  rw [sendHead_dispatched, List.mem_filter, decide_eq_true_eq]
  exact ⟨fun ⟨a, b⟩ => ⟨a, fun e => b (Option.some.inj e).symm⟩, fun ⟨a, b⟩ => ⟨a, fun e => b (congrArg some e.symm)⟩⟩

theorem send_dispatched {s s' : Sys} {processed : Option Name} {perm : List Name}
    (hs : send inp s processed perm = some s') :
    (s'.susp = none ∨ s'.susp = some .crash) ∧
    (∀ n ∈ s.dispatched, processed ≠ some n → n ∈ s'.dispatched) ∧
    (s'.susp = none → ∀ n ∈ s'.dispatched, n ∈ s.dispatched ∧ processed ≠ some n) := by
  cases send_spec hs with
  | first => exact ⟨Or.inl rfl, fun _ a _ => a, fun _ _ a => ⟨a, nofun⟩⟩
  | lost | keyError => exact ⟨Or.inr rfl, fun _ a _ => a, nofun⟩
  | running => exact ⟨Or.inl rfl, fun _ a b => mem_sendHead_dispatched.mpr ⟨a, b⟩, fun _ _ => mem_sendHead_dispatched.mp⟩
  | assertion => exact ⟨Or.inr rfl, fun _ a b => mem_sendHead_dispatched.mpr ⟨a, b⟩, nofun⟩
  | @woken _ _ s2 _ _ _ _ hu =>
    have e : s2.dispatched = _ := updateWaiting_dispatched inp _ _ perm _ s2 hu
    exact ⟨Or.inl rfl, fun _ a b => e ▸ mem_sendHead_dispatched.mpr ⟨a, b⟩, fun _ _ a => mem_sendHead_dispatched.mp (e ▸ a)⟩

theorem dtick_holdOn {s s' : Sys} {perm : List Name} (hsu : s.susp = none)
    (hs : dtick inp s perm = some s') (hh : s'.susp = some .holdOn) :
    s.dispatched ≠ [] ∧ s'.dispatched = s.dispatched := by
  have o := dtick_out hsu hs
  rw [hh] at o
  generalize hd : s'.dispatched = l at o
  cases o with
  | holdOn _ _ _ _ hne => exact ⟨hne, rfl⟩

def AtRunner (s : Sys) (n : Name) : Prop :=
  (awaiting s ∧ s.susp = some (.node n)) ∨ sentBack s = some n ∨ InFlight s n ∨ s.rpc = .sExec n

/-- `dc` holds only while the run goes on: once `_stop_running` is set `get_next_job` returns `None` without sending the
    completed node back; a crash inside `send` leaves its `discard` done and the waiters not woken.  `cr` serves `InvE9`
    (`Proofs/C09Wait.lean`). -/
structure InvC (s : Sys) : Prop where
  ds : ∀ n, s.susp = some (.node n) → n ∈ s.dispatched
  dc : s.stop = false → s.halt = .none → s.susp ≠ some .crash → ∀ n ∈ s.dispatched, AtRunner s n
  cr : s.susp = some .crash → awaiting s ∨ s.halt ≠ .none
  ho : s.susp = some .holdOn → s.dispatched ≠ []

theorem init_invC (inp : RunInput) : InvC (init inp) := ⟨nofun, (fun _ _ _ _ h => nomatch h), nofun, nofun⟩

def RPC.waits : RPC → Bool
  | .sWait => true
  | .gWait _ => true
  | _ => false

def RPC.noTask : RPC → Bool
  | .gRet (.task _) _ => false
  | .sExec _ => false
  | _ => true

theorem not_awaiting_of {s : Sys} {r : RPC} (hr : s.rpc = r) (hw : r.waits = false) : ¬ awaiting s := by
  rintro (a | ⟨x, a⟩) <;> (cases hr.symm.trans a; cases hw)

theorem noTask_of {s : Sys} {r : RPC} (hr : s.rpc = r) (hq : r.noTask = true) :
    (∀ m x, s.rpc ≠ .gRet (.task m) x) ∧ ∀ m, s.rpc ≠ .sExec m :=
  ⟨(fun m x e => by cases hr.symm.trans e; cases hq), fun m e => by cases hr.symm.trans e; cases hq⟩

theorem sentBack_awaiting {s : Sys} (haw : awaiting s) : sentBack s = none := by
  unfold sentBack; rcases haw with a | ⟨r, a⟩ <;> rw [a]

theorem awaiting_not_gRet {s : Sys} (haw : awaiting s) (m : Name) (r : Ret) : s.rpc ≠ .gRet (.task m) r := by
  intro e; rcases haw with a | ⟨r', a⟩ <;> cases a.symm.trans e

theorem InvC.move {s s' : Sys} (h : InvC s) (hna : ¬ awaiting s) (e1 : s'.dispatched = s.dispatched)
    (e2 : s'.susp = s.susp) (e3 : s'.stop = false → s.stop = false) (e4 : s'.halt = .none → s.halt = .none)
    (hk : s'.stop = false → s'.halt = .none → ∀ n, AtRunner s n → AtRunner s' n) : InvC s' := by
  refine ⟨?_, ?_, ?_, ?_⟩
  · intro n a; rw [e1]; exact h.ds n (e2 ▸ a)
  · intro a b c n hn
    exact hk a b n (h.dc (e3 a) (e4 b) (e2 ▸ c) n (e1 ▸ hn))
  · intro a
    rcases h.cr (e2 ▸ a) with x | x
    · exact absurd x hna
    · right; intro y; exact x (e4 y)
  · intro a; rw [e1]; exact h.ho (e2 ▸ a)

theorem InvC.worker {s s' : Sys} (h : InvC s) (e0 : s'.rpc = s.rpc) (e1 : s'.dispatched = s.dispatched)
    (e2 : s'.susp = s.susp) (e3 : s'.stop = s.stop) (e4 : s'.halt = s.halt)
    (hk : ∀ n, InFlight s n → InFlight s' n) : InvC s' := by
  have haw : awaiting s' ↔ awaiting s := by unfold awaiting; rw [e0]
  refine ⟨?_, ?_, ?_, ?_⟩
  · intro n a; rw [e1]; exact h.ds n (e2 ▸ a)
  · intro a b c n hn
    rcases h.dc (e3 ▸ a) (e4 ▸ b) (e2 ▸ c) n (e1 ▸ hn) with ⟨x, y⟩ | x | x | x
    · exact Or.inl ⟨haw.mpr x, e2 ▸ y⟩
    · exact Or.inr (Or.inl (by unfold sentBack at *; rw [e0]; exact x))
    · exact Or.inr (Or.inr (Or.inl (hk n x)))
    · exact Or.inr (Or.inr (Or.inr (by rw [e0]; exact x)))
  · intro a
    rcases h.cr (e2 ▸ a) with x | x
    · exact Or.inl (haw.mpr x)
    · exact Or.inr (by rw [e4]; exact x)
  · intro a; rw [e1]; exact h.ho (e2 ▸ a)

theorem InvC.raised {s : Sys} (h : InvC s) (hl : Halt) (hne : hl ≠ .none) : InvC (raise s hl) :=
  ⟨h.ds, fun _ b => absurd b hne, fun _ => Or.inr hne, h.ho⟩

theorem holding_one {s : Sys} {m : Name} (h : holding s m = 1) : ∃ r, s.rpc = .gRet (.task m) r := by
  unfold holding at h
  split at h
  · rename_i k r hr
    split at h
    · rename_i e; subst e; exact ⟨r, hr⟩
    · cases h
  · cases h

theorem holding_of_rpc {s : Sys} (h : ∀ m r, s.rpc ≠ .gRet (.task m) r) (n : Name) : holding s n = 0 := by
  unfold holding
  split
  · rename_i m r hr; exact absurd hr (h m r)
  · rfl

theorem inFlight_keep {s s' : Sys} (e1 : s'.jobQ = s.jobQ) (e2 : s'.workers = s.workers) (e3 : s'.resQ = s.resQ)
    (h0 : ∀ m r, s.rpc ≠ .gRet (.task m) r) (n : Name) (h : InFlight s n) : InFlight s' n :=
  inFlight_rpc e1 e2 e3 (fun m => holding_of_rpc h0 m) n h

theorem inFlight_cases {s : Sys} {n : Name} (h : InFlight s n) (h0 : ∀ m r, s.rpc ≠ .gRet (.task m) r) :
    Job.task n ∈ s.jobQ ∨ (∃ w, s.workers w = .running n) ∨ n ∈ s.resQ := by
  rcases h with y | y | y | y
  · exact Or.inl y
  · rw [holding_of_rpc h0 n] at y; cases y
  · exact Or.inr (Or.inl y)
  · exact Or.inr (Or.inr y)

theorem inFlight_of {s : Sys} {n : Name} (h : Job.task n ∈ s.jobQ ∨ (∃ w, s.workers w = .running n) ∨ n ∈ s.resQ) :
    InFlight s n := by
  rcases h with y | y | y
  · exact Or.inl y
  · exact Or.inr (Or.inr (Or.inl y))
  · exact Or.inr (Or.inr (Or.inr y))

theorem invC_dtick {s s' : Sys} {perm : List Name} (h : InvC s) (hsu : s.susp = none)
    (haw : awaiting s) (hs : dtick inp s perm = some s') : InvC s' := by
  obtain ⟨_, o2, _, _, _, o6, _, _, o9, _⟩ := dtick_outer hs
  have haw' : awaiting s' := by unfold awaiting at *; rw [o2]; exact haw
  -- whatever was out at the runner before is in flight, and stays so
  have old : s'.stop = false → s'.halt = .none → ∀ n ∈ s.dispatched, AtRunner s' n := by
    intro a b n hn
    rcases h.dc (o6 ▸ a) (o9 ▸ b) (by rw [hsu]; nofun) n hn with ⟨_, x⟩ | x | x | x
    · rw [hsu] at x; cases x
    · rw [sentBack_awaiting haw] at x; cases x
    · exact Or.inr (Or.inr (Or.inl (inFlight_outer (dtick_outer hs) n x)))
    · exact Or.inr (Or.inr (Or.inr (o2 ▸ x)))
  have plain : s'.dispatched = s.dispatched → (∀ m, s'.susp ≠ some (.node m)) →
      (s'.susp = some .holdOn → s.dispatched ≠ []) → InvC s' := fun hd hnn hho =>
    ⟨fun n a => absurd a (hnn n), fun a b _ n hn => old a b n (hd ▸ hn), fun _ => Or.inl haw', fun a => hd ▸ hho a⟩
  have o := dtick_out hsu hs
  generalize hu : s'.susp = u at o
  generalize hd : s'.dispatched = l at o
  cases o with
  | yield m =>
    refine ⟨?_, ?_, fun _ => Or.inl haw', by rw [hu]; nofun⟩
    · intro n a; cases hu.symm.trans a; rw [hd]; exact (mem_addDispatched s _ _).mpr (Or.inr rfl)
    · intro a b _ n hn
      rcases (mem_addDispatched s m n).mp (hd ▸ hn) with x | x
      · exact old a b n x
      · exact Or.inl ⟨haw', x ▸ hu⟩
  | holdOn _ _ _ _ hne => exact plain hd (by rw [hu]; nofun) fun _ => hne
  | _ => exact plain hd (by rw [hu]; nofun) (by rw [hu]; nofun)

theorem invC_send {s s0 : Sys} {node : Option Name} {perm : List Name} (rpc' : RPC) (h : InvC s)
    (hsb : sentBack s = node) {r : RPC} (hr : s.rpc = r) (hw : r.waits = false) (hq : r.noTask = true)
    (haw' : awaiting { s0 with rpc := rpc' })
    (hs : send inp s node perm = some s0) : InvC { s0 with rpc := rpc' } := by
  obtain ⟨⟨_, _, o3, o4, o5, o6, _, _, o9, _⟩, _⟩ := send_outer hs
  obtain ⟨d1, _, d3⟩ := send_dispatched hs
  have hna := not_awaiting_of hr hw
  obtain ⟨hr0, hnx⟩ := noTask_of hr hq
  have sus : ∀ o : DOut, o ≠ .crash → s0.susp ≠ some o := by
    intro o ho a; rcases d1 with x | x
    · cases x.symm.trans a
    · cases x.symm.trans a; exact ho rfl
  refine ⟨fun n a => absurd a (sus _ nofun), ?_, fun _ => Or.inl haw', fun a => absurd a (sus _ nofun)⟩
  intro a b c n hn
  have hs0 : s0.susp = none := d1.resolve_right c
  have hht : s.halt = .none := o9 ▸ b
  have hcr : s.susp ≠ some .crash := fun e => (h.cr e).elim hna (fun x => x hht)
  obtain ⟨hin, hne⟩ := d3 hs0 n hn
  rcases h.dc (o6 ▸ a) hht hcr n hin with ⟨x, _⟩ | x | x | x
  · exact absurd x hna
  · exact absurd (hsb.symm.trans x) hne
  · exact Or.inr (Or.inr (Or.inl (inFlight_of (by
      rcases inFlight_cases x hr0 with y | y | y
      · exact Or.inl (o3 ▸ y)
      · exact Or.inr (Or.inl (o5 ▸ y))
      · exact Or.inr (Or.inr (o4 ▸ y))))))
  · exact absurd x (hnx n)

theorem invC_select {s : Sys} {n : Name} {nd : Node} (d : Sel) (rpc' : RPC) (h : InvC s) (haw : awaiting s)
    (hsu : s.susp = some (.node n))
    (hn' : AtRunner { applySel inp s n nd d with rpc := rpc' } n) :
    InvC { applySel inp s n nd d with rpc := rpc' } := by
  have k := applySel_keeps inp s n nd d
  have hsu' : (applySel inp s n nd d).susp = some (.node n) := k.susp.trans hsu
  refine ⟨?_, ?_, (fun a => nomatch hsu'.symm.trans a), (fun a => nomatch hsu'.symm.trans a)⟩
  · intro m a
    exact k.dispatched.symm ▸ h.ds m (k.susp.symm.trans a)
  · intro a b c m hm
    by_cases e : m = n
    · exact e ▸ hn'
    rcases h.dc (k.stop a) (k.halt.symm.trans b) (by rw [hsu]; nofun) m (k.dispatched ▸ hm) with
      ⟨_, y⟩ | x | x | x
    · cases hsu.symm.trans y; exact absurd rfl e
    · rw [sentBack_awaiting haw] at x; cases x
    · refine Or.inr (Or.inr (Or.inl (inFlight_of ?_)))
      rcases inFlight_cases x (awaiting_not_gRet haw) with y | y | y
      · exact Or.inl (k.jobQ ▸ y)
      · exact Or.inr (Or.inl (k.workers ▸ y))
      · exact Or.inr (Or.inr (k.resQ ▸ y))
    · rcases haw with a1 | ⟨r, a1⟩ <;> cases a1.symm.trans x

theorem invC_result {s s1 : Sys} {n : Name} {nd : Node} (rpc' : RPC) (fp : Nat) (h : InvC s) (hna : ¬ awaiting s)
    (hsb : sentBack s = none) (hr0 : ∀ m r, s.rpc ≠ .gRet (.task m) r) (hx : ∀ m, s.rpc = .sExec m → m = n)
    (e1 : s1.dispatched = s.dispatched) (e2 : s1.susp = s.susp) (e3 : s1.stop = s.stop) (e4 : s1.halt = s.halt)
    (e5 : s1.jobQ = s.jobQ) (e6 : s1.workers = s.workers) (e7 : ∀ m ∈ s.resQ, m = n ∨ m ∈ s1.resQ)
    (hsb' : sentBack { processResult inp s1 n nd with rpc := rpc', freeProc := fp } = some n) :
    InvC { processResult inp s1 n nd with rpc := rpc', freeProc := fp } := by
  have k := processResult_keeps inp s1 n nd
  refine h.move hna (k.dispatched.trans e1) (k.susp.trans e2) (fun a => e3 ▸ k.stop a)
    (fun a => e4 ▸ k.halt.symm.trans a) ?_
  intro _ _ m hm
  rcases hm with ⟨x, _⟩ | x | x | x
  · exact absurd x hna
  · rw [hsb] at x; cases x
  · rcases inFlight_cases x hr0 with y | y | y
    · exact Or.inr (Or.inr (Or.inl (Or.inl (k.jobQ ▸ e5 ▸ y))))
    · exact Or.inr (Or.inr (Or.inl (inFlight_of (Or.inr (Or.inl (k.workers ▸ e6 ▸ y))))))
    · rcases e7 m y with z | z
      · exact Or.inr (Or.inl (z ▸ hsb'))
      · exact Or.inr (Or.inr (Or.inl (inFlight_of (Or.inr (Or.inr (k.resQ ▸ z))))))
  · exact Or.inr (Or.inl (hx m x ▸ hsb'))

theorem gReturn_invC {s : Sys} {job : Job} {ret : Ret} (h : InvC s) (hr : s.rpc = .gRet job ret)
    (hns : s.workers s.nStarted = .notStarted) : InvC (gReturn s job ret) := by
  have hna : ¬ awaiting s := not_awaiting_of hr rfl
  have hsb : sentBack s = none := by unfold sentBack; rw [hr]
  -- every node at the runner is in flight; after the job was queued it still is
  have key : ∀ (s' : Sys), s'.dispatched = s.dispatched → s'.susp = s.susp → s'.stop = s.stop → s'.halt = s.halt →
      (∀ m, Job.task m ∈ s.jobQ ∨ job = .task m → Job.task m ∈ s'.jobQ) →
      (∀ w m, s.workers w = .running m → s'.workers w = .running m) → s'.resQ = s.resQ → InvC s' := by
    intro s' e1 e2 e3 e4 hj hw hq
    apply h.move hna e1 e2 (fun a => e3 ▸ a) (fun a => e4 ▸ a)
    intro _ _ m hm
    rcases hm with ⟨x, _⟩ | x | x | x
    · exact absurd x hna
    · rw [hsb] at x; cases x
    · refine Or.inr (Or.inr (Or.inl ?_))
      rcases x with y | y | y | y
      · exact Or.inl (hj m (Or.inl y))
      · obtain ⟨r, e⟩ := holding_one y
        cases hr.symm.trans e
        exact Or.inl (hj m (Or.inr rfl))
      · obtain ⟨w, hw'⟩ := y; exact Or.inr (Or.inr (Or.inl ⟨w, hw w m hw'⟩))
      · exact Or.inr (Or.inr (Or.inr (hq ▸ y)))
    · rw [hr] at x; cases x
  have hwk : ∀ w m, s.workers w = .running m → (setWorker s s.nStarted .idle).workers w = .running m := by
    intro w m hw
    show (if w = s.nStarted then WState.idle else s.workers w) = _
    by_cases e : w = s.nStarted
    · rw [e, hns] at hw; cases hw
    · rw [if_neg e]; exact hw
  have happ : ∀ m, Job.task m ∈ s.jobQ ∨ job = .task m → Job.task m ∈ s.jobQ ++ [job] := by
    intro m a
    rcases a with a | a
    · exact List.mem_append_left _ a
    · rw [a]; exact List.mem_append_right _ (List.mem_singleton_self _)
  generalize hg : gReturn s job ret = g
  cases gReturn_row.of_eq hg with
  | noWorker k hj =>
    exact key _ rfl rfl rfl rfl (fun m a => a.elim id fun e => nomatch hj.symm.trans e) (fun _ _ a => a) rfl
  | lastWorker | nextWorker => exact key _ rfl rfl rfl rfl happ hwk rfl
  | fed | feedNext => exact key _ rfl rfl rfl rfl happ (fun _ _ a => a) rfl
  | noProc => exact ⟨h.ds, (fun _ b => nomatch b), fun _ => Or.inr nofun, h.ho⟩

/-- `WorkerFrame` does not list `dispatched`: a worker leaves it alone too -/
theorem TakeStep.dispatched {s s' : Sys} {w : Nat} (h : TakeStep inp s w s') : s'.dispatched = s.dispatched := by
  cases h <;> rfl

theorem DoneStep.dispatched {s s' : Sys} {w : Nat} (h : DoneStep s w s') : s'.dispatched = s.dispatched := by
  cases h; rfl

theorem takeStep_invC {s s' : Sys} {w : Nat} (h : InvC s) (hs : takeStep inp s w = some s') : InvC s' := by
  have f := (takeStep_spec hs).workerFrame
  exact h.worker f.rpc (takeStep_spec hs).dispatched f.susp f.stop f.halt fun n => ((takeStep_spec hs).inFlight_iff n).mpr

theorem doneStep_invC {s s' : Sys} {w : Nat} (h : InvC s) (hs : doneStep s w = some s') : InvC s' := by
  have f := (doneStep_spec hs).workerFrame
  exact h.worker f.rpc (doneStep_spec hs).dispatched f.susp f.stop f.halt fun n => ((doneStep_spec hs).inFlight_iff n).mpr

theorem InvC.congr {s s' : Sys} (h : InvC s) (e1 : s'.dispatched = s.dispatched) (e2 : s'.susp = s.susp)
    (e3 : s'.stop = s.stop) (e4 : s'.halt = s.halt) (e5 : s'.rpc = s.rpc) (e6 : s'.jobQ = s.jobQ)
    (e7 : s'.workers = s.workers) (e8 : s'.resQ = s.resQ) : InvC s' :=
  h.worker e5 e1 e2 e3 e4 (fun n a => by unfold InFlight holding at *; rw [e5, e6, e7, e8]; exact a)

theorem InvC.rpcMove {s s' : Sys} {r : RPC} (h : InvC s) (hr : s.rpc = r) (hw : r.waits = false)
    (hq : r.noTask = true) (e1 : s'.dispatched = s.dispatched)
    (e2 : s'.susp = s.susp) (e3 : s'.stop = false → s.stop = false) (e4 : s'.halt = .none → s.halt = .none)
    (e5 : s'.jobQ = s.jobQ) (e6 : s'.workers = s.workers) (e7 : s'.resQ = s.resQ)
    (hsb : s'.stop = false → ∀ n, sentBack s = some n → sentBack s' = some n) : InvC s' := by
  have hna := not_awaiting_of hr hw
  obtain ⟨hr0, hx⟩ := noTask_of hr hq
  apply h.move hna e1 e2 e3 e4
  intro a _ n hn
  rcases hn with ⟨x, _⟩ | x | x | x
  · exact absurd x hna
  · exact Or.inr (Or.inl (hsb a n x))
  · exact Or.inr (Or.inr (Or.inl (inFlight_keep e5 e6 e7 hr0 n x)))
  · exact absurd x (hx n)

theorem InvC.leaveAwait {s s' : Sys} (h : InvC s) (haw : awaiting s) (hsu : ∀ n, s.susp ≠ some (.node n))
    (hcr : s.susp ≠ some .crash) (e1 : s'.dispatched = s.dispatched) (e2 : s'.susp = s.susp)
    (e3 : s'.stop = s.stop) (e4 : s'.halt = s.halt) (e5 : s'.jobQ = s.jobQ) (e6 : s'.workers = s.workers)
    (e7 : s'.resQ = s.resQ) : InvC s' := by
  refine ⟨?_, ?_, ?_, ?_⟩
  · intro n a; rw [e2] at a; exact absurd a (hsu n)
  · intro a b c n hn
    rcases h.dc (e3 ▸ a) (e4 ▸ b) hcr n (e1 ▸ hn) with ⟨_, y⟩ | x | x | x
    · exact absurd y (hsu n)
    · rw [sentBack_awaiting haw] at x; cases x
    · exact Or.inr (Or.inr (Or.inl (inFlight_keep e5 e6 e7 (awaiting_not_gRet haw) n x)))
    · rcases haw with a1 | ⟨r, a1⟩ <;> cases a1.symm.trans x
  · intro a; rw [e2] at a; exact absurd a hcr
  · intro a; rw [e1]; exact h.ho (e2 ▸ a)

theorem serialStep_invC {s s' : Sys} {perm : List Name} (h : InvC s)
    (hs : serialStep inp s perm = some s') : InvC s' := by
  cases serialStep_spec hs with
  | stop hr hst =>
    exact h.rpcMove hr rfl rfl rfl rfl id id rfl rfl rfl
      fun a => nomatch hst.symm.trans a
  | send hr _ hsd =>
    exact invC_send .sWait h (by unfold sentBack; rw [hr]) hr rfl rfl (Or.inl rfl) hsd
  | tick hr hsu hd => exact invC_dtick h hsu (Or.inl hr) hd
  | @go n nd hr hsu =>
    exact (invC_select (inp := inp) (nd := nd) .go (.sExec n) h (Or.inl hr) hsu (Or.inr (Or.inr (Or.inr rfl)))).congr rfl rfl rfl rfl rfl rfl
      rfl rfl
  | select hr hsu => exact invC_select _ _ h (Or.inl hr) hsu (Or.inr (Or.inl rfl))
  | lost | assertFail | cyclic | holdOn | crash | execLost => exact h.raised _ nofun
  | stopIter hr hsu => exact h.leaveAwait (Or.inl hr) (by rw [hsu]; nofun) (by rw [hsu]; nofun) rfl rfl rfl rfl rfl rfl rfl
  | @result n nd hr =>
    exact invC_result (s1 := { s with events := Ev.fin n 0 :: s.events }) (.sTop (some n)) _ h
      (not_awaiting_of hr rfl) (by unfold sentBack; rw [hr]) (by rw [hr]; nofun)
      (fun m e => by cases hr.symm.trans e; rfl) rfl rfl rfl rfl rfl rfl (fun _ a => Or.inr a) rfl
  | finish hr =>
    exact h.rpcMove hr rfl rfl rfl rfl id id rfl rfl rfl
      fun _ n a => by unfold sentBack at a; rw [hr] at a; cases a

theorem mainStep_invC {s s' : Sys} {perm : List Name} (h : InvC s)
    (hns : s.workers s.nStarted = .notStarted) (hs : mainStep inp s perm = some s') : InvC s' := by
  cases mainStep_spec hs with
  | entryStop hr hst =>
    exact h.rpcMove hr rfl rfl rfl rfl id id rfl rfl rfl
      fun a => nomatch hst.symm.trans a
  | entry hr =>
    exact h.rpcMove hr rfl rfl rfl rfl id id rfl rfl rfl
      fun _ n a => by unfold sentBack at *; rw [hr] at a; exact a
  | @send node ret s0 hr hsd =>
    exact invC_send (.gWait ret) h (by unfold sentBack; rw [hr]) hr rfl rfl (Or.inr ⟨ret, rfl⟩) hsd
  | @tick ret _ hr hsu hd => exact invC_dtick h hsu (Or.inr ⟨ret, hr⟩) hd
  | @go ret n nd hr hsu =>
    exact invC_select .go _ h (Or.inr ⟨ret, hr⟩) hsu (Or.inr (Or.inr (Or.inl (Or.inr (Or.inl (if_pos rfl))))))
  | @select ret n nd d hr hsu => exact invC_select d _ h (Or.inr ⟨ret, hr⟩) hsu (Or.inr (Or.inl rfl))
  | lost | assertFail | cyclic | crash | resultLost => exact h.raised _ nofun
  | @holdOn ret hr hsu | @stopIter ret hr hsu =>
    exact h.leaveAwait (Or.inr ⟨ret, hr⟩) (by rw [hsu]; nofun) (by rw [hsu]; nofun) rfl rfl rfl rfl rfl rfl rfl
  | ret hr => exact gReturn_invC h hr hns
  | join hr | joined hr | finish hr =>
    exact h.rpcMove hr rfl rfl rfl rfl id id rfl rfl rfl
      fun _ n a => by unfold sentBack at a; rw [hr] at a; cases a
  | @result n rest nd hr _ hq =>
    exact invC_result (s1 := { s with resQ := rest }) (.gEntry (some n) (.feedLoop (s.freeProc + 1))) 0 h
      (not_awaiting_of hr rfl) (by unfold sentBack; rw [hr]) (by rw [hr]; nofun)
      (fun m e => nomatch hr.symm.trans e) rfl rfl rfl rfl rfl rfl
      (fun m a => (List.mem_cons.mp (hq ▸ a)).imp id id) rfl

theorem reach_invC {s : Sys} (h : Reach inp s) : InvC s := by
  induction h with
  | init => exact init_invC inp
  | @next s0 s1 c _ hs ih =>
    cases c with
    | main perm => exact serialStep_invC ih hs
    | take w => cases hs
    | done w => cases hs

theorem preach_invC {s : Sys} (h : PReach inp s) : InvC s := by
  induction h with
  | init => exact init_invC inp
  | @next s0 s1 c hp hs ih =>
    cases c with
    | main perm => exact mainStep_invC ih ((preach_inv5 hp).ns _ (Nat.le_refl _)) hs
    | take w => exact takeStep_invC ih hs
    | done w => exact doneStep_invC ih hs

structure InvS (s : Sys) : Prop where
  hl : s.halt ≠ .none → s.rpc = .fin ∨ s.rpc = .halted
  sw : s.rpc = .sWait → s.stop = false
  q : s.jobQ = [] ∧ s.resQ = [] ∧ ∀ w, s.workers w = .notStarted

theorem InvS.outer {s s' : Sys} (h : InvS s) (o : SameOuter s s') : InvS s' := by
  obtain ⟨_, o2, o3, o4, o5, o6, _, _, o9, _⟩ := o
  exact ⟨by rw [o9, o2]; exact h.hl, by rw [o2, o6]; exact h.sw, by rw [o3, o4, o5]; exact h.q⟩

theorem InvS.halt_none {s : Sys} {r : RPC} (h : InvS s) (hr : s.rpc = r) (h1 : r ≠ .fin) (h2 : r ≠ .halted) :
    s.halt = .none :=
  Decidable.byContradiction fun e => (h.hl e).elim (fun a => h1 (hr.symm.trans a)) (fun a => h2 (hr.symm.trans a))

theorem InvS.keep {s s1 : Sys} {r : RPC} (h : InvS s) (hr : s.rpc = r) (h1 : r ≠ .fin) (h2 : r ≠ .halted)
    (hw : s1.rpc ≠ .sWait) (e1 : s1.halt = s.halt) (e2 : s1.jobQ = s.jobQ) (e3 : s1.resQ = s.resQ)
    (e4 : s1.workers = s.workers) : InvS s1 :=
  ⟨fun e => absurd (e1.trans (h.halt_none hr h1 h2)) e, fun e => absurd e hw, by rw [e2, e3, e4]; exact h.q⟩

theorem serialStep_invS {s s' : Sys} {perm : List Name} (h : InvS s)
    (hs : serialStep inp s perm = some s') : InvS s' := by
  cases serialStep_spec hs with
  | @send node s0 hr hst hsd =>
    obtain ⟨⟨_, _, o3, o4, o5, o6, _, _, o9, _⟩, _⟩ := send_outer hsd
    exact ⟨fun e => absurd (o9.trans (h.halt_none hr nofun nofun)) e, fun _ => o6.trans hst,
      by show s0.jobQ = [] ∧ s0.resQ = [] ∧ ∀ w, s0.workers w = .notStarted; rw [o3, o4, o5]; exact h.q⟩
  | tick _ _ hd => exact h.outer (dtick_outer hd)
  | @go n nd hr =>
    have k := applySel_keeps inp s n nd .go
    exact h.keep hr nofun nofun RPC.noConfusion k.halt k.jobQ k.resQ k.workers
  | @select n nd d hr =>
    have k := applySel_keeps inp s n nd d
    exact h.keep hr nofun nofun RPC.noConfusion k.halt k.jobQ k.resQ k.workers
  | @result n nd hr =>
    have k := processResult_keeps inp { s with events := Ev.fin n 0 :: s.events } n nd
    exact h.keep hr nofun nofun RPC.noConfusion k.halt k.jobQ k.resQ k.workers
  | finish => exact ⟨fun _ => Or.inr rfl, nofun, h.q⟩
  | _ => exact ⟨fun _ => Or.inl rfl, nofun, h.q⟩

theorem init_invS (inp : RunInput) (hser : inp.runner = .serial) : InvS (init inp) :=
  ⟨fun e => absurd rfl e, (fun e => by rw [init, if_pos hser] at e; cases e), ⟨rfl, rfl, fun _ => rfl⟩⟩

theorem reach_invS {s : Sys} (hser : inp.runner = .serial) (h : Reach inp s) : InvS s := by
  induction h with
  | init => exact init_invS inp hser
  | @next s0 s1 c _ hs ih =>
    cases c with
    | main perm => exact serialStep_invS ih hs
    | take w => cases hs
    | done w => cases hs

theorem serial_no_holdOn {s : Sys} (hser : inp.runner = .serial) (h : Reach inp s) : s.susp ≠ some .holdOn := by
  induction h with
  | init => nofun
  | @next s0 s1 c hp hs ih =>
    cases c with
    | take w => cases hs
    | done w => cases hs
    | main perm =>
      have hC := reach_invC hp
      have hS := reach_invS hser hp
      intro hh
      cases serialStep_spec (show serialStep inp s0 perm = some s1 from hs) with
      | send _ _ hsd => rcases (send_dispatched hsd).1 with a | a <;> cases a.symm.trans hh
      | tick hr hsu hd =>
        -- `dispatched` would be non-empty, but on the serial runner nothing can be out while the generator runs
        obtain ⟨hne, _⟩ := dtick_holdOn hsu hd hh
        cases hdl : s0.dispatched with
        | nil => exact hne hdl
        | cons n rest =>
          rcases hC.dc (hS.sw hr) (hS.halt_none hr nofun nofun) (by rw [hsu]; nofun) n (hdl ▸ List.mem_cons_self ..) with
            ⟨_, y⟩ | y | y | y
          · cases hsu.symm.trans y
          · unfold sentBack at y; rw [hr] at y; cases y
          · rcases inFlight_cases y (by rw [hr]; nofun) with z | ⟨w, z⟩ | z
            · rw [hS.q.1] at z; cases z
            · cases (hS.q.2.2 w).symm.trans z
            · rw [hS.q.2.1] at z; cases z
          · cases hr.symm.trans y
      | @go n nd _ hsu => exact nomatch (((applySel_keeps inp s0 n nd .go).susp.trans hsu).symm.trans hh)
      | @select n nd d _ hsu => exact nomatch (((applySel_keeps inp s0 n nd d).susp.trans hsu).symm.trans hh)
      | @result n nd =>
        exact ih ((processResult_keeps inp { s0 with events := Ev.fin n 0 :: s0.events } n nd).susp.symm.trans hh)
      | _ => exact ih hh

theorem preach_no_sExec {s : Sys} (h : PReach inp s) : ∀ m, s.rpc ≠ .sExec m := by
  induction h with
  | init => intro m; rw [init]; split <;> nofun
  | @next s0 s1 c _ hs ih =>
    cases c with
    | take w => intro m; rw [(takeStep_spec (show takeStep inp s0 w = some s1 from hs)).workerFrame.rpc]; exact ih m
    | done w => intro m; rw [(doneStep_spec (show doneStep s0 w = some s1 from hs)).workerFrame.rpc]; exact ih m
    | main perm =>
      cases mainStep_spec (show mainStep inp s0 perm = some s1 from hs) with
      | tick hr _ hd => intro m; rw [(dtick_outer hd).2.1, hr]; nofun
      | @ret job ret =>
        generalize hg : gReturn s0 job ret = g
        cases gReturn_row.of_eq hg <;> exact fun _ e => RPC.noConfusion e
      | _ => exact fun _ e => RPC.noConfusion e

/-- parallel runners: while the run goes on, a `"hold on"` answer means some task is out at the runner -/
theorem parallel_holdOn_in_flight {s : Sys} (h : PReach inp s) (hst : s.stop = false) (hh : s.halt = .none)
    (hho : s.susp = some .holdOn) :
    ∃ n, n ∈ s.dispatched ∧ (InFlight s n ∨ sentBack s = some n) := by
  have hC := preach_invC h
  cases hd : s.dispatched with
  | nil => exact absurd hd (hC.ho hho)
  | cons n rest =>
    refine ⟨n, List.mem_cons_self .., ?_⟩
    rcases hC.dc hst hh (by rw [hho]; nofun) n (hd ▸ List.mem_cons_self ..) with ⟨_, y⟩ | y | y | y
    · cases hho.symm.trans y
    · exact Or.inr y
    · exact Or.inl y
    · exact absurd y (preach_no_sExec h n)

end DoitModel.Run
