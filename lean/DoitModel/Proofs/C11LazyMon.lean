import DoitModel.Proofs.C11LazyCtx
/-! # C11, laziness monitor: what one transition (by its `Shape`) does to the facts the monitor looks at, and the
    invariant from which `monLazy` holds on the observable trace of every reachable state (bounded names) -/
namespace DoitModel.Run
open DoitModel.Report

theorem terminal_not_quiet {t : Name} {e : Ev} (h : Ev.isTerminalOf t e = true) : e.quiet = false := by
  cases e <;> simp [Ev.isTerminalOf] at h <;> rfl

theorem selEvents_terminal {inp : RunInput} {n t : Name} {nd : Node} {d : Sel} {e : Ev}
    (he : e ∈ selEvents inp n nd d) (ht : Ev.isTerminalOf t e = true) : t = n := by
  have hs : ∀ e ∈ statusEv nd n, Ev.isTerminalOf t e = false := by
    intro e he; unfold statusEv at he; split at he <;> simp at he; subst he; rfl
  cases d <;> simp only [selEvents, List.mem_cons] at he
  case go =>
    rcases he with he | he
    · subst he; simp [Ev.isTerminalOf] at ht
    · rw [hs e he] at ht; cases ht
  case runFirst => rw [hs e he] at ht; cases ht
  case assertFail => cases he
  all_goals
    rcases he with he | he
    · subst he; simp [Ev.isTerminalOf] at ht; exact ht.symm
    · rw [hs e he] at ht; cases ht

theorem resEvents_terminal {n t : Name} {o : Outcome} {e : Ev} (he : e ∈ resEvents n o)
    (ht : Ev.isTerminalOf t e = true) : t = n := by
  cases o <;> simp [resEvents] at he <;> (subst he; simp [Ev.isTerminalOf] at ht; exact ht.symm)

structure StepInfo (inp : RunInput) (nT : Nat) (s s' : Sys) : Prop where
  /-- a task whose status is computed gets its terminal report only after each of its setup-tasks was mentioned in the
      trace: this is what keeps `setupOK` stable when the trace grows -/
  ev : ∃ new, s'.events = new ++ s.events ∧
    ∀ t d, d ∈ inp.setup t → Ev.getStatus t ∈ trace inp s → (∃ e ∈ new, Ev.isTerminalOf t e = true) →
      ∃ e ∈ trace inp s, Ev.mentions d e = true
  dmono : ∀ p r, Ds inp s p r → Ds inp s' p r
  rf : (∀ a, stOf s a = .run → ranFirst inp nT (trace inp s) a = true) →
    ∀ a, stOf s' a = .run → ranFirst inp nT (trace inp s') a = true

theorem started_mono {s s' : Sys} {new : List Ev} (e : s'.events = new ++ s.events) {p : Name}
    (h : started s p = true) : started s' p = true := by
  unfold started at h ⊢; rw [e, List.any_append, h]; simp

theorem ds_mono {inp : RunInput} {s s' : Sys} {new : List Ev} (e : s'.events = new ++ s.events) {p : Name}
    (hst : stOf s' p = stOf s p) {r : CalcRes} (h : Ds inp s p r) : Ds inp s' p r := by
  rcases h with ⟨a, b⟩ | ⟨a, b, c⟩
  · exact Or.inl ⟨by rw [hst]; exact a, b⟩
  · exact Or.inr ⟨by rw [hst]; exact a, started_mono e b, c⟩

theorem stepInfo {inp : RunInput} {s s' : Sys} (c : Ctx inp s) (nT : Nat) (sh : Shape inp s s') :
    StepInfo inp nT s s' := by
  cases sh with
  | quiet new hst hev hq hstop =>
    refine ⟨⟨new, hev, ?_⟩, fun p r hp => ds_mono hev (hst p) hp, ?_⟩
    · intro t d _ _ ⟨e, he, ht⟩
      have := terminal_not_quiet ht; rw [hq e he] at this; cases this
    · intro hrf a ha
      rw [trace_append hev]
      exact ranFirst_stable (hrf a (by rw [← hst]; exact ha)) _
  | select n nd extra haw hsusp hn hd hst hev hq hstop =>
    have hstn : stOf s n = nd.status := by simp [stOf, hn]
    have hev' : s'.events = (extra ++ selEvents inp n nd (selDecision inp n nd)) ++ s.events := by
      rw [hev, List.append_assoc]
    refine ⟨⟨_, hev', ?_⟩, ?_, ?_⟩
    · intro t d hdt hgs ⟨e, he, ht⟩
      rcases List.mem_append.mp he with a | a
      · have := terminal_not_quiet ht; rw [hq e a] at this; cases this
      · have htn := selEvents_terminal a ht
        subst htn
        have hne : nd.status ≠ .none := by
          rw [← hstn]; exact c.mention_status (mem_trace.mp hgs).1 (by simp [Ev.mentions]) rfl
        have hok := c.h2.inv1.node t nd hn
        obtain ⟨nd', hn', hpc⟩ := c.h2.inv1.sp t hsusp
        rw [hn] at hn'; cases hn'
        have hpc2 : nd.pc = .afterSelf2 := by
          rcases hpc with e1 | e1
          · exact absurd (c.h2.sel1 haw t nd hsusp hn e1) hne
          · exact e1
        have hw : nd.waitRun = [] := hok.m2 (by rw [hpc2]; rfl)
        rcases hok.ks (by rw [hpc2]; rfl) d hdt with x | x
        · rw [hw] at x; cases x
        · have : stOf s d ≠ .none := by
            intro h0; have x1 := x.1; rw [h0] at x1; cases x1
          exact ⟨_, c.status_mention this, by simp [Ev.mentions]⟩
    · intro p r hp
      by_cases e : p = n
      · subst e
        exfalso
        rcases hp with ⟨a, _⟩ | ⟨a, _⟩ <;> rw [hstn] at a <;>
          rcases selDecision_status hd with x | x <;> (rw [x] at a; cases a)
      · exact ds_mono hev' (by rw [hst, if_neg e]) hp
    · intro hrf a ha
      rw [trace_append hev']
      apply ranFirst_stable
      rw [hst] at ha
      by_cases e : a = n
      · subst e
        rw [if_pos rfl] at ha
        by_cases h0 : nd.status = .none
        · exact first_run_ranFirst c hsusp hn h0 ha nT
        · rcases selDecision_status hd with x | x
          · exact absurd x h0
          · exact hrf a (by rw [hstn]; exact x)
      · rw [if_neg e] at ha; exact hrf a ha
  | result n nd mid hn hrun hgo hst hev hq hstop =>
    have hstn : stOf s n = .run := by simp [stOf, hn, hrun]
    have hev' : s'.events = (resEvents n (inp.outcome n) ++ mid) ++ s.events := by
      rw [hev, List.append_assoc]
    refine ⟨⟨_, hev', ?_⟩, ?_, ?_⟩
    · intro t d hdt _ ⟨e, he, ht⟩
      rcases List.mem_append.mp he with a | a
      · have htn := resEvents_terminal a ht
        subst htn
        obtain ⟨deps, hdeps⟩ := hgo
        have hin : d ∈ deps := c.h2.gs t deps hdeps d (by simp [staticDeps, hdt])
        exact finBefore_mentioned (ordOK_go c.h2.ord hdeps d hin)
      · have := terminal_not_quiet ht; rw [hq e a] at this; cases this
    · intro p r hp
      by_cases e : p = n
      · subst e
        exfalso
        rcases hp with ⟨a, _⟩ | ⟨a, _⟩ <;> (rw [hstn] at a; cases a)
      · exact ds_mono hev' (by rw [hst, if_neg e]) hp
    · intro hrf a ha
      rw [trace_append hev']
      apply ranFirst_stable
      rw [hst] at ha
      by_cases e : a = n
      · subst e
        rw [if_pos rfl] at ha
        cases ho : inp.outcome a <;> (rw [ho] at ha; simp [resStatus] at ha)
      · rw [if_neg e] at ha; exact hrf a ha

/-- the invariant: every node's task is justified on the current trace, every list of a node holds what the closure
    reaches, the tasks still to be popped are justified; a task chosen for execution satisfies `ranFirst` -/
structure LM (inp : RunInput) (nT : Nat) (s : Sys) : Prop where
  sj : SJ inp (JustT inp nT (trace inp s)) (Ds inp s) s
  rf : ∀ a, stOf s a = .run → ranFirst inp nT (trace inp s) a = true

theorem just_bnd {inp : RunInput} {n : Nat} (hb : BoundedP inp n) {tr : List Ev} {d : Name}
    (h : JustT inp n tr d) : d < n := by
  induction h with
  | sel ht => exact hb.sel _ ht
  | step _ hd ih => exact succs_bnd hb tr ih _ hd

theorem crel_calcsAt {inp : RunInput} {n : Nat} (hb : BoundedP inp n) {s : Sys} (c : Ctx inp s) {t x : Name}
    (ht : t < n) (h : CRel inp (Ds inp s) t x) :
    x ∈ calcsAtF inp (trace inp s) n (inp.calcDep t) := by
  induction h with
  | base hc => exact calcsAtF_ext inp _ n _ _ hc
  | res _ hg hx ih =>
    exact calcsAtF_closed hb _ (hb.cd t ht) ih
      ((c.ds_resAt hb (calcsAtF_bnd hb _ n (hb.cd t ht) _ ih) hg).1 _ hx)

theorem jclosed {inp : RunInput} {n : Nat} (hb : BoundedP inp n) {s : Sys} (c : Ctx inp s) :
    JClosed inp (JustT inp n (trace inp s)) (Ds inp s) := by
  constructor
  · intro t x ht hx
    refine .step ht ?_
    have := crel_calcsAt hb c (just_bnd hb ht) hx
    simp only [succs, List.mem_append]
    exact Or.inl (Or.inl (Or.inr this))
  · intro t x ht hx
    refine .step ht ?_
    simp only [succs, List.mem_append, List.mem_flatMap, List.mem_filter]
    cases hx with
    | task h => exact Or.inl (Or.inl (Or.inl h))
    | resT hp hg h =>
      have hm := crel_calcsAt hb c (just_bnd hb ht) hp
      have hpb := calcsAtF_bnd hb _ n (hb.cd t (just_bnd hb ht)) _ hm
      exact Or.inl (Or.inr ⟨_, hm, Or.inl ((c.ds_resAt hb hpb hg).2.1 _ h)⟩)
    | resF hp hg h =>
      have hm := crel_calcsAt hb c (just_bnd hb ht) hp
      have hpb := calcsAtF_bnd hb _ n (hb.cd t (just_bnd hb ht)) _ hm
      exact Or.inl (Or.inr ⟨_, hm, Or.inr ((c.ds_resAt hb hpb hg).2.2 _ h)⟩)

theorem hyp_of {inp : RunInput} {n : Nat} (hb : BoundedP inp n) {s : Sys} (c : Ctx inp s) (lm : LM inp n s) :
    Hyp inp (JustT inp n (trace inp s)) (Ds inp s) s := by
  refine ⟨knowsD_ds inp s, jclosed hb c, ?_⟩
  intro t nd d ds _ hn hpc hnone
  have hnj := lm.sj.all t nd hn
  have hrun : stOf s t = .run := by
    have := c.lz t nd hn (by rw [hpc]; rfl)
    simp [stOf, hn, this]
  have hd : d ∈ inp.setup t := by
    have := hnj.pcl; rw [hpc] at this; exact this d (by simp)
  refine .step hnj.self ?_
  simp only [succs, List.mem_append, List.mem_filter]
  refine Or.inr ⟨hd, ?_⟩
  have h0 : stOf s d = .none := by simp [stOf, hnone]
  have hun := c.unmentioned h0
  have hf : firstMentionIdx (trace inp s) d = none := List.findIdx?_eq_none_iff.mpr hun
  unfold setupOK; rw [hf]
  unfold runPending
  simp only [Bool.and_eq_true, Bool.not_eq_true', List.contains_eq_mem, decide_eq_true_eq]
  exact ⟨⟨c.status_mention (by rw [hrun]; simp), c.run_noTerminal hrun⟩, lm.rf t hrun⟩

theorem CRel.mono {inp : RunInput} {G G' : Name → CalcRes → Prop} (hG : ∀ p r, G p r → G' p r) {n c : Name}
    (h : CRel inp G n c) : CRel inp G' n c := by
  induction h with
  | base hc => exact .base hc
  | res _ hg hx ih => exact .res ih (hG _ _ hg) hx

theorem TRel.mono {inp : RunInput} {G G' : Name → CalcRes → Prop} (hG : ∀ p r, G p r → G' p r) {n d : Name}
    (h : TRel inp G n d) : TRel inp G' n d := by
  cases h with
  | task h => exact .task h
  | resT hp hg h => exact .resT (hp.mono hG) (hG _ _ hg) h
  | resF hp hg h => exact .resF (hp.mono hG) (hG _ _ hg) h

theorem SJ.mono {inp : RunInput} {J J' : Name → Prop} {G G' : Name → CalcRes → Prop} {s : Sys}
    (hJ : ∀ x, J x → J' x) (hG : ∀ p r, G p r → G' p r)
    (h : SJ inp J G s) : SJ inp J' G' s := by
  refine ⟨?_, fun t ht => hJ t (h.tr t ht)⟩
  intro k y hk
  have a := h.all k y hk
  refine ⟨hJ k a.self, fun d hd => (a.dt d hd).mono hG, fun d hd => (a.dc d hd).mono hG,
    fun d hd => (a.pt d hd).mono hG, fun d hd => (a.pcalc d hd).mono hG, fun d hd => (a.st d hd).mono hG,
    fun d hd => (a.sc d hd).mono hG, fun d hd => (a.wc d hd).mono hG, ?_⟩
  have := a.pcl
  cases hpc : y.pc <;> rw [hpc] at this <;> simp only [pcJ] at this ⊢
  · exact fun d hd => (this d hd).mono hG
  · exact fun d hd => (this d hd).mono hG
  · exact this

theorem setupOK_getStatus {inp : RunInput} {n : Nat} {tr : List Ev} {t d : Name} (h : setupOK inp n tr t d = true) :
    Ev.getStatus t ∈ tr := by
  unfold setupOK at h
  split at h
  · unfold runPending at h
    simp only [Bool.and_eq_true, List.contains_eq_mem, decide_eq_true_eq] at h
    exact List.mem_of_mem_take h.1.1
  · unfold runPending at h
    simp only [Bool.and_eq_true, List.contains_eq_mem, decide_eq_true_eq] at h
    exact h.1.1

theorem init_lm (inp : RunInput) (nT : Nat) : LM inp nT (init inp) := by
  refine ⟨⟨fun k y hk => by simp [init] at hk, fun t ht => .sel ht⟩, ?_⟩
  intro a ha; simp [stOf, init] at ha

theorem lm_step {inp : RunInput} {n : Nat} (hb : BoundedP inp n) {s s' : Sys} (c : Ctx inp s) (c' : Ctx inp s')
    (lm : LM inp n s) (m : Move inp s s') : LM inp n s' := by
  have sh := m.shape c.h2 c.h3
  have hsj : ∀ J G, Hyp inp J G s → SJ inp J G s → SJ inp J G s' := fun _ _ hy h => m.sj hy h
  obtain ⟨⟨new, hev, hT⟩, gm, rf⟩ := stepInfo c n sh
  refine ⟨?_, rf lm.rf⟩
  have h1 := hsj _ _ (hyp_of hb c lm) lm.sj
  refine h1.mono ?_ gm
  intro x hx
  rw [trace_append hev]
  refine hx.mono (obsOf inp new) (resLe_step c' hev) ?_
  intro t d hd hok
  refine setupOK_stable hok _ ?_
  rintro ⟨e, he, ht⟩
  exact hT t d hd (setupOK_getStatus hok) ⟨e, (mem_obsOf.mp he).1, ht⟩

theorem reach_lm {inp : RunInput} {n : Nat} (hb : BoundedP inp n) (hser : inp.runner = .serial) {s : Sys}
    (h : Reach inp s) : LM inp n s := by
  induction h with
  | init => exact init_lm inp n
  | @next s0 s1 c hr hs ih =>
    cases c with
    | main perm =>
      exact lm_step hb (reach_ctx hser hr) (reach_ctx hser (Reach.next hr hs)) ih (serialStep_move hs).1
    | take w => cases hs
    | done w => cases hs

theorem preach_lm {inp : RunInput} {n : Nat} (hb : BoundedP inp n) (hpar : inp.runner ≠ .serial) {s : Sys}
    (h : PReach inp s) : LM inp n s := by
  induction h with
  | init => exact init_lm inp n
  | @next s0 s1 c hr hs ih =>
    exact lm_step hb (preach_ctx hpar hr) (preach_ctx hpar (PReach.next hr hs)) ih (pstep_move hs).1

theorem monLazy_of_lm {inp : RunInput} {n : Nat} (hb : BoundedP inp n) {s : Sys} (c : Ctx inp s) (lm : LM inp n s) :
    monLazy inp n (trace inp s) = true := by
  unfold monLazy
  simp only [List.all_eq_true, List.mem_range, Bool.or_eq_true, Bool.not_eq_true', List.contains_eq_mem,
    decide_eq_true_eq]
  intro d _
  cases hm : (trace inp s).any (Ev.mentions d) with
  | false => exact Or.inl rfl
  | true =>
    right
    obtain ⟨e, he, hme⟩ := List.any_eq_true.mp hm
    obtain ⟨h1, h2⟩ := mem_trace.mp he
    have hst := c.mention_status h1 hme h2
    cases hn : s.nodes d with
    | none => exact absurd (by simp [stOf, hn]) hst
    | some nd => exact just_mem_lazyIter hb _ (lm.sj.all d nd hn).self

theorem monLazy_init (inp : RunInput) (n : Nat) : monLazy inp n (trace inp (init inp)) = true := by
  unfold monLazy
  simp [trace, init]

end DoitModel.Run
