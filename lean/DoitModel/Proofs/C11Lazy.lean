import DoitModel.Proofs.RunLive2
import DoitModel.Proofs.RunMove
/-! # C11, laziness: the dispatcher is inside the setup stage of a task only while that task's `run_status` is `run` -/
namespace DoitModel.Run

/-- positions of `_add_task` between "`if node.run_status == 'run':`" and the second `yield this_task`: the setup-tasks
    are being scheduled (`setupIter`), registered / awaited (`afterSetup`), the task is about to be re-sent (`self2`) -/
def PC.setupStage : PC → Bool
  | .setupIter _ | .afterSetup | .self2 => true
  | _ => false

def Lazy (s : Sys) : Prop := ∀ n nd, s.nodes n = some nd → nd.pc.setupStage = true → nd.status = .run

theorem lazy_init (inp : RunInput) : Lazy (init inp) := by
  intro n nd hn; simp [init] at hn

theorem Lazy.congr {s s' : Sys} (h : Lazy s) (e : s'.nodes = s.nodes) : Lazy s' := by
  intro n nd hn; rw [e] at hn; exact h n nd hn

theorem PC.yielded1_of_setupStage {pc : PC} (h : pc.setupStage = true) : pc.yielded1 = true := by
  cases pc <;> first | rfl | cases h

theorem lazy_dtick {inp : RunInput} {s s' : Sys} {perm : List Name} (h : Lazy s) (hs : dtick inp s perm = some s') :
    Lazy s' := by
  intro k y hk hy
  rcases dtick_node hs k y hk with ⟨_, a, _⟩ | ⟨x, hx, e1, e2⟩
  · rw [a] at hy; cases hy
  · rw [e1]
    rcases e2 with e2 | ⟨_, tr⟩
    · exact h k x hx (e2 ▸ hy)
    · -- the setup stage is entered from `setupDecide` only, and only with status `run`
      have stage : x.pc.setupStage = true → x.status = .run := h k x hx
      unfold PcTrans at tr
      cases hpc : x.pc <;> rw [hpc] at tr stage <;> simp only at tr
      case setupDecide =>
        rcases tr with ⟨a, _⟩ | ⟨_, t⟩
        · exact a
        · rw [t] at hy; cases hy
      case setupIter => exact stage rfl
      case afterSetup => exact stage rfl
      case self1 => rw [tr.1] at hy; cases hy
      case self2 => rw [tr.1] at hy; cases hy
      case afterSelf1 => rcases tr with ⟨_, t⟩ | ⟨_, t⟩ <;> (rw [t] at hy; cases hy)
      case afterSelf2 => rw [tr] at hy; cases hy
      case done => rw [tr] at hy; cases hy
      all_goals (rw [PC.yielded1_of_setupStage hy] at tr; cases tr)

theorem lazy_send {inp : RunInput} {s s' : Sys} {node : Option Name} {perm : List Name} (h : Lazy s)
    (h1 : Inv1 inp s) (hsel : ∀ p, node = some p → stOf s p ≠ .none) (hs : send inp s node perm = some s') :
    Lazy s' := by
  obtain ⟨_, hst⟩ := send_inv1 h1 hsel hs
  have keep := send_pcs hs
  intro k y hk hy
  cases hx : s.nodes k with
  | none =>
    have := send_noNew hs k hx
    rw [hk] at this; cases this
  | some x =>
    obtain ⟨x', hx', e⟩ := keep k x hx (by simp)
    rw [hk] at hx'; cases hx'
    have e2 : y.status = x.status := by have := hst k; simpa [stOf, hk, hx] using this
    rw [e2]; exact h k x hx (e ▸ hy)

theorem lazy_status {s s' : Sys} {n : Name} {nd : Node} (st : RS) (h : Lazy s) (hn : s.nodes n = some nd)
    (hpc : nd.pc.setupStage = false) (e : s'.nodes = (setNode s n { nd with status := st }).nodes) : Lazy s' := by
  intro k y hk hy
  rw [e] at hk
  simp only [setNode] at hk
  by_cases ek : k = n
  · subst ek; rw [if_pos rfl] at hk; cases hk
    simp only [] at hy; rw [hpc] at hy; cases hy
  · rw [if_neg ek] at hk; exact h k y hk hy

theorem yset_notSetup {inp : RunInput} {n : Name} {pc : PC} (h : YSet inp n pc) : pc.setupStage = false := by
  rcases h with e | e | ⟨_, e⟩ <;> (rw [e]; rfl)

theorem lazy_select {inp : RunInput} {s : Sys} {n : Name} {nd : Node} (h : Lazy s) (h1 : Inv1 inp s)
    (hsusp : s.susp = some (.node n)) (hn : s.nodes n = some nd) (d : Sel) (hd : d ≠ .assertFail) :
    Lazy (applySel inp s n nd d) := by
  obtain ⟨nd', hn', hpc⟩ := h1.sp n hsusp
  rw [hn] at hn'; cases hn'
  refine lazy_status (selStatus d) h hn ?_ (applySel_nodes inp s n nd d hd)
  rcases hpc with e | e <;> (rw [e]; rfl)

/-- the task whose result is processed was answered `go` -/
theorem result_cGo {inp : RunInput} {s : Sys} {n : Name} (h3 : Inv3 inp s) (hsrc : s.rpc = .sExec n ∨ n ∈ s.resQ) :
    cGo s n ≥ 1 := by
  have := h3.j n
  rcases hsrc with hr | hq
  · have := (h3.x3 n hr).1; omega
  · have := (h3.q1 n hq).1; have := (h3.p0 n).2; omega

theorem lazy_result {inp : RunInput} {s x : Sys} {n : Name} {nd : Node} (h : Lazy s) (h3 : Inv3 inp s)
    (hgo : cGo s n ≥ 1) (hn : s.nodes n = some nd) (ex : x.nodes = s.nodes) :
    Lazy (processResult inp x n nd) := by
  obtain ⟨nd', hn', hy⟩ := h3.y n hgo
  rw [hn] at hn'; cases hn'
  have hx : Lazy x := h.congr ex
  exact lazy_status (resStatus (inp.outcome n)) hx (by rw [ex]; exact hn) (yset_notSetup hy)
    (processResult_nodes inp x n nd)

theorem Move.lazy {inp : RunInput} {s s' : Sys} (m : Move inp s s') (h : Lazy s) (i2 : Inv2 inp s) (i3 : Inv3 inp s) :
    Lazy s' := by
  cases m with
  | emit new a hx => exact h.congr a.nodes
  | tick perm haw hsu hs => exact lazy_dtick h hs
  | send node perm s0 hb hs a =>
    exact (lazy_send h i2.inv1 (fun p hp => i2.sb p (by rw [hb, hp])) hs).congr a.nodes
  | select n nd extra haw hsu hn hd a hx => exact (lazy_select h i2.inv1 hsu hn _ hd).congr a.nodes
  | result n nd mid s0 hn hsrc a0 hx a => exact (lazy_result h i3 (result_cGo i3 hsrc) hn a0.nodes).congr a.nodes
  | finish hf => subst hf; exact h.congr rfl

theorem reach_lazy {inp : RunInput} {s : Sys} (h : Reach inp s) : Lazy s :=
  Move.reach (fun _ => trivial) (lazy_init inp) (fun h2 h3 _ ih m => m.lazy ih h2 h3) h

theorem preach_lazy {inp : RunInput} {s : Sys} (h : PReach inp s) : Lazy s :=
  Move.preach (fun _ => trivial) (lazy_init inp) (fun h2 h3 _ ih m => m.lazy ih h2 h3) h

end DoitModel.Run
