import DoitModel.Proofs.RunSys
/-! # C12 — wait sets only lose the node that is fed back to the dispatcher

`KeepW p s s'`: every node of `s` is still there in `s'`, and whatever it waited for it still waits for, except
possibly `p`.  Holds of every piece of the dispatcher with `p` = the processed node of `_update_waiting`. -/
namespace DoitModel.Run

def waitsOn (nd : Node) (d : Name) : Prop := d ∈ nd.waitRun ∨ d ∈ nd.waitRunCalc

def KeepW (p : Option Name) (s s' : Sys) : Prop :=
  ∀ k y, s.nodes k = some y → ∃ y', s'.nodes k = some y' ∧ ∀ d, waitsOn y d → waitsOn y' d ∨ p = some d

theorem KeepW.of_eq {p : Option Name} {s s' : Sys} (h : s'.nodes = s.nodes) : KeepW p s s' :=
  fun _ y hy => ⟨y, by rw [h]; exact hy, fun _ a => Or.inl a⟩

theorem KeepW.trans {p : Option Name} {a b c : Sys} (h1 : KeepW p a b) (h2 : KeepW p b c) : KeepW p a c := by
  intro k y hy
  obtain ⟨y1, e1, f1⟩ := h1 k y hy
  obtain ⟨y2, e2, f2⟩ := h2 k y1 e1
  refine ⟨y2, e2, fun d hd => ?_⟩
  rcases f1 d hd with a | a
  · exact f2 d a
  · exact Or.inr a

theorem KeepW.weaken {p : Option Name} {s s' : Sys} (h : KeepW none s s') : KeepW p s s' := by
  intro k y hy
  obtain ⟨y', e, f⟩ := h k y hy
  refine ⟨y', e, fun d hd => ?_⟩
  rcases f d hd with a | a
  · exact Or.inl a
  · cases a

theorem keepW_setNode {p : Option Name} {s s' : Sys} {n : Name} {nd x : Node} (hn : s.nodes n = some nd)
    (e : s'.nodes = (setNode s n x).nodes) (hx : ∀ d, waitsOn nd d → waitsOn x d ∨ p = some d) : KeepW p s s' := by
  intro k y hy
  rw [e]
  by_cases e : k = n
  · subst e; rw [hn] at hy; cases hy
    exact ⟨x, by simp [setNode], hx⟩
  · exact ⟨y, by simpa [setNode, e] using hy, fun _ a => Or.inl a⟩

theorem keepW_create {p : Option Name} {s : Sys} {t : Name} (x : Node) (ht : s.nodes t = none) :
    KeepW p s (setNode s t x) := by
  intro k y hy
  have e : k ≠ t := by intro e; subst e; rw [ht] at hy; cases hy
  exact ⟨y, by simpa [setNode, e] using hy, fun _ a => Or.inl a⟩

theorem addWaiting_waits (x : Node) (m : Name) (d : Name) : waitsOn (x.addWaiting m) d ↔ waitsOn x d := by
  unfold Node.addWaiting; split <;> exact Iff.rfl

theorem keepW_registerWaiting (p : Option Name) (s : Sys) (n : Name) (wf : List Name) :
    KeepW p s (registerWaiting s n wf) := by
  intro k y hy
  by_cases hk : k ∈ wf
  · exact ⟨y.addWaiting n, by simp [registerWaiting_nodes, hy, hk], fun d a => Or.inl ((addWaiting_waits y n d).2 a)⟩
  · exact ⟨y, by simp [registerWaiting_nodes, hy, hk], fun _ a => Or.inl a⟩

theorem keepW_genStep {inp : RunInput} (p : Option Name) {s : Sys} {n : Name} {nd : Node} (d : Name) (pc' : PC)
    (hn : s.nodes n = some nd) : KeepW p s (genStep inp s n nd d pc') := by
  generalize hg : genStep inp s n nd d pc' = g
  cases genStep_spec hg with
  | fresh hd =>
    have hne : n ≠ d := by intro e; subst e; rw [hn] at hd; cases hd
    have hn' : (setNode s d (mkNode inp d (nd.anc ++ [d]))).nodes n = some nd := by simp [setNode, hne, hn]
    exact (keepW_create _ hd).trans (keepW_setNode hn' rfl (fun _ a => Or.inl a))
  | cyclic => exact KeepW.of_eq rfl
  | known => exact keepW_setNode hn rfl (fun _ a => Or.inl a)

theorem keepW_addWaitRun {inp : RunInput} (p : Option Name) {s : Sys} {n : Name} {nd : Node} (ds : List Name)
    (c : Bool) (pc' : PC) (hn : s.nodes n = some nd) : KeepW p s (addWaitRun inp s n nd ds c pc') := by
  unfold addWaitRun
  have wf := waitNode_facts inp s nd ds c pc'
  have h1 : KeepW p s (setNode s n (waitNode inp s nd ds c pc')) :=
    keepW_setNode hn rfl (fun d a => Or.inl (by
      rcases a with a | a
      · exact Or.inl (wf.wr d a)
      · exact Or.inr (wf.wc d a)))
  exact h1.trans (keepW_registerWaiting p _ n _)

theorem keepW_nodeStep {inp : RunInput} (p : Option Name) {s s' : Sys} {n : Name} {nd : Node} {perm : List Name}
    (hn : s.nodes n = some nd) (h : NodeStep inp s n nd perm s') : KeepW p s s' := by
  cases h with
  | move hm => cases hm <;> exact keepW_setNode hn rfl (fun _ a => Or.inl a)
  | park hp => cases hp <;> exact keepW_setNode hn rfl (fun _ a => Or.inl a)
  | yield1 | yield2 => exact keepW_setNode hn rfl (fun _ a => Or.inl a)
  | calcGen | taskGen | setupGen => exact keepW_genStep p _ _ hn
  | calcWait | taskWait | setupWait => exact keepW_addWaitRun p _ _ _ hn
  | done => exact KeepW.of_eq rfl

theorem keepW_dtick {inp : RunInput} (p : Option Name) {s s' : Sys} {perm : List Name}
    (hs : dtick inp s perm = some s') : KeepW p s s' := by
  cases dtick_spec hs with
  | node _ hn h => exact keepW_nodeStep p hn h
  | create _ _ _ ht => exact (keepW_create (p := p) _ ht).trans (KeepW.of_eq rfl)
  | lost | pop | skip | deadlock | holdOn | stopIter => exact KeepW.of_eq rfl

theorem keepW_wakeOne (inp : RunInput) (s : Sys) (pst : RS) (p w : Name) (nd : Node) (hw : s.nodes w = some nd) :
    KeepW (some p) s (wakeOne inp s pst p w nd) := by
  have u := wokenF_upd inp s pst p nd
  refine keepW_setNode (x := wokenF inp s pst p nd) hw (by unfold wakeOne; split <;> rfl) (fun d a => ?_)
  rcases a with a | a
  · rcases u.wr d a with b | ⟨b, _⟩
    · exact Or.inl (Or.inl b)
    · exact Or.inr (by rw [b])
  · rcases u.wc d a with b | ⟨b, _⟩
    · exact Or.inl (Or.inr b)
    · exact Or.inr (by rw [b])

theorem keepW_updateWaiting (inp : RunInput) (pst : RS) (p : Name) :
    ∀ (perm : List Name) (s s' : Sys), updateWaiting inp pst p s perm = some s' → KeepW (some p) s s' := by
  intro perm
  induction perm with
  | nil => intro s s' hs; simp only [updateWaiting] at hs; cases hs; exact KeepW.of_eq rfl
  | cons w ws ih =>
    intro s s' hs
    simp only [updateWaiting] at hs
    cases hw : s.nodes w with
    | none => simp only [hw] at hs; exact ih s s' hs
    | some nd =>
      simp only [hw] at hs
      split at hs
      · cases hs
      · exact (keepW_wakeOne inp s pst p w nd hw).trans (ih _ s' hs)

theorem keepW_sendHead (q : Option Name) (s : Sys) (p : Name) (nd : Node) (hn : s.nodes p = some nd) :
    KeepW q s (sendHead s p nd) := by
  unfold sendHead; split
  · exact keepW_setNode hn rfl (fun _ a => Or.inl a)
  · exact KeepW.of_eq rfl

theorem keepW_send {inp : RunInput} {s s' : Sys} {processed : Option Name} {perm : List Name}
    (hs : send inp s processed perm = some s') : KeepW processed s s' := by
  cases send_spec hs with
  | first | lost | keyError => exact KeepW.of_eq rfl
  | running hn | assertion hn => exact (keepW_sendHead _ s _ _ hn).trans (KeepW.of_eq rfl)
  | woken hn _ _ _ hu =>
    exact ((keepW_sendHead _ s _ _ hn).trans (keepW_updateWaiting inp _ _ perm _ _ hu)).trans (KeepW.of_eq rfl)

theorem keepW_status (q : Option Name) {s s' : Sys} {n : Name} {nd : Node} (st' : RS) (hn : s.nodes n = some nd)
    (e : s'.nodes = (setNode s n { nd with status := st' }).nodes) : KeepW q s s' :=
  keepW_setNode hn e (fun _ a => Or.inl a)

end DoitModel.Run
