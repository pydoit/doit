import DoitModel.Proofs.C05Just
import DoitModel.Proofs.C05Mon
/-! # C05 (c): the fixed-point iteration `calcsAt` of the monitors is complete

`calcsAt inp tr n (calcDep t)` with `n` rounds contains every calc_dep of `t` the run has observed (`calcObs_calcsAt`; `CalcObs`:
reachable through results delivered by calc tasks with a finish report), provided all task names are below `n` (`namesBelow`, decidable): `n` rounds close the list
(`calcsAt_closed_of`, `Proofs/RunFuel.lean`). -/
namespace DoitModel.Run

/-- every task name of the table is below `n` (the driver's `n`: tasks are numbered `0 … n-1`) -/
def namesBelow (inp : RunInput) (n : Nat) : Bool :=
  inp.sel.all (· < n) && (List.range n).all fun t =>
    (inp.taskDep t ++ inp.calcDep t ++ inp.setup t ++
      ((inp.calcRes t).tasks ++ (inp.calcRes t).files ++ (inp.calcRes t).calcs)).all (· < n)

structure Below (inp : RunInput) (n : Nat) : Prop where
  sel : ∀ t ∈ inp.sel, t < n
  task : ∀ t, t < n → ∀ d ∈ inp.taskDep t, d < n
  cdep : ∀ t, t < n → ∀ d ∈ inp.calcDep t, d < n
  setup : ∀ t, t < n → ∀ d ∈ inp.setup t, d < n
  rtasks : ∀ t, t < n → ∀ d ∈ (inp.calcRes t).tasks, d < n
  rfiles : ∀ t, t < n → ∀ d ∈ (inp.calcRes t).files, d < n
  rcalcs : ∀ t, t < n → ∀ d ∈ (inp.calcRes t).calcs, d < n

theorem below_of {inp : RunInput} {n : Nat} (h : namesBelow inp n = true) : Below inp n := by
  unfold namesBelow at h
  simp only [Bool.and_eq_true, List.all_eq_true, List.mem_range, List.mem_append, decide_eq_true_eq] at h
  obtain ⟨h1, h2⟩ := h
  exact ⟨h1, fun t ht d hd => h2 t ht d (Or.inl (Or.inl (Or.inl hd))),
    fun t ht d hd => h2 t ht d (Or.inl (Or.inl (Or.inr hd))),
    fun t ht d hd => h2 t ht d (Or.inl (Or.inr hd)),
    fun t ht d hd => h2 t ht d (Or.inr (Or.inl (Or.inl hd))),
    fun t ht d hd => h2 t ht d (Or.inr (Or.inl (Or.inr hd))),
    fun t ht d hd => h2 t ht d (Or.inr (Or.inr hd))⟩

/-- reachable from `cs` through deliveries of calc tasks with a finish report in `tr` -/
inductive CReach (inp : RunInput) (tr : List Ev) (cs : List Name) : Name → Prop
  | base {c : Name} : c ∈ cs → CReach inp tr cs c
  | step {c c' : Name} : CReach inp tr cs c → finishedIn tr c = true → c' ∈ (inp.calcRes c).calcs → CReach inp tr cs c'

theorem CReach.closed {inp : RunInput} {tr : List Ev} {cs : List Name} {c : Name}
    (hcl : ∀ x ∈ calcRound inp tr cs, x ∈ cs) (hc : CReach inp tr cs c) : c ∈ cs := by
  induction hc with
  | base a => exact a
  | step _ f m ih => exact hcl _ (mem_calcRound.mpr (Or.inr ⟨_, ih, f, m⟩))

theorem calcObs_calcsAt {inp : RunInput} {evs tr : List Ev} {n : Nat} (hb : Below inp n)
    (hfin : ∀ x, finBefore evs x → finishedIn tr x = true) {t c : Name} (ht : t < n)
    (h : CalcObs inp evs t c) : c ∈ calcsAt inp tr n (inp.calcDep t) := by
  induction h with
  | base a => exact calcsAt_ext inp tr n _ _ a
  | step _ f m ih => exact calcsAt_closed_of hb.rcalcs tr (hb.cdep t ht) ih (hfin _ f) m

/-- the first-stage dependencies the monitors compute from a trace (`ranFirst`, `closeOnce`, `edgesOf` without setup) -/
def stage1 (inp : RunInput) (nTasks : Nat) (tr : List Ev) (t : Name) : List Name :=
  inp.taskDep t ++ calcsAt inp tr nTasks (inp.calcDep t) ++
    (((calcsAt inp tr nTasks (inp.calcDep t)).filter (finishedIn tr)).flatMap fun c =>
      (inp.calcRes c).tasks ++ (inp.calcRes c).files)

theorem depObs_stage1 {inp : RunInput} {evs tr : List Ev} {n : Nat} (hb : Below inp n)
    (hfin : ∀ x, finBefore evs x → finishedIn tr x = true) {t d : Name} (ht : t < n)
    (h : DepObs inp evs t d) : d ∈ stage1 inp n tr t := by
  have res : ∀ {c}, CalcObs inp evs t c → finBefore evs c → d ∈ (inp.calcRes c).tasks ++ (inp.calcRes c).files →
      d ∈ stage1 inp n tr t := fun a f m => List.mem_append_right _
    (List.mem_flatMap.mpr ⟨_, List.mem_filter.mpr ⟨calcObs_calcsAt hb hfin ht a, hfin _ f⟩, m⟩)
  cases h with
  | task a => exact List.mem_append_left _ (List.mem_append_left _ a)
  | ofCalc a => exact List.mem_append_left _ (List.mem_append_right _ (calcObs_calcsAt hb hfin ht a))
  | resTask a f m => exact res a f (List.mem_append_left _ m)
  | resFile a f m => exact res a f (List.mem_append_right _ m)

end DoitModel.Run
