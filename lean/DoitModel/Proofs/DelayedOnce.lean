import DoitModel.Proofs.Delayed
/-! # Delayed creation: `OnceInv` and its preservation (C15 `once`) -/
namespace DoitModel.Delayed
open DoitModel.Run (RS Name)

/-- decidable as `resolvesB`, `coversB`.  `resolves`: `self.tasks[to_load]` of a placeholder carries the placeholder's
    own loader object; `covers`: a creator with several loader objects (`creates=[a, b, …]`: one copy each) yields
    what it declares, so evaluating it through one copy re-defines the task every other copy loads. -/
structure OnceWF (inp : Input) : Prop where
  resolves : ∀ n l, Holder inp n l → ∀ td l', lookup0 inp.tasks0 (toLoad inp l n) = some td →
    td.loader = some l' → l' = l
  covers : ∀ n l q lq, Holder inp n l → Holder inp q lq → inp.creatorOf l = inp.creatorOf lq → l ≠ lq →
    ∃ nt ∈ inp.make (inp.creatorOf l) (toLoad inp l n), nt.name = toLoad inp lq q

/-- `ex`: one loader object is exempt between the creator call and `loader.created = True`.  `j` forbids a second
    evaluation: once `creator (creatorOf l)` is in the trace, the loader object reached through `tasks[to_load]` of
    every holder of `l` is `created` (or `ex`), so `mustCreate` is false there. -/
structure OnceCore (inp : Input) (ex : Option LId) (s : Sys) : Prop where
  l1 : ∀ n td l, s.tasks n = some td → td.loader = some l → Holder inp n l
  l2 : ∀ n nd l, s.nodes n = some nd → nd.task.loader = some l → Holder inp n l
  j : ∀ n l, Holder inp n l → Ev.creator (inp.creatorOf l) ∈ s.events →
      ∀ td l', s.tasks (toLoad inp l n) = some td → td.loader = some l' → s.created l' = true ∨ ex = some l'
  o : onceOK s.events = true

abbrev OnceInv (inp : Input) (s : Sys) : Prop := OnceCore inp none s

theorem onceOK_append_quiet (pre : List Ev) (ev : List Ev) (h : ∀ e ∈ pre, ∀ c, e ≠ Ev.creator c) :
    onceOK (pre ++ ev) = onceOK ev := by
  induction pre with
  | nil => rfl
  | cons e r ih =>
    have ih := ih fun e he => h e (List.mem_cons_of_mem _ he)
    cases e with
    | creator c => exact absurd rfl (h _ List.mem_cons_self c)
    | _ => exact ih

theorem OnceCore.quiet {inp : Input} {ex : Option LId} {s s' : Sys} (h : OnceCore inp ex s) (q : Quiet s s') :
    OnceCore inp ex s' := by
  obtain ⟨pre, hev, hpre⟩ := q.ev
  constructor
  · intro n td l h1 h2; rw [q.tasks] at h1; exact h.l1 n td l h1 h2
  · intro n nd' l h1 h2
    rcases q.nodes n nd' h1 with ⟨nd, h3, h4⟩ | h3
    · exact h.l2 n nd l h3 (by rw [← h4]; exact h2)
    · exact h.l1 n _ l h3 h2
  · intro n l hh hc td l' h1 h2
    rw [q.tasks] at h1; rw [q.created]
    refine h.j n l hh ?_ td l' h1 h2
    rw [hev] at hc
    rcases List.mem_append.mp hc with h3 | h3
    · exact absurd rfl (hpre _ h3 _)
    · exact h3
  · rw [hev, onceOK_append_quiet pre _ hpre]; exact h.o

theorem insertNew_cases (tg : Name → Option Name) (new : List NewTask) :
    ∀ (oid : Nat) (tasks : Name → Option TDef) (k : Name),
      (insertNew tg oid tasks new k = tasks k ∧ k ∉ new.map (·.name)) ∨
      (∃ td, insertNew tg oid tasks new k = some td ∧ td.loader = none ∧ td.rx = none ∧ k ∈ new.map (·.name)) := by
  induction new with
  | nil => intro oid tasks k; exact Or.inl ⟨rfl, List.not_mem_nil⟩
  | cons nt r ih =>
    intro oid tasks k
    simp only [insertNew, List.map_cons, List.mem_cons]
    rcases ih (oid + 1) (fun k' => if k' = nt.name then some (newDef tg oid nt) else tasks k') k with
      ⟨h1, h2⟩ | ⟨td, h1, h2, h3, h4⟩
    · by_cases hk : k = nt.name
      · exact Or.inr ⟨newDef tg oid nt, by rw [h1, if_pos hk], rfl, rfl, Or.inl hk⟩
      · exact Or.inl ⟨by rw [h1, if_neg hk], fun hc => hc.elim hk h2⟩
    · exact Or.inr ⟨td, h1, h2, h3, Or.inr h4⟩

theorem insertNew_old (tg : Name → Option Name) (new : List NewTask) :
    ∀ (oid : Nat) (tasks : Name → Option TDef) (k : Name) (td : TDef) (l : LId),
      insertNew tg oid tasks new k = some td → td.loader = some l → tasks k = some td := by
  intro oid tasks k td l h hl
  rcases insertNew_cases tg new oid tasks k with ⟨h1, _⟩ | ⟨td', h1, h2, _, _⟩
  · exact h1 ▸ h
  · rw [h1] at h; cases h; rw [h2] at hl; cases hl

theorem insertNew_rx (tg : Name → Option Name) (new : List NewTask) :
    ∀ (oid : Nat) (tasks : Name → Option TDef) (k : Name) (td : TDef) (g : GId),
      insertNew tg oid tasks new k = some td → td.rx = some g → tasks k = some td := by
  intro oid tasks k td g h hg
  rcases insertNew_cases tg new oid tasks k with ⟨h1, _⟩ | ⟨td', h1, _, h2, _⟩
  · exact h1 ▸ h
  · rw [h1] at h; cases h; rw [h2] at hg; cases hg

theorem quiet_regex {inp : Input} {s r : Sys} {l : LId} {g : GId} (h : RegexSpec inp s l g r) : Quiet s r := by
  obtain ⟨gf, gt, su, rfl, _⟩ := h.frame
  exact Quiet.of_eq rfl rfl rfl rfl rfl

theorem once_finishLoader {inp : Input} {s s' : Sys} {n : Name} {nd : Node} {l : LId} {tk' : TDef}
    (h : OnceCore inp (some l) s) (ht : tk'.loader = none) (hs : FinLoaderSpec s n nd l tk' s') : OnceInv inp s' := by
  have hcr : ∀ l', (s.created l' = true ∨ some l = some l') → (if l' = l then true else s.created l') = true := by
    intro l' h1
    by_cases e : l' = l
    · exact if_pos e
    · rw [if_neg e]; exact h1.resolve_right fun e' => e (Option.some.inj e').symm
  have hj : ∀ q lq, Holder inp q lq → Ev.creator (inp.creatorOf lq) ∈ s.events → ∀ td l', s.tasks (toLoad inp lq q) = some td →
      td.loader = some l' → (if l' = l then true else s.created l') = true ∨ none = some l' :=
    fun q lq hh hc td l' h1 h2 => Or.inl (hcr l' (h.j q lq hh hc td l' h1 h2))
  cases hs with
  | crash _ => exact ⟨h.l1, h.l2, hj, h.o⟩
  | same cur _ _ =>
    refine ⟨fun k td l0 h1 h2 => ?_, fun k nd' l0 h1 h2 => ?_, fun q lq hh hc td l' h1 h2 => ?_, h.o⟩
    · rcases upd_some h1 with ⟨_, rfl⟩ | ⟨_, h1⟩
      · rw [ht] at h2; cases h2
      · exact h.l1 k td l0 h1 h2
    · rcases upd_some h1 with ⟨_, rfl⟩ | ⟨_, h1⟩
      · rw [ht] at h2; cases h2
      · exact h.l2 k nd' l0 h1 h2
    · rcases upd_some h1 with ⟨_, rfl⟩ | ⟨_, h1⟩
      · rw [ht] at h2; cases h2
      · exact hj q lq hh hc td l' h1 h2
  | other cur hc _ =>
    refine ⟨h.l1, fun k nd' l0 h1 h2 => ?_, hj, h.o⟩
    rcases upd_some h1 with ⟨rfl, rfl⟩ | ⟨_, h1⟩
    · exact h.l1 k cur l0 hc h2
    · exact h.l2 k nd' l0 h1 h2

theorem once_afterCreate {inp : Input} {s s' : Sys} {n : Name} {nd : Node} {l : LId}
    (h : OnceCore inp (some l) s) (hs : AfterCreateSpec inp s n nd l s') :
    OnceInv inp s' ∨ (OnceCore inp (some l) s' ∧ ∃ e, s'.susp = .err e) := by
  cases hs with
  | plain _ => exact Or.inl (once_finishLoader h rfl finishLoader_spec)
  | raised g r e _ hr he => exact Or.inr ⟨h.quiet (quiet_regex hr), e, he⟩
  | rx g r _ hr _ => exact Or.inl (once_finishLoader (h.quiet (quiet_regex hr)) rfl finishLoader_spec)

theorem OnceCore.weaken {inp : Input} {s : Sys} (l : LId) (h : OnceInv inp s) : OnceCore inp (some l) s :=
  ⟨h.l1, h.l2, fun q lq hh hc td l' h1 h2 => (h.j q lq hh hc td l' h1 h2).elim Or.inl (fun e => by cases e), h.o⟩

/-- the first conjunct is C15 `once` -/
theorem once_evalCreator {b : Bool} {inp : Input} (wf : OnceWF inp) {s : Sys} {n : Name} {l : LId} {tT : TDef}
    (h : OnceInv inp s) (hh : Holder inp n l) (hT : s.tasks (toLoad inp l n) = some tT) (hm : mustCreate inp s l tT = true) :
    onceOK (evalCreator inp s l (toLoad inp l n) b).events = true ∧
    (OnceCore inp (some l) (evalCreator inp s l (toLoad inp l n) b) ∨
     ∃ e, (evalCreator inp s l (toLoad inp l n) b).susp = .err e) := by
  -- the loader object found through the table is `l` itself, and it is not `created`
  obtain ⟨l', hl', hcr⟩ := (mustCreate_iff.mp hm).1
  have hres : ∀ q lq, Holder inp q lq → ∀ td l2, s.tasks (toLoad inp lq q) = some td → td.loader = some l2 → l2 = lq := by
    intro q lq hq td l2 h1 h2
    obtain ⟨td0, h3, h4⟩ := h.l1 _ td l2 h1 h2
    exact wf.resolves q lq hq td0 l2 h3 h4
  have hfresh : Ev.creator (inp.creatorOf l) ∉ s.events := by
    intro hc
    rcases h.j n l hh hc tT l' hT hl' with h1 | h1
    · rw [hcr] at h1; cases h1
    · cases h1
  have honce : onceOK (Ev.creator (inp.creatorOf l) :: s.events) = true := by
    simp only [onceOK, h.o, Bool.and_true, Bool.not_eq_true']
    simpa using hfresh
  unfold evalCreator
  cases hr : regTargets s.targets (targetPairs (inp.make (inp.creatorOf l) (toLoad inp l n))) with
  | none => exact ⟨honce, Or.inr ⟨_, rfl⟩⟩
  | some tg =>
    refine ⟨honce, Or.inl ?_⟩
    constructor
    · intro k td l0 h1 h2
      exact h.l1 k td l0 (insertNew_old _ _ _ _ _ _ _ h1 h2) h2
    · exact h.l2
    · intro q lq hq hc td l2 h1 h2
      have hold := insertNew_old _ _ _ _ _ _ _ h1 h2
      have hl2 : l2 = lq := hres q lq hq td l2 hold h2
      simp only [List.mem_cons] at hc
      rcases hc with hc | hc
      · by_cases hlq : l = lq
        · exact Or.inr (by rw [hl2, hlq])
        · -- another copy of the same creator: its task was just re-defined without a loader
          have hceq : inp.creatorOf l = inp.creatorOf lq := (Ev.creator.inj hc).symm
          obtain ⟨nt, hnt, hname⟩ := wf.covers n l q lq hh hq hceq hlq
          rcases insertNew_cases tg _ s.nextOid s.tasks (toLoad inp lq q) with ⟨_, h3⟩ | ⟨td', h3, h4, _, _⟩
          · exact absurd (List.mem_map.mpr ⟨nt, hnt, hname⟩) h3
          · cases h3.symm.trans h1; rw [h4] at h2; cases h2
      · exact (h.j q lq hq hc td l2 hold h2).elim Or.inl (fun e => by cases e)
    · exact honce

/-- the invariant of the transition system: the core, or a state that raised (nothing is enabled there) in which
    still no creator was evaluated twice -/
def OnceTop (inp : Input) (s : Sys) : Prop :=
  OnceInv inp s ∨ ∃ e, s.susp = .err e ∧ onceOK s.events = true

theorem once_loaderStep {inp : Input} (wf : OnceWF inp) {s s' : Sys} {n : Name} {nd : Node} {l : LId}
    (h : OnceInv inp s) (hn : s.nodes n = some nd) (hl : nd.task.loader = some l) (hs : LoaderSpec inp s n nd l s') :
    OnceTop inp s' := by
  have hh : Holder inp n l := h.l2 n nd l hn hl
  have hac : ∀ {s1 s'}, OnceCore inp (some l) s1 → AfterCreateSpec inp s1 n nd l s' → OnceTop inp s' :=
    fun h1 ha => (once_afterCreate h1 ha).imp_right fun ⟨h2, e, h3⟩ => ⟨e, h3, h2.o⟩
  cases hs with
  | crash => exact Or.inl (h.quiet (Quiet.of_eq rfl rfl rfl rfl rfl))
  | raised tT e hT hm he => exact Or.inr ⟨e, he, (once_evalCreator wf h hh hT hm).1⟩
  | created tT s' hT hm hno ha =>
    rcases (once_evalCreator wf h hh hT hm).2 with hc | ⟨e, he⟩
    · exact hac hc ha
    · exact absurd he (hno e)
  | loaded tT s' _ _ ha => exact hac (h.weaken l) ha

theorem OnceTop.once {inp : Input} {s : Sys} (h : OnceTop inp s) : onceOK s.events = true := by
  rcases h with h | ⟨_, _, h⟩
  · exact h.o
  · exact h

theorem step_err_none {inp : Input} {s s' : Sys} {c : Choice} {e : Err} (hs : s.susp = .err e)
    (h : step inp s c = some s') : False := by
  cases c with
  | tick perm => simp [step, hs] at h
  | resume => simp [step, hs] at h
  | finish n perm => simp [step, finishStep, hs] at h

theorem once_init (inp : Input) : OnceInv inp (init inp) :=
  ⟨fun _ td _ h1 h2 => ⟨td, h1, h2⟩, fun _ _ _ h => by simp [init] at h,
   fun _ _ _ hc => by simp [init] at hc, rfl⟩

theorem once_step {inp : Input} (wf : OnceWF inp) {s s' : Sys} {c : Choice} (h : OnceTop inp s)
    (hs : step inp s c = some s') : OnceTop inp s' := by
  rcases h with h | ⟨e, he, _⟩
  · rcases step_quiet hs with q | ⟨n, nd, l, hn, hl, rfl⟩
    · exact Or.inl (h.quiet q)
    · exact once_loaderStep wf h hn hl loaderStep_spec
  · exact (step_err_none he hs).elim

theorem once_reach {inp : Input} (wf : OnceWF inp) {s : Sys} (hr : Reach inp s) : OnceTop inp s := by
  induction hr with
  | init => exact Or.inl (once_init inp)
  | next _ hs ih => exact once_step wf ih hs

/-! ### the repaired dispatcher (`evaluated_creators`): "once" without any hypothesis on the input -/

structure EvalInv (s : Sys) : Prop where
  mem : ∀ c, Ev.creator c ∈ s.events → c ∈ s.evaluated
  o : onceOK s.events = true

theorem EvalInv.quiet {s s' : Sys} (h : EvalInv s) (q : Quiet s s') : EvalInv s' := by
  obtain ⟨pre, hev, hpre⟩ := q.ev
  constructor
  · intro c hc
    rw [q.evald]
    rw [hev] at hc
    rcases List.mem_append.mp hc with h3 | h3
    · exact absurd rfl (hpre _ h3 _)
    · exact h.mem c h3
  · rw [hev, onceOK_append_quiet pre _ hpre]; exact h.o

theorem EvalInv.congr {s s' : Sys} (h : EvalInv s) (h1 : s'.events = s.events) (h2 : s'.evaluated = s.evaluated) :
    EvalInv s' :=
  ⟨fun c hc => by rw [h2]; exact h.mem c (by rw [← h1]; exact hc), by rw [h1]; exact h.o⟩

theorem afterCreate_same {inp : Input} {s s' : Sys} {n : Name} {nd : Node} {l : LId}
    (h : AfterCreateSpec inp s n nd l s') : s'.events = s.events ∧ s'.evaluated = s.evaluated := by
  have hf : ∀ {r s' : Sys} {tk'}, FinLoaderSpec r n nd l tk' s' → s'.events = r.events ∧ s'.evaluated = r.evaluated :=
    fun h => by cases h <;> exact ⟨rfl, rfl⟩
  have hr : ∀ {g r}, RegexSpec inp s l g r → r.events = s.events ∧ r.evaluated = s.evaluated := fun h => by
    obtain ⟨gf, gt, su, rfl, _⟩ := h.frame; exact ⟨rfl, rfl⟩
  cases h with
  | plain _ => exact hf finishLoader_spec
  | raised g r e _ h1 _ => exact hr h1
  | rx g r _ h1 _ => exact ⟨(hf finishLoader_spec).1.trans (hr h1).1, (hf finishLoader_spec).2.trans (hr h1).2⟩

theorem eval_evalCreator {b : Bool} {inp : Input} {s : Sys} {l : LId} (tname : Name) (h : EvalInv s)
    (hfresh : inp.creatorOf l ∉ s.evaluated) : EvalInv (evalCreator inp s l tname b) := by
  have hnot : Ev.creator (inp.creatorOf l) ∉ s.events := fun hc => hfresh (h.mem _ hc)
  have honce : onceOK (Ev.creator (inp.creatorOf l) :: s.events) = true := by
    simp only [onceOK, h.o, Bool.and_true, Bool.not_eq_true']
    simpa using hnot
  have hmem : ∀ c, Ev.creator c ∈ Ev.creator (inp.creatorOf l) :: s.events → c ∈ s.evaluated ++ [inp.creatorOf l] := by
    intro c hc
    rcases List.mem_cons.mp hc with h1 | h1
    · rw [Ev.creator.inj h1]; simp
    · exact List.mem_append_left _ (h.mem c h1)
  unfold evalCreator
  split
  · exact ⟨hmem, honce⟩
  · exact ⟨hmem, honce⟩

theorem eval_loaderStep {inp : Input} (hp : inp.pinnedOnce = false) {s s' : Sys} {n : Name} {nd : Node} {l : LId}
    (h : EvalInv s) (hs : LoaderSpec inp s n nd l s') : EvalInv s' := by
  have hcr : ∀ {tT}, mustCreate inp s l tT = true → EvalInv (evalCreator inp s l (toLoad inp l n) nd.bad) := by
    intro tT hm
    exact eval_evalCreator _ h ((mustCreate_iff.mp hm).2.resolve_left (by rw [hp]; nofun))
  cases hs with
  | crash => exact h.congr rfl rfl
  | raised tT e _ hm _ => exact hcr hm
  | created tT s' _ hm _ ha => exact (hcr hm).congr (afterCreate_same ha).1 (afterCreate_same ha).2
  | loaded tT s' _ _ ha => exact h.congr (afterCreate_same ha).1 (afterCreate_same ha).2

theorem eval_step {inp : Input} (hp : inp.pinnedOnce = false) {s s' : Sys} {c : Choice} (h : EvalInv s)
    (hs : step inp s c = some s') : EvalInv s' := by
  rcases step_quiet hs with q | ⟨n, nd, l, _, _, rfl⟩
  · exact h.quiet q
  · exact eval_loaderStep hp h loaderStep_spec

theorem eval_reach {inp : Input} (hp : inp.pinnedOnce = false) {s : Sys} (hr : Reach inp s) : EvalInv s := by
  induction hr with
  | init => exact ⟨fun _ hc => by simp [init] at hc, rfl⟩
  | next _ hs ih => exact eval_step hp ih hs

end DoitModel.Delayed
