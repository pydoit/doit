import DoitModel.Proofs.C11Step
/-! # C11: the invariant of the base model — the shared `teardown_list` is the start order of the tasks with teardown,
    and a run that ends without an internal error ends with every worker gone -/
namespace DoitModel.Run

/-- `shared` / `proc`: the teardown list is the start order (serial, thread) or stays empty (process); `ns`: workers
    beyond `nStarted` are not started; `ser`: the serial runner starts none; `quiet`: at a normal end every worker is gone
    (quiescence of the run; unrelated to `Ev.quiet`); `tdm`: a teardown report is of a listed task -/
structure TdB (inp : RunInput) (s : Sys) : Prop where
  shared : inp.runner ≠ .process → s.tdown = startOrder inp s.events
  proc : inp.runner = .process → s.tdown = []
  ns : ∀ w, s.nStarted ≤ w → s.workers w = .notStarted
  ser : inp.runner = .serial → s.nStarted = 0
  quiet : (s.rpc = .fin ∨ s.rpc = .halted) → s.halt = .none →
    ∀ w, s.workers w = .exited ∨ s.workers w = .notStarted
  tdm : ∀ d, Ev.teardown d ∈ s.events → d ∈ s.tdown

theorem init_tdB (inp : RunInput) : TdB inp (init inp) :=
  ⟨fun _ => rfl, fun _ => rfl, fun _ _ => rfl, fun _ => rfl, fun _ _ _ => Or.inr rfl, fun _ h => by cases h⟩

theorem TdB.tdm_of {inp : RunInput} {s s' : Sys} (h : TdB inp s)
    (he : ∀ d, Ev.teardown d ∈ s'.events → Ev.teardown d ∈ s.events) (ht : ∀ d ∈ s.tdown, d ∈ s'.tdown) :
    ∀ d, Ev.teardown d ∈ s'.events → d ∈ s'.tdown :=
  fun d hd => ht d (h.tdm d (he d hd))

/-- a step that starts nothing, keeps the workers, and whose target is either not the end of the run, or an error
    end, or comes with its own proof of quiescence -/
theorem TdB.plain {inp : RunInput} {s s' : Sys} (h : TdB inp s) (p : Plain s s') (hw : s'.workers = s.workers)
    (hn : s'.nStarted = s.nStarted)
    (hq : (s'.rpc = .fin ∨ s'.rpc = .halted) → s'.halt = .none →
      ∀ w, s'.workers w = .exited ∨ s'.workers w = .notStarted) : TdB inp s' := by
  obtain ⟨⟨new, e, hns⟩, t, tn⟩ := p
  refine ⟨?_, ?_, ?_, ?_, hq, ?_⟩
  · intro hp; rw [t, e, startOrder_noStart inp hns]; exact h.shared hp
  · intro hp; rw [t]; exact h.proc hp
  · intro w hle; rw [hw]; exact h.ns w (hn ▸ hle)
  · intro hs; rw [hn]; exact h.ser hs
  · intro d hd; rw [t]
    rcases tn d hd with a | a
    · exact h.tdm d a
    · exact a

theorem notEnd_of {r : RPC} (h1 : r ≠ .fin) (h2 : r ≠ .halted) {P : Prop} : (r = .fin ∨ r = .halted) → P := by
  intro a; rcases a with a | a
  · exact absurd a h1
  · exact absurd a h2

theorem awaiting_notEnd {s : Sys} (h : awaiting s) : s.rpc ≠ .fin ∧ s.rpc ≠ .halted := by
  rcases h with a | ⟨r, a⟩ <;> (rw [a]; exact ⟨RPC.noConfusion, RPC.noConfusion⟩)

theorem TdB.of_eq {inp : RunInput} {a b : Sys} (h : TdB inp a) (e1 : b.events = a.events) (e2 : b.tdown = a.tdown)
    (e3 : b.nStarted = a.nStarted) (e4 : b.workers = a.workers) (e5 : b.rpc = a.rpc) (e6 : b.halt = a.halt) :
    TdB inp b := by
  refine h.plain (Plain.of_same e1 e2) e4 e3 ?_
  rw [e5, e6, e4]; exact h.quiet

theorem startTask_tdB {inp : RunInput} {s : Sys} (h : TdB inp s) (n w : Nat) :
    (inp.runner ≠ .process → (startTask inp s n w).tdown = startOrder inp (startTask inp s n w).events) ∧
    (inp.runner = .process → (startTask inp s n w).tdown = []) := by
  constructor
  · intro hp
    have e : (startTask inp s n w).events = [Ev.start n w, Ev.execute n] ++ s.events := by
      simp only [startTask, if_neg hp]; rfl
    rw [e, startOrder_append, ← h.shared hp]
    by_cases ht : inp.hasTeardown n = true <;> simp [startTask, hp, ht, tdName]
  · intro hp; simp only [startTask, hp, h.proc hp]; simp

theorem startTask_tdm {inp : RunInput} {s : Sys} (h : TdB inp s) (n w : Nat) :
    ∀ d, Ev.teardown d ∈ (startTask inp s n w).events → d ∈ (startTask inp s n w).tdown := by
  intro d hd
  have hd' : Ev.teardown d ∈ s.events := by
    simp only [startTask] at hd
    by_cases c : inp.runner = .process
    · rw [if_pos c] at hd; exact (List.mem_cons.mp hd).resolve_left Ev.noConfusion
    · rw [if_neg c] at hd
      exact (List.mem_cons.mp ((List.mem_cons.mp hd).resolve_left Ev.noConfusion)).resolve_left Ev.noConfusion
  have := h.tdm d hd'
  simp only [startTask]
  by_cases c : inp.hasTeardown n = true ∧ inp.runner ≠ .process
  · rw [if_pos c]; exact List.mem_append.mpr (Or.inl this)
  · rw [if_neg c]; exact this

theorem TdB.result {inp : RunInput} {s : Sys} (h : TdB inp s) (x : Sys) (n : Name) (nd : Node) (r : RPC)
    (px : Plain s x) (hw : x.workers = s.workers) (hn : x.nStarted = s.nStarted)
    (hr1 : r ≠ .fin) (hr2 : r ≠ .halted) : TdB inp { processResult inp x n nd with rpc := r } := by
  have o := processResult_keeps inp x n nd
  exact h.plain (px.trans ((processResult_plain inp x n nd).trans (.of_same rfl rfl))) (o.workers.trans hw)
    (o.nStarted.trans hn) (notEnd_of hr1 hr2)

theorem allExited_spec (s : Sys) : ∀ k, allExited s k = true → ∀ w, w < k → s.workers w = .exited := by
  intro k
  induction k with
  | zero => intro _ w hw; omega
  | succ k ih =>
    intro h w hw
    simp only [allExited, Bool.and_eq_true, decide_eq_true_eq] at h
    by_cases e : w = k
    · subst e; exact h.1
    · exact ih h.2 w (by omega)

theorem RunnerStep.tdB {inp : RunInput} {par : Bool} {s s' : Sys} {perm : List Name} (m : RunnerStep inp par s perm s')
    (h : TdB inp s) (hk : if par = true then inp.runner ≠ .serial else inp.runner = .serial) : TdB inp s' := by
  cases m with
  | ctl k h0 h1 h2 => exact h.plain k.plain k.workers k.nStarted (notEnd_of h1 h2)
  | toFin k h0 h1 hq =>
    refine h.plain k.plain k.workers k.nStarted fun _ _ w => ?_
    rw [k.workers]
    cases par with
    | false => exact Or.inr (h.ns w (by rw [h.ser hk]; exact Nat.zero_le _))
    | true =>
      by_cases hw : w < s.nStarted
      · exact Or.inl (allExited_spec s _ (hq rfl) w hw)
      · exact Or.inr (h.ns w (Nat.le_of_not_lt hw))
  | raise y hl k hne h0 =>
    exact h.plain (.of_same k.events k.tdown) k.workers k.nStarted fun _ a => absurd a hne
  | newWorker hp k h0 h1 h2 =>
    subst hp
    refine ⟨?_, ?_, ?_, fun x => absurd x hk, notEnd_of h1 h2, fun d hd => by rw [k.tdown]; exact h.tdm d (k.events ▸ hd)⟩
    · intro hp; rw [k.tdown, k.events]; exact h.shared hp
    · intro hp; rw [k.tdown]; exact h.proc hp
    · intro w hw
      rw [k.nStarted] at hw
      have hw' : s.nStarted + 1 ≤ w := hw
      rw [k.workers]
      show (if w = s.nStarted then WState.idle else s.workers w) = .notStarted
      rw [if_neg (by omega)]; exact h.ns w (by omega)
  | send node y hs k h0 h1 h2 =>
    have o := (send_outer hs).1.untouched
    exact h.plain (o.plain.trans k.plain) (k.workers.trans o.workers) (k.nStarted.trans o.nStarted) (notEnd_of h1 h2)
  | dtick haw hsu hs =>
    have o := (dtick_outer hs).untouched
    refine h.plain o.plain o.workers o.nStarted ?_
    rw [(dtick_outer hs).2.1]; exact notEnd_of (awaiting_notEnd haw).1 (awaiting_notEnd haw).2
  | select n nd d haw k h1 h2 =>
    have o := applySel_keeps inp s n nd d
    exact h.plain ((applySel_plain inp s n nd d).trans k.plain) (k.workers.trans o.workers) (k.nStarted.trans o.nStarted)
      (notEnd_of h1 h2)
  | goSerial n nd hp haw =>
    have o := applySel_keeps inp s n nd .go
    have hb : TdB inp (applySel inp s n nd .go) :=
      h.plain (applySel_plain inp s n nd .go) o.workers o.nStarted
        (by rw [o.rpc]; exact notEnd_of (awaiting_notEnd haw).1 (awaiting_notEnd haw).2)
    have hst := startTask_tdB hb n 0
    exact ⟨hst.1, hst.2, hb.ns, hb.ser, notEnd_of RPC.noConfusion RPC.noConfusion, startTask_tdm hb n 0⟩
  | result x n nd xp xw xs k h0 h1 h2 =>
    exact (h.result x n nd s'.rpc xp xw xs h1 h2).of_eq k.events k.tdown k.nStarted k.workers rfl k.halt
  | finish hr => exact h.plain (finishRun_plain s) rfl rfl fun _ hh => h.quiet (Or.inl hr) hh

/-- a worker that can move contradicts the quiescence of a finished run -/
theorem TdB.busy {inp : RunInput} {s : Sys} (h : TdB inp s) {w : Nat} (hw : s.workers w ≠ .exited)
    (hw2 : s.workers w ≠ .notStarted) {P : Prop} : (s.rpc = .fin ∨ s.rpc = .halted) → s.halt = .none → P := by
  intro a b
  rcases h.quiet a b w with x | x
  · exact absurd x hw
  · exact absurd x hw2

theorem setWorker_ns {inp : RunInput} {s : Sys} (h : TdB inp s) {w : Nat} (hw2 : s.workers w ≠ .notStarted) (st : WState) :
    ∀ k, s.nStarted ≤ k → (setWorker s w st).workers k = .notStarted := by
  intro k hk
  simp only [setWorker]
  by_cases e : k = w
  · subst e; exact absurd (h.ns k hk) hw2
  · rw [if_neg e]; exact h.ns k hk

theorem WorkerStep.tdB {inp : RunInput} {s s' : Sys} {w : Nat} {c : Choice} (m : WorkerStep inp s w c s') (h : TdB inp s)
    (hpar : inp.runner ≠ .serial) : TdB inp s' := by
  obtain ⟨b1, b2⟩ := m.alive
  cases m with
  | hold js hi hq => exact h.plain (.of_same rfl rfl) rfl rfl (h.busy b1 b2)
  | stop js hi hq => exact ⟨h.shared, h.proc, setWorker_ns h b2 _, fun x => absurd x hpar, h.busy b1 b2, h.tdm⟩
  | task n js hi hq =>
    have hst := startTask_tdB h n w
    exact ⟨hst.1, hst.2, setWorker_ns h b2 _, fun x => absurd x hpar, h.busy b1 b2, startTask_tdm h n w⟩
  | done n hw =>
    refine ⟨fun hp => ?_, h.proc, setWorker_ns h b2 _, fun x => absurd x hpar, h.busy b1 b2,
      fun d hd => h.tdm d ((List.mem_cons.mp hd).resolve_left Ev.noConfusion)⟩
    exact (h.shared hp).trans (startOrder_noStart inp (new := [Ev.fin n w])
      (noStart_of_other fun e he => by cases List.mem_singleton.mp he; rfl)).symm

theorem reach_tdB {inp : RunInput} {s : Sys} (hser : inp.runner = .serial) (h : Reach inp s) : TdB inp s := by
  induction h with
  | init => exact init_tdB inp
  | @next s0 s1 c _ hs ih =>
    cases c with
    | main perm => exact (serialStep_runnerStep hs).tdB ih hser
    | _ => cases hs

theorem stepOf_tdB {inp : RunInput} {s s' : Sys} {c : Choice} (h : TdB inp s) (hs : stepOf inp s c = some s') :
    TdB inp s' := by
  rcases stepOf_spec hs with ⟨par, perm, _, hk, m⟩ | ⟨hpar, w, m⟩
  · exact m.tdB h hk
  · exact m.tdB h hpar

theorem preach_tdB {inp : RunInput} {s : Sys} (hpar : inp.runner ≠ .serial) (h : PReach inp s) : TdB inp s := by
  induction h with
  | init => exact init_tdB inp
  | @next s0 s1 c _ hs ih =>
    cases c with
    | main perm => exact (mainStep_runnerStep hs).tdB ih hpar
    | take w => exact (takeStep_workerStep hs).tdB ih hpar
    | done w => exact (doneStep_workerStep hs).tdB ih hpar

/-- the runner reaches `halted` only through `finish()`, and does not move on from there -/
theorem RunnerStep.fin_or {inp : RunInput} {par : Bool} {s s' : Sys} {perm : List Name} (m : RunnerStep inp par s perm s') :
    (s.rpc = .fin ∧ s' = finishRun s) ∨ (s.rpc ≠ .fin ∧ s.rpc ≠ .halted ∧ s'.rpc ≠ .halted) := by
  cases m with
  | ctl _ h0 _ h2 | newWorker _ _ h0 _ h2 | send _ _ _ _ h0 _ h2 => exact Or.inr ⟨h0.1, h0.2, h2⟩
  | result x n nd xp xw xs k h0 h1 h2 => exact Or.inr ⟨h0.1, h0.2, h2⟩
  | toFin k h0 h1 hq => exact Or.inr ⟨h0.1, h0.2, by rw [h1]; exact RPC.noConfusion⟩
  | raise y hl k hne h0 => exact Or.inr ⟨h0.1, h0.2, RPC.noConfusion⟩
  | dtick haw hsu hs =>
    exact Or.inr ⟨(awaiting_notEnd haw).1, (awaiting_notEnd haw).2, by rw [(dtick_outer hs).2.1]; exact (awaiting_notEnd haw).2⟩
  | select n nd d haw k h1 h2 => exact Or.inr ⟨(awaiting_notEnd haw).1, (awaiting_notEnd haw).2, h2⟩
  | goSerial n nd hp haw => exact Or.inr ⟨(awaiting_notEnd haw).1, (awaiting_notEnd haw).2, RPC.noConfusion⟩
  | finish hr => exact Or.inl ⟨hr, rfl⟩

/-- `Plain`, lets no worker exit, starts no worker that had a teardown list: every step of the parallel main thread -/
structure Calm (s s' : Sys) : Prop where
  plain : Plain s s'
  ex : ∀ w, s'.workers w = .exited ↔ s.workers w = .exited
  nsb : ∀ w, s'.workers w = .notStarted → s.workers w = .notStarted

theorem Calm.same {s s' : Sys} (p : Plain s s') (hw : s'.workers = s.workers) : Calm s s' :=
  ⟨p, fun w => by rw [hw], fun w => by rw [hw]; exact id⟩

theorem Calm.setWorker {s s' : Sys} {w : Nat} {st : WState} (p : Plain s s') (hw : s'.workers = (setWorker s w st).workers)
    (h1 : st ≠ .exited) (h2 : st ≠ .notStarted) (h3 : s.workers w ≠ .exited) : Calm s s' := by
  have e : ∀ k, s'.workers k = if k = w then st else s.workers k := fun k => by rw [hw]; rfl
  refine ⟨p, fun k => ?_, fun k => ?_⟩ <;> rw [e k] <;> by_cases c : k = w
  · subst c; rw [if_pos rfl]; exact ⟨fun x => absurd x h1, fun x => absurd x h3⟩
  · rw [if_neg c]
  · rw [if_pos c]; exact fun x => absurd x h2
  · rw [if_neg c]; exact id

theorem RunnerStep.calm {inp : RunInput} {s s' : Sys} {perm : List Name} (m : RunnerStep inp true s perm s')
    (h : TdB inp s) : Calm s s' := by
  cases m with
  | ctl k | toFin k => exact .same k.plain k.workers
  | raise y hl k hne h0 => exact .same (.of_same k.events k.tdown) k.workers
  | newWorker hp k h0 h1 h2 =>
    exact .setWorker (.of_same k.events k.tdown) k.workers WState.noConfusion WState.noConfusion
      (by rw [h.ns _ (Nat.le_refl _)]; exact WState.noConfusion)
  | send node y hs k h0 h1 h2 =>
    have o := (send_outer hs).1.untouched
    exact .same (o.plain.trans k.plain) (k.workers.trans o.workers)
  | dtick haw hsu hs =>
    have o := (dtick_outer hs).untouched
    exact .same o.plain o.workers
  | select n nd d haw k h1 h2 =>
    exact .same ((applySel_plain inp s n nd d).trans k.plain) (k.workers.trans (applySel_keeps inp s n nd d).workers)
  | goSerial n nd hp haw => cases hp
  | result x n nd xp xw xs k h0 h1 h2 =>
    exact .same (xp.trans ((processResult_plain inp x n nd).trans k.plain))
      (k.workers.trans ((processResult_keeps inp x n nd).workers.trans xw))
  | finish hr => exact ⟨finishRun_plain s, fun w => Iff.rfl, fun w => id⟩

end DoitModel.Run
