import DoitModel.Model.Run
/-! # The default schedule `autoRun` stays inside the reachable states (for the non-vacuity examples) -/
namespace DoitModel.Run

theorem firstMove_step {inp : RunInput} {s s' : Sys} {rev : Bool} {mk : Nat → Choice} {c : Choice} :
    ∀ k, firstMove inp s rev mk k = some (c, s') → pstep inp s c = some s' := by
  intro k
  induction k with
  | zero => intro h; simp [firstMove] at h
  | succ k ih =>
    intro h
    simp only [firstMove] at h
    split at h
    · rename_i s1 h1; cases h; exact h1
    · exact ih h

theorem firstWorkerMove_step {inp : RunInput} {s s' : Sys} {rev : Bool} {c : Choice}
    (h : firstWorkerMove inp s rev = some (c, s')) : pstep inp s c = some s' := by
  unfold firstWorkerMove at h
  cases h1 : firstMove inp s rev Choice.take s.nStarted with
  | some x => simp only [h1, Option.orElse] at h; cases h; exact firstMove_step _ h1
  | none => simp only [h1, Option.orElse] at h; exact firstMove_step _ h

theorem autoRun_preach {inp : RunInput} (hp : inp.runner ≠ .serial) (wf rev : Bool) :
    ∀ fuel s, PReach inp s → PReach inp (autoRun inp wf rev fuel s).1 := by
  intro fuel
  induction fuel with
  | zero => intro s h; exact h
  | succ k ih =>
    intro s h
    simp only [autoRun]
    have hstep : stepOf inp = pstep inp := by simp [stepOf, hp]
    split
    · rename_i c s' hm
      apply ih
      refine PReach.next h (c := c) ?_
      cases wf with
      | true =>
        simp only [if_true, hp, if_false] at hm
        cases hw : firstWorkerMove inp s rev with
        | some x =>
          simp only [hw, Option.orElse] at hm
          cases hm; exact firstWorkerMove_step hw
        | none =>
          simp only [hw, Option.orElse, Option.map_eq_some_iff] at hm
          obtain ⟨a, ha, hb⟩ := hm
          cases hb; rw [← hstep]; exact ha
      | false =>
        simp only [Bool.false_eq_true, if_false, hp] at hm
        cases hmm : stepOf inp s (.main (defaultPerm s)) with
        | some x =>
          simp only [hmm, Option.map, Option.orElse] at hm
          cases hm; rw [← hstep]; exact hmm
        | none =>
          simp only [hmm, Option.map, Option.orElse] at hm
          exact firstWorkerMove_step hm
    · exact h

theorem autoRun_reach {inp : RunInput} (hp : inp.runner = .serial) (wf rev : Bool) :
    ∀ fuel s, Reach inp s → Reach inp (autoRun inp wf rev fuel s).1 := by
  intro fuel
  induction fuel with
  | zero => intro s h; exact h
  | succ k ih =>
    intro s h
    simp only [autoRun]
    have hstep : stepOf inp = step inp := by simp [stepOf, hp]
    split
    · rename_i c s' hm
      apply ih
      refine Reach.next h (c := c) ?_
      simp only [hp, if_true] at hm
      cases hmm : stepOf inp s (.main (defaultPerm s)) with
      | some x =>
        cases wf <;> (simp only [hmm, Option.map, Option.orElse] at hm; cases hm; rw [← hstep]; exact hmm)
      | none =>
        cases wf <;> simp [hmm, Option.map, Option.orElse] at hm
    · exact h

end DoitModel.Run
