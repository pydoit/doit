import DoitModel.Proofs.RunLive2
import DoitModel.Proofs.RunMove
/-! # Calc results are delivered: when a calc_dep of a node has been processed and is executed / up-to-date, what it
    delivers is part of the node's dynamic dependency lists -/
namespace DoitModel.Run

/-- everything `c` delivers is among the dynamic deps of `nd` -/
def Delivered (inp : RunInput) (nd : Node) (c : Name) : Prop :=
  (∀ x ∈ (inp.calcRes c).tasks, x ∈ nd.dynTask) ∧ (∀ x ∈ (inp.calcRes c).files, x ∈ nd.dynTask) ∧
  (∀ x ∈ (inp.calcRes c).calcs, x ∈ nd.dynCalc)

/-- `c` is neither pending, nor in the snapshot being iterated, nor awaited -/
def Processed (nd : Node) (c : Name) : Prop :=
  c ∉ nd.pendCalc ∧ ¬ (nd.pc.iterC = true ∧ c ∈ nd.snapCalc) ∧ c ∉ nd.waitRunCalc

def DCn (inp : RunInput) (s : Sys) (nd : Node) : Prop :=
  ∀ c ∈ nd.dynCalc, Processed nd c → (stOf s c).good = true → Delivered inp nd c

theorem implicitNew_covers {acc fs : List Name} {f : Name} (hf : f ∈ fs) : f ∈ acc ∨ f ∈ implicitNew acc fs := by
  induction fs generalizing acc with
  | nil => cases hf
  | cons a t ih =>
    simp only [implicitNew]
    rcases List.mem_cons.mp hf with rfl | h
    · by_cases e : f ∈ acc
      · exact Or.inl e
      · simp [e]
    · by_cases e : a ∈ acc
      · simp only [e, if_true]; exact ih h
      · simp only [e, if_false]
        rcases ih (acc := acc ++ [a]) h with x | x
        · rcases List.mem_append.mp x with y | y
          · exact Or.inl y
          · simp at y; subst y; exact Or.inr (by simp)
        · exact Or.inr (List.mem_cons_of_mem _ x)

/-! The same over any result table `tbl` and any test `ok` on a calc_dep's status: `Delivered`, `DCn`, `AllDC` are the case
`inp.calcRes`, `st.good = true` by `rfl`.  Only `Dlv` looks at the table: `deliver` then `deliverF` add the row of a calc_dep passing `ok`. -/

section
variable {inp : RunInput} {tbl : Name → CalcRes} {ok : RS → Name → Prop}

def DeliveredT (tbl : Name → CalcRes) (nd : Node) (c : Name) : Prop :=
  (∀ x ∈ (tbl c).tasks, x ∈ nd.dynTask) ∧ (∀ x ∈ (tbl c).files, x ∈ nd.dynTask) ∧ (∀ x ∈ (tbl c).calcs, x ∈ nd.dynCalc)

def DCnT (tbl : Name → CalcRes) (ok : RS → Name → Prop) (s : Sys) (nd : Node) : Prop :=
  ∀ c ∈ nd.dynCalc, Processed nd c → ok (stOf s c) c → DeliveredT tbl nd c

def AllDCT (tbl : Name → CalcRes) (ok : RS → Name → Prop) (s : Sys) : Prop := ∀ n nd, s.nodes n = some nd → DCnT tbl ok s nd

def Dlv (inp : RunInput) (tbl : Name → CalcRes) (ok : RS → Name → Prop) (s : Sys) : Prop :=
  ∀ d nd, ok (stOf s d) d →
    DeliveredT tbl (deliverF inp (started s d) (stOf s d) d (deliver inp (stOf s d) d nd)) d

theorem delivered_iff {inp : RunInput} {nd : Node} {c : Name} : Delivered inp nd c ↔ DeliveredT inp.calcRes nd c := Iff.rfl

theorem dcn_iff {inp : RunInput} {s : Sys} {nd : Node} :
    DCn inp s nd ↔ DCnT inp.calcRes (fun st _ => st.good = true) s nd := Iff.rfl

theorem Dlv.congr {s s' : Sys} (h : Dlv inp tbl ok s)
    (hst : ∀ x, stOf s' x = stOf s x) (hev : s'.events = s.events) : Dlv inp tbl ok s' := by
  intro d nd hd
  have : started s' d = started s d := by unfold started; rw [hev]
  rw [hst, this]; exact h d nd (hst d ▸ hd)

theorem addDeps_delivered (tbl : Name → CalcRes) (nd : Node) (p : Name) : DeliveredT tbl (nd.addDeps (tbl p)) p := by
  refine ⟨?_, ?_, ?_⟩
  · intro x hx; simp only [Node.addDeps, newTaskDeps, List.mem_append]; exact Or.inr (Or.inl hx)
  · intro x hx
    simp only [Node.addDeps, newTaskDeps, List.mem_append]
    rcases implicitNew_covers (acc := nd.dynTask ++ (tbl p).tasks) hx with a | a
    · rcases List.mem_append.mp a with b | b
      · exact Or.inl b
      · exact Or.inr (Or.inl b)
    · exact Or.inr (Or.inr a)
  · intro x hx
    simp only [Node.addDeps, newCalcDeps, List.mem_append, List.mem_filter]
    by_cases e : x ∈ nd.dynCalc
    · exact Or.inl e
    · exact Or.inr ⟨mem_dedup.mpr hx, by simpa using e⟩

theorem DeliveredT.mono {a b : Node} {c : Name} (h : DeliveredT tbl a c)
    (h1 : ∀ x, x ∈ a.dynTask → x ∈ b.dynTask) (h2 : ∀ x, x ∈ a.dynCalc → x ∈ b.dynCalc) : DeliveredT tbl b c :=
  ⟨fun x hx => h1 x (h.1 x hx), fun x hx => h1 x (h.2.1 x hx), fun x hx => h2 x (h.2.2 x hx)⟩

theorem dlv_good (inp : RunInput) (s : Sys) : Dlv inp inp.calcRes (fun st _ => st.good = true) s := by
  intro d nd hg
  have g := deliverF_grow inp (started s d) (stOf s d) d (deliver inp (stOf s d) d nd)
  unfold deliver at g ⊢; rw [if_pos hg] at g ⊢
  exact (addDeps_delivered inp.calcRes nd d).mono g.dynTask g.dynCalc

theorem DCnT.grow {s : Sys} {a b : Node} (h : DCnT tbl ok s a) (g : Grow a b) : DCnT tbl ok s b := by
  intro c hc hp hg
  rcases g.newCalc c hc with x | x
  · have hpa : Processed a c := by
      refine ⟨fun e => hp.1 (g.pendCalc c e), ?_, ?_⟩
      · rw [← g.pc, ← g.snapCalc]; exact hp.2.1
      · rw [← g.waitRunCalc]; exact hp.2.2
    exact (h c x hpa hg).mono g.dynTask g.dynCalc
  · exact absurd x hp.1

theorem absorbDone_delivered {s : Sys} (hdel : Dlv inp tbl ok s) : ∀ (ds : List Name) (nd : Node),
    ∀ d ∈ ds, unfinished s d = false → ok (stOf s d) d → DeliveredT tbl (absorbDone inp s true ds nd) d := by
  intro ds
  induction ds with
  | nil => intro nd d hd; cases hd
  | cons a t ih =>
    intro nd d hd hu hg
    simp only [absorbDone]
    by_cases hua : unfinished s a = true
    · simp only [hua, if_true]
      rcases List.mem_cons.mp hd with rfl | hd'
      · rw [hua] at hu; cases hu
      · exact ih nd d hd' hu hg
    · have hua' : unfinished s a = false := by simpa using hua
      simp only [hua', Bool.false_eq_true, if_false, if_true]
      rcases List.mem_cons.mp hd with rfl | hd'
      · have g := (absorbDone_spec inp s true t (deliverF inp (started s d) (stOf s d) d
            (deliver inp (stOf s d) d (parentStatus (stOf s d) d nd)))).1
        exact (hdel d _ hg).mono g.dynTask g.dynCalc
      · exact ih _ d hd' hu hg


/-- `calcIter []`: the calc_dep snapshot is absorbed -/
theorem waitNode_calc_dcn {s : Sys} {nd : Node} (pc' : PC) (hdel : Dlv inp tbl ok s) (h : DCnT tbl ok s nd) :
    DCnT tbl ok s (waitNode inp s nd nd.snapCalc true pc') := by
  have f := waitNode_facts inp s nd nd.snapCalc true pc'
  obtain ⟨g, _, _⟩ := absorbDone_spec inp s true nd.snapCalc nd
  have dynT : (waitNode inp s nd nd.snapCalc true pc').dynTask = (absorbDone inp s true nd.snapCalc nd).dynTask := rfl
  have dynC : (waitNode inp s nd nd.snapCalc true pc').dynCalc = (absorbDone inp s true nd.snapCalc nd).dynCalc := rfl
  intro c hc hp hg
  by_cases hs : c ∈ nd.snapCalc
  · -- in the snapshot: not awaited afterwards, hence finished; good, hence delivered
    have hu : unfinished s c = false := by
      by_cases hu : unfinished s c = true
      · exfalso; apply hp.2.2
        simp [waitNode, addWaits, List.mem_filter, hs, hu]
      · simpa using hu
    have := absorbDone_delivered hdel nd.snapCalc nd c hs hu hg
    exact ⟨by rw [dynT]; exact this.1, by rw [dynT]; exact this.2.1, by rw [dynC]; exact this.2.2⟩
  · rcases f.newCalc c hc with x | x
    · have hpa : Processed nd c := by
        refine ⟨fun e => hp.1 (f.pendCalc c e), fun e => hs e.2, fun e => hp.2.2 (f.wc c e)⟩
      exact (h c x hpa hg).mono f.dynTask f.dynCalc
    · exact absurd x hp.1

theorem waitNode_plain_dcn {s : Sys} {nd : Node} (ds : List Name) (pc' : PC) (h : DCnT tbl ok s nd)
    (hc1 : nd.pc.iterC = false) : DCnT tbl ok s (waitNode inp s nd ds false pc') := by
  have f := waitNode_facts inp s nd ds false pc'
  obtain ⟨⟨e1, e2, e3, e4⟩, e5⟩ := f.same rfl
  intro c hc hp hg
  rw [e2] at hc
  have hpa : Processed nd c := by
    refine ⟨by rw [← e4]; exact hp.1, (fun (e : nd.pc.iterC = true ∧ c ∈ nd.snapCalc) => by rw [hc1] at e; cases e.1), by rw [← e5]; exact hp.2.2⟩
  have := h c hc hpa hg
  exact ⟨by rw [e1]; exact this.1, by rw [e1]; exact this.2.1, by rw [e2]; exact this.2.2⟩

theorem wokenF_dcn {s : Sys} {nd : Node} (p : Name) (hdel : Dlv inp tbl ok s) (h : DCnT tbl ok s nd) :
    DCnT tbl ok s (wokenF inp s (stOf s p) p nd) := by
  have hu := wokenF_upd inp s (stOf s p) p nd
  intro c hc hpr hg
  by_cases e : c = p ∧ p ∈ nd.waitRunCalc
  · obtain ⟨rfl, hin⟩ := e
    -- the calc_dep that just finished: delivered by `_update_waiting`
    unfold wokenF wokenNode; rw [if_pos hin, if_pos hin]
    exact hdel c _ hg
  · rcases hu.newCalc c hc with x | x
    · have hpa : Processed nd c := by
        refine ⟨fun y => hpr.1 (hu.pendCalc c y), by rw [← hu.pc, ← hu.snapCalc]; exact hpr.2.1, ?_⟩
        intro y
        rcases hu.wc c y with z | ⟨z, _⟩
        · exact hpr.2.2 z
        · exact e ⟨z, z ▸ y⟩
      exact (h c x hpa hg).mono hu.dynTask hu.dynCalc
    · exact absurd x hpr.1

theorem DCnT.setPc {s : Sys} {nd : Node} (pc' : PC) (h : DCnT tbl ok s nd) (h1 : nd.pc.iterC = false) :
    DCnT tbl ok s { nd with pc := pc' } := by
  intro c hc hp hg
  exact h c hc ⟨hp.1, (fun (e : nd.pc.iterC = true ∧ c ∈ nd.snapCalc) => by rw [h1] at e; cases e.1), hp.2.2⟩ hg

theorem DCnT.stable {s s' : Sys} {n : Name} {nd : Node} (h : DCnT tbl ok s nd) (hok : NodeOK inp s n nd)
    (hst : Stable s s') : DCnT tbl ok s' nd := by
  intro c hc hp hg
  -- a processed calc_dep is finished, so its status is the same in both states
  rcases hok.kc c hc with a | a | a | a
  · exact absurd a hp.1
  · exact absurd a hp.2.1
  · exact absurd a hp.2.2
  · have := hst c a.1
    exact h c hc hp (by rw [← this]; exact hg)

theorem DCn.stable {inp : RunInput} {s s' : Sys} {n : Name} {nd : Node} (h : DCn inp s nd) (hok : NodeOK inp s n nd)
    (hst : Stable s s') : DCn inp s' nd :=
  dcn_iff.mpr ((dcn_iff.mp h).stable hok hst)

theorem mkNode_dcn (s : Sys) (t : Name) (anc : List Name) : DCnT tbl ok s (mkNode inp t anc) := by
  intro c hc hp _; exact absurd hc hp.1

def AllDC (inp : RunInput) (s : Sys) : Prop := ∀ n nd, s.nodes n = some nd → DCn inp s nd

theorem allDC_iff {inp : RunInput} {s : Sys} : AllDC inp s ↔ AllDCT inp.calcRes (fun st _ => st.good = true) s := Iff.rfl

theorem DCnT.congr {s s' : Sys} {nd : Node} (h : DCnT tbl ok s nd) (hst : ∀ x, stOf s' x = stOf s x) :
    DCnT tbl ok s' nd := by
  intro c hc hp hg; rw [hst] at hg; exact h c hc hp hg

theorem allDC_setNode {s : Sys} {n : Name} {x : Node} (h : AllDCT tbl ok s) (hx : DCnT tbl ok s x)
    (hst : ∀ d, stOf (setNode s n x) d = stOf s d) : AllDCT tbl ok (setNode s n x) := by
  intro k y hk
  simp only [setNode_nodes] at hk
  split at hk
  · cases hk; exact hx.congr hst
  · exact (h k y hk).congr hst

theorem allDC_congr {s s' : Sys} (h : AllDCT tbl ok s) (e : s'.nodes = s.nodes) : AllDCT tbl ok s' := by
  intro k y hk; rw [e] at hk; exact (h k y hk).congr (stOf_congr e)

theorem dcn_addWaiting {s : Sys} {nd : Node} (m : Name) (h : DCnT tbl ok s nd) :
    DCnT tbl ok s (nd.addWaiting m) := by
  unfold Node.addWaiting; split
  · exact h
  · exact h

theorem allDC_registerWaiting {s : Sys} (n : Name) (wf : List Name) (h : AllDCT tbl ok s) :
    AllDCT tbl ok (registerWaiting s n wf) := by
  intro k y hk
  rw [registerWaiting_nodes] at hk
  cases hx : s.nodes k with
  | none => rw [hx] at hk; cases hk
  | some x =>
    rw [hx] at hk
    by_cases e : k ∈ wf
    · simp only [e, if_true, Option.some.injEq] at hk; subst hk
      exact (dcn_addWaiting n (h k x hx)).congr (stOf_registerWaiting s n wf)
    · simp only [e, if_false, Option.some.injEq] at hk; subst hk
      exact (h k x hx).congr (stOf_registerWaiting s n wf)

theorem genStep_allDC {s : Sys} {n : Name} {nd : Node} (d : Name) (pc' : PC) (h : AllDCT tbl ok s)
    (hn : s.nodes n = some nd) (hx : DCnT tbl ok s { nd with pc := pc' }) : AllDCT tbl ok (genStep inp s n nd d pc') := by
  have hst := fun x => genStep_stOf (inp := inp) d pc' hn x
  generalize hg : genStep inp s n nd d pc' = g at hst
  have key : ∀ k y, g.nodes k = some y → y = { nd with pc := pc' } ∨ y = mkNode inp d (nd.anc ++ [d]) ∨ s.nodes k = some y := by
    intro k y hk
    cases genStep_spec hg with
    | fresh =>
      have hk' : (if k = n then some { nd with pc := pc' } else if k = d then some (mkNode inp d (nd.anc ++ [d]))
        else s.nodes k) = some y := hk
      by_cases e1 : k = n
      · rw [if_pos e1] at hk'; cases hk'; exact Or.inl rfl
      · rw [if_neg e1] at hk'
        by_cases e2 : k = d
        · rw [if_pos e2] at hk'; cases hk'; exact Or.inr (Or.inl rfl)
        · rw [if_neg e2] at hk'; exact Or.inr (Or.inr hk')
    | cyclic => exact Or.inr (Or.inr hk)
    | known =>
      rw [setNode_nodes] at hk
      by_cases e1 : k = n
      · rw [if_pos e1] at hk; cases hk; exact Or.inl rfl
      · rw [if_neg e1] at hk; exact Or.inr (Or.inr hk)
  intro k y hk
  rcases key k y hk with rfl | rfl | a
  · exact hx.congr hst
  · exact (mkNode_dcn s _ _).congr hst
  · exact (h k y a).congr hst

theorem addWaitRun_allDC {s : Sys} {n : Name} {nd : Node} (ds : List Name) (c : Bool) (pc' : PC)
    (h : AllDCT tbl ok s) (hn : s.nodes n = some nd) (hx : DCnT tbl ok s (waitNode inp s nd ds c pc')) :
    AllDCT tbl ok (addWaitRun inp s n nd ds c pc') := by
  have e0 : addWaitRun inp s n nd ds c pc' =
      registerWaiting (setNode s n (waitNode inp s nd ds c pc')) n (ds.filter (unfinished s)) := rfl
  rw [e0]
  apply allDC_registerWaiting
  exact allDC_setNode h hx (stOf_setNode_same hn (waitNode_facts inp s nd ds c pc').status)

theorem NodeMove.dcn {s : Sys} {n : Name} {nd x : Node} {perm : List Name}
    (hm : NodeMove inp n nd perm x) (hD : DCnT tbl ok s nd) : DCnT tbl ok s x := by
  cases hm with
  | loopTop hpc hp =>
    -- the pending calc_deps become the snapshot
    intro c hc hpr hg
    have hnot : c ∉ perm := fun e => hpr.2.1 ⟨rfl, e⟩
    exact hD c hc ⟨fun e => hnot (hp.mem_iff.mpr e), (fun e => by rw [hpc] at e; cases e.1), hpr.2.2⟩ hg
  | again hpc | depsDone hpc | noSetup hpc | selected hpc | setupGo hpc | setupSkip hpc | setupDone hpc | finish hpc =>
    exact hD.setPc _ (by rw [hpc]; rfl)

theorem NodePark.dcn {s : Sys} {n : Name} {nd x : Node} (hp : NodePark inp n nd x)
    (hD : DCnT tbl ok s nd) : DCnT tbl ok s x := by
  cases hp with
  | deps hpc | select hpc | setup hpc => exact hD.setPc _ (by rw [hpc]; rfl)

theorem NodeStep.allDC {s s' : Sys} {n : Name} {nd : Node} {perm : List Name} (hdel : Dlv inp tbl ok s)
    (h : AllDCT tbl ok s) (hn : s.nodes n = some nd) (hs : NodeStep inp s n nd perm s') : AllDCT tbl ok s' := by
  have hD := h n nd hn
  cases hs with
  | move hm => exact allDC_setNode h (hm.dcn hD) (stOf_setNode_same hn hm.status)
  | park hp => exact allDC_congr (allDC_setNode h (hp.dcn hD) (stOf_setNode_same hn hp.status)) rfl
  | yield1 hpc =>
    exact allDC_congr (allDC_setNode h (hD.setPc .afterSelf1 (by rw [hpc]; rfl)) (stOf_setNode_same hn rfl)) rfl
  | yield2 hpc =>
    exact allDC_congr (allDC_setNode h (hD.setPc .afterSelf2 (by rw [hpc]; rfl)) (stOf_setNode_same hn rfl)) rfl
  | calcGen hpc =>
    refine genStep_allDC _ _ h hn fun c hc hpr hg => ?_
    exact hD c hc ⟨hpr.1, fun e => hpr.2.1 ⟨rfl, e.2⟩, hpr.2.2⟩ hg
  | taskGen hpc | setupGen hpc => exact genStep_allDC _ _ h hn (hD.setPc _ (by rw [hpc]; rfl))
  | calcWait => exact addWaitRun_allDC _ _ _ h hn (waitNode_calc_dcn _ hdel hD)
  | taskWait hpc | setupWait hpc => exact addWaitRun_allDC _ _ _ h hn (waitNode_plain_dcn _ _ hD (by rw [hpc]; rfl))
  | done => exact allDC_congr h rfl

theorem dtick_allDC {s s' : Sys} {perm : List Name} (hdel : Dlv inp tbl ok s) (h : AllDCT tbl ok s)
    (hs : dtick inp s perm = some s') : AllDCT tbl ok s' := by
  cases dtick_spec hs with
  | node _ hn hst => exact hst.allDC hdel h hn
  | @create t _ _ _ _ hnt =>
    refine allDC_congr (allDC_setNode h (mkNode_dcn s t [t]) fun d => ?_) rfl
    rw [stOf_setNode]
    by_cases e : d = t
    · rw [if_pos e, e]; simp [stOf, hnt, mkNode]
    · rw [if_neg e]
  | _ => exact allDC_congr h rfl


theorem wakeOne_allDC {s : Sys} {p w : Name} {nd : Node} (hdel : Dlv inp tbl ok s) (h : AllDCT tbl ok s)
    (hw : s.nodes w = some nd) : AllDCT tbl ok (wakeOne inp s (stOf s p) p w nd) := by
  have hu := wokenF_upd inp s (stOf s p) p nd
  have base := allDC_setNode h (wokenF_dcn p hdel (h w nd hw)) (stOf_setNode_same hw hu.status)
  unfold wakeOne; split
  · exact allDC_congr base rfl
  · exact base

theorem updateWaiting_allDC {pst : RS} {p : Name} :
    ∀ (perm : List Name) (s s' : Sys), Dlv inp tbl ok s → AllDCT tbl ok s → stOf s p = pst →
      updateWaiting inp pst p s perm = some s' → AllDCT tbl ok s' := by
  intro perm
  induction perm with
  | nil => intro s s' _ h _ hs; simp only [updateWaiting] at hs; cases hs; exact h
  | cons w ws ih =>
    intro s s' hdel h hp hs
    simp only [updateWaiting] at hs
    cases hw : s.nodes w with
    | none => simp only [hw] at hs; exact ih s s' hdel h hp hs
    | some nd =>
      simp only [hw] at hs
      split at hs
      · cases hs
      · subst hp
        have hu := wokenF_upd inp s (stOf s p) p nd
        have e : ∀ x, stOf (wakeOne inp s (stOf s p) p w nd) x = stOf s x := by
          intro x
          have : (wakeOne inp s (stOf s p) p w nd).nodes = (setNode s w (wokenF inp s (stOf s p) p nd)).nodes := by
            unfold wakeOne; split <;> rfl
          rw [stOf_congr this]; exact stOf_setNode_same hw hu.status x
        exact ih _ s' (hdel.congr e (by unfold wakeOne; split <;> rfl)) (wakeOne_allDC hdel h hw) (e p) hs

theorem sendHead_allDC {s : Sys} {p : Name} {nd : Node} (h : AllDCT tbl ok s) (hn : s.nodes p = some nd) :
    AllDCT tbl ok (sendHead s p nd) ∧ ∀ x, stOf (sendHead s p nd) x = stOf s x := by
  unfold sendHead; split
  · have hst := stOf_setNode_same (x := { nd with waitSelect := false }) hn rfl
    have hx : DCnT tbl ok s { nd with waitSelect := false } := h p nd hn
    exact ⟨allDC_congr (allDC_setNode (x := { nd with waitSelect := false }) h hx hst) rfl, hst⟩
  · exact ⟨allDC_congr h rfl, fun _ => rfl⟩

theorem send_allDC {s s' : Sys} {processed : Option Name} {perm : List Name} (hdel : Dlv inp tbl ok s)
    (h : AllDCT tbl ok s) (hs : send inp s processed perm = some s') : AllDCT tbl ok s' := by
  cases send_spec hs with
  | first | lost | keyError => exact allDC_congr h rfl
  | running hn | assertion hn => exact allDC_congr (sendHead_allDC h hn).1 rfl
  | woken hn _ _ _ hu =>
    obtain ⟨h1, e1⟩ := sendHead_allDC h hn
    exact allDC_congr (updateWaiting_allDC perm _ _ (hdel.congr e1 (by unfold sendHead; split <;> rfl)) h1
      (by rw [e1]; simp [stOf, hn]) hu) rfl

theorem allDC_status {s s' : Sys} {n : Name} {nd : Node} (h : AllDCT tbl ok s) (h1 : Inv1 inp s)
    (hn : s.nodes n = some nd) (hu : nd.status.finished = false) (st' : RS)
    (e1 : s'.nodes = (setNode s n { nd with status := st' }).nodes) : AllDCT tbl ok s' := by
  have hstb : Stable s s' := by
    intro d hd
    rw [stOf_congr e1, stOf_setNode]; split
    · rename_i e; subst e; simp [stOf, hn, hu] at hd
    · rfl
  intro k y hk
  rw [e1] at hk
  by_cases e : k = n
  · subst e
    simp [setNode] at hk; subst hk
    exact (h k nd hn).stable (h1.node k nd hn) hstb
  · have hk' : s.nodes k = some y := by simpa [setNode, e] using hk
    exact (h k y hk').stable (h1.node k y hk') hstb

end

theorem AllDC.congr {inp : RunInput} {s s' : Sys} (h : AllDC inp s) (e : s'.nodes = s.nodes) : AllDC inp s' :=
  allDC_iff.mpr (allDC_congr (allDC_iff.mp h) e)

theorem AllDC.status {inp : RunInput} {s s' : Sys} {n : Name} {nd : Node} (h : AllDC inp s) (h1 : Inv1 inp s)
    (hn : s.nodes n = some nd) (hu : nd.status.finished = false) (st' : RS)
    (e1 : s'.nodes = (setNode s n { nd with status := st' }).nodes) : AllDC inp s' :=
  allDC_iff.mpr (allDC_status (allDC_iff.mp h) h1 hn hu st' e1)

/-- the dependency list recorded with `go` is closed under what its calc members deliver -/
def DepsClosed (inp : RunInput) (n : Name) (cs deps : List Name) : Prop :=
  (∀ c ∈ inp.calcDep n, c ∈ cs) ∧ (∀ c ∈ cs, c ∈ deps) ∧
  ∀ c ∈ cs, (∀ x ∈ (inp.calcRes c).calcs, x ∈ cs) ∧ (∀ x ∈ (inp.calcRes c).tasks, x ∈ deps) ∧
    (∀ x ∈ (inp.calcRes c).files, x ∈ deps)

/-- what C01's monitor needs beyond the order invariant: `dc`, every node has received what its finished good calc_deps
    deliver; `gd`, the dependency list recorded with each `go` is closed under those deliveries -/
structure InvG (inp : RunInput) (s : Sys) : Prop where
  dc : AllDC inp s
  gd : ∀ n deps, Ev.go n deps ∈ s.events → ∃ cs, DepsClosed inp n cs deps

theorem go_closed {inp : RunInput} {s : Sys} {n : Name} {nd : Node} (h2 : Inv2 inp s) (hg : AllDC inp s)
    (haw : awaiting s) (hsusp : s.susp = some (.node n)) (hn : s.nodes n = some nd)
    (hd : selDecision inp n nd = .go) : DepsClosed inp n nd.dynCalc (allDeps inp n nd) := by
  have hok := h2.inv1.node n nd hn
  have good := go_deps_good h2 haw hsusp hn hd
  obtain ⟨nd', hn', hpc⟩ := h2.inv1.sp n hsusp
  rw [hn] at hn'; cases hn'
  have hm1 : nd.pendTask = [] ∧ nd.pendCalc = [] ∧ nd.waitRunCalc = [] := by
    rcases hpc with e | e <;> exact hok.m1 (by rw [e]; rfl)
  have noC : nd.pc.iterC = false := by rcases hpc with e | e <;> (rw [e]; rfl)
  refine ⟨fun c hc => hok.st.2 c hc, fun c hc => by simp [allDeps, hc], ?_⟩
  intro c hc
  have hpr : Processed nd c := ⟨by rw [hm1.2.1]; simp,
    (fun (e : nd.pc.iterC = true ∧ c ∈ nd.snapCalc) => by rw [noC] at e; cases e.1), by rw [hm1.2.2]; simp⟩
  have hgood : (stOf s c).good = true := good c (by simp [allDeps, hc])
  obtain ⟨d1, d2, d3⟩ := hg n nd hn c hc hpr hgood
  exact ⟨d3, fun x hx => by simp [allDeps, d1 x hx], fun x hx => by simp [allDeps, d2 x hx]⟩


theorem init_invG (inp : RunInput) : InvG inp (init inp) :=
  ⟨fun n nd hn => by simp [init] at hn, fun n deps hg => by simp [init] at hg⟩

theorem mem_go_append {new old : List Ev} {m : Name} {deps : List Name}
    (hnew : ∀ e ∈ new, ∀ a b, e ≠ Ev.go a b) (h : Ev.go m deps ∈ new ++ old) : Ev.go m deps ∈ old :=
  (List.mem_append.mp h).resolve_left fun a => hnew _ a m deps rfl

theorem Emits.invG {inp : RunInput} {new : List Ev} {s s' : Sys} (a : Emits new s s') (hx : ∀ e ∈ new, e.work = true)
    (h : InvG inp s) : InvG inp s' :=
  ⟨h.dc.congr a.nodes, fun n deps hg => h.gd n deps <|
    mem_go_append (fun e he x y eq => by have := hx e he; rw [eq] at this; cases this) (a.events ▸ hg)⟩

theorem resEvents_noGo (n : Name) (o : Outcome) : ∀ e ∈ resEvents n o, ∀ a b, e ≠ Ev.go a b := by
  intro e he a b; cases o <;> simp [resEvents] at he <;> (subst he; intro x; cases x)

theorem finishRun_go {s : Sys} {m : Name} {deps : List Name} (hg : Ev.go m deps ∈ (finishRun s).events) :
    Ev.go m deps ∈ s.events := by
  rcases List.mem_cons.mp hg with x | x
  · cases x
  · rcases List.mem_append.mp x with y | y
    · obtain ⟨_, _, z⟩ := List.mem_map.mp y; cases z
    · exact y

theorem Move.invG {inp : RunInput} {s s' : Sys} (mv : Move inp s s') (h : InvG inp s) (h2 : Inv2 inp s)
    (h3 : Inv3 inp s) : InvG inp s' := by
  cases mv with
  | emit new a hx => exact a.invG hx h
  | tick perm _ _ hs =>
    exact ⟨allDC_iff.mpr (dtick_allDC (dlv_good inp s) (allDC_iff.mp h.dc) hs), fun n deps hg => h.gd n deps (by rw [← (dtick_outer hs).1]; exact hg)⟩
  | send node perm s0 _ hs a =>
    refine a.invG nofun ⟨allDC_iff.mpr (send_allDC (dlv_good inp s) (allDC_iff.mp h.dc) hs), fun n deps hg => h.gd n deps ?_⟩
    rw [(send_outer hs).1.1] at hg; exact hg
  | select n nd extra haw hsusp hn hd a hx =>
    refine a.invG hx ⟨h.dc.status h2.inv1 hn (selDecision_unfinished hd) _ (applySel_nodes inp s n nd _ hd), ?_⟩
    intro m deps hg
    rw [applySel_events] at hg
    rcases List.mem_append.mp hg with g | g
    · -- only the answer `go` records a `go` event
      generalize hsel : selDecision inp n nd = d at g
      cases d <;> simp [selEvents, statusEv_noGo] at g
      obtain ⟨rfl, rfl⟩ := g
      exact ⟨nd.dynCalc, go_closed h2 h.dc haw hsusp hn hsel⟩
    · exact h.gd m deps g
  | result n nd mid s0 hn hsrc a0 hx a =>
    have hrun : nd.status.finished = false := by
      have : stOf s n = .run := hsrc.elim (h2.x n) fun q => (h3.q1 n q).2
      rw [stOf, hn] at this
      rw [show nd.status = .run from this]; rfl
    have h0 := a0.invG hx h
    refine a.invG nofun ⟨h.dc.status h2.inv1 hn hrun (resStatus (inp.outcome n)) ?_, fun m deps hg => h0.gd m deps ?_⟩
    · rw [processResult_nodes]; funext k; simp [setNode, a0.nodes]
    · rw [processResult_events] at hg
      exact mem_go_append (resEvents_noGo n _) hg
  | finish e => subst e; exact ⟨h.dc.congr rfl, fun n deps hg => h.gd n deps (finishRun_go hg)⟩

theorem reach_invG {inp : RunInput} {s : Sys} (h : Reach inp s) : InvG inp s :=
  Move.reach (fun _ => trivial) (init_invG inp) (fun h2 h3 _ ih m => m.invG ih h2 h3) h

theorem preach_invG {inp : RunInput} {s : Sys} (h : PReach inp s) : InvG inp s :=
  Move.preach (fun _ => trivial) (init_invG inp) (fun h2 h3 _ ih m => m.invG ih h2 h3) h


theorem calcsAt_subset {inp : RunInput} {t : Name} {cs deps : List Name} (hc : DepsClosed inp t cs deps)
    (pre : List Ev) : ∀ (fuel : Nat) (xs : List Name), (∀ x ∈ xs, x ∈ cs) → ∀ x ∈ calcsAt inp pre fuel xs, x ∈ cs := by
  intro fuel
  induction fuel with
  | zero => intro xs h x hx; exact h x hx
  | succ k ih =>
    intro xs h x hx
    simp only [calcsAt] at hx
    refine ih _ ?_ x hx
    intro y hy
    -- `addNew` only adds members of the second list
    have key : ∀ (acc ys : List Name), (∀ a ∈ acc, a ∈ cs) → (∀ a ∈ ys, a ∈ cs) → ∀ a ∈ addNew acc ys, a ∈ cs := by
      intro acc ys
      induction ys generalizing acc with
      | nil => intro h1 _ a ha; exact h1 a ha
      | cons b bs ihb =>
        intro h1 h2 a ha
        simp only [addNew, List.foldl_cons] at ha
        refine ihb _ ?_ (fun z hz => h2 z (by simp [hz])) a ha
        intro z hz
        split at hz
        · exact h1 z hz
        · rcases List.mem_append.mp hz with w | w
          · exact h1 z w
          · simp at w; subst w; exact h2 z (by simp)
    refine key xs _ h ?_ y hy
    intro a ha
    simp only [List.mem_flatMap, List.mem_filter] at ha
    obtain ⟨c, ⟨hcx, _⟩, hac⟩ := ha
    exact (hc.2.2 c (h c hcx)).1 a hac

/-- whatever `depsAt` computes for `t` from any observed finish reports is in the list recorded with `go t` -/
theorem depsAt_subset {inp : RunInput} {t : Name} {cs deps : List Name} (hc : DepsClosed inp t cs deps)
    (hs : ∀ d ∈ staticDeps inp t, d ∈ deps) (nTasks : Nat) (pre : List Ev) :
    ∀ d ∈ depsAt inp nTasks pre t, d ∈ deps := by
  intro d hd
  have hcs := calcsAt_subset hc pre nTasks (inp.calcDep t) hc.1
  simp only [depsAt, List.mem_append, List.mem_flatMap, List.mem_filter] at hd
  rcases hd with ((a | a) | a) | ⟨c, ⟨hcx, _⟩, hac⟩
  · exact hs d (by simp [staticDeps, a])
  · exact hs d (by simp [staticDeps, a])
  · exact hc.2.1 d (hcs d a)
  · have := hc.2.2 c (hcs c hcx)
    rcases hac with x | x
    · exact this.2.1 d x
    · exact this.2.2 d x

/-- C01 in the form of the monitor, for ANY list `obs` of observed events -/
theorem start_after_depsAt {inp : RunInput} {s : Sys} (h2 : Inv2 inp s) (hg : InvG inp s) {pre post : List Ev}
    {t w : Nat} (he : s.events = pre ++ Ev.start t w :: post) (nTasks : Nat) (obs : List Ev) :
    ∀ d ∈ depsAt inp nTasks obs t, finBefore post d := by
  obtain ⟨deps, hgo, hst, hfin⟩ := start_after_known_deps h2 he
  have hmem : Ev.go t deps ∈ s.events := by rw [he]; simp [hgo]
  obtain ⟨cs, hc⟩ := hg.gd t deps hmem
  intro d hd
  exact hfin d (depsAt_subset hc hst nTasks obs d hd)



theorem orderFrom_of_splits (inp : RunInput) (nTasks : Nat) :
    ∀ (rest pre : List Ev),
      (∀ a b t w, rest = a ++ Ev.start t w :: b → ∀ d ∈ depsAt inp nTasks (pre ++ a) t, finishedIn (pre ++ a) d = true) →
      orderFrom inp nTasks pre rest = true := by
  intro rest
  induction rest with
  | nil => intro pre _; rfl
  | cons e es ih =>
    intro pre h
    simp only [orderFrom, Bool.and_eq_true]
    constructor
    · cases e with
      | start t w =>
        simp only [List.all_eq_true]
        intro d hd
        have := h [] es t w rfl d (by simpa using hd)
        simpa using this
      | _ => rfl
    · apply ih
      intro a b t w hsplit d hd
      have := h (e :: a) b t w (by rw [hsplit]; rfl) d (by simpa using hd)
      simpa using this

theorem finBefore_finishedIn {post : List Ev} {d : Name} (h : finBefore post d) (l : List Ev)
    (hl : ∀ e, e ∈ post → (Ev.isFinishOf d e = true) → e ∈ l) : finishedIn l d = true := by
  unfold finishedIn
  rw [List.any_eq_true]
  rcases h with x | x
  · exact ⟨_, hl _ x (by simp [Ev.isFinishOf]), by simp [Ev.isFinishOf]⟩
  · exact ⟨_, hl _ x (by simp [Ev.isFinishOf]), by simp [Ev.isFinishOf]⟩

theorem monC01Order_of_inv {inp : RunInput} {s : Sys} (h2 : Inv2 inp s) (hg : InvG inp s) (nTasks : Nat) :
    monC01Order inp nTasks (trace inp s) = true := by
  unfold monC01Order
  apply orderFrom_of_splits
  intro a b t w hsplit d hd
  simp only [List.nil_append] at hd ⊢
  -- translate the split of the filtered, reversed list into a split of `s.events`
  unfold trace at hsplit
  have h1 : s.events.filter (fun e => !hidden inp e) = b.reverse ++ Ev.start t w :: a.reverse := by
    have := congrArg List.reverse hsplit
    simpa using this
  obtain ⟨l1, l2, e1, f1, f2⟩ := List.filter_eq_append_iff.mp h1
  obtain ⟨m1, m2, e2, _, _, f3⟩ := List.filter_eq_cons_iff.mp f2
  have he : s.events = (l1 ++ m1) ++ Ev.start t w :: m2 := by rw [e1, e2]; simp
  have hfb := start_after_depsAt h2 hg he nTasks a d hd
  refine finBefore_finishedIn hfb a ?_
  intro e hem hfin
  have hnh : hidden inp e = false := by
    cases e <;> simp [Ev.isFinishOf] at hfin <;> rfl
  have : e ∈ m2.filter (fun e => !hidden inp e) := by simp [List.mem_filter, hem, hnh]
  rw [f3] at this
  simpa using this

end DoitModel.Run
