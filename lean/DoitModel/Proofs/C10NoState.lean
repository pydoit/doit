import DoitModel.Proofs.C10
/-! # C10 helper: a record holds per-file state only for files that were a file_dep of the task at some point -/
namespace DoitModel.Inputs
open DoitModel.Status

/-- `E t p` over-approximates "p was a file_dep of t"; `Within E s`: definitions and records stay inside it -/
structure Within (E : Name → Path → Prop) (s : St) : Prop where
  defs : ∀ t p, p ∈ (s.defs t).deps → E t p
  rcd : ∀ t p, (s.rcd t).fstate p ≠ none → E t p

theorem within_init (E : Name → Path → Prop) : Within E St.init :=
  ⟨by intro t p h; simp [St.init, TaskDef.empty] at h, by intro t p h; simp [St.init, Rcd.empty] at h⟩

theorem within_fs {E : Name → Path → Prop} {s : St} (h : Within E s) (fs : FS) (clock : Nat) :
    Within E { s with fs := fs, clock := clock } := ⟨h.defs, h.rcd⟩

variable {E : Name → Path → Prop}

theorem Within.update {s s' : St} (h : Within E s) (hd : s'.defs = s.defs) (t : Name)
    (hr : ∀ k, k ≠ t → s'.rcd k = s.rcd k) (ht : ∀ p, (s'.rcd t).fstate p ≠ none → E t p) : Within E s' := by
  refine ⟨hd ▸ h.defs, fun k p hk => ?_⟩
  by_cases hkt : k = t
  · exact hkt ▸ ht p (hkt ▸ hk)
  · exact h.rcd k p (hr k hkt ▸ hk)

theorem save_fstate {c : Checker} {deps : List Path} {r r' : Rcd} {fs : FS} {vals : Values} {res : Option Res}
    (hs : saveSuccess c deps r fs vals res = .ok r') (p : Path) (hp : r'.fstate p ≠ none) :
    p ∈ deps ∨ r.fstate p ≠ none := by
  obtain ⟨_, _, rfl⟩ := saveSuccess_ok hs
  by_cases hd : p ∈ deps
  · exact Or.inl hd
  · exact Or.inr fun h0 => hp ((if_neg hd).trans h0)

theorem Prim.within {fixed : Bool} {s s' : St} (hp : Prim fixed s s') (h : Within E s) :
    Within E s' := by
  cases hp with
  | crash _ => exact ⟨h.defs, h.rcd⟩
  | erase t => exact h.update rfl t (fun _ hk => if_neg hk) fun p hp => absurd (erase_rcd_self s t ▸ rfl) hp
  | write p sz c => exact ⟨h.defs, h.rcd⟩
  | markIgn t => exact h.update rfl t (fun _ hk => if_neg hk) fun p hp => h.rcd t p fun h0 => hp (by rw [markIgn_rcd_self]; exact h0)
  | save t r0 vals res r h0 hs =>
    refine h.update rfl t (fun _ hk => if_neg hk) fun p hp => ?_
    rcases save_fstate hs p (commit_rcd_self s t r _ ▸ hp) with hd | hd
    · exact h.defs t p hd
    · rcases h0 with rfl | rfl
      · exact h.rcd t p hd
      · exact absurd rfl hd

/-- the operation introduces only dependencies that `E` allows -/
def IOp.respects (E : Name → Path → Prop) : IOp → Prop
  | .base (.redefine t d) => ∀ p, p ∈ d.deps → E t p
  | _ => True

theorem within_step {s : St} (h : Within E s) (o : Op) (ho : IOp.respects E (.base o)) :
    Within E (step true s o) := by
  generalize hs : step true s o = s'
  cases step_spec.of_eq hs with
  | dead => exact h
  | redefine t d =>
    refine ⟨fun k p hk => ?_, h.rcd⟩
    dsimp only at hk
    by_cases hkt : k = t
    · rw [if_pos hkt] at hk; exact hkt ▸ ho p hk
    · rw [if_neg hkt] at hk; exact h.defs k p hk
  | prims _ _ hst => exact hst.preserves (fun _ _ => Prim.within) h
  | _ => exact ⟨h.defs, h.rcd⟩

theorem within_istep {s : St} (h : Within E s) (o : IOp) (ho : IOp.respects E o) :
    Within E (istep s o) := by
  cases o with
  | base o => exact within_step h o ho
  | select t => exact (select_steps s t).preserves (fun _ _ => Prim.within) h
  | complete t ok ws res => exact (complete_steps s t ok ws res).preserves (fun _ _ => Prim.within) h

/-- `p` is a file_dep in some definition of `t` given in the history -/
def IOp.definesDep (t : Name) (p : Path) : IOp → Bool
  | .base (.redefine t' d) => decide (t' = t) && decide (p ∈ d.deps)
  | _ => false

def everDep (h : List IOp) (t : Name) (p : Path) : Bool := h.any (IOp.definesDep t p)

theorem respects_everDep (h : List IOp) : ∀ o, o ∈ h → IOp.respects (fun t p => everDep h t p = true) o := by
  intro o ho
  cases o with
  | base b =>
    cases b with
    | redefine t d =>
      intro p hp
      simp only [everDep, List.any_eq_true]
      exact ⟨_, ho, by simp [IOp.definesDep, hp]⟩
    | _ => trivial
  | select t => trivial
  | complete t ok ws res => trivial

theorem no_state_of_never_dep (h : List IOp) (t : Name) (p : Path) (hn : everDep h t p = false) :
    ((runI h).rcd t).fstate p = none := by
  have hw : Within (fun t p => everDep h t p = true) (runI h) :=
    foldl_preserves (P := Within _) (f := istep) (fun _ o ho hw => within_istep hw o ho) h (respects_everDep h)
      (within_init _)
  cases hf : ((runI h).rcd t).fstate p with
  | none => rfl
  | some st =>
    have := hw.rcd t p (by simp [hf])
    simp [hn] at this

end DoitModel.Inputs
