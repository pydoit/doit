import DoitModel.Model.Sel
/-! # `closureOf` computes the closure of the selection under `succs`

`Reach` is the closure as a relation; `closureOf` is inside it, contains the selection and is closed under `succs`, hence
is all of it. -/
namespace DoitModel.Sel

/-- reachable from the selection over the static graph (`succs`: task_dep, calc_dep, setup of tasks that run) -/
inductive Reach (ts : List Task) (sel : List Tok) : Tok → Prop
  | base (n : Tok) : n ∈ sel → Reach ts sel n
  | step (n m : Tok) : Reach ts sel n → m ∈ succs ts n → Reach ts sel m

def Closed (ts : List Task) (S : List Tok) : Prop := ∀ n ∈ S, ∀ m ∈ succs ts n, m ∈ S

theorem reach_least (ts : List Task) (sel S : List Tok) (hsel : ∀ n ∈ sel, n ∈ S) (hc : Closed ts S) (m : Tok)
    (h : Reach ts sel m) : m ∈ S := by
  induction h with
  | base n hn => exact hsel n hn
  | step n m _ hm ih => exact hc n ih m hm

theorem closedB_iff (ts : List Task) (S : List Tok) : closedB ts S = true ↔ Closed ts S := by
  simp [closedB, Closed]

theorem mem_addNew (S l : List Tok) (x : Tok) : x ∈ addNew S l ↔ x ∈ S ∨ x ∈ l := by
  induction l generalizing S with
  | nil => simp [addNew]
  | cons m ms ih =>
    by_cases h : m ∈ S
    · simp only [addNew, List.contains_eq_mem, h, decide_true, if_true, ih, List.mem_cons]
      exact ⟨Or.imp_right Or.inr, fun h1 => h1.elim .inl (fun h2 => h2.elim (fun e => .inl (e ▸ h)) .inr)⟩
    · simp only [addNew, List.contains_eq_mem, h, decide_false, Bool.false_eq_true, if_false, ih, List.mem_append,
        List.mem_cons, List.not_mem_nil, false_or, or_assoc]

theorem addNew_prefix (S l : List Tok) : S <+: addNew S l := by
  induction l generalizing S with
  | nil => exact List.prefix_refl S
  | cons m ms ih =>
    rw [addNew]
    split
    · exact ih S
    · exact (List.prefix_append S [m]).trans (ih _)

theorem addNew_append (S l1 l2 : List Tok) : addNew S (l1 ++ l2) = addNew (addNew S l1) l2 := by
  induction l1 generalizing S with
  | nil => rfl
  | cons m ms ih => simp only [List.cons_append, addNew]; split <;> exact ih _

theorem mem_expand (ts : List Task) (S : List Tok) (x : Tok) :
    x ∈ expand ts S ↔ x ∈ S ∨ ∃ n ∈ S, x ∈ succs ts n := by
  simp [expand, mem_addNew, List.mem_flatMap]

theorem reachIter_mono (ts : List Task) (k : Nat) (S : List Tok) (x : Tok) (h : x ∈ S) : x ∈ reachIter ts k S := by
  induction k generalizing S with
  | zero => exact h
  | succ k ih => exact ih _ ((mem_expand ts S x).2 (Or.inl h))

theorem reachIter_sound (ts : List Task) (sel : List Tok) (k : Nat) (S : List Tok)
    (hS : ∀ x ∈ S, Reach ts sel x) : ∀ x ∈ reachIter ts k S, Reach ts sel x := by
  induction k generalizing S with
  | zero => exact hS
  | succ k ih =>
    apply ih
    intro x hx
    rcases (mem_expand ts S x).1 hx with h | ⟨n, hn, hx⟩
    · exact hS x h
    · exact .step n x (hS n hn) hx

theorem closure_sound (ts : List Task) (sel : List Tok) (m : Tok) (h : m ∈ closureOf ts sel) : Reach ts sel m := by
  apply reachIter_sound ts sel ts.length (addNew [] sel) _ m h
  intro x hx
  exact .base x (by simpa [mem_addNew] using hx)

theorem closure_has_sel (ts : List Task) (sel : List Tok) (n : Tok) (h : n ∈ sel) : n ∈ closureOf ts sel :=
  reachIter_mono ts _ _ n (by simp [mem_addNew, h])

/-! ### `ts.length` rounds of `expand` reach the fixed point

Every round that does not reach a closed set adds the name of a task of `ts` that was not there before (a new name
without a task has no successors), so the number of tasks whose name is missing drops by one per round. -/

/-- tasks whose name is not in `S` -/
def missing (ts : List Task) (S : List Tok) : Nat := (ts.filter (fun t => !S.contains t.name)).length

theorem filter_length_lt {α} (p q : α → Bool) (l : List α) (hm : ∀ t ∈ l, q t = true → p t = true)
    (hw : ∃ t ∈ l, p t = true ∧ q t = false) : (l.filter q).length < (l.filter p).length := by
  have e : l.filter q = (l.filter p).filter q := by
    rw [List.filter_filter]
    refine List.filter_congr fun t ht => ?_
    cases hq : q t
    · rfl
    · rw [hm t ht hq]; rfl
  obtain ⟨t, ht, hp, hq⟩ := hw
  rw [e]
  exact List.length_filter_lt_length_iff_exists.2 ⟨t, List.mem_filter.2 ⟨ht, hp⟩, by simp [hq]⟩

theorem exists_of_not_closed {ts : List Task} {S : List Tok} (h : ¬ Closed ts S) :
    ∃ n ∈ S, ∃ m ∈ succs ts n, m ∉ S := by
  simpa only [Closed, Classical.not_forall, Classical.not_imp, exists_prop] using h

theorem succs_has_task (ts : List Task) (n m : Tok) (h : m ∈ succs ts n) : ∃ t ∈ ts, t.name = n := by
  unfold succs at h
  cases hf : find ts n with
  | none => rw [hf] at h; cases h
  | some t =>
    unfold find at hf
    exact ⟨t, List.mem_of_find?_eq_some hf, by simpa using List.find?_some hf⟩

theorem closed_expand (ts : List Task) (S : List Tok) (h : Closed ts S) : Closed ts (expand ts S) := by
  have sub : ∀ x, x ∈ expand ts S → x ∈ S := by
    intro x hx
    rcases (mem_expand ts S x).1 hx with a | ⟨n, hn, a⟩
    · exact a
    · exact h n hn x a
  intro n hn m hm
  exact (mem_expand ts S m).2 (Or.inl (h n (sub n hn) m hm))

theorem closed_reachIter (ts : List Task) (k : Nat) : ∀ S, Closed ts S → Closed ts (reachIter ts k S) := by
  induction k with
  | zero => intro S h; exact h
  | succ k ih => intro S h; exact ih _ (closed_expand ts S h)

theorem missing_lt_of_not_closed (ts : List Task) (S : List Tok) (h : ¬ Closed ts (expand ts S)) :
    missing ts (expand ts S) < missing ts S := by
  -- a member of `expand S` with a successor outside is new and has a task
  obtain ⟨n, hn, m, hm, hout⟩ := exists_of_not_closed h
  have hnS : n ∉ S := fun a => hout ((mem_expand ts S m).2 (Or.inr ⟨n, a, hm⟩))
  obtain ⟨t, ht, e⟩ := succs_has_task ts n m hm
  refine filter_length_lt _ _ ts (fun x _ hq => ?_) ⟨t, ht, by simp [e, hnS], by simp [e, hn]⟩
  simp only [Bool.not_eq_true', List.contains_eq_mem, decide_eq_false_iff_not] at hq ⊢
  exact fun a => hq ((mem_expand ts S _).2 (Or.inl a))

theorem missing_lt_length (ts : List Task) (S : List Tok) (h : ¬ Closed ts S) : missing ts S < ts.length := by
  obtain ⟨n, hn, m, hm, _⟩ := exists_of_not_closed h
  obtain ⟨t, ht, e⟩ := succs_has_task ts n m hm
  exact List.length_filter_lt_length_iff_exists.2 ⟨t, ht, by simp [e, hn]⟩

theorem missing_reachIter (ts : List Task) (k : Nat) : ∀ S, ¬ Closed ts (reachIter ts k S) →
    missing ts (reachIter ts k S) + k ≤ missing ts S := by
  induction k with
  | zero => intro S _; simp [reachIter]
  | succ k ih =>
    intro S h
    simp only [reachIter] at h ⊢
    have h1 := ih (expand ts S) h
    have h2 : ¬ Closed ts (expand ts S) := fun a => h (closed_reachIter ts k _ a)
    have h3 := missing_lt_of_not_closed ts S h2
    omega

theorem closureOf_closed (ts : List Task) (sel : List Tok) : Closed ts (closureOf ts sel) := by
  apply Classical.byContradiction; intro h
  unfold closureOf at h
  have h1 := missing_reachIter ts ts.length _ h
  have h2 : ¬ Closed ts (addNew [] sel) := fun a => h (closed_reachIter ts _ _ a)
  have h3 := missing_lt_length ts _ h2
  omega

theorem closure_complete' (ts : List Task) (sel : List Tok) (m : Tok) (h : Reach ts sel m) : m ∈ closureOf ts sel :=
  reach_least ts sel _ (closure_has_sel ts sel) (closureOf_closed ts sel) m h

/-- the form with the certificate `closedB` as hypothesis; the certificate always holds (`closureOf_closed`) -/
theorem closure_complete (ts : List Task) (sel : List Tok) (hc : closedB ts (closureOf ts sel) = true) (m : Tok)
    (h : Reach ts sel m) : m ∈ closureOf ts sel :=
  closure_complete' ts sel m h

theorem getD_mem_take (s : List Tok) (i : Nat) (h : i < s.length) : s.getD i [] ∈ s.take (i + 1) := by
  have : s.getD i [] = s[i] := by simp [List.getD, h]
  rw [this, List.mem_take_iff_getElem]
  exact ⟨i, by omega, rfl⟩

theorem orderPairsBad_nil (ts : List Task) (sel started : List Tok)
    (h : ∀ i a b, i < (addNew [] sel).length → a ∈ (addNew [] sel).take (i + 1) → a ∈ started → b ∈ started →
      idxOf started b < idxOf started a → b ∈ closureOf ts ((addNew [] sel).take (i + 1))) :
    orderPairsBad ts sel started = [] := by
  unfold orderPairsBad
  simp only [List.flatMap_eq_nil_iff, List.filterMap_eq_nil_iff, List.mem_range]
  intro i hi j _
  have hmem := getD_mem_take (addNew [] sel) i hi
  generalize (addNew [] sel).getD i [] = a at *
  generalize (addNew [] sel).getD j [] = b at *
  split
  · next hc =>
    simp only [Bool.and_eq_true, decide_eq_true_eq, Bool.not_eq_true'] at hc
    obtain ⟨⟨⟨⟨_, ha⟩, hb⟩, hlt⟩, hnot⟩ := hc
    rw [List.contains_iff_mem.2 (h i a b hi hmem (List.contains_iff_mem.1 ha) (List.contains_iff_mem.1 hb) hlt)] at hnot
    cases hnot
  · rfl

end DoitModel.Sel
