import DoitModel.Model.Opt
/-! M4: the getopt state machine on rendered assignments (round trip) and on malformed tokens (rejection) -/
namespace DoitModel.Opt

theorem splitEq_append (n rest : Str) (h : '=' ∉ n) :
    splitEq (n ++ rest) = (n ++ (splitEq rest).1, (splitEq rest).2) := by
  induction n with
  | nil => rfl
  | cons c r ih =>
    have hc : c ≠ '=' := fun e => h (e ▸ List.mem_cons_self)
    rw [List.cons_append, splitEq, if_neg hc, ih fun e => h (List.mem_cons_of_mem _ e)]
    rfl

theorem splitEq_noeq (n : Str) (h : '=' ∉ n) : splitEq n = (n, none) := by
  have := splitEq_append n [] h
  rwa [List.append_nil, splitEq, List.append_nil] at this

theorem splitEq_eq (n v : Str) (h : '=' ∉ n) : splitEq (n ++ '=' :: v) = (n, some v) := by
  rw [splitEq_append n _ h, splitEq, if_pos rfl, List.append_nil]

theorem isPrefixOf_self (n : Str) : n.isPrefixOf n = true := by
  induction n with
  | nil => rfl
  | cons c r ih => simp [List.isPrefixOf, ih]

theorem mem_possibilities_self (tbl : List (Str × Bool)) (n : Str) (b : Bool) (h : (n, b) ∈ tbl) :
    (n, b) ∈ possibilities tbl n :=
  List.mem_filter.2 ⟨h, isPrefixOf_self n⟩

theorem mem_possibilities_sub (tbl : List (Str × Bool)) (n : Str) (e : Str × Bool)
    (h : e ∈ possibilities tbl n) : e ∈ tbl :=
  (List.mem_filter.1 h).1

theorem longHasArgs_exact_flag (tbl : List (Str × Bool)) (n : Str) (h : (n, false) ∈ tbl) :
    longHasArgs tbl n = .ok (false, n) := by
  have hm := mem_possibilities_self tbl n false h
  unfold longHasArgs
  cases he : possibilities tbl n with
  | nil => rw [he] at hm; cases hm
  | cons x rest => exact if_pos (he ▸ hm)

theorem longHasArgs_exact_arg (tbl : List (Str × Bool)) (n : Str) (h : (n, true) ∈ tbl)
    (hno : (n, false) ∉ tbl) : longHasArgs tbl n = .ok (true, n) := by
  have hm := mem_possibilities_self tbl n true h
  unfold longHasArgs
  cases he : possibilities tbl n with
  | nil => rw [he] at hm; cases hm
  | cons x rest =>
    exact (if_neg fun hc => hno (mem_possibilities_sub tbl n _ (he ▸ hc))).trans (if_pos (he ▸ hm))

theorem longHasArgs_unique (tbl : List (Str × Bool)) (p n : Str) (a : Bool)
    (h : possibilities tbl p = [(n, a)]) : longHasArgs tbl p = .ok (a, n) := by
  unfold longHasArgs
  rw [h]
  by_cases h1 : (p, false) ∈ [(n, a)]
  · cases List.mem_singleton.1 h1; exact if_pos h1
  · by_cases h2 : (p, true) ∈ [(n, a)]
    · cases List.mem_singleton.1 h2; exact (if_neg h1).trans (if_pos h2)
    · exact (if_neg h1).trans ((if_neg h2).trans (if_pos rfl))

theorem longHasArgs_ambiguous (tbl : List (Str × Bool)) (p : Str) (x y : Str × Bool) (rest : List (Str × Bool))
    (h : possibilities tbl p = x :: y :: rest) (h1 : (p, false) ∉ tbl) (h2 : (p, true) ∉ tbl) :
    longHasArgs tbl p = .error .ambiguous := by
  unfold longHasArgs
  rw [h]
  have e1 : (p, false) ∉ x :: y :: rest := fun hc => h1 (mem_possibilities_sub tbl p _ (h ▸ hc))
  have e2 : (p, true) ∉ x :: y :: rest := fun hc => h2 (mem_possibilities_sub tbl p _ (h ▸ hc))
  exact (if_neg e1).trans ((if_neg e2).trans (if_neg (List.cons_ne_nil y rest)))

theorem longHasArgs_unknown (tbl : List (Str × Bool)) (p : Str) (h : possibilities tbl p = []) :
    longHasArgs tbl p = .error .unknownLong := by
  unfold longHasArgs; rw [h]

theorem scanTok_short (sT lT) (acc : Pairs) (c : Char) (r : List Char) (hc : c ≠ '-') :
    scanTok sT lT acc ('-' :: c :: r) = doShorts sT (c :: r) acc := by
  unfold scanTok
  split
  · next h => injection h with _ h; injection h with h _; exact absurd h hc
  · next h => injection h with _ h; injection h with h _; exact absurd h hc
  · next h => injection h with _ h; injection h with h1 h2; subst h1; subst h2; rfl
  · next h => exact absurd rfl (h c r)

theorem scanTok_long (sT lT) (acc : Pairs) (body : Str) (hb : body ≠ []) :
    scanTok sT lT acc ('-' :: '-' :: body) = doLong lT body acc := by
  cases body with
  | nil => exact absurd rfl hb
  | cons b bs => rfl

theorem doShorts_flags (sT) (cs rest : List Char) (acc : Pairs) (h : flagsOk sT cs = true) :
    doShorts sT (cs ++ rest) acc = doShorts sT rest (acc ++ flagPairs cs) := by
  induction cs generalizing acc with
  | nil => rw [flagPairs, List.map_nil, List.append_nil, List.nil_append]
  | cons c r ih =>
    simp only [flagsOk, List.all_cons, Bool.and_eq_true, decide_eq_true_eq] at h
    rw [List.cons_append, doShorts, h.1.2, ih _ h.2, List.append_assoc]
    rfl

theorem flagsOk_head (sT) (c : Char) (r : List Char) (h : flagsOk sT (c :: r) = true) : c ≠ '-' := by
  simp only [flagsOk, List.all_cons, Bool.and_eq_true, decide_eq_true_eq] at h
  exact h.1.1

theorem scanTok_cluster (sT lT) (acc : Pairs) (cs : List Char) (c : Char) (v : Str) (h : flagsOk sT cs = true)
    (hc : c ≠ '-') : scanTok sT lT acc ('-' :: (cs ++ c :: v)) = doShorts sT (c :: v) (acc ++ flagPairs cs) := by
  rw [← doShorts_flags sT cs _ acc h]
  cases cs with
  | nil => exact scanTok_short sT lT acc c v hc
  | cons d r => exact scanTok_short sT lT acc d _ (flagsOk_head sT d r h)

theorem longOk_elim (lT : List (Str × Bool)) (n : Str) (a : Bool) (h : longOk lT n a = true) :
    n ≠ [] ∧ '=' ∉ n ∧ (n, a) ∈ lT ∧ (a = true → (n, false) ∉ lT) := by
  simp only [longOk, Bool.and_eq_true, decide_eq_true_eq, Bool.not_eq_true', Bool.or_eq_true, List.contains_eq_mem,
    decide_eq_false_iff_not] at h
  exact ⟨h.1.1.1, h.1.1.2, h.1.2, fun ha => h.2.resolve_left (by rw [ha]; exact Bool.noConfusion)⟩

theorem longHasArgs_ok (lT : List (Str × Bool)) (n : Str) (a : Bool) (h : longOk lT n a = true) :
    longHasArgs lT n = .ok (a, n) := by
  obtain ⟨_, _, hm, hno⟩ := longOk_elim lT n a h
  cases a with
  | false => exact longHasArgs_exact_flag lT n hm
  | true => exact longHasArgs_exact_arg lT n hm (hno rfl)

theorem scanTok_name (sT lT) (acc : Pairs) (n : Str) (a : Bool) (h : longOk lT n a = true) :
    scanTok sT lT acc ('-' :: '-' :: n) = longResult acc none (.ok (a, n)) := by
  have he := longOk_elim lT n a h
  rw [scanTok_long sT lT acc n he.1, doLong, splitEq_noeq n he.2.1, longHasArgs_ok lT n a h]

theorem scanTok_name_eq (sT lT) (acc : Pairs) (n v : Str) (a : Bool) (h : longOk lT n a = true) :
    scanTok sT lT acc ('-' :: '-' :: (n ++ '=' :: v)) = longResult acc (some v) (.ok (a, n)) := by
  rw [scanTok_long sT lT acc _ (by cases n <;> exact List.cons_ne_nil _ _), doLong,
    splitEq_eq n v (longOk_elim lT n a h).2.1, longHasArgs_ok lT n a h]

theorem fold_fail (sT lT) (e : Err) (toks : List Str) :
    toks.foldl (gstep sT lT) (.fail e) = .fail e := by
  induction toks with
  | nil => rfl
  | cons t r ih => exact ih

theorem fold_pos (sT lT) (acc : Pairs) (ps toks : List Str) :
    toks.foldl (gstep sT lT) (.pos acc ps) = .pos acc (ps ++ toks) := by
  induction toks generalizing ps with
  | nil => rw [List.append_nil]; rfl
  | cons t r ih => rw [List.foldl_cons, gstep, ih, List.append_assoc]; rfl

theorem fold_asg (sT lT) (a : Asg) (acc : Pairs) (h : a.ok sT lT = true) :
    a.render.foldl (gstep sT lT) (.scan acc) = .scan (acc ++ a.pairs) := by
  cases a with
  | flags cs =>
    simp only [Asg.ok, Bool.and_eq_true, decide_eq_true_eq] at h
    cases cs with
    | nil => exact absurd rfl h.1
    | cons d r =>
      have hd := doShorts_flags sT (d :: r) [] acc h.2
      rw [List.append_nil] at hd
      exact (scanTok_short sT lT acc d r (flagsOk_head sT d r h.2)).trans hd
  | sAtt cs c v =>
    simp only [Asg.ok, Bool.and_eq_true, decide_eq_true_eq] at h
    obtain ⟨⟨⟨hf, hc⟩, hl⟩, hv⟩ := h
    cases v with
    | nil => exact absurd rfl hv
    | cons v0 vs =>
      show scanTok sT lT acc ('-' :: (cs ++ c :: v0 :: vs)) = _
      rw [scanTok_cluster sT lT acc cs c _ hf hc, doShorts, hl, Asg.pairs, List.append_assoc]
      rfl
  | sDet cs c v =>
    simp only [Asg.ok, Bool.and_eq_true, decide_eq_true_eq] at h
    obtain ⟨⟨hf, hc⟩, hl⟩ := h
    show gstep sT lT (scanTok sT lT acc ('-' :: (cs ++ [c]))) v = _
    rw [scanTok_cluster sT lT acc cs c [] hf hc, doShorts, hl]
    exact congrArg GState.scan (List.append_assoc acc (flagPairs cs) [(.short c, v)])
  | lFlag n => exact scanTok_name sT lT acc n false h
  | lEq n v => exact scanTok_name_eq sT lT acc n v true h
  | lDet n v => exact congrArg (gstep sT lT · v) (scanTok_name sT lT acc n true h)

theorem fold_asgs (sT lT) (xs : List Asg) (acc : Pairs) (h : xs.all (Asg.ok sT lT) = true) :
    (renderAll xs).foldl (gstep sT lT) (.scan acc) = .scan (acc ++ pairsAll xs) := by
  induction xs generalizing acc with
  | nil => rw [pairsAll, List.flatMap_nil, List.append_nil]; rfl
  | cons a r ih =>
    rw [List.all_cons, Bool.and_eq_true] at h
    rw [renderAll, pairsAll, List.flatMap_cons, List.flatMap_cons, List.foldl_append, fold_asg sT lT a acc h.1,
      ← List.append_assoc]
    exact ih _ h.2

theorem getoptT_prefix (sT lT) (xs : List Asg) (rest : List Str) (h : xs.all (Asg.ok sT lT) = true) :
    getoptT sT lT (renderAll xs ++ rest) = gfinish (rest.foldl (gstep sT lT) (.scan (pairsAll xs))) := by
  unfold getoptT
  rw [List.foldl_append, fold_asgs sT lT xs [] h, List.nil_append]

theorem getopt_fail_after (sT lT) (xs : List Asg) (tok : Str) (more : List Str) (e : Err)
    (hx : xs.all (Asg.ok sT lT) = true) (h : scanTok sT lT (pairsAll xs) tok = .fail e) :
    getoptT sT lT (renderAll xs ++ tok :: more) = .error e := by
  rw [getoptT_prefix _ _ xs _ hx, List.foldl_cons, gstep, h, fold_fail]
  rfl

theorem finish_pos (sT lT) (acc : Pairs) (pos : List Str) (h : PosOk pos = true) :
    gfinish (pos.foldl (gstep sT lT) (.scan acc)) = .ok (acc, pos) := by
  cases pos with
  | nil => rfl
  | cons p ps =>
    have hstep : scanTok sT lT acc p = .pos acc [p] := by
      -- the three option-looking shapes of `scanTok` (`--`, `--x…`, `-x…`) are exactly those `PosOk` rejects
      unfold scanTok
      split
      · cases h
      · cases h
      · cases h
      · rfl
    rw [List.foldl_cons, gstep, hstep, fold_pos]
    rfl

theorem getopt_rendered (spec : List Opt) (xs : List Asg) (pos : List Str) (sep : Bool)
    (hx : xs.all (Asg.ok (shortTable spec) (longTable spec)) = true) (hp : sep = true ∨ PosOk pos = true) :
    getopt spec (renderAll xs ++ (if sep then ['-', '-'] :: pos else pos)) = .ok (pairsAll xs, pos) := by
  unfold getopt
  rw [getoptT_prefix _ _ xs _ hx]
  cases sep with
  | true =>
    show gfinish (pos.foldl (gstep _ _) (.pos (pairsAll xs) [])) = _
    rw [fold_pos]
    rfl
  | false => exact finish_pos _ _ _ pos (hp.resolve_left Bool.noConfusion)

end DoitModel.Opt
