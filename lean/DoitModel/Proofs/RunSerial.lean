import DoitModel.Proofs.RunSys
import DoitModel.Proofs.RunnerSpec
/-! # The serial runner preserves `Inv2`; every reachable state of the serial system satisfies it -/
namespace DoitModel.Run

theorem init_inv2 (inp : RunInput) : Inv2 inp (init inp) := by
  have hrpc : (init inp).rpc = .sTop none ∨ (init inp).rpc = .gEntry none (.startLoop inp.numProc) := by
    unfold init
    by_cases hrn : inp.runner = .serial
    · exact Or.inl (if_pos hrn)
    · exact Or.inr (if_neg hrn)
  constructor
  · constructor
    · intro n nd hn; cases hn
    · intro r hr; cases hr
    · intro n nd hc; cases hc
    · intro n hs; cases hs
    · exact List.nodup_nil
    · intro r hr; cases hr
    · intro n hc; cases hc
    · intro r hr; rcases hr with a | a <;> cases a
    · intro n nd hn; cases hn
  · intro p hp
    unfold sentBack at hp
    rcases hrpc with e | e <;> (rw [e] at hp; cases hp)
  · intro _ n nd hs; cases hs
  · intro n hn
    rcases hn with a | ⟨ret, a⟩
    · cases a
    · rcases hrpc with e | e <;> cases e.symm.trans a
  · intro d; constructor <;> (intro e; cases e)
  · trivial
  · intro n deps hm; cases hm
  · intro n hn
    rcases hrpc with e | e <;> cases e.symm.trans hn

theorem not_awaiting {s : Sys} (h1 : s.rpc ≠ .sWait) (h2 : ∀ ret, s.rpc ≠ .gWait ret) : ¬ awaiting s :=
  fun a => a.elim h1 fun ⟨ret, e⟩ => h2 ret e

/-- `run_tasks` returned (`hl = s.halt`) or raised -/
theorem inv2_toFin {inp : RunInput} {s : Sys} (h : Inv2 inp s) (hl : Halt) :
    Inv2 inp { s with rpc := .fin, halt := hl } := by
  refine h.outer rfl rfl rfl rfl rfl [] rfl h.ord nofun nofun (fun a => absurd a (not_awaiting nofun nofun)) ?_ nofun
  intro n hn
  rcases hn with a | ⟨ret, a⟩
  · exact h.f1 n (Or.inl a)
  · cases a

theorem inv2_raise {inp : RunInput} {s : Sys} (h : Inv2 inp s) (hl : Halt) : Inv2 inp (raise s hl) :=
  inv2_toFin h hl

theorem teardown_plain (l : List Name) : ∀ e ∈ Ev.complete :: l.map Ev.teardown, ∀ post, EvOK e post := by
  intro e he post
  simp only [List.mem_cons, List.mem_map] at he
  rcases he with rfl | ⟨a, _, rfl⟩ <;> trivial

theorem inv2_finishRun {inp : RunInput} {s : Sys} (h : Inv2 inp s) : Inv2 inp (finishRun s) := by
  refine h.outer rfl rfl rfl rfl rfl (Ev.complete :: s.tdown.map Ev.teardown) rfl
    (OrdOK_append_plain h.ord (teardown_plain _)) ?_ nofun (fun a => absurd a (not_awaiting nofun nofun)) ?_ nofun
  · intro n deps hm
    simp only [List.mem_cons, List.mem_map] at hm
    rcases hm with a | ⟨x, _, a⟩ <;> cases a
  · intro n hn
    rcases hn with a | ⟨ret, a⟩
    · obtain ⟨deps, hd⟩ := h.f1 n (Or.inl a)
      exact ⟨deps, List.mem_cons_of_mem _ (List.mem_append_right _ hd)⟩
    · cases a

theorem startTask_ord {inp : RunInput} {s : Sys} {n w : Nat} (hgo : ∃ deps, Ev.go n deps ∈ s.events)
    (ho : OrdOK s.events) : OrdOK (startEvents inp n w ++ s.events) := by
  unfold startEvents
  by_cases hp : inp.runner = .process
  · rw [if_pos hp]; exact ⟨hgo, ho⟩
  · rw [if_neg hp]; exact ⟨hgo.imp fun _ hd => List.mem_cons_of_mem _ hd, trivial, ho⟩

theorem serialStep_inv2 {inp : RunInput} {s s' : Sys} {perm : List Name} (h : Inv2 inp s)
    (hs : serialStep inp s perm = some s') : Inv2 inp s' := by
  cases serialStep_spec hs with
  | stop | stopIter => exact inv2_toFin h s.halt
  | lost | assertFail | cyclic | holdOn | crash | execLost => exact inv2_raise h _
  | finish => exact inv2_finishRun h
  | send hr _ hsd => exact inv2_send .sWait h (by unfold sentBack; rw [hr]) hsd rfl nofun nofun
  | tick _ hsu hd => exact inv2_dtick h hsu hd
  | select hr hsu hn hd _ ha =>
    subst hd
    exact inv2_select _ h (Or.inl hr) hsu hn ha (fun p hp => (Option.some.inj hp).symm) (not_awaiting nofun nofun)
      nofun nofun
  | @go n nd hr hsu hn hd =>
    have h1 : Inv2 inp { applySel inp s n nd .go with rpc := .sExec n } := by
      have := inv2_select (.sExec n) h (Or.inl hr) hsu hn (by rw [hd]; nofun) nofun (not_awaiting nofun nofun)
        nofun (fun m a => by cases a; exact ⟨rfl, hd⟩)
      rwa [hd] at this
    have hev := startTask_events_eq inp (applySel inp s n nd .go) n 0
    refine h1.outer rfl rfl rfl rfl rfl _ hev (startTask_ord ⟨_, List.mem_cons_self⟩ h1.ord)
      (fun m deps hm => by rcases mem_startEvents hm with e | e <;> cases e) nofun (fun a => a) ?_ h1.x
    intro m hm
    rcases hm with a | ⟨ret, a⟩
    · obtain ⟨deps, hd'⟩ := h1.f1 m (Or.inl a)
      exact ⟨deps, hev ▸ List.mem_append_right _ hd'⟩
    · cases a
  | @result n nd hr hn =>
    have hrun : nd.status = .run := (stOf_some hn).symm.trans (h.x n hr)
    have h1 : Inv2 inp { s with events := Ev.fin n 0 :: s.events } := by
      refine h.outer rfl rfl rfl rfl rfl [Ev.fin n 0] rfl ⟨trivial, h.ord⟩ nofun h.sb id ?_ h.x
      intro m hm
      obtain ⟨deps, hd'⟩ := h.f1 m hm
      exact ⟨deps, List.mem_cons_of_mem _ hd'⟩
    exact inv2_result _ h1 hn hrun (fun p hp => (Option.some.inj hp).symm) (not_awaiting nofun nofun) nofun nofun

theorem reach_inv2 {inp : RunInput} {s : Sys} (h : Reach inp s) : Inv2 inp s := by
  induction h with
  | init => exact init_inv2 inp
  | @next s0 s1 c _ hs ih =>
    cases c with
    | main perm => exact serialStep_inv2 ih hs
    | _ => cases hs

end DoitModel.Run
