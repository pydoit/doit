import DoitModel.Model.Report
/-! # C19: the JSON reporter's bookkeeping on a disciplined callback stream -/
namespace DoitModel.Report
open DoitModel.Run

/-- the dict `t_results` after the callbacks `evs` (newest first) -/
def jState (evs : List Ev) : Option (List JEnt) := evs.foldr (fun e acc => jStep acc e) (some [])

theorem jsonOf_reverse (evs : List Ev) :
    jsonOf evs.reverse = match jState evs with | some l => jComplete l | none => none := by
  unfold jsonOf jState
  rw [List.foldl_reverse]
  rfl

/-- what the entry `x` records about its task in the trace `evs` -/
def JRec (evs : List Ev) (x : JEnt) : Prop :=
  x.started = evs.any (Ev.isExecOf x.name) ∧ x.finished = evs.any (Ev.isTerminalOf x.name) ∧
    x.result = (evs.find? (Ev.isTerminalOf x.name)).bind resOf

theorem jrec_cons {post : List Ev} {x : JEnt} {e : Ev} (h : JRec post x) (h2 : Ev.isExecOf x.name e = false)
    (h3 : Ev.isTerminalOf x.name e = false) : JRec (e :: post) x := by
  unfold JRec; rw [List.any_cons, List.any_cons, List.find?_cons, h2, h3]; exact h

structure JInv (evs : List Ev) (l : List JEnt) : Prop where
  nodup : (l.map (·.name)).Nodup
  has : ∀ n, n ∈ l.map (·.name) ↔ evs.any (Ev.isGetStatusOf n) = true
  val : ∀ e ∈ l, JRec evs e

theorem jNew_absent (n : Name) : ∀ (l : List JEnt), (∀ e ∈ l, e.name ≠ n) → jNew n l = l ++ [{ name := n }]
  | [], _ => rfl
  | e :: l, h => by
    have h1 : e.name ≠ n := h e (by simp)
    simp only [jNew, h1, if_false, List.cons_append]
    rw [jNew_absent n l (fun x hx => h x (by simp [hx]))]

theorem jUpd_eq (f : JEnt → JEnt) (n : Name) : ∀ (l : List JEnt), (l.map (·.name)).Nodup → n ∈ l.map (·.name) →
    jUpd f n l = some (l.map fun e => if e.name = n then f e else e)
  | [], _, h => by cases h
  | a :: l, hnd, h => by
    have hnd' := List.nodup_cons.mp hnd
    by_cases ha : a.name = n
    · have : l.map (fun e => if e.name = n then f e else e) = l :=
        (List.map_congr_left fun e he => if_neg fun hn => hnd'.1 (List.mem_map.mpr ⟨e, he, hn.trans ha.symm⟩)).trans
          (List.map_id' l)
      simp [jUpd, ha, this]
    · simp [jUpd, ha, jUpd_eq f n l hnd'.2 ((List.mem_cons.mp h).resolve_left fun e => ha e.symm)]

theorem untouched {n : Name} {e : Ev} (h : Ev.touches n e = false) :
    Ev.isExecOf n e = false ∧ Ev.isStartOf n e = false ∧ Ev.isTerminalOf n e = false ∧
    Ev.isGetStatusOf n e = false := by
  cases e <;> simp_all [Ev.touches, Ev.isExecOf, Ev.isStartOf, Ev.isTerminalOf, Ev.isGetStatusOf]

theorem any_false_of_imp {α : Type} {p q : α → Bool} {l : List α} (hpq : ∀ e, q e = false → p e = false)
    (h : l.any q = false) : l.any p = false := by
  cases hp : l.any p with
  | false => rfl
  | true =>
    obtain ⟨e, he, hpe⟩ := List.any_eq_true.mp hp
    cases hq : q e with
    | false => rw [hpq e hq] at hpe; cases hpe
    | true => rw [List.any_eq_true.mpr ⟨e, he, hq⟩] at h; cases h

theorem find_none_of_any {α : Type} {p : α → Bool} {l : List α} (h : l.any p = false) : l.find? p = none := by
  rw [List.find?_eq_none]; intro e he hp
  have : l.any p = true := List.any_eq_true.mpr ⟨e, he, hp⟩
  rw [h] at this; cases this

theorem jinv_neutral {post : List Ev} {l : List JEnt} {e : Ev} (h : JInv post l)
    (h1 : ∀ n, Ev.isGetStatusOf n e = false) (h2 : ∀ n, Ev.isExecOf n e = false)
    (h3 : ∀ n, Ev.isTerminalOf n e = false) : JInv (e :: post) l :=
  ⟨h.nodup, fun n => by rw [List.any_cons, h1 n]; exact h.has n, fun x hx => jrec_cons (h.val x hx) (h2 _) (h3 _)⟩

/-- `self.t_results[n].<update>()` for a callback about task `n` -/
theorem jinv_upd {post : List Ev} {l : List JEnt} {e : Ev} {n : Name} (f : JEnt → JEnt) (h : JInv post l)
    (hf : ∀ x, (f x).name = x.name)
    (hgs : post.any (Ev.isGetStatusOf n) = true)
    (h1 : ∀ m, Ev.isGetStatusOf m e = false)
    (h2 : ∀ m, m ≠ n → Ev.isExecOf m e = false) (h3 : ∀ m, m ≠ n → Ev.isTerminalOf m e = false)
    (hs : ∀ x, (f x).started = (Ev.isExecOf n e || x.started))
    (hfin : ∀ x, (f x).finished = (Ev.isTerminalOf n e || x.finished))
    (hres : ∀ x, (f x).result = if Ev.isTerminalOf n e = true then resOf e else x.result) :
    ∃ l', jUpd f n l = some l' ∧ JInv (e :: post) l' := by
  have e2 : (l.map fun x => if x.name = n then f x else x).map (·.name) = l.map (·.name) := by
    rw [List.map_map]
    exact List.map_congr_left fun x _ => by by_cases c : x.name = n <;> simp [c, hf]
  refine ⟨_, jUpd_eq f n l h.nodup ((h.has n).2 hgs), by rw [e2]; exact h.nodup,
    fun m => by rw [e2, List.any_cons, h1 m]; exact h.has m, fun x hx => ?_⟩
  obtain ⟨y, hy, rfl⟩ := List.mem_map.mp hx
  by_cases c : y.name = n
  · obtain ⟨a, b, c'⟩ := h.val y hy
    rw [c] at a b c'
    unfold JRec
    rw [if_pos c, hf, c, hs, hfin, hres, List.any_cons, List.any_cons, List.find?_cons, a, b]
    refine ⟨rfl, rfl, ?_⟩
    cases Ev.isTerminalOf n e with
    | true => rfl
    | false => exact c'
  · rw [if_neg c]; exact jrec_cons (h.val y hy) (h2 _ c) (h3 _ c)

theorem firstFinal_gs {n : Name} {post : List Ev} (h : firstFinal n post = true) :
    post.any (Ev.isGetStatusOf n) = true := by
  unfold firstFinal at h; simp only [Bool.and_eq_true] at h; exact h.1

theorem repOK_firstFinal {ex fwd : Bool} {noAct : Name → Bool} {n : Name} {e : Ev} {post : List Ev}
    (ht : Ev.isTerminalOf n e = true) (h : repOK ex fwd noAct e post = true) : firstFinal n post = true := by
  cases e with
  | success m | skipUtd m | skipIgn m =>
    cases of_decide_eq_true ht; simp only [repOK, Bool.and_eq_true] at h; exact h.1.1
  | failure m k => cases of_decide_eq_true ht; simp only [repOK, Bool.and_eq_true] at h; exact h.1
  | _ => cases ht

theorem final_only {n : Name} {e : Ev} (ht : Ev.isTerminalOf n e = true) :
    (∀ m, Ev.isGetStatusOf m e = false) ∧ (∀ m, Ev.isExecOf m e = false) ∧
    (∀ m, m ≠ n → Ev.isTerminalOf m e = false) ∧
    ∃ r, resOf e = some r ∧ ∀ l, jStep (some l) e = jUpd (jSetResult r) n l := by
  cases e with
  | success m | skipUtd m | skipIgn m | failure m _ =>
    cases of_decide_eq_true ht
    exact ⟨fun _ => rfl, fun _ => rfl, fun _ hm => decide_eq_false fun e => hm e.symm, _, rfl, fun _ => rfl⟩
  | _ => cases ht

theorem jinv_final {post : List Ev} {l : List JEnt} {e : Ev} {n : Name} (h : JInv post l)
    (ht : Ev.isTerminalOf n e = true) (hgs : post.any (Ev.isGetStatusOf n) = true) :
    ∃ l', jStep (some l) e = some l' ∧ JInv (e :: post) l' := by
  obtain ⟨h1, h2, h3, r, hr, hstep⟩ := final_only ht
  rw [hstep]
  exact jinv_upd (jSetResult r) h (fun _ => rfl) hgs h1 (fun m _ => h2 m) h3 (fun x => by rw [h2]; rfl)
    (fun x => by rw [ht]; rfl) (fun x => by rw [if_pos ht, hr]; rfl)

/-- one callback of the JSON reporter on a disciplined stream: never a KeyError, bookkeeping stays exact -/
theorem jinv_step {ex fwd : Bool} {noAct : Name → Bool} {post : List Ev} {l : List JEnt} {e : Ev}
    (h : JInv post l) (hr : repOK ex fwd noAct e post = true) :
    ∃ l', jStep (some l) e = some l' ∧ JInv (e :: post) l' := by
  cases e with
  | getStatus n =>
    simp only [repOK, Bool.not_eq_true'] at hr
    have g1 := any_false_of_imp (fun _ a => (untouched a).2.2.2) hr
    have g2 := any_false_of_imp (fun _ a => (untouched a).1) hr
    have g3 := any_false_of_imp (fun _ a => (untouched a).2.2.1) hr
    have hnin : n ∉ l.map (·.name) := fun hm => by have := (h.has n).1 hm; rw [g1] at this; cases this
    have hab : ∀ x ∈ l, x.name ≠ n := fun x hx hn => hnin (List.mem_map.mpr ⟨x, hx, hn⟩)
    refine ⟨l ++ [{ name := n }], by simp [jStep, jNew_absent n l hab], ?_, fun m => ?_, fun x hx => ?_⟩
    · rw [List.map_append]
      exact List.nodup_append.mpr ⟨h.nodup, by simp, fun a ha b hb => by
        cases List.mem_singleton.mp hb; exact fun (e : a = n) => hnin (e ▸ ha)⟩
    · rw [List.map_append, List.mem_append, h.has m, List.any_cons]
      simp only [List.map_cons, List.map_nil, List.mem_singleton, Ev.isGetStatusOf, Bool.or_eq_true, decide_eq_true_eq]
      exact ⟨fun h => h.symm.imp Eq.symm id, fun h => h.symm.imp id Eq.symm⟩
    · rcases List.mem_append.mp hx with a | a
      · exact jrec_cons (h.val x a) rfl rfl
      · cases List.mem_singleton.mp a
        unfold JRec
        rw [List.any_cons, List.any_cons, List.find?_cons, g2, g3, find_none_of_any g3]
        exact ⟨rfl, rfl, rfl⟩
  | execute n =>
    simp only [repOK, Bool.and_eq_true] at hr
    exact jinv_upd (n := n) (fun x => { x with started := true }) h (fun _ => rfl) (firstFinal_gs hr.1)
      (fun m => by simp [Ev.isGetStatusOf])
      (fun m hm => by simp [Ev.isExecOf]; exact fun a => hm a.symm) (fun m _ => by simp [Ev.isTerminalOf])
      (fun x => by simp [Ev.isExecOf]) (fun x => by simp [Ev.isTerminalOf]) (fun x => by simp [Ev.isTerminalOf])
  | success n | skipUtd n | skipIgn n | failure n _ =>
    refine jinv_final h (n := n) ?_ (firstFinal_gs (repOK_firstFinal (n := n) ?_ hr))
    all_goals exact decide_eq_true rfl
  | teardown _ | complete | start _ _ | fin _ _ | go _ _ =>
    exact ⟨l, rfl, jinv_neutral h (fun _ => rfl) (fun _ => rfl) (fun _ => rfl)⟩

theorem jState_inv {ex fwd : Bool} {noAct : Name → Bool} :
    ∀ (evs : List Ev), repOrd ex fwd noAct evs = true → ∃ l, jState evs = some l ∧ JInv evs l
  | [], _ => ⟨[], rfl, ⟨by simp, by simp, by simp⟩⟩
  | e :: post, h => by
    simp only [repOrd, Bool.and_eq_true] at h
    obtain ⟨l, e1, inv⟩ := jState_inv post h.2
    obtain ⟨l', e2, inv'⟩ := jinv_step inv h.1
    refine ⟨l', ?_, inv'⟩
    show jStep (jState post) e = some l'
    rw [e1]; exact e2

theorem repOrd_at {a b : Bool} {f : Name → Bool} {pre post : List Ev} {e : Ev}
    (h : repOrd a b f (pre ++ e :: post) = true) : repOK a b f e post = true := by
  induction pre with
  | nil => simp only [List.nil_append, repOrd, Bool.and_eq_true] at h; exact h.1
  | cons x pre ih => simp only [List.cons_append, repOrd, Bool.and_eq_true] at h; exact ih h.2

theorem filter_name_one : ∀ (doc : List JOut) (n : Name), (doc.map (·.name)).Nodup → (∃ o ∈ doc, o.name = n) →
    (doc.filter fun o => o.name == n).length = 1
  | [], _, _, h => by obtain ⟨o, ho, _⟩ := h; cases ho
  | a :: doc, n, hnd, h => by
    have hnd' : a.name ∉ doc.map (·.name) ∧ (doc.map (·.name)).Nodup := by
      simpa [List.nodup_cons] using hnd
    by_cases ha : a.name = n
    · have : doc.filter (fun o => o.name == n) = [] := by
        rw [List.filter_eq_nil_iff]; intro x hx hxn
        simp only [beq_iff_eq] at hxn
        apply hnd'.1; rw [ha, ← hxn]; exact List.mem_map.mpr ⟨x, hx, rfl⟩
      simp [ha, this]
    · have hex : ∃ o ∈ doc, o.name = n := by
        obtain ⟨o, ho, hn⟩ := h
        rcases List.mem_cons.mp ho with x | x
        · subst x; exact absurd hn ha
        · exact ⟨o, x, hn⟩
      simp [ha, filter_name_one doc n hnd'.2 hex]

def outOf (e : JEnt) : JOut := { name := e.name, result := e.result, timed := e.started }

theorem jComplete_spec : ∀ (l : List JEnt), (∀ e ∈ l, e.started = true → e.finished = true) →
    jComplete l = some (l.map outOf)
  | [], _ => rfl
  | e :: l, h => by
    have he := h e (by simp)
    have ih := jComplete_spec l (fun x hx => h x (by simp [hx]))
    have : jToDict e = some (outOf e) := by
      unfold jToDict outOf
      cases hs : e.started with
      | false => simp
      | true => simp [he hs]
    simp [jComplete, this, ih]

/-- `hall` is what the model's `jToDict` needs: it raises for a started, unfinished entry, as `to_dict` did before commit
    28cc2d9; the code no longer does. -/
theorem json_ok {ex fwd : Bool} {noAct : Name → Bool} (evs : List Ev) (hord : repOrd ex fwd noAct evs = true)
    (hall : ∀ n, evs.any (Ev.isExecOf n) = true → evs.any (Ev.isTerminalOf n) = true) :
    ∃ doc, jsonOf evs.reverse = some doc ∧ (doc.map (·.name)).Nodup ∧
      (∀ n, (∃ o ∈ doc, o.name = n) ↔ evs.any (Ev.isGetStatusOf n) = true) ∧
      (∀ o ∈ doc, o.result = (evs.find? (Ev.isTerminalOf o.name)).bind resOf ∧
                  o.timed = evs.any (Ev.isExecOf o.name)) := by
  obtain ⟨l, e1, inv⟩ := jState_inv evs hord
  have hfin : ∀ e ∈ l, e.started = true → e.finished = true := by
    intro e he hs
    obtain ⟨a, b, _⟩ := inv.val e he
    rw [b]; exact hall e.name (by rw [← a]; exact hs)
  refine ⟨l.map outOf, ?_, ?_, ?_, ?_⟩
  · rw [jsonOf_reverse, e1]; exact jComplete_spec l hfin
  · have : (l.map outOf).map (·.name) = l.map (·.name) := by simp [outOf, Function.comp_def]
    rw [this]; exact inv.nodup
  · intro n
    rw [← inv.has n]
    constructor
    · rintro ⟨o, ho, hn⟩
      obtain ⟨e, he, rfl⟩ := List.mem_map.mp ho
      exact List.mem_map.mpr ⟨e, he, hn⟩
    · intro hm
      obtain ⟨e, he, hn⟩ := List.mem_map.mp hm
      exact ⟨outOf e, List.mem_map.mpr ⟨e, he, rfl⟩, hn⟩
  · intro o ho
    obtain ⟨e, he, rfl⟩ := List.mem_map.mp ho
    obtain ⟨a, _, c⟩ := inv.val e he
    exact ⟨c, a⟩

theorem json_lists_final_report {ex fwd : Bool} {noAct : Name → Bool} (evs : List Ev)
    (hord : repOrd ex fwd noAct evs = true)
    (hall : ∀ n, evs.any (Ev.isExecOf n) = true → evs.any (Ev.isTerminalOf n) = true)
    (pre post : List Ev) (e : Ev) (n : Name) (hsplit : evs = pre ++ e :: post) (ht : Ev.isTerminalOf n e = true) :
    ∃ doc, jsonOf evs.reverse = some doc ∧ (doc.filter fun o => o.name == n).length = 1 ∧
      ∀ o ∈ doc, o.name = n → o.result = resOf e := by
  obtain ⟨doc, h1, h2, h3, h4⟩ := json_ok evs hord hall
  -- `e` is THE final report of `n`: nothing terminal for `n` before or after it
  have hpost : repOK ex fwd noAct e post = true := by
    rw [hsplit] at hord; exact repOrd_at hord
  have hgs : post.any (Ev.isGetStatusOf n) = true := firstFinal_gs (repOK_firstFinal ht hpost)
  have hpre : ∀ x ∈ pre, Ev.isTerminalOf n x = false := by
    -- a later final report of `n` would not be the first one
    intro x hx
    cases hxt : Ev.isTerminalOf n x with
    | false => rfl
    | true =>
      exfalso
      obtain ⟨p1, p2, hp⟩ := List.append_of_mem hx
      have hord' := hord
      rw [hsplit, hp, List.append_assoc] at hord'
      have hx2 : repOK ex fwd noAct x (p2 ++ e :: post) = true := by
        rw [List.cons_append] at hord'; exact repOrd_at hord'
      have hany : (p2 ++ e :: post).any (Ev.isTerminalOf n) = true := by
        rw [List.any_append, List.any_cons, ht]; simp
      have hff : firstFinal n (p2 ++ e :: post) = true := repOK_firstFinal hxt hx2
      unfold firstFinal at hff
      rw [hany] at hff
      simp at hff
  have hfind : evs.find? (Ev.isTerminalOf n) = some e := by
    rw [hsplit, List.find?_append]
    have : pre.find? (Ev.isTerminalOf n) = none := by
      rw [List.find?_eq_none]; intro x hx; rw [hpre x hx]; simp
    rw [this]; simp [ht]
  have hin : evs.any (Ev.isGetStatusOf n) = true := by
    rw [hsplit, List.any_append, List.any_cons, hgs]; simp
  obtain ⟨o, ho, hon⟩ := (h3 n).2 hin
  refine ⟨doc, h1, ?_, ?_⟩
  · exact filter_name_one doc n h2 ⟨o, ho, hon⟩
  · intro o' ho' hn'
    have := (h4 o' ho').1
    rw [hn', hfind] at this
    simpa using this

end DoitModel.Report
