import DoitModel.Proofs.C13Run
import DoitModel.Proofs.C13Forget
/-! # C13 — `ignore`: the marks placed, their persistence, and the tasks with an ignored setup-task -/
namespace DoitModel.Cmds
open DoitModel.Status

theorem ignList_rcd (l : List Name) (s : St) (k : Name) :
    (ignList s l).rcd k = if k ∈ l then { s.rcd k with ign := true } else s.rcd k := by
  induction l generalizing s with
  | nil => simp [ignList]
  | cons a as ih =>
    simp only [ignList, List.foldl_cons] at ih ⊢
    rw [ih (setIgn s a), setIgn_rcd]
    by_cases h2 : k = a
    · subst h2; by_cases h1 : k ∈ as <;> simp [h1]
    · by_cases h1 : k ∈ as <;> simp [h1, h2]

theorem setIgn_shape (s : St) (t : Name) :
    (∀ k, k ≠ t → (setIgn s t).rcd k = s.rcd k) ∧ (setIgn s t).fs = s.fs ∧ (setIgn s t).defs = s.defs ∧
    (setIgn s t).checker = s.checker := ⟨fun _ hk => if_neg hk, rfl, rfl, rfl⟩

theorem setIgn_keeps_ign (s : St) (k T : Name) (h : (s.rcd T).ign = true) : ((setIgn s k).rcd T).ign = true := by
  rw [setIgn_rcd]
  by_cases hk : T = k
  · rw [if_pos hk]
  · rw [if_neg hk]; exact h

theorem ignoreCmd_keeps_ign (g : Graph) (names : List Name) (s : St) (T : Name) (h : (s.rcd T).ign = true) :
    ((ignoreCmd g names s).rcd T).ign = true := by
  unfold ignoreCmd
  cases ignoreTarget g names with
  | tasks l =>
    exact foldl_preserves (P := fun b => (b.rcd T).ign = true) (ok := fun _ => True)
      (fun b a _ hb => setIgn_keeps_ign b a T hb) l (fun _ _ => trivial) h
  | _ => exact h

theorem stepC_file_rcd (g : Graph) (s : St) (p : Path) (sz c : Nat) :
    (stepC true g s (.edit p sz c)).rcd = s.rcd ∧ (stepC true g s (.touch p)).rcd = s.rcd ∧
    (stepC true g s (.delete p)).rcd = s.rcd := by
  unfold stepC step
  cases s.crashed <;> exact ⟨rfl, rfl, rfl⟩

/-- the mark of `t` survives a run: `t` itself is only ever reported ignored, other tasks do not touch its record -/
theorem runOne_keeps_ign (fixed always : Bool) (g : Graph) (plan : Name → Plan) (rs : RunSt) (k t : Name)
    (h : (rs.s.rcd t).ign = true) : ((runOne fixed always g plan rs k).s.rcd t).ign = true := by
  by_cases hk : t = k
  · subst hk
    rw [(runOne_ignored fixed always g plan rs t (Or.inr h)).2]; exact h
  · obtain ⟨_, _, hframe, _, _⟩ := runOne_shape fixed always g plan rs k
    rw [hframe t hk]; exact h

theorem runAll_keeps_ign (fixed always : Bool) (g : Graph) (plan : Name → Plan) (order : List Name) (rs : RunSt) (t : Name)
    (h : (rs.s.rcd t).ign = true) : ((order.foldl (runOne fixed always g plan) rs).s.rcd t).ign = true :=
  foldl_preserves (P := fun b : RunSt => (b.s.rcd t).ign = true) (ok := fun _ => True)
    (fun b k _ hb => runOne_keeps_ign fixed always g plan b k t hb) order (fun _ _ => trivial) h

theorem forgetCmd_keeps (g : Graph) (a : ForgetArgs) (dflt : Option (List Name)) (s : St) (t : Name)
    (h : ¬ForgetSel g a dflt t) : (forgetCmd true g a dflt s).rcd t = s.rcd t := by
  have hspec := forgetTarget_spec g a dflt
  unfold forgetCmd
  cases ht : forgetTarget true g a dflt with
  | tasks l =>
    rw [ht] at hspec
    have hnl : t ∉ l := fun hm => h ((hspec t).1 hm)
    simp only; rw [eraseList_rcd]; simp [hnl]
  | everything => rw [ht] at hspec; exact absurd (hspec t) h
  | nothing => rfl
  | notATask n => rfl
  | crash => rfl
  | fuel => rfl

/-- second invariant of a run: processed tasks with an ignored setup-task were not executed -/
def SetupInv (g : Graph) (defs : Name → TaskDef) (ign : Name → Bool) (done : List Name) (rs : RunSt) : Prop :=
  ∀ t, t ∈ done → (∃ d, d ∈ g.setup t ∧ IgnReach g defs ign d) → ∃ o, outOf rs t = some o ∧ o.executed = false

theorem runOne_setupInv (always : Bool) (g : Graph) (plan : Name → Plan) (defs : Name → TaskDef) (ign : Name → Bool)
    (done : List Name) (rs : RunSt) (t : Name) (ht : t ∉ done) (hbad : (runOne true always g plan rs t).bad = false)
    (inv : RunInv g defs ign done rs) (inv2 : SetupInv g defs ign done rs) :
    SetupInv g defs ign (t :: done) (runOne true always g plan rs t) := by
  obtain ⟨o, s', b, hs, he⟩ := runOne_spec true always g plan rs t
  rw [he] at hbad ⊢
  intro k hk hex
  rcases List.mem_cons.1 hk with rfl | hkd
  · refine ⟨o, outOf_cons_self rfl, ?_⟩
    obtain ⟨d, hd, hr⟩ := hex
    cases hs with
    | setup _ ha =>
      cases ha with
      | exec hn =>
        -- the flag is clean, so `d` has a report: the repaired second pass saw it ignored and did not get here
        have := inv.anyOut_ignored hd hr (Bool.or_eq_false_iff.1 hbad).2
        rw [hn rfl] at this; cases this
      | _ => rfl
    | _ => rfl
  · obtain ⟨o', ho', hne⟩ := inv2 k hkd hex
    exact ⟨o', (outOf_cons_ne rfl fun (h : k = t) => ht (h ▸ hkd)).trans ho', hne⟩

theorem firstPassOne_keeps_ign (s : St) (k T : Name) (h : (s.rcd T).ign = true) :
    ((firstPassOne s k).rcd T).ign = true := by
  unfold firstPassOne
  by_cases hi : (s.rcd k).ign = true
  · rw [if_pos hi]; exact h
  · have hk : T ≠ k := fun e => hi (e ▸ h)
    rw [if_neg hi, (onlyTask_peek s k).rcd T hk]; exact h

theorem firstPass_keeps_ign (ts : List Name) (s : St) (T : Name) (h : (s.rcd T).ign = true) :
    ((ts.foldl firstPassOne s).rcd T).ign = true :=
  foldl_preserves (P := fun b => (b.rcd T).ign = true) (ok := fun _ => True)
    (fun b k _ hb => firstPassOne_keeps_ign b k T hb) ts (fun _ _ => trivial) h

end DoitModel.Cmds
