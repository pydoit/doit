import DoitModel.Proofs.C12Keep
import DoitModel.Proofs.RunnerSpec
import DoitModel.Proofs.C09Wait
/-! # C12 — what one transition of the serial runner does to the order of starts

`startsOf` reads the start order off the trace; `StepFacts` is all the order clause needs of a step. -/
namespace DoitModel.Run

/-- serial runner: the node being executed / fed back is the node the dispatcher yielded last -/
def SB (s : Sys) : Prop := ∀ n, (s.rpc = .sExec n ∨ s.rpc = .sTop (some n)) → s.susp = some (.node n)

def Ev.startName : Ev → Option Name
  | .start n _ => some n
  | _ => none

/-- the tasks started so far, newest first -/
def startsOf (l : List Ev) : List Name := l.filterMap Ev.startName

theorem startsOf_append (a b : List Ev) : startsOf (a ++ b) = startsOf a ++ startsOf b := by
  simp [startsOf, List.filterMap_append]

theorem startsOf_statusEv (nd : Node) (n : Name) : startsOf (statusEv nd n) = [] := by
  unfold statusEv; split <;> rfl

theorem startsOf_selEvents (inp : RunInput) (n : Name) (nd : Node) (d : Sel) : startsOf (selEvents inp n nd d) = [] := by
  cases d <;> first | exact startsOf_statusEv nd n | rfl

theorem startsOf_resEvents (n : Name) (o : Outcome) : startsOf (resEvents n o) = [] := by
  cases o <;> rfl

theorem startsOf_teardown (l : List Name) : startsOf (l.map Ev.teardown) = [] := by
  induction l with
  | nil => rfl
  | cons a t ih => exact ih

theorem startsOf_applySel (inp : RunInput) (s : Sys) (n : Name) (nd : Node) (d : Sel) :
    startsOf (applySel inp s n nd d).events = startsOf s.events := by
  rw [applySel_events, startsOf_append, startsOf_selEvents]; rfl

theorem startsOf_startTask (inp : RunInput) (s : Sys) (n w : Nat) :
    startsOf (startTask inp s n w).events = n :: startsOf s.events := by
  show startsOf (if inp.runner = .process then _ else _) = _
  split <;> rfl

/-- `ev`: a start is added only by `select_task` answering `go` for the node just yielded; `toRun`: `tasks_to_run` is
    popped only when the dispatcher has no current node and nothing ready -/
structure StepFacts (inp : RunInput) (s s' : Sys) : Prop where
  keep : KeepW (sentBack s) s s'
  ev : startsOf s'.events = startsOf s.events ∨
    (∃ b, startsOf s'.events = b :: startsOf s.events ∧ s.rpc = .sWait ∧ s.susp = some (.node b) ∧
      ∃ nd, s.nodes b = some nd ∧ selDecision inp b nd = .go)
  toRun : s'.toRun = s.toRun ∨
    (∃ t, s.toRun = t :: s'.toRun ∧ s.rpc = .sWait ∧ s.susp = none ∧ s.cur = none ∧ s.ready = [] ∧ created s' t)
  sb : SB s → SB s'

theorem serialStep_facts {inp : RunInput} {s s' : Sys} {perm : List Name}
    (hs : serialStep inp s perm = some s') : StepFacts inp s s' := by
  -- a step that only moves the runner, to a place where nothing is executed or fed back
  have quiet : ∀ s1 : Sys, s1.nodes = s.nodes → startsOf s1.events = startsOf s.events → s1.toRun = s.toRun →
      (∀ n, s1.rpc ≠ .sExec n ∧ s1.rpc ≠ .sTop (some n)) → StepFacts inp s s1 :=
    fun s1 e1 e2 e3 hr => ⟨KeepW.of_eq e1, .inl e2, .inl e3, fun _ n a => a.elim (absurd · (hr n).1) (absurd · (hr n).2)⟩
  cases serialStep_spec hs with
  | stop | stopIter | lost | assertFail | cyclic | holdOn | crash | execLost =>
    exact quiet _ rfl rfl rfl (fun n => ⟨nofun, nofun⟩)
  | finish =>
    refine quiet _ rfl ?_ rfl (fun n => ⟨nofun, nofun⟩)
    show startsOf (s.tdown.map Ev.teardown ++ s.events) = _
    rw [startsOf_append, startsOf_teardown]; rfl
  | @send node s0 hr _ hsd =>
    refine ⟨?_, .inl (congrArg startsOf (send_outer hsd).1.1), .inl (show s0.toRun = _ from send_toRun hsd),
      fun _ n a => ?_⟩
    · have : sentBack s = node := by simp only [sentBack, hr]
      exact this ▸ (keepW_send hsd).trans (KeepW.of_eq rfl)
    · rcases a with a | a <;> cases a
  | tick hr hsu hs =>
    have o := dtick_outer hs
    refine ⟨keepW_dtick _ hs, .inl (congrArg startsOf o.1), ?_, fun _ n a => ?_⟩
    · exact (dtick_spec hs).toRun.imp_right fun ⟨t, a1, a2, a3, a4⟩ => ⟨t, a1, hr, hsu, a2, a3, a4⟩
    · rw [o.2.1, hr] at a
      rcases a with a | a <;> cases a
  | @go n nd hr hsu hn hd =>
    refine ⟨keepW_status _ (selStatus .go) hn (applySel_nodes inp s n nd .go nofun), .inr ⟨n, ?_, hr, hsu, nd, hn, hd⟩,
      .inl (applySel_keeps inp s n nd .go).toRun, fun _ m a => ?_⟩
    · exact (startsOf_startTask inp _ n 0).trans (congrArg _ (startsOf_applySel inp s n nd .go))
    · rcases a with a | a <;> cases a
      exact (applySel_keeps inp s n nd .go).susp.trans hsu
  | @select n nd d hr hsu hn _ _ h2 =>
    refine ⟨keepW_status _ (selStatus d) hn (applySel_nodes inp s n nd d h2), .inl (startsOf_applySel inp s n nd d),
      .inl (applySel_keeps inp s n nd d).toRun, fun _ m a => ?_⟩
    rcases a with a | a <;> cases a
    exact (applySel_keeps inp s n nd d).susp.trans hsu
  | @result n nd hr hn =>
    refine ⟨keepW_status _ (resStatus (inp.outcome n)) hn (processResult_nodes inp _ n nd), .inl ?_,
      .inl (processResult_keeps inp _ n nd).toRun, fun hsb m a => ?_⟩
    · show startsOf (processResult inp { s with events := Ev.fin n 0 :: s.events } n nd).events = _
      rw [processResult_events, startsOf_append, startsOf_resEvents]; rfl
    · rcases a with a | a <;> cases a
      exact (processResult_keeps inp _ n nd).susp.trans (hsb n (.inl hr))

theorem reach_sb {inp : RunInput} {s : Sys} (hser : inp.runner = .serial) (h : Reach inp s) : SB s := by
  induction h with
  | init => intro n a; simp [init, hser] at a
  | @next s0 s1 c _ hs ih =>
    cases c with
    | main perm => exact (serialStep_facts hs).sb ih
    | take w => cases hs
    | done w => cases hs

end DoitModel.Run
