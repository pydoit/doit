import DoitModel.Model.RunMon
/-! # The C02 closure monitor as the driver evaluates it: `calcsAtQ` (early exit) computes `calcsAtF`; the two monitors on
    one shared closure -/
namespace DoitModel.Run

theorem addNew_prefix : ∀ (xs acc : List Name), ∃ ys, addNew acc xs = acc ++ ys := by
  intro xs
  induction xs with
  | nil => intro acc; exact ⟨[], by simp [addNew]⟩
  | cons x t ih =>
    intro acc
    simp only [addNew, List.foldl_cons]
    by_cases h : x ∈ acc
    · simp only [h, if_true]; exact ih acc
    · simp only [h, if_false]
      obtain ⟨ys, e⟩ := ih (acc ++ [x])
      exact ⟨x :: ys, by unfold addNew at e; rw [e]; simp⟩

theorem addNew_eq_of_length {acc xs : List Name} (h : (addNew acc xs).length = acc.length) : addNew acc xs = acc := by
  obtain ⟨ys, e⟩ := addNew_prefix xs acc
  rw [e] at h ⊢
  have : ys = [] := by
    cases ys with
    | nil => rfl
    | cons a t => simp at h
  rw [this]; simp

theorem calcsAtF_fix (inp : RunInput) (tr : List Ev) : ∀ (k : Nat) (cs : List Name),
    addNew cs (cs.flatMap fun c => (resAt inp tr c).calcs) = cs → calcsAtF inp tr k cs = cs := by
  intro k
  induction k with
  | zero => intro cs _; rfl
  | succ k ih => intro cs h; simp only [calcsAtF]; rw [h]; exact ih cs h

theorem calcsAtQ_eq (inp : RunInput) (tr : List Ev) : ∀ (k : Nat) (cs : List Name),
    calcsAtQ inp tr k cs = calcsAtF inp tr k cs := by
  intro k
  induction k with
  | zero => intro cs; rfl
  | succ k ih =>
    intro cs
    simp only [calcsAtQ, calcsAtF]
    split
    · rename_i h
      have e := addNew_eq_of_length h
      rw [e]; exact (calcsAtF_fix inp tr k cs e).symm
    · exact ih _

/-- the driver evaluates the two closure monitors on one shared closure -/
theorem monC02InsideClosure_on (inp : RunInput) (nTasks : Nat) (tr : List Ev) :
    monC02InsideClosure inp nTasks tr = insideClosureOn (closureOfF inp nTasks tr) nTasks tr := rfl

theorem monC02AllProcessed_on (inp : RunInput) (nTasks : Nat) (tr : List Ev) (exit : Nat) :
    monC02AllProcessed inp nTasks tr exit = allProcessedOn (closureOfF inp nTasks tr) inp tr exit := rfl

end DoitModel.Run
