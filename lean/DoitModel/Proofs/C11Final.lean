import DoitModel.Proofs.C11Log
import DoitModel.Proofs.C11Lazy
/-! # C11: the reachable teardown states project to reachable base states; the checker `tCheck`; counting teardown executions -/
namespace DoitModel.Run

theorem treach_base {inp : RunInput} {tdFail : Name → Bool} {v : Variant} {ts : TSys} (h : TReach inp tdFail v ts) :
    (inp.runner = .serial → Reach inp ts.base) ∧ (inp.runner ≠ .serial → PReach inp ts.base) := by
  induction h with
  | init => exact ⟨fun _ => Reach.init, fun _ => PReach.init⟩
  | @next ts ts' c _ hs ih =>
    unfold tstep at hs
    cases hb : stepOf inp ts.base c with
    | none => simp only [hb] at hs; cases hs
    | some b' =>
      simp only [hb] at hs; cases hs
      rw [tdAfter_base]
      unfold stepOf at hb
      constructor
      · intro hser; rw [if_pos hser] at hb; exact Reach.next (ih.1 hser) hb
      · intro hpar; rw [if_neg hpar] at hb; exact PReach.next (ih.2 hpar) hb

theorem tRunWith_sound {inp : RunInput} {tdFail : Name → Bool} {v : Variant} : ∀ (cs : List Choice) (ts ts' : TSys),
    TReach inp tdFail v ts → tRunWith inp tdFail v ts cs = some ts' → TReach inp tdFail v ts' := by
  intro cs
  induction cs with
  | nil => intro ts ts' h e; simp only [tRunWith] at e; cases e; exact h
  | cons c cs ih =>
    intro ts ts' h e
    simp only [tRunWith] at e
    cases hc : tstep inp tdFail v ts c with
    | none => simp only [hc] at e; cases e
    | some t1 => simp only [hc] at e; exact ih t1 ts' (TReach.next h hc) e

/-- run a choice list from the initial state and test the result -/
def tCheck (inp : RunInput) (tdFail : Name → Bool) (v : Variant) (cs : List Choice) (p : TSys → Bool) : Bool :=
  match tRunWith inp tdFail v (tinit inp) cs with
  | some ts => p ts
  | none => false

theorem tCheck_reach {inp : RunInput} {tdFail : Name → Bool} {v : Variant} {cs : List Choice} {p : TSys → Bool}
    (h : tCheck inp tdFail v cs p = true) : ∃ ts, TReach inp tdFail v ts ∧ p ts = true := by
  unfold tCheck at h
  cases hr : tRunWith inp tdFail v (tinit inp) cs with
  | none => simp only [hr] at h; cases h
  | some ts => simp only [hr] at h; exact ⟨ts, tRunWith_sound cs _ _ TReach.init hr, h⟩

/-- the choices of the default schedule of the base model -/
def defaultChoices (inp : RunInput) (workersFirst rev : Bool) (fuel : Nat) : List Choice :=
  (autoRun inp workersFirst rev fuel (init inp)).2


theorem count_run_teardownRun (tdFail : Name → Bool) (w : Option Nat) (n : Name) (l : List Name) :
    (teardownRun tdFail w l).count (TdEv.run n w) = l.count n := by
  have key : ∀ m : List Name, (m.flatMap fun t => if tdFail t then [TdEv.run t w, TdEv.err t w] else [TdEv.run t w]).count
      (TdEv.run n w) = m.count n := by
    intro m
    induction m with
    | nil => rfl
    | cons t m ih =>
      rw [List.flatMap_cons, List.count_append, ih, List.count_cons]
      by_cases e : t = n
      · subst e; cases tdFail t <;> simp <;> omega
      · cases tdFail t <;> simp [e]
  unfold teardownRun
  rw [key, List.count_reverse]

theorem count_startOrder (inp : RunInput) (n : Name) (evs : List Ev) :
    (startOrder inp evs).count n = if inp.hasTeardown n then evs.countP (Ev.isStartOf n) else 0 := by
  unfold startOrder
  rw [List.count_reverse]
  induction evs with
  | nil => simp
  | cons e t ih =>
    by_cases hs : ∃ m w, e = Ev.start m w
    · obtain ⟨m, w, rfl⟩ := hs
      by_cases hm : inp.hasTeardown m = true
      · by_cases e : m = n
        · subst e; simp [tdName, hm, Ev.isStartOf, ih]
        · simp [tdName, hm, Ev.isStartOf, ih, e]
      · by_cases e : m = n
        · subst e; simp [tdName, hm, ih]
        · simp [tdName, hm, ih, Ev.isStartOf, e]
    · have h1 : tdName inp e = none := by
        cases e <;> first | rfl | exact absurd ⟨_, _, rfl⟩ hs
      have h2 : Ev.isStartOf n e = false := by
        cases e <;> first | rfl | exact absurd ⟨_, _, rfl⟩ hs
      simp [h1, h2, ih]

theorem teardownAbort_noFail (tdFail : Name → Bool) (w : Option Nat) : ∀ l : List Name,
    (∀ t ∈ l, tdFail t = false) → teardownAbort tdFail w l = l.map fun t => TdEv.run t w := by
  intro l
  induction l with
  | nil => intro _; rfl
  | cons t l ih =>
    intro h
    simp only [teardownAbort, h t (List.mem_cons_self ..), List.map_cons]
    rw [ih (fun x hx => h x (List.mem_cons_of_mem _ hx))]
    simp

theorem teardownRun_noFail (tdFail : Name → Bool) (w : Option Nat) (l : List Name)
    (h : ∀ t ∈ l, tdFail t = false) : teardownRun tdFail w l = l.reverse.map fun t => TdEv.run t w := by
  unfold teardownRun
  have : ∀ m : List Name, (∀ t ∈ m, tdFail t = false) →
      (m.flatMap fun t => if tdFail t then [TdEv.run t w, TdEv.err t w] else [TdEv.run t w]) =
      m.map fun t => TdEv.run t w := by
    intro m
    induction m with
    | nil => intro _; rfl
    | cons t m ih =>
      intro hm
      rw [List.flatMap_cons, ih (fun x hx => hm x (List.mem_cons_of_mem _ hx)), hm t (List.mem_cons_self ..)]
      simp
  exact this _ (fun t ht => h t (List.mem_reverse.mp ht))

theorem map_anon {l : List TdEv} (h : ∀ x ∈ l, x.entity = none) : l.map TdEv.anon = l := by
  refine (List.map_congr_left fun x hx => ?_).trans (List.map_id _)
  have := h x hx
  cases x <;> (cases this; rfl)

theorem logOf_reverse (e : Option Nat) (l : List TdEv) : (logOf e l).reverse = logOf e l.reverse := by
  simp [logOf, List.filter_reverse]

end DoitModel.Run
