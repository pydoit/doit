import DoitModel.Model.Run
/-! # The node-local part of the dispatcher invariant of M1: the obligations of one node (`NodeOK`) and what
    `_node_add_wait_run` and one round of `_update_waiting` do to a node (`Grow`, `WaitFacts`, `Upd`) -/
namespace DoitModel.Run

@[simp] theorem setNode_nodes (s : Sys) (n : Name) (nd : Node) (k : Name) :
    (setNode s n nd).nodes k = if k = n then some nd else s.nodes k := rfl
@[simp] theorem setNode_events (s : Sys) (n : Name) (nd : Node) : (setNode s n nd).events = s.events := rfl
@[simp] theorem setNode_waiting (s : Sys) (n : Name) (nd : Node) : (setNode s n nd).waiting = s.waiting := rfl
@[simp] theorem setNode_ready (s : Sys) (n : Name) (nd : Node) : (setNode s n nd).ready = s.ready := rfl
@[simp] theorem setNode_cur (s : Sys) (n : Name) (nd : Node) : (setNode s n nd).cur = s.cur := rfl
@[simp] theorem setNode_susp (s : Sys) (n : Name) (nd : Node) : (setNode s n nd).susp = s.susp := rfl
@[simp] theorem setNode_rpc (s : Sys) (n : Name) (nd : Node) : (setNode s n nd).rpc = s.rpc := rfl
@[simp] theorem setNode_jobQ (s : Sys) (n : Name) (nd : Node) : (setNode s n nd).jobQ = s.jobQ := rfl
@[simp] theorem setNode_resQ (s : Sys) (n : Name) (nd : Node) : (setNode s n nd).resQ = s.resQ := rfl
@[simp] theorem setNode_workers (s : Sys) (n : Name) (nd : Node) : (setNode s n nd).workers = s.workers := rfl
@[simp] theorem setNode_toRun (s : Sys) (n : Name) (nd : Node) : (setNode s n nd).toRun = s.toRun := rfl

theorem RS.good_finished {r : RS} (h : r.good = true) : r.finished = true := by
  cases r <;> simp_all [RS.good, RS.finished]

theorem RS.good_of_fin {r : RS} (hf : r.finished = true) (h1 : r ≠ .fail) (h2 : r ≠ .ign) : r.good = true := by
  cases r <;> simp_all [RS.good, RS.finished]

theorem stOf_some {s : Sys} {n : Name} {nd : Node} (h : s.nodes n = some nd) : stOf s n = nd.status := by
  simp only [stOf, h]

theorem stOf_none {s : Sys} {n : Name} (h : s.nodes n = none) : stOf s n = .none := by
  simp only [stOf, h]

theorem stOf_congr {s s' : Sys} (h : s'.nodes = s.nodes) (d : Name) : stOf s' d = stOf s d := by
  simp only [stOf, h]

theorem stOf_setNode (s : Sys) (n : Name) (nd : Node) (d : Name) :
    stOf (setNode s n nd) d = if d = n then nd.status else stOf s d := by
  by_cases h : d = n
  · rw [if_pos h]; exact stOf_some (by rw [setNode_nodes, if_pos h])
  · rw [if_neg h]; simp only [stOf, setNode_nodes, if_neg h]

/-- `s'` may differ from `setNode s n x` outside `nodes`; with `s'` known from the goal, `x` is found by `rfl` -/
theorem stOf_update {s s' : Sys} {n : Name} {x : Node} {r : RS} (hr : stOf s n = r) (d : Name)
    (h : s'.nodes = (setNode s n x).nodes := by rfl) (hx : x.status = r := by rfl) : stOf s' d = stOf s d := by
  rw [stOf_congr h, stOf_setNode]
  by_cases e : d = n
  · rw [if_pos e, e, hx, hr]
  · rw [if_neg e]

theorem stOf_setNode_same {s : Sys} {n : Name} {nd x : Node} (hn : s.nodes n = some nd) (hx : x.status = nd.status)
    (d : Name) : stOf (setNode s n x) d = stOf s d :=
  stOf_update (stOf_some hn) d rfl hx

theorem mem_trace {inp : RunInput} {s : Sys} {e : Ev} : e ∈ trace inp s ↔ e ∈ s.events ∧ hidden inp e = false := by
  unfold trace
  rw [List.mem_reverse, List.mem_filter, Bool.not_eq_true']

theorem mem_dedup {a : Name} {l : List Name} : a ∈ dedup l ↔ a ∈ l := by
  induction l with
  | nil => simp [dedup]
  | cons b t ih =>
    simp only [dedup]
    split
    · rename_i h; simp only [List.mem_cons]; constructor
      · intro h'; exact Or.inr (ih.mp h')
      · rintro (rfl | h')
        · exact h
        · exact ih.mpr h'
    · simp only [List.mem_cons, ih]

/-- statuses that are final in `s` are the same in `s'` (I1, as a relation between two states) -/
def Stable (s s' : Sys) : Prop := ∀ x, (stOf s x).finished = true → stOf s' x = stOf s x

theorem Stable.refl (s : Sys) : Stable s s := fun _ _ => rfl
theorem Stable.trans {a b c : Sys} (h1 : Stable a b) (h2 : Stable b c) : Stable a c := by
  intro x hx
  have e1 := h1 x hx
  have := h2 x (by rw [e1]; exact hx)
  rw [this, e1]

theorem Stable.of_eq {s s' : Sys} (h : ∀ x, stOf s' x = stOf s x) : Stable s s' := fun x _ => h x

/-- dependency `d` of a node is finished and, if it failed / is ignored, registered in the node -/
def Cls (s : Sys) (nd : Node) (d : Name) : Prop :=
  (stOf s d).finished = true ∧ (stOf s d = .fail → d ∈ nd.bad) ∧ (stOf s d = .ign → d ∈ nd.ign)

theorem Cls.mono {s s' : Sys} {a b : Node} {d : Name} (hs : Stable s s')
    (hb : ∀ x, x ∈ a.bad → x ∈ b.bad) (hi : ∀ x, x ∈ a.ign → x ∈ b.ign) (h : Cls s a d) : Cls s' b d := by
  obtain ⟨h1, h2, h3⟩ := h
  have e := hs d h1
  exact ⟨by rw [e]; exact h1, fun x => hb _ (h2 (e ▸ x)), fun x => hi _ (h3 (e ▸ x))⟩

def PC.inLoop : PC → Bool
  | .loopTop | .calcIter _ | .taskIter _ | .afterDeps => true
  | _ => false
/-- `task_dep_list` taken, not yet passed to `_node_add_wait_run` -/
def PC.iterT : PC → Bool
  | .calcIter _ | .taskIter _ => true
  | _ => false
def PC.iterC : PC → Bool
  | .calcIter _ => true
  | _ => false
/-- positions where `wait_run` is empty -/
def PC.quiet : PC → Bool
  | .self1 | .afterSelf1 | .setupDecide | .setupIter _ | .afterSelf2 | .done => true
  | _ => false
/-- setup-tasks passed to `_node_add_wait_run` -/
def PC.setupAbsorbed : PC → Bool
  | .afterSetup | .self2 | .afterSelf2 => true
  | _ => false
/-- past the first `yield this_task` -/
def PC.yielded1 : PC → Bool
  | .afterSelf1 | .setupDecide | .setupIter _ | .afterSetup | .self2 | .afterSelf2 | .done => true
  | _ => false

/-- `kt`, `kc` (DESIGN.md I2): a known task_dep / calc_dep is pending, in the snapshot being iterated, awaited, or closed;
    `ks`: the same for setup-tasks once passed to `_node_add_wait_run`; `m1`, `m2` (I4): what is empty outside the
    dependency loop / at the `quiet` positions; `l`: a status means past the first `yield`; `ws`: `wait_select` only at
    `setupDecide`; `st`: static dependencies are among the dynamic ones. -/
structure NodeOK (inp : RunInput) (s : Sys) (n : Name) (nd : Node) : Prop where
  kt : ∀ d ∈ nd.dynTask, d ∈ nd.pendTask ∨ (nd.pc.iterT = true ∧ d ∈ nd.snapTask) ∨ d ∈ nd.waitRun ∨ Cls s nd d
  kc : ∀ d ∈ nd.dynCalc, d ∈ nd.pendCalc ∨ (nd.pc.iterC = true ∧ d ∈ nd.snapCalc) ∨ d ∈ nd.waitRunCalc ∨ Cls s nd d
  ks : nd.pc.setupAbsorbed = true → ∀ d ∈ inp.setup n, d ∈ nd.waitRun ∨ Cls s nd d
  m1 : nd.pc.inLoop = false → nd.pendTask = [] ∧ nd.pendCalc = [] ∧ nd.waitRunCalc = []
  m2 : nd.pc.quiet = true → nd.waitRun = []
  l : nd.status ≠ .none → nd.pc.yielded1 = true
  ws : nd.waitSelect = true → nd.pc = .setupDecide
  st : (∀ d ∈ inp.taskDep n, d ∈ nd.dynTask) ∧ (∀ d ∈ inp.calcDep n, d ∈ nd.dynCalc)

/-- `b` is `a` after deliveries / `parent_status` calls -/
structure Grow (a b : Node) : Prop where
  pc : b.pc = a.pc
  status : b.status = a.status
  snapTask : b.snapTask = a.snapTask
  snapCalc : b.snapCalc = a.snapCalc
  waitRun : b.waitRun = a.waitRun
  waitRunCalc : b.waitRunCalc = a.waitRunCalc
  waitingMe : b.waitingMe = a.waitingMe
  waitSelect : b.waitSelect = a.waitSelect
  anc : b.anc = a.anc
  bad : ∀ x, x ∈ a.bad → x ∈ b.bad
  ign : ∀ x, x ∈ a.ign → x ∈ b.ign
  pendTask : ∀ x, x ∈ a.pendTask → x ∈ b.pendTask
  pendCalc : ∀ x, x ∈ a.pendCalc → x ∈ b.pendCalc
  dynTask : ∀ x, x ∈ a.dynTask → x ∈ b.dynTask
  dynCalc : ∀ x, x ∈ a.dynCalc → x ∈ b.dynCalc
  newTask : ∀ x, x ∈ b.dynTask → x ∈ a.dynTask ∨ x ∈ b.pendTask
  newCalc : ∀ x, x ∈ b.dynCalc → x ∈ a.dynCalc ∨ x ∈ b.pendCalc

theorem new_trans {aD bD cD bP cP : List Name} (h1 : ∀ x, x ∈ bD → x ∈ aD ∨ x ∈ bP)
    (h2 : ∀ x, x ∈ cD → x ∈ bD ∨ x ∈ cP) (hp : ∀ x, x ∈ bP → x ∈ cP) : ∀ x, x ∈ cD → x ∈ aD ∨ x ∈ cP :=
  fun x h => (h2 x h).elim (fun h' => (h1 x h').imp_right (hp x)) Or.inr

theorem Grow.refl (a : Node) : Grow a a :=
  ⟨rfl, rfl, rfl, rfl, rfl, rfl, rfl, rfl, rfl, fun _ h => h, fun _ h => h, fun _ h => h, fun _ h => h,
   fun _ h => h, fun _ h => h, fun _ h => Or.inl h, fun _ h => Or.inl h⟩

theorem Grow.trans {a b c : Node} (h1 : Grow a b) (h2 : Grow b c) : Grow a c where
  pc := h2.pc.trans h1.pc
  status := h2.status.trans h1.status
  snapTask := h2.snapTask.trans h1.snapTask
  snapCalc := h2.snapCalc.trans h1.snapCalc
  waitRun := h2.waitRun.trans h1.waitRun
  waitRunCalc := h2.waitRunCalc.trans h1.waitRunCalc
  waitingMe := h2.waitingMe.trans h1.waitingMe
  waitSelect := h2.waitSelect.trans h1.waitSelect
  anc := h2.anc.trans h1.anc
  bad := fun x h => h2.bad x (h1.bad x h)
  ign := fun x h => h2.ign x (h1.ign x h)
  pendTask := fun x h => h2.pendTask x (h1.pendTask x h)
  pendCalc := fun x h => h2.pendCalc x (h1.pendCalc x h)
  dynTask := fun x h => h2.dynTask x (h1.dynTask x h)
  dynCalc := fun x h => h2.dynCalc x (h1.dynCalc x h)
  newTask := new_trans h1.newTask h2.newTask h2.pendTask
  newCalc := new_trans h1.newCalc h2.newCalc h2.pendCalc

def SameDeps (a b : Node) : Prop :=
  b.dynTask = a.dynTask ∧ b.dynCalc = a.dynCalc ∧ b.pendTask = a.pendTask ∧ b.pendCalc = a.pendCalc

theorem mem_ite_append {c : Prop} [Decidable c] {l : List Name} {x : Name} (p : Name) (h : x ∈ l) :
    x ∈ if c then l ++ [p] else l := by
  by_cases e : c
  · rw [if_pos e]; exact List.mem_append_left _ h
  · rw [if_neg e]; exact h

theorem parentStatus_grow (pst : RS) (p : Name) (nd : Node) : Grow nd (parentStatus pst p nd) :=
  { Grow.refl nd with bad := fun _ hx => mem_ite_append p hx, ign := fun _ hx => mem_ite_append p hx }

theorem parentStatus_cls (pst : RS) (p : Name) (nd : Node) :
    (pst = .fail → p ∈ (parentStatus pst p nd).bad) ∧ (pst = .ign → p ∈ (parentStatus pst p nd).ign) := by
  constructor <;> (intro e; simp [parentStatus, e])

theorem addDeps_grow (nd : Node) (r : CalcRes) : Grow nd (nd.addDeps r) := by
  refine { Grow.refl nd with pendTask := ?_, pendCalc := ?_, dynTask := ?_, dynCalc := ?_, newTask := ?_, newCalc := ?_ }
  all_goals (intro x hx; simp only [Node.addDeps, List.mem_append, List.mem_filter] at hx ⊢)
  · exact Or.inl hx
  · exact Or.inl hx
  · exact Or.inl hx
  · exact Or.inl hx
  · rcases hx with h | h
    · exact Or.inl h
    · exact Or.inr (Or.inr h)
  · rcases hx with h | h
    · exact Or.inl h
    · by_cases hp : x ∈ nd.pendCalc
      · exact Or.inr (Or.inl hp)
      · exact Or.inr (Or.inr ⟨h, by simpa using hp⟩)

theorem deliver_grow (inp : RunInput) (pst : RS) (p : Name) (nd : Node) : Grow nd (deliver inp pst p nd) := by
  unfold deliver; split
  · exact addDeps_grow _ _
  · exact Grow.refl _

theorem deliverF_grow (inp : RunInput) (ex : Bool) (pst : RS) (p : Name) (nd : Node) :
    Grow nd (deliverF inp ex pst p nd) := by
  unfold deliverF; split
  · exact addDeps_grow _ _
  · exact Grow.refl _

theorem SameDeps.refl (a : Node) : SameDeps a a := ⟨rfl, rfl, rfl, rfl⟩
theorem SameDeps.trans {a b c : Node} (h1 : SameDeps a b) (h2 : SameDeps b c) : SameDeps a c :=
  ⟨h2.1.trans h1.1, h2.2.1.trans h1.2.1, h2.2.2.1.trans h1.2.2.1, h2.2.2.2.trans h1.2.2.2⟩

def absorbOne (inp : RunInput) (s : Sys) (isCalc : Bool) (a : Name) (nd : Node) : Node :=
  if isCalc then deliverF inp (started s a) (stOf s a) a (deliver inp (stOf s a) a (parentStatus (stOf s a) a nd))
  else parentStatus (stOf s a) a nd

theorem absorbOne_spec (inp : RunInput) (s : Sys) (isCalc : Bool) (a : Name) (nd : Node) :
    Grow nd (absorbOne inp s isCalc a nd) ∧ (isCalc = false → SameDeps nd (absorbOne inp s isCalc a nd)) ∧
    (stOf s a = .fail → a ∈ (absorbOne inp s isCalc a nd).bad) ∧
    (stOf s a = .ign → a ∈ (absorbOne inp s isCalc a nd).ign) := by
  have c := parentStatus_cls (stOf s a) a nd
  cases isCalc with
  | false => exact ⟨parentStatus_grow .., fun _ => ⟨rfl, rfl, rfl, rfl⟩, c.1, c.2⟩
  | true =>
    have g := (deliver_grow inp (stOf s a) a (parentStatus (stOf s a) a nd)).trans
      (deliverF_grow inp (started s a) (stOf s a) a _)
    exact ⟨(parentStatus_grow ..).trans g, Bool.noConfusion, fun e => g.bad _ (c.1 e), fun e => g.ign _ (c.2 e)⟩

theorem absorbDone_spec (inp : RunInput) (s : Sys) (isCalc : Bool) : ∀ (ds : List Name) (nd : Node),
    Grow nd (absorbDone inp s isCalc ds nd) ∧
    (isCalc = false → SameDeps nd (absorbDone inp s isCalc ds nd)) ∧
    (∀ d ∈ ds, unfinished s d = false →
      (stOf s d = .fail → d ∈ (absorbDone inp s isCalc ds nd).bad) ∧
      (stOf s d = .ign → d ∈ (absorbDone inp s isCalc ds nd).ign)) := by
  intro ds
  induction ds with
  | nil => intro nd; exact ⟨Grow.refl _, fun _ => SameDeps.refl _, nofun⟩
  | cons a t ih =>
    intro nd
    rw [absorbDone]
    cases hu : unfinished s a with
    | true =>
      rw [if_pos rfl]
      obtain ⟨g, sd, cl⟩ := ih nd
      refine ⟨g, sd, fun d hd hfin => ?_⟩
      rcases List.mem_cons.mp hd with rfl | hd'
      · rw [hu] at hfin; cases hfin
      · exact cl d hd' hfin
    | false =>
      rw [if_neg Bool.false_ne_true]
      obtain ⟨g0, sd0, b0, i0⟩ := absorbOne_spec inp s isCalc a nd
      obtain ⟨g, sd, cl⟩ := ih (absorbOne inp s isCalc a nd)
      refine ⟨g0.trans g, fun e => (sd0 e).trans (sd e), fun d hd hfin => ?_⟩
      rcases List.mem_cons.mp hd with rfl | hd'
      · exact ⟨fun e => g.bad _ (b0 e), fun e => g.ign _ (i0 e)⟩
      · exact cl d hd' hfin

theorem unfinished_false {s : Sys} {d : Name} (h : unfinished s d = false) : (stOf s d).finished = true := by
  simpa [unfinished] using h

/-- the node that `_node_add_wait_run(n, ds, isCalc)` leaves behind (before `waiting_me` registration) -/
def waitNode (inp : RunInput) (s : Sys) (nd : Node) (ds : List Name) (isCalc : Bool) (pc' : PC) : Node :=
  { addWaits (absorbDone inp s isCalc ds nd) isCalc (ds.filter (unfinished s)) with pc := pc' }

theorem addWaitRun_eq (inp : RunInput) (s : Sys) (n : Name) (nd : Node) (ds : List Name) (isCalc : Bool) (pc' : PC) :
    addWaitRun inp s n nd ds isCalc pc' =
      registerWaiting (setNode s n (waitNode inp s nd ds isCalc pc')) n (ds.filter (unfinished s)) := rfl

/-- `x = waitNode ..` against `nd`: as `Grow`, but the wait lists grow (`wr`, `wc`) and every member of `ds` is waited for
    or closed (`absorbed`) -/
structure WaitFacts (s : Sys) (nd x : Node) (ds : List Name) (isCalc : Bool) (pc' : PC) : Prop where
  pc : x.pc = pc'
  status : x.status = nd.status
  waitSelect : x.waitSelect = nd.waitSelect
  snapTask : x.snapTask = nd.snapTask
  snapCalc : x.snapCalc = nd.snapCalc
  cls : ∀ d, Cls s nd d → Cls s x d
  pendTask : ∀ d, d ∈ nd.pendTask → d ∈ x.pendTask
  pendCalc : ∀ d, d ∈ nd.pendCalc → d ∈ x.pendCalc
  dynTask : ∀ d, d ∈ nd.dynTask → d ∈ x.dynTask
  dynCalc : ∀ d, d ∈ nd.dynCalc → d ∈ x.dynCalc
  newTask : ∀ d, d ∈ x.dynTask → d ∈ nd.dynTask ∨ d ∈ x.pendTask
  newCalc : ∀ d, d ∈ x.dynCalc → d ∈ nd.dynCalc ∨ d ∈ x.pendCalc
  wr : ∀ d, d ∈ nd.waitRun → d ∈ x.waitRun
  wc : ∀ d, d ∈ nd.waitRunCalc → d ∈ x.waitRunCalc
  same : isCalc = false → SameDeps nd x ∧ x.waitRunCalc = nd.waitRunCalc
  keepWr : isCalc = true → x.waitRun = nd.waitRun
  absorbed : ∀ d ∈ ds, (if isCalc then d ∈ x.waitRunCalc else d ∈ x.waitRun) ∨ Cls s x d

theorem waitNode_facts (inp : RunInput) (s : Sys) (nd : Node) (ds : List Name) (isCalc : Bool) (pc' : PC) :
    WaitFacts s nd (waitNode inp s nd ds isCalc pc') ds isCalc pc' := by
  obtain ⟨g, sd, cl⟩ := absorbDone_spec inp s isCalc ds nd
  have hcls : ∀ d, Cls s nd d → Cls s (absorbDone inp s isCalc ds nd) d := fun d h =>
    Cls.mono (Stable.refl s) g.bad g.ign h
  have habs : ∀ d ∈ ds, d ∈ ds.filter (unfinished s) ∨ Cls s (absorbDone inp s isCalc ds nd) d := by
    intro d hd
    cases hu : unfinished s d with
    | true => exact Or.inl (List.mem_filter.mpr ⟨hd, hu⟩)
    | false => exact Or.inr ⟨unfinished_false hu, cl d hd hu⟩
  -- the node written out with `addWaits` computed: checked once, not in every field
  cases isCalc with
  | false =>
    show WaitFacts s nd { absorbDone inp s false ds nd with
      waitRun := ds.filter (unfinished s) ++ (absorbDone inp s false ds nd).waitRun, pc := pc' } ds false pc'
    exact ⟨rfl, g.status, g.waitSelect, g.snapTask, g.snapCalc, hcls, g.pendTask, g.pendCalc, g.dynTask, g.dynCalc,
      g.newTask, g.newCalc, fun d h => List.mem_append_right _ (g.waitRun.symm ▸ h), fun d h => g.waitRunCalc.symm ▸ h,
      fun _ => ⟨sd rfl, g.waitRunCalc⟩, Bool.noConfusion, fun d hd => (habs d hd).imp_left (List.mem_append_left _)⟩
  | true =>
    show WaitFacts s nd { absorbDone inp s true ds nd with
      waitRunCalc := ds.filter (unfinished s) ++ (absorbDone inp s true ds nd).waitRunCalc, pc := pc' } ds true pc'
    exact ⟨rfl, g.status, g.waitSelect, g.snapTask, g.snapCalc, hcls, g.pendTask, g.pendCalc, g.dynTask, g.dynCalc,
      g.newTask, g.newCalc, fun d h => g.waitRun.symm ▸ h, fun d h => List.mem_append_right _ (g.waitRunCalc.symm ▸ h),
      Bool.noConfusion, fun _ => g.waitRun, fun d hd => (habs d hd).imp_left (List.mem_append_left _)⟩

/-- `b` is `a` after `_update_waiting` for `p` (finished with `pst`): as `Grow`, but the wait lists lose at most `p`
    (`wr'`, `wc'`), and `p`, if it was in one (`wr`, `wc`), is recorded in `bad_deps` / `ignored_deps` -/
structure Upd (pst : RS) (p : Name) (a b : Node) : Prop where
  pc : b.pc = a.pc
  status : b.status = a.status
  snapTask : b.snapTask = a.snapTask
  snapCalc : b.snapCalc = a.snapCalc
  waitSelect : b.waitSelect = a.waitSelect
  bad : ∀ x, x ∈ a.bad → x ∈ b.bad
  ign : ∀ x, x ∈ a.ign → x ∈ b.ign
  pendTask : ∀ x, x ∈ a.pendTask → x ∈ b.pendTask
  pendCalc : ∀ x, x ∈ a.pendCalc → x ∈ b.pendCalc
  dynTask : ∀ x, x ∈ a.dynTask → x ∈ b.dynTask
  dynCalc : ∀ x, x ∈ a.dynCalc → x ∈ b.dynCalc
  newTask : ∀ x, x ∈ b.dynTask → x ∈ a.dynTask ∨ x ∈ b.pendTask
  newCalc : ∀ x, x ∈ b.dynCalc → x ∈ a.dynCalc ∨ x ∈ b.pendCalc
  wr : ∀ d, d ∈ a.waitRun → d ∈ b.waitRun ∨ (d = p ∧ (pst = .fail → p ∈ b.bad) ∧ (pst = .ign → p ∈ b.ign))
  wr' : ∀ d, d ∈ b.waitRun → d ∈ a.waitRun
  wc : ∀ d, d ∈ a.waitRunCalc → d ∈ b.waitRunCalc ∨ (d = p ∧ (pst = .fail → p ∈ b.bad) ∧ (pst = .ign → p ∈ b.ign))
  wc' : ∀ d, d ∈ b.waitRunCalc → d ∈ a.waitRunCalc
  same : p ∉ a.waitRunCalc → SameDeps a b

theorem mem_filter_ne {l : List Name} {d p : Name} (h : d ∈ l) : d ∈ l.filter (· ≠ p) ∨ d = p := by
  by_cases e : d = p
  · exact Or.inr e
  · exact Or.inl (List.mem_filter.mpr ⟨h, decide_eq_true e⟩)

/-- `wc`: what becomes of `wait_run_calc`, with `p` removed or, when `p` is not in it, as it was -/
theorem strip_upd (pst : RS) (p : Name) (w : Node) (wc : List Name)
    (h1 : ∀ d ∈ w.waitRunCalc, d ∈ wc ∨ d = p) (h2 : ∀ d ∈ wc, d ∈ w.waitRunCalc) :
    Upd pst p w { parentStatus pst p w with waitRun := w.waitRun.filter (· ≠ p), waitRunCalc := wc } :=
  have hc := parentStatus_cls pst p w
  have hg := parentStatus_grow pst p w
  ⟨rfl, rfl, rfl, rfl, rfl, hg.bad, hg.ign, fun _ h => h, fun _ h => h, fun _ h => h, fun _ h => h,
    fun _ h => Or.inl h, fun _ h => Or.inl h,
    fun _ hd => (mem_filter_ne hd).imp_right fun e => ⟨e, hc⟩, fun _ hd => (List.mem_filter.mp hd).1,
    fun d hd => (h1 d hd).imp_right fun e => ⟨e, hc⟩, h2, fun _ => ⟨rfl, rfl, rfl, rfl⟩⟩

theorem Upd.grow {pst : RS} {p : Name} {a b c : Node} (hu : Upd pst p a b) (g : Grow b c)
    (hs : p ∉ a.waitRunCalc → c = b) : Upd pst p a c where
  pc := g.pc.trans hu.pc
  status := g.status.trans hu.status
  snapTask := g.snapTask.trans hu.snapTask
  snapCalc := g.snapCalc.trans hu.snapCalc
  waitSelect := g.waitSelect.trans hu.waitSelect
  bad := fun x h => g.bad x (hu.bad x h)
  ign := fun x h => g.ign x (hu.ign x h)
  pendTask := fun x h => g.pendTask x (hu.pendTask x h)
  pendCalc := fun x h => g.pendCalc x (hu.pendCalc x h)
  dynTask := fun x h => g.dynTask x (hu.dynTask x h)
  dynCalc := fun x h => g.dynCalc x (hu.dynCalc x h)
  newTask := new_trans hu.newTask g.newTask g.pendTask
  newCalc := new_trans hu.newCalc g.newCalc g.pendCalc
  wr := fun d hd => by
    rcases hu.wr d hd with h | ⟨e, h1, h2⟩
    · exact Or.inl (g.waitRun ▸ h)
    · exact Or.inr ⟨e, fun x => g.bad _ (h1 x), fun x => g.ign _ (h2 x)⟩
  wr' := fun d hd => hu.wr' d (g.waitRun ▸ hd)
  wc := fun d hd => by
    rcases hu.wc d hd with h | ⟨e, h1, h2⟩
    · exact Or.inl (g.waitRunCalc ▸ h)
    · exact Or.inr ⟨e, fun x => g.bad _ (h1 x), fun x => g.ign _ (h2 x)⟩
  wc' := fun d hd => hu.wc' d (g.waitRunCalc ▸ hd)
  same := fun h => by rw [hs h]; exact hu.same h

theorem wokenNode_upd (inp : RunInput) (pst : RS) (p : Name) (w : Node) : Upd pst p w (wokenNode inp pst p w) := by
  unfold wokenNode
  by_cases hin : p ∈ w.waitRunCalc
  · rw [if_pos hin]
    exact (strip_upd pst p w _ (fun _ hd => mem_filter_ne hd) (fun _ hd => (List.mem_filter.mp hd).1)).grow
      (deliver_grow ..) (fun h => absurd hin h)
  · rw [if_neg hin]
    exact strip_upd pst p w _ (fun _ hd => Or.inl hd) (fun _ hd => hd)

theorem wokenF_same {inp : RunInput} {s : Sys} {pst : RS} {p : Name} {w : Node} (h : p ∉ w.waitRunCalc) :
    wokenF inp s pst p w = wokenNode inp pst p w := by
  unfold wokenF; rw [if_neg h]

theorem wokenF_grow (inp : RunInput) (s : Sys) (pst : RS) (p : Name) (w : Node) :
    Grow (wokenNode inp pst p w) (wokenF inp s pst p w) := by
  unfold wokenF; split
  · exact deliverF_grow _ _ _ _ _
  · exact Grow.refl _

theorem wokenF_upd (inp : RunInput) (s : Sys) (pst : RS) (p : Name) (w : Node) :
    Upd pst p w (wokenF inp s pst p w) :=
  (wokenNode_upd inp pst p w).grow (wokenF_grow inp s pst p w) (fun h => wokenF_same h)

/-! `NoFailDeliver inp`: no calc task that fails during its execution has returned dependency values before the failing
action, so `deliverF` is the identity.  No property theorem assumes it; `Proofs/C08DynStatic.lean` and `C08DynLists.lean`
use it to compare the C08 denotation with its static form. -/

class NoFailDeliver (inp : RunInput) : Prop where
  nil : ∀ p, inp.calcResFail p = {}

theorem addDeps_empty (nd : Node) : nd.addDeps {} = nd := by
  cases nd
  simp [Node.addDeps, newTaskDeps, newCalcDeps, implicitNew, dedup]

theorem deliverF_id {inp : RunInput} [h : NoFailDeliver inp] (ex : Bool) (pst : RS) (p : Name) (nd : Node) :
    deliverF inp ex pst p nd = nd := by
  unfold deliverF; split
  · rw [h.nil p]; exact addDeps_empty nd
  · rfl

theorem absorbDone_cons_eq {inp : RunInput} [NoFailDeliver inp] (s : Sys) (isCalc : Bool) (d : Name) (ds : List Name)
    (nd : Node) :
    absorbDone inp s isCalc (d :: ds) nd =
      if unfinished s d then absorbDone inp s isCalc ds nd
      else absorbDone inp s isCalc ds
        (if isCalc then deliver inp (stOf s d) d (parentStatus (stOf s d) d nd) else parentStatus (stOf s d) d nd) := by
  simp only [absorbDone, deliverF_id]

theorem NodeOK.upd {inp : RunInput} {s s' : Sys} {n : Name} {a b : Node} {pst : RS} {p : Name}
    (hok : NodeOK inp s n a) (hu : Upd pst p a b) (hst : Stable s s') (hp : stOf s' p = pst)
    (hf : pst.finished = true) : NodeOK inp s' n b := by
  have clsP : (pst = .fail → p ∈ b.bad) ∧ (pst = .ign → p ∈ b.ign) → Cls s' b p := by
    intro h; exact ⟨by rw [hp]; exact hf, fun e => h.1 (hp ▸ e), fun e => h.2 (hp ▸ e)⟩
  have mono : ∀ d, Cls s a d → Cls s' b d := fun d h => Cls.mono hst hu.bad hu.ign h
  constructor
  · intro d hd
    rcases hu.newTask d hd with h | h
    · rcases hok.kt d h with h1 | ⟨h1, h2⟩ | h1 | h1
      · exact Or.inl (hu.pendTask _ h1)
      · exact Or.inr (Or.inl ⟨hu.pc ▸ h1, hu.snapTask ▸ h2⟩)
      · rcases hu.wr d h1 with h2 | ⟨rfl, h2⟩
        · exact Or.inr (Or.inr (Or.inl h2))
        · exact Or.inr (Or.inr (Or.inr (clsP h2)))
      · exact Or.inr (Or.inr (Or.inr (mono d h1)))
    · exact Or.inl h
  · intro d hd
    rcases hu.newCalc d hd with h | h
    · rcases hok.kc d h with h1 | ⟨h1, h2⟩ | h1 | h1
      · exact Or.inl (hu.pendCalc _ h1)
      · exact Or.inr (Or.inl ⟨hu.pc ▸ h1, hu.snapCalc ▸ h2⟩)
      · rcases hu.wc d h1 with h2 | ⟨rfl, h2⟩
        · exact Or.inr (Or.inr (Or.inl h2))
        · exact Or.inr (Or.inr (Or.inr (clsP h2)))
      · exact Or.inr (Or.inr (Or.inr (mono d h1)))
    · exact Or.inl h
  · intro hpc d hd
    rcases hok.ks (hu.pc ▸ hpc) d hd with h1 | h1
    · rcases hu.wr d h1 with h2 | ⟨rfl, h2⟩
      · exact Or.inl h2
      · exact Or.inr (clsP h2)
    · exact Or.inr (mono d h1)
  · intro hpc
    obtain ⟨e1, e2, e3⟩ := hok.m1 (hu.pc ▸ hpc)
    have hs := hu.same (by rw [e3]; simp)
    refine ⟨hs.2.2.1.trans e1, hs.2.2.2.trans e2, ?_⟩
    cases hw : b.waitRunCalc with
    | nil => rfl
    | cons x t => have := hu.wc' x (by simp [hw]); rw [e3] at this; cases this
  · intro hpc
    have e := hok.m2 (hu.pc ▸ hpc)
    cases hw : b.waitRun with
    | nil => rfl
    | cons x t => have := hu.wr' x (by simp [hw]); rw [e] at this; cases this
  · intro hne; rw [hu.pc]; exact hok.l (hu.status ▸ hne)
  · intro hw; rw [hu.pc]; exact hok.ws (hu.waitSelect ▸ hw)
  · exact ⟨fun d hd => hu.dynTask _ (hok.st.1 d hd), fun d hd => hu.dynCalc _ (hok.st.2 d hd)⟩

theorem NodeOK.stable {inp : RunInput} {s s' : Sys} {n : Name} {a : Node}
    (hok : NodeOK inp s n a) (hst : Stable s s') : NodeOK inp s' n a :=
  have mono : ∀ d, Cls s a d → Cls s' a d := fun _ h => Cls.mono hst (fun _ h => h) (fun _ h => h) h
  ⟨fun d hd => (hok.kt d hd).imp_right fun h => h.imp_right fun h => h.imp_right (mono d),
   fun d hd => (hok.kc d hd).imp_right fun h => h.imp_right fun h => h.imp_right (mono d),
   fun hpc d hd => (hok.ks hpc d hd).imp_right (mono d), hok.m1, hok.m2, hok.l, hok.ws, hok.st⟩

end DoitModel.Run
