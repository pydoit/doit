import DoitModel.Proofs.C08DynConfluence
/-! # C08 (I10) with calc_dep: the executable denotation (`denTab`, `closureTab`, `monC08DenC` of `Model/RunData.lean`)

A determined answer of the table is the denotation (`denTab_sound`); under the decidable side condition `determinedOf` the
computed closure is `Dyn.DenCl` and `monC08DenC` holds of every trace.  No counting argument: that the rounds suffice is
part of the side condition. -/
namespace DoitModel.Run.Dyn

theorem mem_roundWith (f : Name → List Name) (x : Name) : ∀ (L acc : List Name),
    x ∈ L.foldl (fun acc c => appNew (f c) acc) acc ↔ x ∈ acc ∨ ∃ c ∈ L, x ∈ f c := by
  intro L
  induction L with
  | nil => intro acc; simp
  | cons a t ih =>
    intro acc
    simp only [List.foldl_cons]
    rw [ih, mem_appNew]
    constructor
    · rintro ((h | h) | ⟨c, hc, h⟩)
      · exact Or.inl h
      · exact Or.inr ⟨a, by simp, h⟩
      · exact Or.inr ⟨c, by simp [hc], h⟩
    · rintro (h | ⟨c, hc, h⟩)
      · exact Or.inl (Or.inl h)
      · rcases List.mem_cons.mp hc with rfl | hc'
        · exact Or.inl (Or.inr h)
        · exact Or.inr ⟨c, hc', h⟩

theorem mem_round (f : Name → List Name) (cs : List Name) (x : Name) :
    x ∈ roundWith f cs ↔ x ∈ cs ∨ ∃ c ∈ cs, x ∈ f c := mem_roundWith f x cs cs

theorem iterN_inv (f : Name → List Name) (P : Name → Prop) (h : ∀ c x, P c → x ∈ f c → P x) :
    ∀ (k : Nat) (cs : List Name), (∀ x ∈ cs, P x) → ∀ x ∈ iterN (roundWith f) k cs, P x := by
  intro k
  induction k with
  | zero => intro cs h0; exact h0
  | succ k ih =>
    intro cs h0
    apply ih
    intro x hx
    rcases (mem_round f cs x).mp hx with a | ⟨c, hc, a⟩
    · exact h0 x a
    · exact h c x (h0 c hc) a

theorem iterN_mono (f : Name → List Name) : ∀ (k : Nat) (cs : List Name) (x : Name), x ∈ cs → x ∈ iterN (roundWith f) k cs := by
  intro k
  induction k with
  | zero => intro cs x h; exact h
  | succ k ih => intro cs x h; exact ih _ x ((mem_round f cs x).mpr (Or.inl h))

theorem closedWith_spec {f : Name → List Name} {cs : List Name} (h : closedWith f cs = true) :
    ∀ c ∈ cs, ∀ x ∈ f c, x ∈ cs := by
  intro c hc x hx
  unfold closedWith at h
  rw [List.all_eq_true] at h
  have := h c hc
  rw [List.all_eq_true] at this
  simpa using this x hx

theorem calcsF_sound (inp : RunInput) (dd : Name → Den) (k : Nat) (n : Name) :
    ∀ c ∈ calcsF inp dd k n, CalcOf inp dd n c := by
  apply iterN_inv (calcOut inp dd) (CalcOf inp dd n)
  · intro c x hc hx
    exact CalcOf.deliv hc hx
  · intro x hx; exact CalcOf.static (mem_dedup.mp hx)

theorem calcsF_complete {inp : RunInput} {dd : Name → Den} {k : Nat} {n : Name}
    (h : closedWith (calcOut inp dd) (calcsF inp dd k n) = true) {c : Name} (hc : CalcOf inp dd n c) :
    c ∈ calcsF inp dd k n := by
  induction hc with
  | static hc => exact iterN_mono _ k _ _ (mem_dedup.mpr hc)
  | @deliv c x _ hm ih =>
    exact closedWith_spec h c ih x hm

theorem depsF_spec {inp : RunInput} {dd : Name → Den} {k : Nat} {n : Name} {L : List Name}
    (h : depsF inp dd k n = some L) : ∀ x, x ∈ L ↔ DepOf inp dd n x := by
  unfold depsF at h
  split at h
  · rename_i hcl
    cases h
    intro x
    simp only [List.mem_append, List.mem_flatMap]
    constructor
    · rintro ((a | a) | ⟨c, hc, a⟩)
      · exact Or.inl a
      · exact Or.inr (Or.inl (calcsF_sound inp dd k n x a))
      · exact Or.inr (Or.inr ⟨c, calcsF_sound inp dd k n c hc, List.mem_append.mp a⟩)
    · rintro (a | a | ⟨c, hc, a⟩)
      · exact Or.inl (Or.inl a)
      · exact Or.inl (Or.inr (calcsF_complete hcl a))
      · exact Or.inr ⟨c, calcsF_complete hcl hc, List.mem_append.mpr a⟩
  · cases h

theorem good_ne_bot {d : Den} (h : d.rs.good = true) : d ≠ .bot := by
  intro e; rw [e] at h; cases h

theorem deliv_ne_bot {inp : RunInput} {c x : Name} {d : Den}
    (h : x ∈ (delivOf inp c d).calcs ∨ x ∈ (delivOf inp c d).tasks ∨ x ∈ (delivOf inp c d).files) : d ≠ .bot := by
  intro e; rw [e, delivOf_bot] at h
  rcases h with h | h | h <;> cases h

/-- `dd` only makes derived claims -/
def SoundDD (inp : RunInput) (dd : Name → Den) : Prop := ∀ x, dd x ≠ .bot → DenOf inp x (dd x)

theorem stepC_sound {inp : RunInput} {k : Nat} {dd : Name → Den} (hdd : SoundDD inp dd) (n : Name)
    (h : stepC inp k dd n ≠ .bot) : DenOf inp n (stepC inp k dd n) := by
  unfold stepC at h ⊢
  cases hd : depsF inp dd k n with
  | none => simp only [hd] at h; exact absurd rfl h
  | some L =>
    simp only [hd] at h ⊢
    split at h
    · exact absurd rfl h
    · rename_i hT
      simp only [hT] at ⊢
      split at h
      · exact absurd rfl h
      · rename_i hS
        simp only [hS, if_false]
        refine DenOf.mk n dd L (depsF_spec hd) ?_ ?_
        · intro d hd'; exact hdd d (any_isBot_false hT d hd')
        · intro h1 d hd'
          have : ¬ ((inp.setup n).any (fun d => (dd d).isBot) = true) := fun x => hS ⟨h1, x⟩
          exact hdd d (any_isBot_false this d hd')

theorem ddTab_map_range (N : Nat) (g : Name → Den) (x : Name) :
    ddTab ((List.range N).map g) x = if x < N then g x else .bot := by
  unfold ddTab
  by_cases h : x < N
  · simp [h, List.getD_eq_getElem?_getD]
  · simp [h, List.getD_eq_getElem?_getD]

theorem denTab_sound (inp : RunInput) (N k : Nat) : ∀ f, SoundDD inp (ddTab (denTab inp N k f)) := by
  intro f
  induction f with
  | zero => intro x h; exact absurd (by simp [denTab, ddTab]) h
  | succ f ih =>
    intro x h
    simp only [denTab, tabStep, ddTab_map_range] at h ⊢
    split at h
    · rename_i hx; simp only [hx, if_true]; exact stepC_sound ih x h
    · exact absurd rfl h

theorem denFC_sound (inp : RunInput) (nTasks : Nat) (t : Name) (h : denFC inp nTasks t ≠ .bot) :
    DenOf inp t (denFC inp nTasks t) := denTab_sound inp _ _ _ t h

theorem CalcOf.toR {inp : RunInput} {dd : Name → Den} {n c : Name} (hdd : SoundDD inp dd) (h : CalcOf inp dd n c) :
    CalcR inp n c := by
  induction h with
  | static hc => exact CalcR.static hc
  | deliv _ hm ih => exact CalcR.deliv ih (hdd _ (deliv_ne_bot (Or.inl hm))) hm

theorem DepOf.toCl {inp : RunInput} {dd : Name → Den} {n x : Name} (hdd : SoundDD inp dd) (hcl : DenCl inp n)
    (h : DepOf inp dd n x) : DenCl inp x := by
  rcases h with a | a | ⟨c, hc, hm⟩
  · exact DenCl.ofTask hcl a
  · exact DenCl.ofCalc hcl (a.toR hdd)
  · exact DenCl.ofDeliv hcl (hc.toR hdd) (hdd _ (deliv_ne_bot (Or.inr hm))) hm

theorem contribC_sound {inp : RunInput} {dd : Name → Den} {k : Nat} (hdd : SoundDD inp dd) {t x : Name}
    (hcl : DenCl inp t) (hx : x ∈ contribC inp dd k t) : DenCl inp x := by
  unfold contribC at hx
  cases hd : depsF inp dd k t with
  | none => simp only [hd] at hx; cases hx
  | some L =>
    simp only [hd] at hx
    have hL := depsF_spec hd
    have inL : ∀ y ∈ L, DenCl inp y := fun y hy => ((hL y).mp hy).toCl hdd hcl
    split at hx
    · exact inL x hx
    · rename_i hnb
      split at hx
      · rename_i h1
        rcases List.mem_append.mp hx with a | a
        · exact inL x a
        · exact DenCl.ofSetup hcl ⟨dd, L, hL, fun d hd' => hdd d (any_isBot_false hnb d hd'), h1⟩ a
      · exact inL x hx

theorem closureTab_sound {inp : RunInput} {tab : List Den} (hdd : SoundDD inp (ddTab tab)) (k : Nat) :
    ∀ t ∈ closureTab inp tab k, DenCl inp t := by
  apply iterN_inv _ (DenCl inp)
  · intro c x hc hx; exact contribC_sound hdd hc hx
  · intro x hx; exact DenCl.ofSel (mem_dedup.mp hx)

structure Det (inp : RunInput) (dd : Name → Den) (k : Nat) (cl : List Name) : Prop where
  closed : ∀ t ∈ cl, ∀ x ∈ contribC inp dd k t, x ∈ cl
  nb : ∀ t ∈ cl, dd t ≠ .bot
  deps : ∀ t ∈ cl, ∃ L, depsF inp dd k t = some L ∧ ¬ (L.any (fun d => (dd d).isBot) = true)

theorem determinedOf_det {inp : RunInput} {tab : List Den} {k : Nat} {cl : List Name}
    (h : determinedOf inp tab k cl = true) : Det inp (ddTab tab) k cl := by
  unfold determinedOf at h
  rw [Bool.and_eq_true, List.all_eq_true] at h
  obtain ⟨h1, h2⟩ := h
  refine ⟨closedWith_spec h1, ?_, ?_⟩
  · intro t ht e
    have := h2 t ht
    rw [Bool.and_eq_true] at this
    rw [e] at this
    exact absurd this.1 (by decide)
  · intro t ht
    have := h2 t ht
    rw [Bool.and_eq_true] at this
    cases hd : depsF inp (ddTab tab) k t with
    | none => rw [hd] at this; simp at this
    | some L =>
      rw [hd] at this
      exact ⟨L, rfl, by simpa using this.2⟩

theorem CalcR.toOf {inp : RunInput} {dd : Name → Den} {n c : Name} (hdd : SoundDD inp dd) {L : List Name}
    (hL : ∀ x, x ∈ L ↔ DepOf inp dd n x) (hnb : ¬ (L.any (fun d => (dd d).isBot) = true)) (h : CalcR inp n c) :
    CalcOf inp dd n c := by
  induction h with
  | static hc => exact CalcOf.static hc
  | @deliv c x d _ hd hm ih =>
    have hc : c ∈ L := (hL c).mpr (DepOf.ofCalc ih)
    have e : dd c = d := (hdd c (any_isBot_false hnb c hc)).functional hd
    exact CalcOf.deliv ih (by rw [e]; exact hm)

theorem sub_contribC {inp : RunInput} {dd : Name → Den} {k : Nat} {t : Name} {L : List Name}
    (hd : depsF inp dd k t = some L) : ∀ x ∈ L, x ∈ contribC inp dd k t := by
  intro x hx
  unfold contribC
  simp only [hd]
  split
  · exact hx
  · split
    · exact List.mem_append.mpr (Or.inl hx)
    · exact hx

theorem denClosureC_complete {inp : RunInput} {dd : Name → Den} {k : Nat} {cl : List Name} (hdd : SoundDD inp dd)
    (hdet : Det inp dd k cl) (hsel : ∀ t ∈ inp.sel, t ∈ cl) {t : Name} (h : DenCl inp t) : t ∈ cl := by
  induction h with
  | ofSel hm => exact hsel _ hm
  | @ofTask t d _ hd ih =>
    obtain ⟨L, hL, _⟩ := hdet.deps t ih
    exact hdet.closed t ih d (sub_contribC hL d ((depsF_spec hL d).mpr (Or.inl hd)))
  | @ofCalc t c _ hc ih =>
    obtain ⟨L, hL, hnb⟩ := hdet.deps t ih
    exact hdet.closed t ih c (sub_contribC hL c ((depsF_spec hL c).mpr (DepOf.ofCalc (hc.toOf hdd (depsF_spec hL) hnb))))
  | @ofDeliv t c x d _ hc hd hm ih =>
    obtain ⟨L, hL, hnb⟩ := hdet.deps t ih
    have hc' := hc.toOf hdd (depsF_spec hL) hnb
    have hcL : c ∈ L := (depsF_spec hL c).mpr (DepOf.ofCalc hc')
    have e : dd c = d := (hdd c (any_isBot_false hnb c hcL)).functional hd
    exact hdet.closed t ih x (sub_contribC hL x ((depsF_spec hL x).mpr (Or.inr (Or.inr ⟨c, hc', by rw [e]; exact hm⟩))))
  | @ofSetup t d _ hr1 hd ih =>
    obtain ⟨L, hL, hnb⟩ := hdet.deps t ih
    obtain ⟨dd0, L0, hL0, hT0, h10⟩ := hr1
    have hT : ∀ d ∈ L, DenOf inp d (dd d) := fun d hd' => hdd d (any_isBot_false hnb d hd')
    obtain ⟨sub, eT⟩ := dep_agree (depsF_spec hL) hL0 hT0 (fun d hd' b hb => (hT d hd').functional hb)
    have h1 : stage1L inp dd L t = .run := by rw [← h10]; exact stage1L_congr sub eT
    apply hdet.closed t ih d
    unfold contribC
    simp only [hL, hnb, h1, if_true]
    exact List.mem_append.mpr (Or.inr hd)

theorem closureTab_spec {inp : RunInput} {tab : List Den} {k : Nat} (hdd : SoundDD inp (ddTab tab))
    (h : determinedOf inp tab k (closureTab inp tab k) = true) (t : Name) :
    t ∈ closureTab inp tab k ↔ DenCl inp t :=
  ⟨closureTab_sound hdd k t, fun hc => denClosureC_complete hdd (determinedOf_det h)
    (fun y hy => iterN_mono _ _ _ y (mem_dedup.mpr hy)) hc⟩

theorem monitor_denOf {inp : RunInput} {s : Sys} (hr : Reach inp s ∨ PReach inp s) (nTasks : Nat) {tab : List Den}
    {k : Nat} (hdd : SoundDD inp (ddTab tab)) (hdet : determinedOf inp tab k (closureTab inp tab k) = true)
    (complete : Bool) (hc : complete = true → s.rpc = .halted ∧ s.halt = .none ∧ s.stop = false) :
    monDenOf tab (closureTab inp tab k) nTasks (trace inp s) (exitCode s) complete = true := by
  have hD := determinedOf_det hdet
  have spec := closureTab_spec hdd hdet
  unfold monDenOf
  rw [Bool.and_eq_true]
  refine ⟨?_, ?_⟩
  · rw [List.all_eq_true]
    intro t _
    cases hrep : reportOf (trace inp s) t with
    | none => rfl
    | some d =>
      simp only [beq_iff_eq]
      have hden := reportOf_is_den hr t d hrep
      have hR : Reported s t := (reportOf_isSome_iff inp s t).mp (by rw [hrep]; rfl)
      have hcl := (spec t).mpr (reported_in_closure hr t hR)
      exact (hdd t (hD.nb t hcl)).functional hden
  · cases complete with
    | false => rfl
    | true =>
      obtain ⟨e1, e2, e3⟩ := hc rfl
      simp only [Bool.not_true, Bool.false_or, Bool.and_eq_true, List.all_eq_true, beq_iff_eq]
      refine ⟨?_, ?_⟩
      · intro t _
        rw [Bool.eq_iff_iff, reportOf_isSome_iff, decide_eq_true_iff, reported_iff_closure hr e1 e2 e3, spec]
      · exact complete_exit_is_den hr e1 e2 e3 _ spec _ (fun t ht => hdd t (hD.nb t ht))

theorem monitor_denC {inp : RunInput} {s : Sys} (hr : Reach inp s ∨ PReach inp s) (nTasks : Nat)
    (hdet : determinedC inp nTasks = true) (complete : Bool)
    (hc : complete = true → s.rpc = .halted ∧ s.halt = .none ∧ s.stop = false) :
    monC08DenC inp nTasks (trace inp s) (exitCode s) complete = true :=
  monitor_denOf hr nTasks (denTab_sound inp _ _ _) hdet complete hc

theorem denClosureC_spec {inp : RunInput} {nTasks : Nat} (h : determinedC inp nTasks = true) (t : Name) :
    t ∈ denClosureC inp nTasks ↔ DenCl inp t :=
  closureTab_spec (denTab_sound inp _ _ _) h t

end DoitModel.Run.Dyn
