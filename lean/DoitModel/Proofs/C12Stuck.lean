import DoitModel.Proofs.C12Step
import DoitModel.Proofs.C05Shape
/-! # C12 — nodes that await each other are never started; what is left when `tasks_to_run` is popped is such a set -/
namespace DoitModel.Run

variable {inp : RunInput}

/-- every member has a node that awaits a member -/
def Stuck (D : Name → Prop) (s : Sys) : Prop :=
  ∀ w, D w → ∃ nd, s.nodes w = some nd ∧ ∃ d, D d ∧ waitsOn nd d

theorem yielded_waits_nothing {s : Sys} {n : Name} {nd : Node} (h1 : Inv1 inp s) (hsu : s.susp = some (.node n))
    (hn : s.nodes n = some nd) (d : Name) : ¬ waitsOn nd d := by
  obtain ⟨x, hx, hpc⟩ := h1.sp n hsu
  rw [hn] at hx; cases hx
  have hok := h1.node n nd hn
  have m1 := hok.m1 (by rcases hpc with e | e <;> (rw [e]; rfl))
  have m2 := hok.m2 (by rcases hpc with e | e <;> (rw [e]; rfl))
  intro a
  rcases a with a | a
  · rw [m2] at a; cases a
  · rw [m1.2.2] at a; cases a

theorem stuck_not_yielded {D : Name → Prop} {s : Sys} {n : Name} (h1 : Inv1 inp s) (hD : Stuck D s)
    (hsu : s.susp = some (.node n)) : ¬ D n := by
  intro hn
  obtain ⟨nd, hnd, d, _, hw⟩ := hD n hn
  exact yielded_waits_nothing h1 hsu hnd d hw

theorem stuck_step {D : Name → Prop} {s s' : Sys} {perm : List Name} (h1 : Inv1 inp s) (hsb : SB s)
    (hD : Stuck D s) (hs : serialStep inp s perm = some s') : Stuck D s' := by
  have hk := (serialStep_facts hs).keep
  intro w hw
  obtain ⟨nd, hnd, d, hd, hwd⟩ := hD w hw
  obtain ⟨nd', hnd', f⟩ := hk w nd hnd
  refine ⟨nd', hnd', d, hd, ?_⟩
  rcases f d hwd with a | a
  · exact a
  · exfalso
    -- `d` is being fed back: it is the node the dispatcher yielded, which awaits nothing
    have hr : s.rpc = .sTop (some d) := by
      cases serialStep_spec hs with
      | stop hr _ | send hr _ _ => rw [sentBack, hr] at a; exact hr.trans (congrArg RPC.sTop a)
      | tick hr _ _ | lost hr _ _ | go hr _ _ _ | assertFail hr _ _ _ | select hr _ _ _ _ _ | stopIter hr _
      | cyclic hr _ | holdOn hr _ | crash hr _ | execLost hr _ | result hr _ | finish hr =>
        rw [sentBack, hr] at a; cases a
    exact stuck_not_yielded h1 hD (hsb d (Or.inr hr)) hd

theorem Stable.of_update {s s' : Sys} {n : Name} {v : RS} (hst : ∀ x, stOf s' x = if x = n then v else stOf s x)
    (hn : (stOf s n).finished = false) : Stable s s' := by
  intro x hx
  rw [hst x]
  by_cases e : x = n
  · subst e; rw [hn] at hx; cases hx
  · rw [if_neg e]

theorem shape_stable {s s' : Sys} (h : Shape inp s s') : Stable s s' := by
  cases h with
  | quiet new hst _ _ _ => exact Stable.of_eq hst
  | select n nd extra _ _ hn hd hst _ _ _ =>
    exact .of_update hst (by simp only [stOf, hn]; exact selDecision_unfinished hd)
  | result n nd mid hn hrun _ hst _ _ _ => exact .of_update hst (by simp only [stOf, hn, hrun]; rfl)

theorem stuck_at_pop {s : Sys} (hser : inp.runner = .serial) (hr : Reach inp s) (hrpc : s.rpc = .sWait)
    (hsu : s.susp = none) (hc : s.cur = none) (hrd : s.ready = []) :
    Stuck (· ∈ s.waiting) s ∧ ∀ a, created s a → a ∈ s.waiting ∨ (stOf s a).finished = true := by
  have hE := reach_invE hser hr
  have hL := reach_invL hr
  have hC := reach_invC hr
  have hS := reach_invS hser hr
  -- while the serial runner awaits the generator nothing is dispatched (every place a dispatched node could be —
  -- yielded, fed back, in a queue, on a worker, being executed — is excluded by `rpc = sWait`, `susp = none`), so a
  -- node that awaits an unfinished one cannot be woken by a result under way: it is parked
  have hdp : ∀ n, n ∉ s.dispatched := by
    intro n hn
    have hhalt : s.halt = .none := by
      apply Classical.byContradiction; intro e
      rcases hS.hl e with a | a <;> (rw [hrpc] at a; cases a)
    have := hC.dc (hS.sw hrpc) hhalt (by rw [hsu]; simp) n hn
    rcases this with ⟨_, a⟩ | a | a | a
    · rw [hsu] at a; cases a
    · simp [sentBack, hrpc] at a
    · rcases a with a | a | ⟨w, a⟩ | a
      · rw [hS.q.1] at a; cases a
      · simp [holding, hrpc] at a
      · rw [hS.q.2.2 w] at a; cases a
      · rw [hS.q.2.1] at a; cases a
    · rw [hrpc] at a; cases a
  have cls : ∀ a z, s.nodes a = some z → a ∈ s.waiting ∨ z.status.finished = true := by
    intro a z hz
    have park : z.pc ≠ .done → a ∈ s.waiting := by
      intro hpc
      rcases hL.d.a2 a z hz hpc with x | x | x
      · rw [hrd] at x; cases x
      · exact x
      · rw [hc] at x; cases x
    cases hst : z.status with
    | none =>
      left; apply park
      intro e
      have := (hL.a4 a z hz (by rw [e]; rfl) hst).1
      rw [hsu] at this; cases this
    | run =>
      left; apply park
      intro e
      rcases hL.a5 a z hz hst with x | ⟨_, _, x | ⟨x, _⟩⟩
      · rw [hrpc] at x; cases x
      · rw [e] at x; cases x
      · rw [e] at x; cases x
    | utd | ign | ok | fail => exact .inr rfl
  constructor
  · intro w hw
    obtain ⟨nd, hn, ne⟩ := hE.w w hw
    obtain ⟨d, hd⟩ : ∃ d, waitsOn nd d :=
      ne.elim (fun a => (List.exists_mem_of_ne_nil _ a).imp fun _ => Or.inl)
        (fun a => (List.exists_mem_of_ne_nil _ a).imp fun _ => Or.inr)
    obtain ⟨z, hz, _, hz2⟩ := hE.e (by rw [hsu]; simp) w nd d hn hd
    have hunf : z.status.finished = false := hz2.resolve_right (hdp d)
    refine ⟨nd, hn, d, (cls d z hz).resolve_right fun a => ?_, hd⟩
    rw [hunf] at a; cases a
  · intro a ⟨z, hz⟩
    exact (cls a z hz).imp_right fun x => by simpa [stOf, hz] using x

end DoitModel.Run
