import DoitModel.Model.Sel
/-! # The selection model (M8) against declarative relations

Each executable piece is shown to decide a relation that says what it means: `glob` decides `Matches` (`GlobMatch` for
patterns without `[`), `dropOpts` computes `Consumes`, `resolve` decides `Denotes`, and the filter loop `pf` followed by
`resolveAll` computes `Resolves` (`spec_run_iff`). -/
namespace DoitModel.Sel

/-- declarative matching: `*` any string, `?` any one character, a literal itself -/
inductive GlobMatch : Tok → Tok → Prop
  | nil : GlobMatch [] []
  | star (p pre s full : Tok) : full = pre ++ s → GlobMatch p s → GlobMatch ('*' :: p) full
  | any (p s : Tok) (d : Char) : GlobMatch p s → GlobMatch ('?' :: p) (d :: s)
  | lit (c : Char) (p s : Tok) : c ≠ '*' → GlobMatch p s → GlobMatch (c :: p) (c :: s)

theorem anySuffix_iff (f : Tok → Bool) (s : Tok) : anySuffix f s = true ↔ ∃ pre suf, s = pre ++ suf ∧ f suf = true := by
  induction s with
  | nil =>
    refine ⟨fun h => ⟨[], [], rfl, h⟩, fun ⟨pre, suf, h, hf⟩ => ?_⟩
    obtain ⟨rfl, rfl⟩ := List.append_eq_nil_iff.1 h.symm
    exact hf
  | cons c s ih =>
    rw [anySuffix, Bool.or_eq_true, ih]
    constructor
    · rintro (h | ⟨pre, suf, rfl, hf⟩)
      · exact ⟨[], _, rfl, h⟩
      · exact ⟨c :: pre, suf, rfl, hf⟩
    · rintro ⟨_ | ⟨d, pre⟩, suf, h, hf⟩
      · cases h; exact .inl hf
      · cases h; exact .inr ⟨pre, suf, rfl, hf⟩

/-- declarative matching for the whole of `fnmatch`: `*` any string, `?` any one character, `[…]` one character of the
    class (`splitClass` finds its end, `inClass` is the membership `fnmatch.translate` gives it), a `[` that is never
    closed and every other character stand for themselves -/
inductive Matches : Tok → Tok → Prop
  | nil : Matches [] []
  | star (p pre s full : Tok) : full = pre ++ s → Matches p s → Matches ('*' :: p) full
  | any (p s : Tok) (d : Char) : Matches p s → Matches ('?' :: p) (d :: s)
  | cls (p body rest s : Tok) (d : Char) : splitClass p = some (body, rest) → inClass body d = true →
      Matches rest s → Matches ('[' :: p) (d :: s)
  | openLit (p s : Tok) : splitClass p = none → Matches p s → Matches ('[' :: p) ('[' :: s)
  | lit (c : Char) (p s : Tok) : c ≠ '*' → c ≠ '?' → c ≠ '[' → Matches p s → Matches (c :: p) (c :: s)

theorem closeAt_length (pre q body rest : Tok) (h : closeAt pre q = some (body, rest)) : rest.length ≤ q.length := by
  unfold closeAt at h
  split at h
  · simp only [Option.some.injEq, Prod.mk.injEq] at h
    rw [← h.2]
    have := (List.dropWhile_sublist (· != ']') (l := q)).length_le
    simp only [List.length_tail]; omega
  · cases h

theorem afterBang_length (pre q body rest : Tok) (h : afterBang pre q = some (body, rest)) : rest.length ≤ q.length := by
  unfold afterBang at h
  split at h
  · have := closeAt_length _ _ _ _ h; simp; omega
  · exact closeAt_length _ _ _ _ h

theorem splitClass_length (p body rest : Tok) (h : splitClass p = some (body, rest)) : rest.length ≤ p.length := by
  unfold splitClass at h
  split at h
  · have := afterBang_length _ _ _ _ h; simp; omega
  · exact afterBang_length _ _ _ _ h

theorem globF_sound : ∀ (n : Nat) (p s : Tok), globF n p s = true → Matches p s
  | 0, _, _, h => nomatch h
  | _ + 1, [], [], _ => .nil
  | _ + 1, [], _ :: _, h => nomatch h
  | n + 1, c :: p, s, h => by
    unfold globF at h
    by_cases hc : c = '*'
    · subst hc
      obtain ⟨pre, suf, he, hm⟩ := (anySuffix_iff _ _).1 ((if_pos rfl).symm.trans h)
      exact .star p pre suf s he (globF_sound n p suf hm)
    rw [if_neg hc] at h
    by_cases hb : c = '['
    · subst hb
      rw [if_pos rfl] at h
      match s, hs : splitClass p, h with
      | d :: s, some (body, rest), h =>
        simp only [Bool.and_eq_true] at h
        exact .cls p body rest s d hs h.1 (globF_sound n rest s h.2)
      | d :: s, none, h =>
        simp only [Bool.and_eq_true, beq_iff_eq] at h
        obtain ⟨rfl, hm⟩ := h
        exact .openLit p s hs (globF_sound n p s hm)
    rw [if_neg hb] at h
    match s, h with
    | d :: s, h =>
      simp only [Bool.and_eq_true, Bool.or_eq_true, beq_iff_eq] at h
      obtain ⟨rfl | rfl, hm⟩ := h
      · exact .any p s d (globF_sound n p s hm)
      · by_cases hq : c = '?'
        · subst hq; exact .any p s _ (globF_sound n p s hm)
        · exact .lit c p s hc hq hb (globF_sound n p s hm)

theorem globF_complete (n : Nat) {p s : Tok} (h : Matches p s) (hn : p.length < n) : globF n p s = true := by
  induction n generalizing p s with
  | zero => cases hn
  | succ n ih =>
    cases h with
    | nil => rfl
    | star p pre s _ he hm =>
      unfold globF
      rw [if_pos rfl]
      exact (anySuffix_iff _ _).2 ⟨pre, s, he, ih hm (Nat.lt_of_succ_lt_succ hn)⟩
    | any p s d hm =>
      unfold globF
      rw [if_neg (by decide), if_neg (by decide)]
      simp only [ih hm (Nat.lt_of_succ_lt_succ hn), beq_self_eq_true, Bool.true_or, Bool.and_self]
    | cls p body rest s d hs hi hm =>
      unfold globF
      rw [if_neg (by decide), if_pos rfl]
      simp only [hs, hi, Bool.true_and]
      exact ih hm (Nat.lt_of_le_of_lt (splitClass_length p body rest hs) (Nat.lt_of_succ_lt_succ hn))
    | openLit p s hs hm =>
      unfold globF
      rw [if_neg (by decide), if_pos rfl]
      simp only [hs, beq_self_eq_true, Bool.true_and]
      exact ih hm (Nat.lt_of_succ_lt_succ hn)
    | lit c p s hc _ hb hm =>
      unfold globF
      rw [if_neg hc, if_neg hb]
      simp only [ih hm (Nat.lt_of_succ_lt_succ hn), beq_self_eq_true, Bool.or_true, Bool.and_self]

theorem glob_iff_matches (p s : Tok) : glob p s = true ↔ Matches p s :=
  ⟨globF_sound _ p s, fun h => globF_complete _ h (Nat.lt_succ_self _)⟩

theorem matches_iff_globMatch (p s : Tok) (h : '[' ∉ p) : Matches p s ↔ GlobMatch p s := by
  have tl : ∀ {c : Char} {p : Tok}, '[' ∉ c :: p → '[' ∉ p := fun h hp => h (List.mem_cons_of_mem _ hp)
  constructor
  · intro hm
    induction hm with
    | nil => exact .nil
    | star p pre s full he _ ih => exact .star p pre s full he (ih (tl h))
    | any p s d _ ih => exact .any p s d (ih (tl h))
    | cls | openLit => exact (h (List.mem_cons_self ..)).elim
    | lit c p s hc _ _ _ ih => exact .lit c p s hc (ih (tl h))
  · intro hm
    induction hm with
    | nil => exact .nil
    | star p pre s full he _ ih => exact .star p pre s full he (ih (tl h))
    | any p s d _ ih => exact .any p s d (ih (tl h))
    | lit c p s hc _ ih =>
      by_cases hq : c = '?'
      · subst hq; exact .any p s _ (ih (tl h))
      · exact .lit c p s hc hq (fun e => h (e ▸ List.mem_cons_self ..)) (ih (tl h))

/-- `Consumes ps args rest`: the parser of a task with params `ps` takes a (possibly empty) run of complete option
    groups off `args` — up to the first token that is not an option, or up to and including `--` — and leaves `rest` -/
inductive Consumes (ps : List Param) : List Tok → List Tok → Prop
  | done : Consumes ps [] []
  | stop (a : Tok) (rest : List Tok) : scan ps a = .notOpt → Consumes ps (a :: rest) (a :: rest)
  | dashdash (a : Tok) (rest : List Tok) : scan ps a = .dashdash → Consumes ps (a :: rest) rest
  | flag (a : Tok) (rest r : List Tok) : scan ps a = .complete → Consumes ps rest r → Consumes ps (a :: rest) r
  | withVal (a v : Tok) (rest r : List Tok) : scan ps a = .needsVal → Consumes ps rest r → Consumes ps (a :: v :: rest) r

theorem dropOpts_iff (ps : List Param) (l r : List Tok) : dropOpts ps l = some r ↔ Consumes ps l r := by
  constructor
  · intro h
    fun_induction dropOpts ps l with
    | case1 => cases h; exact .done
    | case2 a rest hs => cases h; exact .stop a rest hs
    | case3 a rest hs => cases h; exact .dashdash a _ hs
    | case4 a rest hs ih => exact .flag a rest r hs (ih h)
    | case5 | case7 => cases h
    | case6 a hs v rest' ih => exact .withVal a v rest' r hs (ih h)
  · intro h
    induction h with
    | done => rfl
    | stop a rest hs | dashdash a rest hs => rw [dropOpts.eq_def]; simp only [hs]
    | flag a rest r hs _ ih | withVal a v rest r hs _ ih => rw [dropOpts.eq_def]; simp only [hs, ih]

theorem Consumes.suffix {ps : List Param} {l r : List Tok} (h : Consumes ps l r) : r <:+ l := by
  induction h with
  | done | stop => exact List.suffix_refl _
  | dashdash a rest => exact List.suffix_cons a rest
  | flag a rest r _ _ ih => exact ih.trans (List.suffix_cons a rest)
  | withVal a v rest r _ _ ih => exact ih.trans ((List.suffix_cons v rest).trans (List.suffix_cons a _))

theorem dropOpts_length (ps : List Param) (l r : List Tok) (h : dropOpts ps l = some r) : r.length ≤ l.length :=
  ((dropOpts_iff ps l r).1 h).suffix.length_le

theorem dropOpts_mem (ps : List Param) (l r : List Tok) (h : dropOpts ps l = some r) : ∀ x ∈ r, x ∈ l :=
  fun _ hx => ((dropOpts_iff ps l r).1 h).suffix.subset hx

/-- what an argument that is not a pattern stands for -/
inductive Denotes (ts : List Task) : Tok → Tok → Prop
  | name (a : Tok) (t : Task) : find ts a = some t → Denotes ts a a
  | target (a p : Tok) : find ts a = none → producer ts a = some p → Denotes ts a p
  | delayedSub (a : Tok) (b : Task) : find ts a = none → producer ts a = none →
      find ts (baseName a) = some b → b.delayed = true → Denotes ts a a

theorem resolve_iff (ts : List Task) (a n : Tok) : resolve ts a = some n ↔ Denotes ts a n := by
  constructor
  · intro h
    unfold resolve at h
    cases hf : find ts a with
    | some t => simp only [hf, Option.some.injEq] at h; subst h; exact .name a t hf
    | none =>
      simp only [hf] at h
      cases hp : producer ts a with
      | some p => simp only [hp, Option.some.injEq] at h; subst h; exact .target a p hf hp
      | none =>
        simp only [hp] at h
        cases hb : find ts (baseName a) with
        | none => simp [hb] at h
        | some b =>
          simp only [hb] at h
          by_cases hd : b.delayed = true
          · simp only [hd, if_true, Option.some.injEq] at h; subst h; exact .delayedSub a b hf hp hb hd
          · simp [hd] at h
  · intro h
    cases h with
    | name t hf => simp only [resolve, hf]
    | target p hf hp => simp only [resolve, hf, hp]
    | delayedSub b hf hp hb hd => simp only [resolve, hf, hp, hb, hd, if_true]

/-- `Resolves ts ini args sel`: the command-line `args` denote the selection `sel`, `ini` being the tasks whose options
    are initialised already (named or matched by a pattern further left; `[]` for a whole command line).  A task's
    options are parsed where it is named first (`task`, `taskPos`); naming it again selects it again and parses
    nothing (`again`). -/
inductive Resolves (ts : List Task) : List Tok → List Tok → List Tok → Prop
  | nil (ini : List Tok) : Resolves ts ini [] []
  | pattern (ini : List Tok) (a : Tok) (rest sel : List Tok) : hasStar a = true →
      Resolves ts (ini ++ wild ts a) rest sel → Resolves ts ini (a :: rest) (wild ts a ++ sel)
  | task (ini : List Tok) (a : Tok) (t : Task) (rest rest' sel : List Tok) : hasStar a = false →
      find ts a = some t → ini.contains a = false → t.posArg = false → Consumes t.params rest rest' →
      Resolves ts (a :: ini) rest' sel → Resolves ts ini (a :: rest) (a :: sel)
  | taskPos (ini : List Tok) (a : Tok) (t : Task) (rest rest' : List Tok) : hasStar a = false →
      find ts a = some t → ini.contains a = false → t.posArg = true → Consumes t.params rest rest' →
      Resolves ts ini (a :: rest) [a]
  | again (ini : List Tok) (a : Tok) (t : Task) (rest sel : List Tok) : hasStar a = false →
      find ts a = some t → ini.contains a = true → Resolves ts ini rest sel → Resolves ts ini (a :: rest) (a :: sel)
  | other (ini : List Tok) (a n : Tok) (rest sel : List Tok) : hasStar a = false → find ts a = none →
      Denotes ts a n → Resolves ts ini rest sel → Resolves ts ini (a :: rest) (n :: sel)

theorem bindOk_ok (r : Except Err (List Tok)) (f : List Tok → Except Err (List Tok)) (s : List Tok) :
    bindOk r f = .ok s ↔ ∃ l, r = .ok l ∧ f l = .ok s := by
  cases r <;> simp [bindOk]

theorem mapOk_ok (f : List Tok → List Tok) (r : Except Err (List Tok)) (l : List Tok) :
    mapOk f r = .ok l ↔ ∃ l', r = .ok l' ∧ l = f l' := by
  cases r <;> simp [mapOk, eq_comm]

theorem resolveAll_cons (ts : List Task) (a : Tok) (l s : List Tok) :
    resolveAll ts (a :: l) = .ok s ↔ ∃ n s', resolve ts a = some n ∧ resolveAll ts l = .ok s' ∧ s = n :: s' := by
  simp only [resolveAll]
  cases h : resolve ts a with
  | none => simp
  | some n => simp [mapOk_ok]

theorem resolve_of_find {ts : List Task} {a : Tok} {t : Task} (h : find ts a = some t) : resolve ts a = some a := by
  simp only [resolve, h]

theorem find_of_mem_names (ts : List Task) (n : Tok) (h : n ∈ names ts) : ∃ t, find ts n = some t := by
  obtain ⟨t, ht, rfl⟩ := List.mem_map.1 h
  exact Option.isSome_iff_exists.1 (List.find?_isSome.2 ⟨t, ht, beq_self_eq_true _⟩)

theorem resolve_name (ts : List Task) (n : Tok) (h : n ∈ names ts) : resolve ts n = some n := by
  obtain ⟨t, ht⟩ := find_of_mem_names ts n h
  exact resolve_of_find ht

theorem resolveAll_names_append (ts : List Task) (w l s : List Tok) (hw : ∀ x ∈ w, x ∈ names ts) :
    resolveAll ts (w ++ l) = .ok s ↔ ∃ s', resolveAll ts l = .ok s' ∧ s = w ++ s' := by
  induction w generalizing s with
  | nil => simp
  | cons x w ih =>
    have hx := resolve_name ts x (hw x (by simp))
    have ih' := fun s => ih s (fun y hy => hw y (by simp [hy]))
    simp only [List.cons_append, resolveAll_cons, hx, Option.some.injEq]
    constructor
    · rintro ⟨n, s', rfl, h, rfl⟩
      rcases (ih' s').1 h with ⟨s'', h2, rfl⟩
      exact ⟨s'', h2, rfl⟩
    · rintro ⟨s', h, rfl⟩
      exact ⟨x, w ++ s', rfl, (ih' _).2 ⟨s', h, rfl⟩, rfl⟩

theorem wild_sub_names (ts : List Task) (a : Tok) : ∀ x ∈ wild ts a, x ∈ names ts := by
  intro x hx
  exact (List.mem_filter.1 hx).1

/-! ### the filter loop `pf`

`fun_induction pf` gives one case per row of the definition, in its order: `case1` no fuel, `case2` no argument left,
`case3` a pattern, `case4` not the name of a task, `case5` a task named again under `pinned` (the loop ends),
`case6` named again, `case7` its options do not parse, `case8` a task with `pos_arg`, `case9` any other task. -/

theorem pf_resolves (ts : List Task) (n : Nat) (ini args l sel : List Tok) (hp : pf ts false n ini args = .ok l)
    (hr : resolveAll ts l = .ok sel) : Resolves ts ini args sel := by
  fun_induction pf ts false n ini args generalizing l sel with
  | case1 => cases hp
  | case2 => cases hp; cases hr; exact .nil _
  | case3 n ini a rest hs ih =>
    obtain ⟨l', hl', rfl⟩ := (mapOk_ok _ _ _).1 hp
    obtain ⟨s', hs', rfl⟩ := (resolveAll_names_append ts _ _ _ (wild_sub_names ts a)).1 hr
    exact .pattern ini a rest s' hs (ih l' s' hl' hs')
  | case4 n ini a rest hs hf ih =>
    obtain ⟨l', hl', rfl⟩ := (mapOk_ok _ _ _).1 hp
    obtain ⟨m, s', hm, hs', rfl⟩ := (resolveAll_cons ts a l' sel).1 hr
    exact .other ini a m rest s' (Bool.eq_false_iff.2 hs) hf ((resolve_iff ts a m).1 hm) (ih l' s' hl' hs')
  | case5 _ _ _ _ _ _ _ _ c => cases c  -- `pinned` is `false` here
  | case6 n ini a rest hs t hf hi _ ih =>
    obtain ⟨l', hl', rfl⟩ := (mapOk_ok _ _ _).1 hp
    obtain ⟨m, s', hm, hs', rfl⟩ := (resolveAll_cons ts a l' sel).1 hr
    cases (resolve_of_find hf).symm.trans hm
    exact .again ini a t rest s' (Bool.eq_false_iff.2 hs) hf hi (ih l' s' hl' hs')
  | case7 => cases hp
  | case8 n ini a rest hs t hf hi rest' hd hpos =>
    cases hp
    obtain ⟨m, s', hm, hs', rfl⟩ := (resolveAll_cons ts a [] sel).1 hr
    cases (resolve_of_find hf).symm.trans hm
    cases hs'
    exact .taskPos ini a t rest rest' (Bool.eq_false_iff.2 hs) hf (Bool.eq_false_iff.2 hi) hpos
      ((dropOpts_iff _ _ _).1 hd)
  | case9 n ini a rest hs t hf hi rest' hd hpos ih =>
    obtain ⟨l', hl', rfl⟩ := (mapOk_ok _ _ _).1 hp
    obtain ⟨m, s', hm, hs', rfl⟩ := (resolveAll_cons ts a l' sel).1 hr
    cases (resolve_of_find hf).symm.trans hm
    exact .task ini a t rest rest' s' (Bool.eq_false_iff.2 hs) hf (Bool.eq_false_iff.2 hi) (Bool.eq_false_iff.2 hpos)
      ((dropOpts_iff _ _ _).1 hd) (ih l' s' hl' hs')

theorem resolves_pf {ts : List Task} (n : Nat) {ini args sel : List Tok} (h : Resolves ts ini args sel)
    (hn : args.length < n) : ∃ l, pf ts false n ini args = .ok l ∧ resolveAll ts l = .ok sel := by
  induction n generalizing ini args sel with
  | zero => cases hn
  | succ n ih =>
    cases h with
    | nil => exact ⟨[], rfl, rfl⟩
    | pattern _ a rest sel hs h' =>
      obtain ⟨l, hl, hr⟩ := ih h' (Nat.lt_of_succ_lt_succ hn)
      exact ⟨wild ts a ++ l, by simp only [pf, hs, if_true, hl, mapOk],
        (resolveAll_names_append ts _ _ _ (wild_sub_names ts a)).2 ⟨sel, hr, rfl⟩⟩
    | task _ a t rest rest' sel hs hf hi hp hc h' =>
      have hd := (dropOpts_iff _ _ _).2 hc
      obtain ⟨l, hl, hr⟩ := ih h' (Nat.lt_of_le_of_lt (dropOpts_length _ _ _ hd) (Nat.lt_of_succ_lt_succ hn))
      exact ⟨a :: l, by simp only [pf, hs, hf, hi, hd, hp, hl, mapOk, Bool.false_eq_true, if_false],
        (resolveAll_cons ts a l _).2 ⟨a, sel, resolve_of_find hf, hr, rfl⟩⟩
    | taskPos _ a t rest rest' hs hf hi hp hc =>
      exact ⟨[a], by simp only [pf, hs, hf, hi, (dropOpts_iff _ _ _).2 hc, hp, Bool.false_eq_true, if_false, if_true],
        (resolveAll_cons ts a [] _).2 ⟨a, [], resolve_of_find hf, rfl, rfl⟩⟩
    | again _ a t rest sel hs hf hi h' =>
      obtain ⟨l, hl, hr⟩ := ih h' (Nat.lt_of_succ_lt_succ hn)
      exact ⟨a :: l, by simp only [pf, hs, hf, hi, hl, mapOk, Bool.false_eq_true, if_false, if_true],
        (resolveAll_cons ts a l _).2 ⟨a, sel, resolve_of_find hf, hr, rfl⟩⟩
    | other _ a m rest sel hs hf hd h' =>
      obtain ⟨l, hl, hr⟩ := ih h' (Nat.lt_of_succ_lt_succ hn)
      exact ⟨a :: l, by simp only [pf, hs, hf, hl, mapOk, Bool.false_eq_true, if_false],
        (resolveAll_cons ts a l _).2 ⟨m, sel, (resolve_iff ts a m).2 hd, hr, rfl⟩⟩

theorem spec_run_iff (ts : List Task) (n : Nat) (ini args sel : List Tok) (hn : args.length < n) :
    bindOk (pf ts false n ini args) (resolveAll ts) = .ok sel ↔ Resolves ts ini args sel :=
  ⟨fun h => let ⟨l, hp, hr⟩ := (bindOk_ok _ _ _).1 h; pf_resolves ts n ini args l sel hp hr,
    fun h => (bindOk_ok _ _ _).2 (resolves_pf n h hn)⟩

theorem mapOk_error (f : List Tok → List Tok) (r : Except Err (List Tok)) (e : Err) :
    mapOk f r = .error e ↔ r = .error e := by
  cases r <;> simp [mapOk]

theorem pf_mem (ts : List Task) (pinned : Bool) (n : Nat) (ini args l : List Tok)
    (h : pf ts pinned n ini args = .ok l) : ∀ x ∈ l, x ∈ args ∨ x ∈ names ts := by
  -- a row that puts `a` in front of what the loop makes of `r`, a part of `rest`
  have cons : ∀ (a : Tok) (rest r l' : List Tok), (∀ x ∈ l', x ∈ r ∨ x ∈ names ts) → (∀ x ∈ r, x ∈ rest) →
      ∀ x ∈ a :: l', x ∈ a :: rest ∨ x ∈ names ts := by
    intro a rest r l' hl hr x hx
    rcases List.mem_cons.1 hx with rfl | hx
    · exact .inl (List.mem_cons_self ..)
    · exact (hl x hx).imp_left (fun h1 => List.mem_cons_of_mem a (hr x h1))
  fun_induction pf ts pinned n ini args generalizing l with
  | case1 => cases h
  | case2 => cases h; intro x hx; cases hx
  | case3 n ini a rest _ ih =>
    obtain ⟨l', hl', rfl⟩ := (mapOk_ok _ _ _).1 h
    intro x hx
    rcases List.mem_append.1 hx with hx | hx
    · exact .inr (wild_sub_names ts a x hx)
    · exact (ih l' hl' x hx).imp_left (List.mem_cons_of_mem a)
  | case4 n ini a rest _ _ ih | case6 n ini a rest _ _ _ _ _ ih =>
    obtain ⟨l', hl', rfl⟩ := (mapOk_ok _ _ _).1 h
    exact cons a rest rest l' (ih l' hl') (fun _ h1 => h1)
  | case5 n ini a rest | case8 n ini a rest =>
    cases h
    exact cons a rest rest [] (fun _ h1 => nomatch h1) (fun _ h1 => h1)
  | case7 => cases h
  | case9 n ini a rest _ _ _ _ rest' hd _ ih =>
    obtain ⟨l', hl', rfl⟩ := (mapOk_ok _ _ _).1 h
    exact cons a rest rest' l' (ih l' hl') (dropOpts_mem _ _ _ hd)

theorem pf_error (ts : List Task) (pinned : Bool) (n : Nat) (ini args : List Tok) (e : Err)
    (h : pf ts pinned n ini args = .error e) : e = .optErr ∨ e = .fuel ∧ n ≤ args.length := by
  fun_induction pf ts pinned n ini args with
  | case1 => cases h; exact .inr ⟨rfl, Nat.zero_le _⟩
  | case2 | case5 | case8 => cases h
  | case7 => cases h; exact .inl rfl
  | case3 n ini a rest _ ih | case4 n ini a rest _ _ ih | case6 n ini a rest _ _ _ _ _ ih =>
    exact (ih ((mapOk_error _ _ _).1 h)).imp_right fun ⟨e, hl⟩ => ⟨e, Nat.succ_le_succ hl⟩
  | case9 n ini a rest _ _ _ _ rest' hd _ ih =>
    exact (ih ((mapOk_error _ _ _).1 h)).imp_right fun ⟨e, hl⟩ =>
      ⟨e, Nat.succ_le_succ (Nat.le_trans hl (dropOpts_length _ _ _ hd))⟩

theorem resolveAll_error (ts : List Task) (l : List Tok) (e : Err) (h : resolveAll ts l = .error e) :
    ∃ a, e = .notFound a ∧ a ∈ l ∧ resolve ts a = none := by
  induction l with
  | nil => cases h
  | cons x l ih =>
    simp only [resolveAll] at h
    cases hr : resolve ts x with
    | none => rw [hr] at h; cases h; exact ⟨x, rfl, List.mem_cons_self .., hr⟩
    | some m =>
      rw [hr] at h
      obtain ⟨a, he, ha, hn⟩ := ih ((mapOk_error _ _ _).1 h)
      exact ⟨a, he, List.mem_cons_of_mem x ha, hn⟩

theorem filterGen_error (ts : List Task) (pinned : Bool) (ini args : List Tok) (e : Err)
    (h : filterGen ts pinned ini args = .error e) :
    e = .optErr ∨ ∃ a l, e = .notFound a ∧ pf ts pinned (args.length + 1) ini args = .ok l ∧ a ∈ l ∧ resolve ts a = none := by
  unfold filterGen at h
  cases hp : pf ts pinned (args.length + 1) ini args with
  | error e' =>
    rw [hp] at h; cases h
    exact (pf_error _ _ _ _ _ _ hp).imp_right fun ⟨_, hl⟩ => absurd hl (Nat.not_succ_le_self _)
  | ok l =>
    rw [hp] at h
    obtain ⟨a, he, ha, hn⟩ := resolveAll_error ts l e h
    exact .inr ⟨a, l, he, rfl, ha, hn⟩

end DoitModel.Sel
