import DoitModel.Model.Inputs
import DoitModel.Proofs.StatusDecision
/-! # helper lemmas of C10 (model `Model/Inputs.lean` over `Model/Status.lean`) -/
namespace DoitModel.Inputs
open DoitModel.Status

theorem select_steps (s : St) (t : Name) : Steps true s (istep s (.select t)) := by
  show Steps true s (if s.crashed then s else selectTask s t)
  cases s.crashed with
  | true => exact .refl s
  | false =>
  unfold selectTask
  cases hst : s.status true t with
  | crash => exact .one (.crash (.status t hst))
  | error => exact .one (.erase t)
  | upToDate => exact .refl s
  | run => exact peek_steps s t

theorem complete_steps (s : St) (t : Name) (ok : Bool) (ws : List (Path × Nat × Nat)) (res : Option Res) :
    Steps true s (istep s (.complete t ok ws res)) := by
  show Steps true s (if s.crashed then s else finish (applyWrites s ws) t ok res)
  cases s.crashed with
  | true => exact .refl s
  | false => exact (applyWrites_steps s ws).trans (finish_steps _ t ok res)

theorem istep_inv {s : St} (op : IOp) (hop : op.faithful = true) (h : Inv s) : Inv (istep s op) := by
  cases op with
  | base o => exact step_inv o hop h
  | select t => exact (select_steps s t).preserves (fun _ _ => Prim.inv) h
  | complete t ok ws res => exact (complete_steps s t ok ws res).preserves (fun _ _ => Prim.inv) h

theorem runI_inv (ops : List IOp) (hf : IFaithful ops = true) : Inv (runI ops) :=
  foldl_preserves (fun _ o => istep_inv o) ops (List.all_eq_true.mp hf) init_inv

theorem runI_snoc (h : List IOp) (o : IOp) : runI (h ++ [o]) = istep (runI h) o := by
  unfold runI; rw [List.foldl_append]; rfl

theorem ifaithful_snoc {h : List IOp} {o : IOp} (hf : IFaithful h = true) (ho : o.faithful = true) :
    IFaithful (h ++ [o]) = true := by
  unfold IFaithful at hf ⊢
  rw [List.all_append, hf, List.all_cons, ho]; rfl

theorem redefine_rcd (s : St) (t : Name) (d : TaskDef) : (istep s (.base (.redefine t d))).rcd = s.rcd := by
  show (if s.crashed then s else _).rcd = s.rcd
  cases s.crashed <;> rfl

theorem redefine_defs {s : St} (hal : s.crashed = false) (t : Name) (d : TaskDef) :
    (istep s (.base (.redefine t d))).defs t = d := by
  show (if s.crashed then s else _).defs t = d
  rw [if_neg (hal ▸ Bool.false_ne_true)]
  exact if_pos rfl

/-- an atomic `run` of the status model is `select` followed at once by `complete` (no `--always-execute`, task not
    ignored, status `run`) -/
theorem run_eq_select_complete (s : St) (t : Name) (ok : Bool) (ws : List (Path × Nat × Nat)) (res : Option Res)
    (hal : s.crashed = false) (hign : (s.rcd t).ign = false) (hst : s.status true t = .run)
    (hp : (peek s t).crashed = false) :
    istep (istep s (.select t)) (.complete t ok ws res) = step true s (.run t ok false ws res) := by
  simp only [istep, hal, Bool.false_eq_true, if_false, selectTask, hst, hp, step, runTask, hign]

theorem executes_cases {s : St} {t : Name} {always : Bool} (h : executes s t always = true) :
    s.status true t = .run ∨ s.status true t = .upToDate := by
  unfold executes at h
  rcases Bool.or_eq_true_iff.mp h with h | h
  · exact Or.inl (beq_iff_eq.mp h)
  · exact Or.inr (beq_iff_eq.mp (Bool.and_eq_true_iff.mp h).2)

theorem needs_cases {s : St} {t : Name} {p : Path} (h : needsAt s t p = true) :
    needsSeenAt s t p = true ∨ ∃ e, s.shadow t = some e ∧ p ∉ e.deps := by
  unfold needsAt needs at h
  unfold needsSeenAt needsSeen
  cases hs : s.shadow t with
  | none => exact Or.inl rfl
  | some e =>
    rw [hs] at h
    dsimp only at h ⊢
    by_cases hm : p ∈ e.deps
    · rw [decide_eq_true hm] at h ⊢
      exact Or.inl h
    · exact Or.inr ⟨e, rfl, hm⟩

variable {c : Checker} {d : TaskDef} {r : Rcd} {fs : FS} {resOf : Name → Option Res}

theorem isEmpty_false_of_mem {α} {l : List α} {x : α} (h : x ∈ l) : l.isEmpty = false := by
  cases l with
  | nil => cases h
  | cons => rfl

theorem mem_depChangedOf {p : Path} (hF : utdFalse r.getValues resOf d.uptodate = false) (hp : p ∈ d.deps)
    (hloop : d.targets.any (depMissing fs) = false → checkerChanged c r = false → depIs .modified c r fs p = true) :
    p ∈ depChangedOf c d r fs resOf := by
  unfold depChangedOf
  rw [if_neg (hF ▸ Bool.false_ne_true), isEmpty_false_of_mem hp, Bool.false_and, if_neg Bool.false_ne_true]
  cases hT : d.targets.any (depMissing fs) with
  | true => exact hp
  | false =>
    cases hC : checkerChanged c r with
    | true => exact hp
    | false => exact List.mem_filter.mpr ⟨hp, hloop hT hC⟩

theorem repaired_superset (c : Checker) (d : TaskDef) (r : Rcd) (fs : FS) (resOf : Name → Option Res) (p : Path)
    (h : p ∈ depChangedOf c d r fs resOf) : p ∈ depChangedRepaired c d r fs resOf := by
  unfold depChangedOf at h
  unfold depChangedRepaired
  by_cases h1 : utdFalse r.getValues resOf d.uptodate = true
  · rw [if_pos h1] at h; cases h
  rw [if_neg h1] at h ⊢
  by_cases h2 : (d.deps.isEmpty && !utdEvaluated r.getValues resOf d.uptodate) = true
  · rw [if_pos h2] at h; cases h
  rw [if_neg h2] at h ⊢
  by_cases h3 : d.targets.any (depMissing fs) = true
  · rw [if_pos h3] at h ⊢; exact h
  rw [if_neg h3] at h ⊢
  by_cases h4 : checkerChanged c r = true
  · rw [if_pos h4] at h ⊢; exact h
  · rw [if_neg h4] at h ⊢
    exact List.mem_filter.mpr ⟨(List.mem_filter.mp h).1, Bool.or_eq_true_iff.mpr (Or.inr (List.mem_filter.mp h).2)⟩

theorem loop_clean {fixed : Bool}
    (ha : statusOf fixed c d r fs resOf = .run ∨ statusOf fixed c d r fs resOf = .upToDate)
    (hE : earlyRun d r.getValues resOf fs = false) (hC : checkerChanged c r = false) :
    d.deps.any (depMissing fs) = false ∧ d.deps.any (depIs .crash c r fs) = false := by
  generalize h : statusOf fixed c d r fs resOf = a at ha
  cases statusOf_spec.of_eq h with
  | early h1 => rw [hE] at h1; cases h1
  | checker _ h2 => rw [hC] at h2; cases h2
  | missing => rcases ha with ha | ha <;> cases ha
  | crash => rcases ha with ha | ha <;> cases ha
  | modified _ _ h3 h4 => exact ⟨h3, h4⟩
  | deps _ _ h3 h4 => exact ⟨h3, h4⟩
  | upToDate _ _ h3 h4 => exact ⟨h3, h4⟩

theorem mod_cases (m : Mod) (h1 : m ≠ .same) (h2 : m ≠ .crash) : m = .modified := by
  cases m with
  | same => exact absurd rfl h1
  | modified => rfl
  | crash => exact absurd rfl h2

/-- the common part of the `changed` lemmas: a file dependency is in `dep_changed` as soon as the loop's verdict on it
    cannot be `same` -/
theorem changed_of_verdict {s : St} (h : Inv s) (t : Name) (p : Path)
    (hF : falseItemAt s t = false)
    (hst : s.status true t = .run ∨ s.status true t = .upToDate)
    (hp : p ∈ (s.defs t).deps)
    (hv : checkerChanged s.checker (s.rcd t) = false → ∀ cur, s.fs p = some cur →
      depVerdict s.checker (s.rcd t) cur p ≠ .same) :
    p ∈ (kwargsOf s t).changed := by
  have hF' : utdFalse (s.rcd t).getValues s.resOf (s.defs t).uptodate = false := by
    rw [getValues_eq_last h, resOf_eq_specRes h]; exact hF
  refine mem_depChangedOf hF' hp fun hT hC => ?_
  have hE : earlyRun (s.defs t) (s.rcd t).getValues s.resOf s.fs = false := by
    unfold earlyRun; rw [hF', hT, isEmpty_false_of_mem hp]; rfl
  obtain ⟨hmiss, hcr⟩ := loop_clean hst hE hC
  obtain ⟨cur, hcur⟩ := exists_of_not_missing hmiss hp
  have hpc := any_false_of hcr hp
  rw [depIs_of_some hcur] at hpc ⊢
  exact beq_iff_eq.mpr (mod_cases _ (hv hC cur hcur) (beq_eq_false_iff_ne.mp hpc))

theorem changed_of_no_state {s : St} (h : Inv s) (t : Name) (p : Path)
    (hF : falseItemAt s t = false)
    (hst : s.status true t = .run ∨ s.status true t = .upToDate)
    (hp : p ∈ (s.defs t).deps) (hn : (s.rcd t).fstate p = none) :
    p ∈ (kwargsOf s t).changed :=
  changed_of_verdict h t p hF hst hp fun _ cur _ hv => by
    unfold depVerdict at hv; rw [hn] at hv; cases hv

theorem changed_of_needsSeen {s : St} (h : Inv s) (t : Name) (p : Path)
    (hF : falseItemAt s t = false)
    (hst : s.status true t = .run ∨ s.status true t = .upToDate)
    (hp : p ∈ (s.defs t).deps) (hn : needsSeenAt s t p = true) :
    p ∈ (kwargsOf s t).changed := by
  have hag := h.agree t
  unfold needsSeenAt needsSeen at hn
  cases hs : s.shadow t with
  | none =>
    rw [hs] at hag
    exact changed_of_no_state h t p hF hst hp (hag.2.2.2.2 p)
  | some e =>
    rw [hs] at hag hn
    have hn := Bool.and_eq_true_iff.mp hn
    refine changed_of_verdict h t p hF hst hp fun hC cur hcur hv => ?_
    have hc : e.checker = s.checker := by
      unfold checkerChanged at hC; rw [hag.2.2.1] at hC; exact Decidable.not_not.mp (of_decide_eq_false hC)
    rw [(depVerdict_same_iff hag hc (of_decide_eq_true hn.1) hcur).mp hv] at hn
    cases hn.2

/-- the loop tests `dep not in previous_set` (`notSaved`) before it compares (fix commit faa294a,
    findings/resolved/C10-readded-dep-stale-state.md; the loop before it is `Status.depIsPinned`), so stale state does
    not hide a dependency the last recorded execution did not have -/
theorem changed_of_new_dep {s : St} (h : Inv s) (t : Name) (p : Path) (e : Exec)
    (hF : falseItemAt s t = false) (hst : s.status true t = .run ∨ s.status true t = .upToDate)
    (hp : p ∈ (s.defs t).deps) (hs : s.shadow t = some e) (hn : p ∉ e.deps) :
    p ∈ (kwargsOf s t).changed := by
  have hag := h.agree t
  rw [hs] at hag
  have hns : notSaved (s.rcd t) p = true := by
    unfold notSaved; rw [hag.2.2.2.1]; exact (Bool.not_eq_true' _).mpr (decide_eq_false hn)
  refine changed_of_verdict h t p hF hst hp fun _ cur _ hv => ?_
  unfold depVerdict at hv
  cases hfs : (s.rcd t).fstate p with
  | none => rw [hfs] at hv; cases hv
  | some st => rw [hfs] at hv; dsimp only at hv; rw [if_pos hns] at hv; cases hv

theorem needed_not_uptodate {s : St} (h : Inv s) (t : Name) (p : Path)
    (hp : p ∈ (s.defs t).deps) (hn : needsAt s t p = true) : s.status true t ≠ .upToDate := by
  intro hst
  have hspec := (decision_eq_spec h t).mp hst
  unfold needsAt needs at hn
  unfold St.spec at hspec
  cases hs : s.shadow t with
  | none =>
    rw [hs, specUpToDate_none] at hspec
    rw [hspec.2] at hp
    cases hp
  | some e =>
    rw [hs] at hn
    rw [hs, specUpToDate_some] at hspec
    obtain ⟨_, _, hss, hall⟩ := hspec
    rcases Bool.or_eq_true_iff.mp hn with hn | hn
    · exact of_decide_eq_false ((Bool.not_eq_true' _).mp hn) (sameSet_mem hss hp)
    · rw [hall p hp] at hn; cases hn

theorem mem_addDeps (base delivered : List Path) (p : Path) :
    p ∈ addDeps base delivered ↔ p ∈ base ∨ p ∈ delivered := by
  unfold addDeps
  simp only [List.mem_append, List.mem_eraseDups, List.mem_filter, Bool.not_eq_true', decide_eq_false_iff_not]
  constructor
  · rintro (h | ⟨h, _⟩)
    · exact Or.inl h
    · exact Or.inr h
  · rintro (h | h)
    · exact Or.inl h
    · by_cases hb : p ∈ base
      · exact Or.inl hb
      · exact Or.inr ⟨h, hb⟩

theorem latest_append_single (rev : List VOp) (k : Name) (o : VOp) (db : VDB) (h : db k = latest rev k) :
    vstep db o k = latest (o :: rev) k := by
  cases o with
  | save t v => show (if k = t then some v else db k) = if k = t then some v else latest rev k; rw [h]
  | remove t => show (if k = t then none else db k) = if k = t then none else latest rev k; rw [h]
  | other => exact h

theorem vfoldl_latest (ops : List VOp) (db : VDB) (rev : List VOp) (h : ∀ k, db k = latest rev k) :
    ∀ k, ops.foldl vstep db k = latest (ops.reverse ++ rev) k := by
  induction ops generalizing db rev with
  | nil => simpa using h
  | cons o os ih =>
    intro k
    simp only [List.foldl_cons, List.reverse_cons, List.append_assoc, List.singleton_append]
    exact ih (vstep db o) (o :: rev) (fun k => latest_append_single rev k o db (h k)) k

theorem vrun_eq_latest (ops : List VOp) : vrun ops = latest ops.reverse := by
  funext k
  have := vfoldl_latest ops (fun _ => none) [] (fun k => by simp [latest]) k
  simpa [vrun] using this

end DoitModel.Inputs
