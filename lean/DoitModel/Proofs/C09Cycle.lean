import DoitModel.Proofs.C09OrdF
import DoitModel.Proofs.RunAcct
import DoitModel.Model.RunC09
import DoitModel.Proofs.RunMonFast
import DoitModel.Proofs.RunFuel
/-! # C09 — from the order of terminal reports to the monitor's closure graph: a task with a terminal report lies on
    no cycle of `edgesAt`; at a normal end every member of `closureC09` has a terminal report -/
namespace DoitModel.Run

variable {inp : RunInput}

theorem mem_addNew_nil {xs : List Name} {x : Name} : x ∈ addNew [] xs ↔ x ∈ xs :=
  ⟨fun h => ((mem_addNew _ _).mp h).resolve_left List.not_mem_nil, fun h => (mem_addNew _ _).mpr (Or.inr h)⟩

theorem reachIter_closed {succ : Name → List Name} (P : Name → Prop) (hstep : ∀ x, P x → ∀ y ∈ succ x, P y) :
    ∀ (k : Nat) (acc : List Name), (∀ x ∈ acc, P x) → ∀ x ∈ reachIterC09 succ k acc, P x := by
  intro k
  induction k with
  | zero => intro acc h x hx; exact h x hx
  | succ k ih =>
    intro acc h x hx
    simp only [reachIterC09] at hx
    refine ih _ ?_ x hx
    intro y hy
    rcases (mem_addNew _ _).mp hy with a | a
    · exact h y a
    · obtain ⟨z, hz, hyz⟩ := List.mem_flatMap.mp a
      exact hstep z (h z hz) y hyz

theorem foldl_addNew_closed {E : Name → List Name} (P : Name → Prop) (hstep : ∀ x, P x → ∀ y ∈ E x, P y) :
    ∀ (l acc : List Name), (∀ x ∈ acc, P x) → (∀ x ∈ l, P x) →
      ∀ x ∈ l.foldl (fun acc t => addNew acc (E t)) acc, P x := by
  intro l
  induction l with
  | nil => intro acc h _ x hx; exact h x hx
  | cons t ts ih =>
    intro acc h hl x hx
    simp only [List.foldl_cons] at hx
    refine ih _ ?_ (fun y hy => hl y (by simp [hy])) x hx
    intro y hy
    rcases (mem_addNew _ _).mp hy with a | a
    · exact h y a
    · exact hstep t (hl t (by simp)) y a

theorem closureGo_closed {succ : Name → List Name} (P : Name → Prop) (hstep : ∀ x, P x → ∀ y ∈ succ x, P y) :
    ∀ (fuel : Nat) (todo acc : List Name), (∀ x ∈ todo, P x) → (∀ x ∈ acc, P x) →
      ∀ x ∈ closureGo succ fuel todo acc, P x := by
  intro fuel
  induction fuel with
  | zero => intro todo acc _ h x hx; simp only [closureGo] at hx; exact h x hx
  | succ k ih =>
    intro todo acc ht h x hx
    cases todo with
    | nil => simp only [closureGo] at hx; exact h x hx
    | cons t todo =>
      simp only [closureGo] at hx
      have hnew : ∀ y ∈ (addNew [] (succ t)).filter (fun d => d ∉ acc), P y := fun y hy =>
        hstep t (ht t List.mem_cons_self) y (mem_addNew_nil.mp (List.mem_filter.mp hy).1)
      refine ih _ _ ?_ ?_ x hx
      · intro y hy
        rcases List.mem_append.mp hy with e | e
        · exact ht y (by simp [e])
        · exact hnew y e
      · intro y hy
        rcases List.mem_append.mp hy with e | e
        · exact h y e
        · exact hnew y e

theorem finishedIn_trace {s : Sys} {x : Name} (h : finishedIn (trace inp s) x = true) :
    Ev.success x ∈ s.events ∨ Ev.skipUtd x ∈ s.events := by
  unfold finishedIn trace at h
  simp only [List.any_eq_true, List.mem_reverse, List.mem_filter] at h
  obtain ⟨e, ⟨he, _⟩, hf⟩ := h
  cases e <;> simp [Ev.isFinishOf] at hf
  · subst hf; exact Or.inr he
  · subst hf; exact Or.inl he

theorem trace_finishedIn {s : Sys} {x : Name} (h : Ev.success x ∈ s.events ∨ Ev.skipUtd x ∈ s.events) :
    finishedIn (trace inp s) x = true := by
  unfold finishedIn trace
  simp only [List.any_eq_true, List.mem_reverse, List.mem_filter]
  rcases h with a | a
  · exact ⟨_, ⟨a, by simp [hidden]⟩, by simp [Ev.isFinishOf]⟩
  · exact ⟨_, ⟨a, by simp [hidden]⟩, by simp [Ev.isFinishOf]⟩

theorem finishedIn_good {s : Sys} (hT : InvT inp s) {x : Name} (h : finishedIn (trace inp s) x = true) :
    (stOf s x).good = true := hT.ev x (finishedIn_trace h)

theorem good_finishedIn {s : Sys} (h2 : Inv2 inp s) {x : Name} (h : (stOf s x).good = true) :
    finishedIn (trace inp s) x = true := by
  apply trace_finishedIn
  rcases good_finBefore h2 h with a | a
  · exact Or.inl a
  · exact Or.inr a

theorem calcsAt_calcG {σ : Name → RS} {tr : List Ev} {n : Name} (hfin : ∀ x, finishedIn tr x = true → (σ x).good = true) :
    ∀ (k : Nat) (cs : List Name), (∀ c ∈ cs, CalcG inp σ n c) → ∀ c ∈ calcsAt inp tr k cs, CalcG inp σ n c := by
  intro k
  induction k with
  | zero => intro cs h c hc; exact h c hc
  | succ k ih =>
    intro cs h c hc
    simp only [calcsAt] at hc
    refine ih _ ?_ c hc
    intro y hy
    rcases (mem_addNew _ _).mp hy with a | a
    · exact h y a
    · simp only [List.mem_flatMap, List.mem_filter] at a
      obtain ⟨p, ⟨hp, hf⟩, hyp⟩ := a
      exact .res (h p hp) (hfin p hf) hyp

/-- the fuel `nTasks` suffices for the fixed point of `calcsAt` (it does when names are below `nTasks`: `calcsSat_of_bounded`) -/
def CalcsSat (inp : RunInput) (nTasks : Nat) (tr : List Ev) : Prop :=
  ∀ n, ∀ c ∈ calcsAt inp tr nTasks (inp.calcDep n), finishedIn tr c = true →
    ∀ x ∈ (inp.calcRes c).calcs, x ∈ calcsAt inp tr nTasks (inp.calcDep n)

theorem calcG_calcsAt {σ : Name → RS} {tr : List Ev} {nTasks : Nat} (hsat : CalcsSat inp nTasks tr)
    (hgood : ∀ x, (σ x).good = true → finishedIn tr x = true) {n c : Name} (h : CalcG inp σ n c) :
    c ∈ calcsAt inp tr nTasks (inp.calcDep n) := by
  induction h with
  | base h => exact calcsAt_ext _ _ _ _ _ h
  | res _ hg hc ih => exact hsat n _ ih (hgood _ hg) _ hc

/-- the first-stage dependencies as the monitors compute them: the first three parts of `edgesAtGood` and of `depsAt`, and what
    `ranFirst` asks to be finished -/
def stageAt (inp : RunInput) (nTasks : Nat) (tr : List Ev) (t : Name) : List Name :=
  inp.taskDep t ++ calcsAt inp tr nTasks (inp.calcDep t) ++
    (((calcsAt inp tr nTasks (inp.calcDep t)).filter (finishedIn tr)).flatMap fun c =>
      (inp.calcRes c).tasks ++ (inp.calcRes c).files)

def stageAtF (inp : RunInput) (nTasks : Nat) (tr : List Ev) (t : Name) : List Name :=
  inp.taskDep t ++ calcsRun inp nTasks tr t ++ deliveredAt inp nTasks tr t

theorem edgesAt_eq (nTasks : Nat) (tr : List Ev) (t : Name) :
    edgesAt inp nTasks tr t = stageAtF inp nTasks tr t ++ (if ranFirst inp nTasks tr t then inp.setup t else []) := rfl

/-- what the monitor's `resAt` reads off the trace, in terms of the statuses: the result of an executed / up-to-date
    calc task, or the values of one that failed and satisfies `P`, or nothing -/
def ResOK (inp : RunInput) (σ : Name → RS) (P : Name → Prop) (tr : List Ev) : Prop :=
  ∀ c, (resAt inp tr c = inp.calcRes c ∧ (σ c).good = true) ∨
    (resAt inp tr c = inp.calcResFail c ∧ σ c = .fail ∧ P c) ∨
    ((resAt inp tr c).calcs = [] ∧ (resAt inp tr c).tasks = [] ∧ (resAt inp tr c).files = [])

theorem calcsAtF_calcH {σ : Name → RS} {P : Name → Prop} {tr : List Ev} {n : Name} (hres : ResOK inp σ P tr) :
    ∀ (k : Nat) (cs : List Name), (∀ c ∈ cs, CalcH inp σ P n c) → ∀ c ∈ calcsAtF inp tr k cs, CalcH inp σ P n c := by
  intro k
  induction k with
  | zero => intro cs h c hc; exact h c hc
  | succ k ih =>
    intro cs h c hc
    simp only [calcsAtF] at hc
    refine ih _ ?_ c hc
    intro y hy
    rcases (mem_addNew _ _).mp hy with a | a
    · exact h y a
    · obtain ⟨p, hp, hyp⟩ := List.mem_flatMap.mp a
      rcases hres p with ⟨e, g⟩ | ⟨e, f, hP⟩ | ⟨e, _, _⟩
      · rw [e] at hyp; exact .res (h p hp) g hyp
      · rw [e] at hyp; exact .resF (h p hp) f hP hyp
      · rw [e] at hyp; cases hyp

theorem stageAtF_stageH {σ : Name → RS} {P : Name → Prop} {tr : List Ev} {nTasks : Nat} {n d : Name}
    (hres : ResOK inp σ P tr) (h : d ∈ stageAtF inp nTasks tr n) : StageH inp σ P n d := by
  have hc := calcsAtF_calcH (inp := inp) (n := n) hres nTasks (inp.calcDep n) (fun c hc => .base hc)
  simp only [stageAtF, calcsRun, deliveredAt, calcsAtQ_eq, List.mem_append, List.mem_flatMap] at h
  rcases h with (a | a) | ⟨p, hp, hd⟩
  · exact Or.inl a
  · exact Or.inr (Or.inl (hc d a))
  · rcases hres p with ⟨e, g⟩ | ⟨e, f, hP⟩ | ⟨_, e1, e2⟩
    · rw [e] at hd; exact Or.inr (Or.inr ⟨p, hc p hp, Or.inl ⟨g, hd⟩⟩)
    · rw [e] at hd; exact Or.inr (Or.inr ⟨p, hc p hp, Or.inr ⟨f, hP, hd⟩⟩)
    · rw [e1, e2] at hd; rcases hd with hd | hd <;> cases hd

theorem stageAt_stageG {σ : Name → RS} {tr : List Ev} {nTasks : Nat} {n d : Name}
    (hfin : ∀ x, finishedIn tr x = true → (σ x).good = true) (h : d ∈ stageAt inp nTasks tr n) :
    StageG inp σ n d := by
  have hc := calcsAt_calcG (inp := inp) (n := n) hfin nTasks (inp.calcDep n) (fun c hc => .base hc)
  simp only [stageAt, List.mem_append, List.mem_flatMap, List.mem_filter] at h
  rcases h with (a | a) | ⟨p, ⟨hp, hf⟩, hd⟩
  · exact Or.inl a
  · exact Or.inr (Or.inl (hc d a))
  · exact Or.inr (Or.inr ⟨p, hc p hp, hfin p hf, hd⟩)

theorem stageG_stageAt {σ : Name → RS} {tr : List Ev} {nTasks : Nat} {n d : Name} (hsat : CalcsSat inp nTasks tr)
    (hgood : ∀ x, (σ x).good = true → finishedIn tr x = true) (h : StageG inp σ n d) :
    d ∈ stageAt inp nTasks tr n := by
  simp only [stageAt, List.mem_append, List.mem_flatMap, List.mem_filter]
  rcases h with a | a | ⟨p, a, b, c⟩
  · exact Or.inl (Or.inl a)
  · exact Or.inl (Or.inr (calcG_calcsAt hsat hgood a))
  · exact Or.inr ⟨p, ⟨calcG_calcsAt hsat hgood a, hgood p b⟩, c⟩

theorem ranFirst_runFirstG {σ : Name → RS} {tr : List Ev} {nTasks : Nat} {n : Name} (hsat : CalcsSat inp nTasks tr)
    (hfin : ∀ x, finishedIn tr x = true → (σ x).good = true)
    (hgood : ∀ x, (σ x).good = true → finishedIn tr x = true) (h : ranFirst inp nTasks tr n = true) :
    RunFirstG inp σ n := by
  unfold ranFirst at h
  simp only [Bool.and_eq_true, Bool.not_eq_true', bne_iff_ne, ne_eq, beq_iff_eq, List.all_eq_true] at h
  obtain ⟨⟨⟨h1, h2⟩, h3⟩, h4⟩ := h
  refine ⟨h1, h2, h3, ?_⟩
  intro x hx
  exact hfin x (h4 x (stageG_stageAt hsat hgood hx))

/-- what this file uses of a reachable state: the order of the terminal reports (`InvT`, `InvTF`: along failed deliveries
    too), `InvDen` of C08 (a failed task has a start event iff it failed during its execution), and `Inv2`, `Inv3`, `InvG`
    (reports and statuses agree; a start comes after the reports of `depsAt`) -/
structure CtxC (inp : RunInput) (s : Sys) : Prop where
  hT : InvT inp s
  hTF : InvTF inp (Dyn.SF inp) s
  h2 : Inv2 inp s
  h3 : Inv3 inp s
  hG : InvG inp s
  hD : Dyn.InvDen inp s

theorem reach_ctxC {s : Sys} (h : Reach inp s) : CtxC inp s :=
  ⟨reach_invT h, reach_invTF h, reach_inv2 h, reach_inv3 h, reach_invG h, Dyn.reach_invDen h⟩

theorem preach_ctxC {s : Sys} (h : PReach inp s) : CtxC inp s :=
  ⟨preach_invT h, preach_invTF h, (preach_inv h).1, (preach_inv h).2, preach_invG h, Dyn.preach_invDen h⟩

theorem ctxC_of {s : Sys} (h : Reach inp s ∨ PReach inp s) : CtxC inp s := h.elim reach_ctxC preach_ctxC

theorem failure_fail {s : Sys} (h3 : Inv3 inp s) (hD : Dyn.InvDen inp s) {x : Name} {k : FailKind} (he : Ev.failure x k ∈ s.events) :
    stOf s x = .fail := by
  have hfin : (stOf s x).finished = true := by
    cases hf : (stOf s x).finished with
    | true => rfl
    | false =>
      have h0 := fstTerm_none_of_cTerm (h3.t x hf)
      obtain ⟨b, hb⟩ := fstTerm_some_of_mem he (show Ev.isTerminalOf x (Ev.failure x k) = true by simp [Ev.isTerminalOf])
      rw [h0] at hb; cases hb
  obtain ⟨d, hd, hrs⟩ := hD.fin x hfin
  have hk := (hD.rep x).2.2.2 k he
  have e : d = .fail k := hd.functional hk
  rw [← hrs, e]; rfl

theorem failedRunIn_trace {s : Sys} (h3 : Inv3 inp s) (hD : Dyn.InvDen inp s) {x : Name} (h : failedRunIn (trace inp s) x = true) :
    stOf s x = .fail ∧ Dyn.SF inp x := by
  unfold failedRunIn trace at h
  simp only [Bool.and_eq_true, List.any_eq_true, List.mem_reverse, List.mem_filter] at h
  obtain ⟨⟨e1, ⟨he1, _⟩, hs⟩, ⟨e2, ⟨he2, _⟩, hf⟩⟩ := h
  have hfail : stOf s x = .fail := by
    cases e2 <;> simp [Ev.isFailRepOf] at hf
    subst hf; exact failure_fail h3 hD he2
  have hst : started s x = true := by
    unfold started
    rw [List.any_eq_true]
    refine ⟨e1, he1, ?_⟩
    cases e1 <;> simp [Ev.isStartOf] at hs ⊢
    exact hs
  exact ⟨hfail, (hD.started_iff h3 x hfail).mp hst⟩

theorem resOK_trace {s : Sys} (c : CtxC inp s) : ResOK inp (stOf s) (Dyn.SF inp) (trace inp s) := by
  intro x
  unfold resAt
  by_cases h1 : finishedIn (trace inp s) x = true
  · exact Or.inl ⟨by simp [h1], finishedIn_good c.hT h1⟩
  · by_cases h2 : failedRunIn (trace inp s) x = true
    · exact Or.inr (Or.inl ⟨by simp [h1, h2], failedRunIn_trace c.h3 c.hD h2⟩)
    · exact Or.inr (Or.inr (by simp [h1, h2]))

/-- The core: an edge of the closure graph leads to an older terminal report.  For the first three parts of `edgesAt`
    whatever the monitor finds the run has determined too (`stageAtF_stageH`), whatever the fuel.  The setup edges are
    there when `ranFirst` says that ALL first-stage dependencies are finished; only with enough fuel (`hsat`) does it
    know all of them (`ranFirst_runFirstG`); with too little it adds setup edges that the run never had.  `ranFirst`
    follows the deliveries of executed / up-to-date calc_deps only, hence `CalcsSat` and `BoundedCalc` speak of
    `calcRes` and not of `calcResFail`. -/
theorem edge_older {s : Sys} (c : CtxC inp s) {nTasks : Nat}
    (hsat : CalcsSat inp nTasks (trace inp s)) {t : Name} {a : Nat} (ha : fstTerm s.events t = some a) :
    ∀ d ∈ edgesAt inp nTasks (trace inp s) t, ∃ b, fstTerm s.events d = some b ∧ b < a := by
  intro d hd
  rw [edgesAt_eq] at hd
  rcases List.mem_append.mp hd with x | x
  · exact c.hTF t a ha d (stageAtF_stageH (resOK_trace c) x)
  · by_cases hrf : ranFirst inp nTasks (trace inp s) t = true
    · rw [if_pos hrf] at x
      exact c.hT.g2 t a ha
        (ranFirst_runFirstG hsat (fun y hy => finishedIn_good c.hT hy) (fun y hy => good_finishedIn c.h2 hy) hrf) d x
    · rw [if_neg hrf] at x; cases x

theorem onCycle_closed {nTasks : Nat} {tr : List Ev} {t : Name} (P : Name → Prop)
    (hstep : ∀ x, P x → ∀ y ∈ edgesAt inp nTasks tr x, P y) (h0 : ∀ y ∈ edgesAt inp nTasks tr t, P y)
    (hc : onCycle inp nTasks tr t = true) : P t := by
  unfold onCycle onCycleOf at hc
  have hstart : ∀ x ∈ addNew [] (edgesAt inp nTasks tr t), P x := fun x hx => h0 x (mem_addNew_nil.mp hx)
  exact closureGo_closed P hstep _ _ _ hstart hstart t (of_decide_eq_true hc)

/-- its own report would be older than itself -/
theorem reported_not_onCycle {s : Sys} (c : CtxC inp s) {nTasks : Nat}
    (hsat : CalcsSat inp nTasks (trace inp s)) {t : Name} {a : Nat} (ha : fstTerm s.events t = some a) :
    onCycle inp nTasks (trace inp s) t = false := by
  cases hc : onCycle inp nTasks (trace inp s) t with
  | false => rfl
  | true =>
    obtain ⟨b, hb, hlt⟩ := onCycle_closed (fun x => ∃ b, fstTerm s.events x = some b ∧ b < a)
      (fun x ⟨b, hb, hlt⟩ y hy => by
        obtain ⟨b', hb', hlt'⟩ := edge_older c hsat hb y hy
        exact ⟨b', hb', Nat.lt_trans hlt' hlt⟩)
      (edge_older c hsat ha) hc
    rw [ha] at hb; cases hb; exact absurd hlt (Nat.lt_irrefl _)

theorem reported_closed {s : Sys} (c : CtxC inp s) {nTasks : Nat}
    (hsat : CalcsSat inp nTasks (trace inp s)) :
    ∀ x, (∃ a, fstTerm s.events x = some a) → ∀ y ∈ edgesAt inp nTasks (trace inp s) x,
      ∃ a, fstTerm s.events y = some a := by
  rintro x ⟨a, ha⟩ y hy
  obtain ⟨b, hb, _⟩ := edge_older c hsat ha y hy
  exact ⟨b, hb⟩

theorem closure_reported {s : Sys} (c : CtxC inp s) {nTasks : Nat}
    (hsat : CalcsSat inp nTasks (trace inp s)) (hsel : ∀ t ∈ inp.sel, ∃ a, fstTerm s.events t = some a) :
    ∀ t ∈ closureC09 inp nTasks (trace inp s), ∃ a, fstTerm s.events t = some a := by
  have hstart : ∀ x ∈ addNew [] inp.sel, ∃ a, fstTerm s.events x = some a :=
    fun x hx => hsel x (mem_addNew_nil.mp hx)
  unfold closureC09
  exact closureGo_closed _ (reported_closed c hsat) _ _ _ hstart hstart

theorem stageAt_sub_depsAt {nTasks : Nat} {tr : List Ev} {t x : Name} (hx : x ∈ stageAt inp nTasks tr t) :
    x ∈ depsAt inp nTasks tr t := by
  simp only [stageAt, depsAt, List.mem_append] at hx ⊢
  rcases hx with (a | a) | a
  · exact Or.inl (Or.inl (Or.inl a))
  · exact Or.inl (Or.inr a)
  · exact Or.inr a

theorem started_edges_reported {s : Sys} (c : CtxC inp s) {nTasks : Nat}
    (hsat : CalcsSat inp nTasks (trace inp s)) {t w : Nat} (hs : Ev.start t w ∈ s.events) :
    ∀ d ∈ edgesAt inp nTasks (trace inp s) t, ∃ a, fstTerm s.events d = some a := by
  obtain ⟨pre, post, he⟩ := List.append_of_mem hs
  have hd := start_after_depsAt c.h2 c.hG he nTasks (trace inp s)
  have fin : ∀ d ∈ depsAt inp nTasks (trace inp s) t, finBefore s.events d :=
    fun d hin => finBefore_mono (fun e he' => by rw [he]; simp [he']) (hd d hin)
  have hgood : ∀ p, CalcG inp (stOf s) t p → (stOf s p).good = true := fun p hp =>
    c.hT.ev p (fin p (stageAt_sub_depsAt
      (stageG_stageAt hsat (fun y hy => good_finishedIn c.h2 hy) (Or.inr (Or.inl hp)))))
  intro d hmem
  refine finBefore_fstTerm (fin d ?_)
  rw [edgesAt_eq] at hmem
  rcases List.mem_append.mp hmem with a | a
  · exact stageAt_sub_depsAt (stageG_stageAt hsat (fun y hy => good_finishedIn c.h2 hy)
      ((stageAtF_stageH (resOK_trace c) a).toG hgood))
  · by_cases hrf : ranFirst inp nTasks (trace inp s) t = true
    · rw [if_pos hrf] at a
      simp only [depsAt, List.mem_append]; exact Or.inl (Or.inl (Or.inr a))
    · rw [if_neg hrf] at a; cases a

theorem onCycle_never_started {s : Sys} (c : CtxC inp s) {nTasks : Nat}
    (hsat : CalcsSat inp nTasks (trace inp s)) {t : Name} (hc : onCycle inp nTasks (trace inp s) t = true) :
    s.events.countP (Ev.isStartOf t) = 0 := by
  apply Classical.byContradiction
  intro hne
  have hpos : 0 < s.events.countP (Ev.isStartOf t) := by omega
  obtain ⟨e, he, hp⟩ := List.countP_pos_iff.mp hpos
  cases e with
  | start m w =>
    have hm : m = t := by simpa [Ev.isStartOf] using hp
    subst hm
    obtain ⟨a, ha⟩ := onCycle_closed (fun x => ∃ a, fstTerm s.events x = some a) (reported_closed c hsat)
      (started_edges_reported c hsat he) hc
    rw [reported_not_onCycle c hsat ha] at hc; cases hc
  | _ => simp [Ev.isStartOf] at hp

theorem cycleTasks_nil {s : Sys} (c : CtxC inp s) {nTasks : Nat}
    (hsat : CalcsSat inp nTasks (trace inp s)) (hsel : ∀ t ∈ inp.sel, ∃ a, fstTerm s.events t = some a) :
    cycleTasks inp nTasks (trace inp s) = [] := by
  apply List.eq_nil_iff_forall_not_mem.mpr
  intro t ht
  unfold cycleTasks at ht
  obtain ⟨h1, h3⟩ := List.mem_filter.mp ht
  obtain ⟨a, ha⟩ := closure_reported c hsat hsel t h1
  rw [reported_not_onCycle c hsat ha] at h3; cases h3

theorem cycle_diagnosed {s : Sys} (c : CtxC inp s) (nTasks : Nat) (hsat : CalcsSat inp nTasks (trace inp s))
    (hsel : s.rpc = .halted → s.halt = .none → s.stop = false → ∀ t ∈ inp.sel, ∃ a, fstTerm s.events t = some a) :
    (s.rpc = .halted → s.halt = .none → s.stop = false → cycleTasks inp nTasks (trace inp s) = []) ∧
    (∀ t ∈ cycleTasks inp nTasks (trace inp s), s.events.countP (Ev.isStartOf t) = 0) :=
  ⟨fun hh hhalt hstop => cycleTasks_nil c hsat (hsel hh hhalt hstop),
   fun _ ht => onCycle_never_started c hsat (List.mem_filter.mp ht).2⟩

theorem cycle_diagnosed_serial {s : Sys} (hr : Reach inp s) (nTasks : Nat)
    (hsat : CalcsSat inp nTasks (trace inp s)) :
    (s.rpc = .halted → s.halt = .none → s.stop = false → cycleTasks inp nTasks (trace inp s) = []) ∧
    (∀ t ∈ cycleTasks inp nTasks (trace inp s), s.events.countP (Ev.isStartOf t) = 0) :=
  cycle_diagnosed (reach_ctxC hr) nTasks hsat fun hh hhalt hstop t ht => fstTerm_some_of_cTerm (by
    have := all_processed_serial hr hh hhalt hstop t (RunCl.ofSel ht); omega)

theorem cycle_diagnosed_parallel {s : Sys} (hr : PReach inp s) (nTasks : Nat)
    (hsat : CalcsSat inp nTasks (trace inp s)) :
    (s.rpc = .halted → s.halt = .none → s.stop = false → cycleTasks inp nTasks (trace inp s) = []) ∧
    (∀ t ∈ cycleTasks inp nTasks (trace inp s), s.events.countP (Ev.isStartOf t) = 0) :=
  cycle_diagnosed (preach_ctxC hr) nTasks hsat fun hh hhalt hstop t ht => fstTerm_some_of_cTerm (by
    have := all_processed_parallel hr hh hhalt hstop t (RunCl.ofSel ht); omega)

theorem lookupSucc_table (succ : Name → List Name) (n : Nat) : lookupSucc (edgeTable succ n) succ = succ := by
  funext x
  unfold lookupSucc edgeTable
  split
  · simp
  · rfl

theorem cycleTasksFast_eq (inp : RunInput) (nTasks : Nat) (tr : List Ev) :
    cycleTasksFast inp nTasks tr = cycleTasks inp nTasks tr := by
  unfold cycleTasksFast cycleTasks closureC09 onCycle
  simp only [lookupSucc_table]

theorem monC09On_eq (inp : RunInput) (nTasks : Nat) (tr : List Ev) (o : C09Obs) :
    monC09On (cycleTasksFast inp nTasks tr) inp tr o = monC09 inp nTasks tr o := by
  rw [cycleTasksFast_eq]; rfl

/-- every calc_dep name — listed or delivered — is a task index below `nTasks` -/
def BoundedCalc (inp : RunInput) (nTasks : Nat) : Prop :=
  ∀ t, (∀ c ∈ inp.calcDep t, c < nTasks) ∧ (∀ x ∈ (inp.calcRes t).calcs, x < nTasks)

theorem calcsSat_of_bounded {nTasks : Nat} (hb : BoundedCalc inp nTasks) (tr : List Ev) : CalcsSat inp nTasks tr :=
  fun n _ hc hf _ hx => calcsAt_closed_of (fun t _ => (hb t).2) tr (hb n).1 hc hf hx

end DoitModel.Run
