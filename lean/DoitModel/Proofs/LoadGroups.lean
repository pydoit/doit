import DoitModel.Proofs.LoadAccept
/-! the group invariant of `_generate_task_from_yield`: every sub-task is attached to its group task, which depends
    on the sub-tasks in yield order.  Every yield keeps it (no yield replaces a task the generator already defined);
    it gives `GroupsWF` for one generator, and disjoint names carry that to the loaded task list -/
namespace DoitModel.Load

/-- names of the sub-tasks of `b` in list order -/
def subsIn (b : Name) (l : List Task) : List Name := (l.filter (fun t => t.subtaskOf == some b)).map (·.name)

def vals (tk : Tasks) : List Task := tk.map (·.2)

theorem lookup_mem (tk : Tasks) (k : Name) (t : Task) (h : lookup tk k = some t) : (k, t) ∈ tk := by
  induction tk with
  | nil => cases h
  | cons p rest ih =>
    obtain ⟨k', t'⟩ := p
    rw [lookup] at h
    by_cases hk : k' = k
    · rw [if_pos hk] at h; cases h; subst hk; exact List.mem_cons_self
    · rw [if_neg hk] at h; exact List.mem_cons_of_mem _ (ih h)

theorem lookup_insert_self (tk : Tasks) (k : Name) (t : Task) : lookup (insert tk k t) k = some t := by
  induction tk with
  | nil => rw [insert, lookup, if_pos rfl]
  | cons p rest ih =>
    obtain ⟨k', t'⟩ := p
    rw [insert]
    by_cases hk : k' = k
    · rw [if_pos hk, lookup, if_pos rfl]
    · rw [if_neg hk, lookup, if_neg hk, ih]

theorem lookup_insert_ne (tk : Tasks) (k k' : Name) (t : Task) (h : k' ≠ k) :
    lookup (insert tk k t) k' = lookup tk k' := by
  induction tk with
  | nil => exact if_neg h.symm
  | cons p rest ih =>
    obtain ⟨k2, t2⟩ := p
    rw [insert]
    by_cases hk : k2 = k
    · rw [if_pos hk, lookup, if_neg h.symm, lookup, if_neg (hk ▸ h.symm)]
    · rw [if_neg hk, lookup, lookup, ih]

theorem forall_mem_insert {P : Name × Task → Prop} (tk : Tasks) (k : Name) (t : Task) (hold : ∀ p ∈ tk, P p)
    (hnew : P (k, t)) : ∀ p ∈ insert tk k t, P p := by
  induction tk with
  | nil => exact List.forall_mem_singleton.mpr hnew
  | cons q rest ih =>
    obtain ⟨k2, t2⟩ := q
    have hrest := fun p hp => hold p (List.mem_cons_of_mem _ hp)
    rw [insert]
    by_cases hk : k2 = k
    · rw [if_pos hk]; exact List.forall_mem_cons.mpr ⟨hnew, hrest⟩
    · rw [if_neg hk]; exact List.forall_mem_cons.mpr ⟨hold _ List.mem_cons_self, ih hrest⟩

theorem vals_cons (k : Name) (t : Task) (tk : Tasks) : vals ((k, t) :: tk) = t :: vals tk := rfl

theorem subsIn_cons (b : Name) (t : Task) (l : List Task) :
    subsIn b (t :: l) = (if t.subtaskOf = some b then [t.name] else []) ++ subsIn b l := by
  unfold subsIn
  rw [List.filter_cons]
  by_cases h : t.subtaskOf = some b
  · rw [if_pos h, if_pos (beq_iff_eq.mpr h)]; rfl
  · rw [if_neg h, if_neg (fun e => h (beq_iff_eq.mp e))]; rfl

theorem subsIn_append (b : Name) (s F : List Task) : subsIn b (s ++ F) = subsIn b s ++ subsIn b F := by
  unfold subsIn
  rw [List.filter_append, List.map_append]

theorem subsIn_nil_of (b : Name) (l : List Task) (h : ∀ t ∈ l, t.subtaskOf ≠ some b) : subsIn b l = [] := by
  unfold subsIn
  rw [List.map_eq_nil_iff, List.filter_eq_nil_iff]
  intro t ht hsub
  exact h t ht (beq_iff_eq.mp hsub)

theorem subsIn_insert_same (tk : Tasks) (k b : Name) (g t : Task) (h : lookup tk k = some g)
    (h1 : t.subtaskOf = g.subtaskOf) (h2 : t.name = g.name) :
    subsIn b (vals (insert tk k t)) = subsIn b (vals tk) := by
  induction tk with
  | nil => cases h
  | cons p rest ih =>
    obtain ⟨k', t'⟩ := p
    by_cases hk : k' = k
    · rw [lookup, if_pos hk] at h
      cases h
      rw [insert, if_pos hk, vals_cons, vals_cons, subsIn_cons, subsIn_cons, h1, h2]
    · rw [lookup, if_neg hk] at h
      rw [insert, if_neg hk, vals_cons, vals_cons, subsIn_cons, subsIn_cons, ih h]

theorem subsIn_insert_new (tk : Tasks) (k b : Name) (t : Task) (h : lookup tk k = none) :
    subsIn b (vals (insert tk k t)) = subsIn b (vals tk) ++ (if t.subtaskOf = some b then [t.name] else []) := by
  induction tk with
  | nil => exact (subsIn_cons b t []).trans (List.append_nil _)
  | cons p rest ih =>
    obtain ⟨k', t'⟩ := p
    by_cases hk : k' = k
    · rw [lookup, if_pos hk] at h; cases h
    · rw [lookup, if_neg hk] at h
      rw [insert, if_neg hk, vals_cons, vals_cons, subsIn_cons, subsIn_cons, ih h, List.append_assoc]

/-- the dict of tasks one generator has built so far.  `keyName`: a task is stored under its name; `hasGroup`: the
    `basename` of a sub-task is the key of a group task; `groupPlain`: a group task is not itself a sub-task;
    `groupDeps`: the sub-tasks of a group, in dict order, are a sublist of its `task_dep`, not the whole of it: the
    `task_dep` of a `name: None` dict stands in front (merge of dd215ad).  `seen` lists the keys used so far
    (`seenKeys`); only `Inv.unseen` reads it. -/
structure Inv (tk : Tasks) (seen : List Name) : Prop where
  keyName : ∀ p ∈ tk, p.2.name = p.1
  seenKeys : ∀ p ∈ tk, p.1 ∈ seen
  hasGroup : ∀ p ∈ tk, ∀ b, p.2.subtaskOf = some b → ∃ g, lookup tk b = some g ∧ g.hasSubtask = true
  groupDeps : ∀ b g, lookup tk b = some g → List.Sublist (subsIn b (vals tk)) g.taskDep
  groupPlain : ∀ p ∈ tk, p.2.hasSubtask = true → p.2.subtaskOf = none

theorem inv_nil : Inv [] [] :=
  ⟨by simp, by simp, by simp, by simp [lookup], by simp⟩

theorem Inv.weaken {tk : Tasks} {seen seen' : List Name} (h : Inv tk seen) (hs : ∀ x ∈ seen, x ∈ seen') :
    Inv tk seen' :=
  ⟨h.keyName, fun p hp => hs _ (h.seenKeys p hp), h.hasGroup, h.groupDeps, h.groupPlain⟩

theorem Inv.mono {tk : Tasks} {seen : List Name} (h : Inv tk seen) (more : List Name) : Inv tk (seen ++ more) :=
  h.weaken fun _ hx => List.mem_append_left _ hx

theorem Inv.subs_nil {tk : Tasks} {seen : List Name} (h : Inv tk seen) (b : Name) (hb : lookup tk b = none) :
    subsIn b (vals tk) = [] :=
  subsIn_nil_of b _ fun t ht hsub => by
    obtain ⟨p, hp, rfl⟩ := List.mem_map.mp ht
    obtain ⟨g, hg, _⟩ := h.hasGroup p hp b hsub
    rw [hb] at hg; cases hg

theorem Inv.unseen {tk : Tasks} {seen : List Name} (h : Inv tk seen) (k : Name) (hk : k ∉ seen) :
    lookup tk k = none := by
  cases hl : lookup tk k with
  | none => rfl
  | some g => exact absurd (h.seenKeys _ (lookup_mem tk k g hl)) hk

theorem Inv.insert_fresh {tk : Tasks} {seen : List Name} (h : Inv tk seen) (k : Name) (t : Task)
    (hnew : lookup tk k = none) (hname : t.name = k) (hleaf : t.hasSubtask = true → t.subtaskOf = none)
    (hpar : ∀ b, t.subtaskOf = some b → b ≠ k ∧ ∃ g front, lookup tk b = some g ∧ g.hasSubtask = true ∧
      g.taskDep = front ++ [k] ∧ List.Sublist (subsIn b (vals tk)) front) :
    Inv (insert tk k t) (seen ++ [k]) := by
  have hold : ∀ c g, lookup tk c = some g → lookup (insert tk k t) c = some g := fun c g hc => by
    rw [lookup_insert_ne _ _ _ _ (fun e => by rw [e, hnew] at hc; cases hc)]; exact hc
  refine ⟨forall_mem_insert tk k t h.keyName hname,
    forall_mem_insert tk k t (fun p hp => List.mem_append_left _ (h.seenKeys p hp))
      (List.mem_append_right _ (List.mem_singleton.mpr rfl)),
    forall_mem_insert tk k t (fun p hp b hb => ?_) (fun b hb => ?_), ?_, forall_mem_insert tk k t h.groupPlain hleaf⟩
  · obtain ⟨g, hg, hgs⟩ := h.hasGroup p hp b hb
    exact ⟨g, hold b g hg, hgs⟩
  · obtain ⟨_, g, _, hg, hgs, _⟩ := hpar b hb
    exact ⟨g, hold b g hg, hgs⟩
  · intro c gc hgc
    rw [subsIn_insert_new tk k c t hnew]
    by_cases hck : c = k
    · subst hck
      rw [h.subs_nil c hnew, if_neg fun e => (hpar c e).1 rfl]
      exact List.nil_sublist _
    · rw [lookup_insert_ne _ _ _ _ hck] at hgc
      by_cases hsub : t.subtaskOf = some c
      · obtain ⟨_, g, front, hg, _, hdeps, hfront⟩ := hpar c hsub
        rw [hg] at hgc; cases hgc
        rw [if_pos hsub, hname, hdeps]
        exact hfront.append (List.Sublist.refl _)
      · rw [if_neg hsub, List.append_nil]
        exact h.groupDeps c gc hgc

theorem Inv.insert_new {tk : Tasks} {seen : List Name} (h : Inv tk seen) (k : Name) (t : Task)
    (hnew : lookup tk k = none) (hname : t.name = k) (hsub : t.subtaskOf = none) :
    Inv (insert tk k t) (seen ++ [k]) :=
  h.insert_fresh k t hnew hname (fun _ => hsub) fun b hb => by rw [hsub] at hb; cases hb

theorem Inv.insert_over {tk : Tasks} {seen : List Name} (h : Inv tk seen) (b : Name) (g g' : Task)
    (hg : lookup tk b = some g) (hname : g'.name = g.name) (hsub : g'.subtaskOf = g.subtaskOf)
    (hkind : g.hasSubtask = true → g'.hasSubtask = true) (hplain : g'.hasSubtask = true → g'.subtaskOf = none)
    (hdeps : List.Sublist g.taskDep g'.taskDep) : Inv (insert tk b g') seen := by
  have hmem := lookup_mem tk b g hg
  -- a group a task refers to is still there, and still a group
  have hgroup : ∀ c g0, lookup tk c = some g0 → g0.hasSubtask = true →
      ∃ g1, lookup (insert tk b g') c = some g1 ∧ g1.hasSubtask = true := fun c g0 hg0 hs0 => by
    by_cases hcb : c = b
    · subst hcb
      rw [hg] at hg0; cases hg0
      exact ⟨g', lookup_insert_self _ _ _, hkind hs0⟩
    · exact ⟨g0, by rw [lookup_insert_ne _ _ _ _ hcb]; exact hg0, hs0⟩
  refine ⟨forall_mem_insert tk b g' h.keyName (hname.trans (h.keyName (b, g) hmem)),
    forall_mem_insert tk b g' h.seenKeys (h.seenKeys (b, g) hmem),
    forall_mem_insert tk b g' (fun p hp c hc => ?_) (fun c hc => ?_), ?_, forall_mem_insert tk b g' h.groupPlain hplain⟩
  · obtain ⟨g0, hg0, hs0⟩ := h.hasGroup p hp c hc
    exact hgroup c g0 hg0 hs0
  · obtain ⟨g0, hg0, hs0⟩ := h.hasGroup (b, g) hmem c (hsub ▸ hc)
    exact hgroup c g0 hg0 hs0
  · intro c gc hgc
    rw [subsIn_insert_same tk b c g g' hg hsub hname]
    by_cases hcb : c = b
    · subst hcb
      rw [lookup_insert_self] at hgc
      cases hgc
      exact (h.groupDeps c g hg).trans hdeps
    · rw [lookup_insert_ne _ _ _ _ hcb] at hgc
      exact h.groupDeps c gc hgc

theorem fullName_ne (b : Name) (nv : RawVal) (nf bf : Name) : fullName (.str b) nv nf bf ≠ b := by
  intro h
  have := congrArg List.length h
  simp [fullName, fmtOf] at this

theorem attachSub_inv {tk r : Tasks} {seen : List Name} (h : Inv tk seen) (b full : Name) (sub : Task)
    (hnew : lookup tk full = none) (hne : full ≠ b) (hname : sub.name = full) (hleaf : sub.hasSubtask = false)
    (hr : attachSub tk b full sub = .ok r) : Inv r (seen ++ [b, full]) := by
  -- the sub-task goes in once its group task `g` is in place and lists it last
  have key : ∀ (tk1 : Tasks) (g : Task) (front : List Name), Inv tk1 (seen ++ [b]) → lookup tk1 b = some g →
      g.hasSubtask = true → g.taskDep = front ++ [full] → List.Sublist (subsIn b (vals tk1)) front →
      lookup tk1 full = none → Inv (insert tk1 full { sub with subtaskOf := some b }) (seen ++ [b, full]) :=
    fun tk1 g front h1 hg hgs hdeps hfront hnew1 =>
      (h1.insert_fresh full { sub with subtaskOf := some b } hnew1 hname (fun hs => by rw [hleaf] at hs; cases hs) fun c hc => by
        cases hc; exact ⟨hne.symm, g, front, hg, hgs, hdeps, hfront⟩).weaken fun x hx => by
          rwa [List.append_assoc] at hx
  rcases (attachSub_checked tk b full sub).of_ok hr with ⟨g, hg, hgs, rfl⟩ | ⟨grp, hg, hgrp, rfl⟩
  · refine key _ _ g.taskDep ((h.insert_over b g { g with taskDep := g.taskDep ++ [full] } hg rfl rfl id
      (h.groupPlain (b, g) (lookup_mem tk b g hg)) (List.sublist_append_left _ _)).mono [b])
      (lookup_insert_self _ _ _) hgs rfl ?_ (by rw [lookup_insert_ne _ _ _ _ hne]; exact hnew)
    rw [subsIn_insert_same tk b b g { g with taskDep := g.taskDep ++ [full] } hg rfl rfl]
    exact h.groupDeps b g hg
  · obtain ⟨gn, gd, gs, gh⟩ := (groupTask_checked b [full]).of_ok hgrp
    refine key _ grp [] (h.insert_new b grp hg gn gs) (lookup_insert_self _ _ _) gh gd ?_
      (by rw [lookup_insert_ne _ _ _ _ hne]; exact hnew)
    rw [subsIn_insert_new tk b b grp hg, gs, h.subs_nil b hg]
    exact List.Sublist.refl _

theorem yieldDict_inv {tk r : Tasks} {seen : List Name} (fn : Name) (d : TDict) (nf bf : Name) (h : Inv tk seen)
    (hr : yieldDict tk fn d nf bf = .ok r) : Inv r (seen ++ yieldKeys fn (.dict d nf bf)) := by
  obtain ⟨hbn, hcase⟩ := (yieldDict_checked tk fn d nf bf).of_ok hr
  cases hcase with
  | group hn hg =>
    obtain ⟨g, hd, hres⟩ := (yieldGroupAttrs_checked _ _ _).of_ok hg
    obtain ⟨gs, _, gname⟩ := dictToTask_plain _ g hd
    rw [get_put_ne _ _ _ _ (by decide), get_put_self] at gname
    have hkeys : yieldKeys fn (.dict d nf bf) = [g.name] := by
      simp only [yieldKeys, hn, if_true, Option.some.inj gname, fmtOf]
    rw [hkeys]
    rcases hres with ⟨hnew, rfl⟩ | ⟨ex, hex, hexs, rfl⟩
    · exact h.insert_new g.name { g with hasSubtask := true } hnew rfl gs
    · have hmem := lookup_mem tk g.name ex hex
      exact (h.insert_over g.name ex { g with hasSubtask := true, taskDep := g.taskDep ++ ex.taskDep } hex
        (h.keyName _ hmem).symm (gs.trans (h.groupPlain _ hmem hexs).symm) (fun _ => rfl) (fun _ => gs)
        (List.sublist_append_right _ _)).mono _
  | sub nv b hn hnv hb hs =>
    obtain ⟨hkey, sub, hd, hat⟩ := (yieldSub_checked _ _ _ _ _ _).of_ok hs
    obtain ⟨_, sleaf, sname⟩ := dictToTask_plain _ sub hd
    rw [get_put_self] at sname
    have hkeys : yieldKeys fn (.dict d nf bf) = [b, fullName (.str b) nv nf bf] := by
      simp only [yieldKeys, hn, if_neg hnv, hb, fmtOf]
    rw [hkeys]
    exact attachSub_inv h b _ sub (hasKey_false _ _ hkey) (fullName_ne b nv nf bf)
      (RawVal.str.inj (Option.some.inj sname)).symm sleaf hat
  | plain hn hp =>
    obtain ⟨_, b, t, hb, hkey, hd, rfl⟩ := (yieldPlain_checked _ _ _ (basenameOk_cases d hbn)).of_ok hp
    obtain ⟨ts, _, tname⟩ := dictToTask_plain _ t hd
    rw [get_put_self] at tname
    have hkeys : yieldKeys fn (.dict d nf bf) = [b] := by
      simp only [yieldKeys, hn, hb, fmtOf]
    rw [hkeys]
    exact h.insert_new b t (hasKey_false _ _ hkey) (RawVal.str.inj (Option.some.inj tname)).symm ts

theorem yieldOne_inv {tk r : Tasks} {seen : List Name} (fn : Name) (y : Yielded) (h : Inv tk seen)
    (hplain : ∀ t, y = .task t → plainTask t = true)
    (hr : yieldOne fn tk y = .ok r) : Inv r (seen ++ yieldKeys fn y) := by
  have hy := (yieldOne_checked fn tk y).of_ok hr
  cases y with
  | other => exact hy.elim
  | dict d nf bf => exact yieldDict_inv fn d nf bf h hr
  | task t =>
    obtain ⟨hnew, rfl⟩ := hy
    have hp := hplain t rfl
    rw [plainTask, Bool.and_eq_true, Option.isNone_iff_eq_none] at hp
    exact h.insert_new t.name t hnew rfl hp.1

theorem yieldAll_inv (fn : Name) (ys : List Yielded) {tk r : Tasks} {seen : List Name} (h : Inv tk seen)
    (hplain : (yieldedTasks ys).all plainTask = true)
    (hr : yieldAll fn tk ys = .ok r) : ∃ seen', Inv r seen' := by
  induction ys generalizing tk seen with
  | nil => cases hr; exact ⟨seen, h⟩
  | cons y rest ih =>
    obtain ⟨tk', hy, hrest⟩ := (yieldAll_checked fn (y :: rest) tk).of_ok hr
    cases y with
    | task t =>
      rw [yieldedTasks, List.all_cons, Bool.and_eq_true] at hplain
      exact ih (yieldOne_inv fn _ h (fun t' ht' => by cases ht'; exact hplain.1) hy) hplain.2 hrest
    | dict d nf bf => exact ih (yieldOne_inv fn _ h (fun _ ht => Yielded.noConfusion ht) hy) hplain hrest
    | other => cases hy

/-- every sub-task is attached to a group task that depends on all sub-tasks of that group in yield order -/
def GroupsWF (ts : List Task) : Prop :=
  ∀ t ∈ ts, ∀ b, t.subtaskOf = some b →
    ∃ g ∈ ts, g.name = b ∧ g.hasSubtask = true ∧ List.Sublist (subsIn b ts) g.taskDep

theorem inv_groupsWF {tk : Tasks} {seen : List Name} (h : Inv tk seen) : GroupsWF (vals tk) := by
  intro t ht b hb
  obtain ⟨p, hp, rfl⟩ := List.mem_map.mp ht
  obtain ⟨g, hg, hgs⟩ := h.hasGroup p hp b hb
  have hmem := lookup_mem tk b g hg
  exact ⟨g, List.mem_map.mpr ⟨(b, g), hmem, rfl⟩, h.keyName _ hmem, hgs, h.groupDeps b g hg⟩

theorem groupsWF_nil : GroupsWF [] := nofun

theorem groupsWF_singleton (t : Task) (h : t.subtaskOf = none) : GroupsWF [t] := fun t' ht' b hb => by
  rw [List.mem_singleton.mp ht', h] at hb; cases hb

theorem generate_groupsWF (fn : Name) (r : Result) (ts : List Task) (htidy : resultPlain r = true)
    (h : generate fn r = .ok ts) : GroupsWF ts := by
  have hg := (generate_checked fn r).of_ok h
  cases r with
  | none => subst hg; exact groupsWF_nil
  | other => exact hg.elim
  | task t =>
    subst hg
    rw [resultPlain, plainTask, Bool.and_eq_true, Option.isNone_iff_eq_none] at htidy
    exact groupsWF_singleton t htidy.1
  | dict d =>
    obtain ⟨t, hd, rfl⟩ := hg
    exact groupsWF_singleton t (dictToTask_plain _ t ((fromReturn_checked fn d).of_ok hd).2).1
  | gen items =>
    obtain ⟨tk, hy, hts⟩ := hg
    rcases hts with ⟨_, g, hg, rfl⟩ | rfl
    · exact groupsWF_singleton g ((groupTask_checked fn []).of_ok hg).2.2.1
    · obtain ⟨seen', hinv⟩ := yieldAll_inv fn _ inv_nil htidy hy
      exact inv_groupsWF hinv

theorem GroupsWF.subs_nil {F : List Task} (hF : GroupsWF F) (b : Name) (hb : b ∉ F.map (·.name)) : subsIn b F = [] :=
  subsIn_nil_of b F fun t ht hsub => by
    obtain ⟨g, hg, hn, _⟩ := hF t ht b hsub
    exact hb (hn ▸ List.mem_map_of_mem hg)

theorem groupsWF_append (s F : List Task) (hs : GroupsWF s) (hF : GroupsWF F)
    (hnd : ((s ++ F).map (·.name)).Nodup) : GroupsWF (s ++ F) := by
  rw [List.map_append, List.nodup_append] at hnd
  obtain ⟨_, _, hdisj⟩ := hnd
  intro t ht b hb
  rcases List.mem_append.mp ht with hts | htF
  · obtain ⟨g, hg, hn, hh, hsub⟩ := hs t hts b hb
    refine ⟨g, List.mem_append_left _ hg, hn, hh, ?_⟩
    rw [subsIn_append, hF.subs_nil b fun hbF => hdisj b (hn ▸ List.mem_map_of_mem hg) b hbF rfl, List.append_nil]
    exact hsub
  · obtain ⟨g, hg, hn, hh, hsub⟩ := hF t htF b hb
    refine ⟨g, List.mem_append_right _ hg, hn, hh, ?_⟩
    rw [subsIn_append, hs.subs_nil b fun hbs => hdisj b hbs b (hn ▸ List.mem_map_of_mem hg) rfl, List.nil_append]
    exact hsub

theorem generateAll_groupsWF (cmds : List Name) (cs : List Creator) (ts : List Task)
    (htidy : ∀ c ∈ cs, resultPlain c.result = true) (h : generateAll cmds cs = .ok ts)
    (hnd : (ts.map (·.name)).Nodup) : GroupsWF ts := by
  induction cs generalizing ts with
  | nil => cases h; exact groupsWF_nil
  | cons c rest ih =>
    obtain ⟨seg, more, hseg, _, hmore, rfl⟩ := (generateAll_checked cmds (c :: rest)).of_ok h
    have hnd2 : (more.map (·.name)).Nodup := by
      rw [List.map_append, List.nodup_append] at hnd; exact hnd.2.1
    exact groupsWF_append seg more
      (generate_groupsWF c.name c.result seg (htidy c List.mem_cons_self) hseg)
      (ih more (fun c' hc' => htidy c' (List.mem_cons_of_mem _ hc')) hmore hnd2) hnd

theorem subsIn_map_extends (b : Name) (ts : List Task) (f : Task → Task) (hf : ∀ t, Extends t (f t)) :
    subsIn b (ts.map f) = subsIn b ts := by
  induction ts with
  | nil => rfl
  | cons t rest ih =>
    rw [List.map_cons, subsIn_cons, subsIn_cons, (hf t).subtaskOf, (hf t).name, ih]

theorem groupsWF_map_extends (ts : List Task) (f : Task → Task) (hf : ∀ t, Extends t (f t)) (h : GroupsWF ts) :
    GroupsWF (ts.map f) := by
  intro t' ht' b hb
  obtain ⟨t, ht, rfl⟩ := List.mem_map.mp ht'
  rw [(hf t).subtaskOf] at hb
  obtain ⟨g, hg, hn, hh, hsub⟩ := h t ht b hb
  obtain ⟨extra, he⟩ := hf g
  refine ⟨f g, List.mem_map_of_mem hg, by rw [he]; exact hn, by rw [he]; exact hh, ?_⟩
  rw [subsIn_map_extends b ts f hf, he]
  exact hsub.trans (List.sublist_append_left _ _)

end DoitModel.Load
