import DoitModel.Proofs.C11Base
/-! # C11: the invariants of the extended system `TSys` — who has torn down what.  `TdS`: the shared list (serial,
    thread); `TdP`: the process runner, where every worker process tears down what it started itself. -/
namespace DoitModel.Run

theorem tdAfter_base (inp : RunInput) (tdFail : Name → Bool) (v : Variant) (ts : TSys) (c : Choice) (b' : Sys) :
    (tdAfter inp tdFail v ts c b').base = b' := by
  unfold tdAfter
  cases c with
  | main p => by_cases h : ts.base.rpc = .fin <;> simp only [h, if_true, if_false]
  | done w => rfl
  | take w =>
    simp only []
    generalize takenJob ts.base w = j
    rcases j with _ | (_ | _ | n)
    · rfl
    · rfl
    · by_cases h1 : inp.runner = .process
      · simp only [h1, if_true]
      · by_cases h2 : v.pinnedThread = true <;> simp only [h1, h2, if_true, if_false, Bool.false_eq_true]
    · rfl

theorem tstep_spec {inp : RunInput} {tdFail : Name → Bool} {v : Variant} {ts ts' : TSys} {c : Choice}
    (hs : tstep inp tdFail v ts c = some ts') :
    ∃ b', stepOf inp ts.base c = some b' ∧ ts' = tdAfter inp tdFail v ts c b' := by
  unfold tstep at hs
  cases hb : stepOf inp ts.base c with
  | none => simp only [hb] at hs; cases hs
  | some b' => simp only [hb] at hs; cases hs; exact ⟨b', rfl, rfl⟩

theorem takenJob_eq {s : Sys} {w : Nat} {j : Job} {js : List Job} (hi : s.workers w = .idle) (hq : s.jobQ = j :: js) :
    takenJob s w = some j := by
  rw [takenJob, if_pos hi, hq]; rfl

structure TdS (inp : RunInput) (tdFail : Name → Bool) (ts : TSys) : Prop where
  b : TdB inp ts.base
  pre : ts.base.rpc ≠ .halted → ts.log = []
  /-- `halt = .none` for the thread runner: after an internal error a worker thread may still take a task, `startTask`
      then extends `tdown` after `finish()` has run the teardowns -/
  post : ts.base.rpc = .halted → (inp.runner = .serial ∨ ts.base.halt = .none) →
    ts.log = (teardownRun tdFail none ts.base.tdown).reverse

theorem tstep_tdS {inp : RunInput} {tdFail : Name → Bool} {v : Variant} {ts ts' : TSys} {c : Choice}
    (hnp : inp.runner ≠ .process) (hv : v.pinnedThread = false) (h : TdS inp tdFail ts)
    (hs : tstep inp tdFail v ts c = some ts') : TdS inp tdFail ts' := by
  obtain ⟨b', hb, rfl⟩ := tstep_spec hs
  have hB := stepOf_tdB h.b hb
  have eb := tdAfter_base inp tdFail v ts c b'
  rcases stepOf_spec hb with ⟨par, perm, rfl, hk, m⟩ | ⟨hpar, w, m⟩
  · rcases m.fin_or with ⟨hfin, e⟩ | ⟨hnf, hnh⟩
    · subst e
      simp only [tdAfter, hfin, if_true]
      refine ⟨hB, fun x => absurd rfl x, fun _ _ => ?_⟩
      rw [h.pre (by rw [hfin]; exact RPC.noConfusion)]; exact List.append_nil _
    · simp only [tdAfter, if_neg hnf]
      exact ⟨hB, fun _ => h.pre hnh.1, fun x => absurd x hnh.2⟩
  · -- a worker step: the log stays, and a run that ended normally has no worker left that could move
    obtain ⟨e1, e2⟩ := m.ctl
    have keep : (tdAfter inp tdFail v ts c b').log = ts.log := by
      cases m with
      | done n hw => rfl
      | _ =>
        simp only [tdAfter]
        split
        · rfl
        · simp only [if_neg hnp, hv, Bool.false_eq_true, if_false]
        · rfl
    refine ⟨by rw [eb]; exact hB, fun x => by rw [keep]; rw [eb] at x; exact h.pre (e1 ▸ x), fun x y => ?_⟩
    rw [eb] at x y
    exact h.b.busy m.alive.1 m.alive.2 (Or.inr (e1 ▸ x)) (e2 ▸ y.resolve_left hpar)

theorem treach_tdS {inp : RunInput} {tdFail : Name → Bool} {v : Variant} {ts : TSys}
    (hnp : inp.runner ≠ .process) (hv : v.pinnedThread = false) (h : TReach inp tdFail v ts) : TdS inp tdFail ts := by
  induction h with
  | init =>
    refine ⟨init_tdB inp, fun _ => rfl, fun x => ?_⟩
    have x' : (if inp.runner = .serial then RPC.sTop none else .gEntry none (.startLoop inp.numProc)) = .halted := x
    by_cases c : inp.runner = .serial
    · rw [if_pos c] at x'; cases x'
    · rw [if_neg c] at x'; cases x'
  | next _ hs ih => exact tstep_tdS hnp hv ih hs

theorem logOf_append (e : Option Nat) (a b : List TdEv) : logOf e (a ++ b) = logOf e a ++ logOf e b :=
  List.filter_append ..

theorem entity_teardownRun (tdFail : Name → Bool) (w : Option Nat) (l : List Name) :
    ∀ x ∈ teardownRun tdFail w l, x.entity = w := by
  intro x hx
  obtain ⟨t, _, ht⟩ := List.mem_flatMap.mp hx
  by_cases c : tdFail t = true
  · rw [if_pos c] at ht
    rcases List.mem_cons.mp ht with rfl | ht
    · rfl
    · cases List.mem_singleton.mp ht; rfl
  · rw [if_neg c] at ht; cases List.mem_singleton.mp ht; rfl

theorem entity_teardownAbort (tdFail : Name → Bool) (w : Option Nat) : ∀ (l : List Name),
    ∀ x ∈ teardownAbort tdFail w l, x.entity = w := by
  intro l
  induction l with
  | nil => intro x hx; cases hx
  | cons t ts ih =>
    intro x hx
    simp only [teardownAbort] at hx
    by_cases c : tdFail t = true
    · rw [if_pos c] at hx; cases List.mem_singleton.mp hx; rfl
    · rw [if_neg c] at hx
      rcases List.mem_cons.mp hx with rfl | hx
      · rfl
      · exact ih x hx

theorem entity_workerTeardown (v : Variant) (tdFail : Name → Bool) (w : Nat) (l : List Name) :
    ∀ x ∈ (workerTeardown v tdFail w l).reverse, x.entity = some w := by
  intro x hx
  have hx := List.mem_reverse.mp hx
  unfold workerTeardown at hx
  by_cases c : v.pinnedProcess = true
  · rw [if_pos c] at hx; exact entity_teardownAbort tdFail _ _ x hx
  · rw [if_neg c] at hx; exact entity_teardownRun tdFail _ l x hx

theorem logOf_all {e : Option Nat} {l : List TdEv} (h : ∀ x ∈ l, x.entity = e) : logOf e l = l :=
  List.filter_eq_self.mpr fun x hx => by rw [h x hx]; exact beq_self_eq_true e

theorem logOf_other {e e' : Option Nat} {l : List TdEv} (h : ∀ x ∈ l, x.entity = e') (hne : e' ≠ e) : logOf e l = [] :=
  List.filter_eq_nil_iff.mpr fun x hx => by rw [h x hx]; exact fun y => hne (beq_iff_eq.mp y)

structure TdP (inp : RunInput) (tdFail : Name → Bool) (v : Variant) (ts : TSys) : Prop where
  b : TdB inp ts.base
  own : ∀ w, ts.wtd w = startOrderOf inp w ts.base.events
  logW : ∀ w, logOf (some w) ts.log =
    if ts.base.workers w = .exited then (workerTeardown v tdFail w (ts.wtd w)).reverse else []
  logM : logOf none ts.log = []
  ns : ∀ w, ts.base.workers w = .notStarted → ts.wtd w = []
  crash : ts.crashed = true ↔
    (v.pinnedProcess = true ∧ ∃ w, ts.base.workers w = .exited ∧ (ts.wtd w).any tdFail = true)

theorem init_tdP (inp : RunInput) (tdFail : Name → Bool) (v : Variant) : TdP inp tdFail v (tinit inp) := by
  refine ⟨init_tdB inp, fun _ => rfl, fun w => ?_, rfl, fun _ _ => rfl, ?_⟩
  · exact (if_neg (by exact WState.noConfusion)).symm
  · exact ⟨fun x => (by cases x), fun ⟨_, w, x, _⟩ => (by cases x)⟩

theorem TdP.calm {inp : RunInput} {tdFail : Name → Bool} {v : Variant} {ts ts' : TSys} (h : TdP inp tdFail v ts)
    (hB : TdB inp ts'.base) (mv : Calm ts.base ts'.base) (hw : ts'.wtd = ts.wtd) (hl : ts'.log = ts.log)
    (hc : ts'.crashed = ts.crashed) : TdP inp tdFail v ts' := by
  obtain ⟨new, e, hns⟩ := mv.plain.ev
  refine ⟨hB, ?_, ?_, ?_, ?_, ?_⟩
  · intro w; rw [hw, e, startOrderOf_noStart inp w hns]; exact h.own w
  · intro w; rw [hl, hw, h.logW w]
    by_cases x : ts.base.workers w = .exited
    · rw [if_pos x, if_pos ((mv.ex w).mpr x)]
    · rw [if_neg x, if_neg (fun y => x ((mv.ex w).mp y))]
  · rw [hl]; exact h.logM
  · intro w x; rw [hw]; exact h.ns w (mv.nsb w x)
  · rw [hc, hw, h.crash]
    constructor
    · rintro ⟨a, w, b, c⟩; exact ⟨a, w, (mv.ex w).mpr b, c⟩
    · rintro ⟨a, w, b, c⟩; exact ⟨a, w, (mv.ex w).mp b, c⟩

theorem tstep_tdP {inp : RunInput} {tdFail : Name → Bool} {v : Variant} {ts ts' : TSys} {c : Choice}
    (hp : inp.runner = .process) (h : TdP inp tdFail v ts)
    (hs : tstep inp tdFail v ts c = some ts') : TdP inp tdFail v ts' := by
  obtain ⟨b', hb, rfl⟩ := tstep_spec hs
  have hB := stepOf_tdB h.b hb
  have eb := tdAfter_base inp tdFail v ts c b'
  rcases stepOf_spec hb with ⟨par, perm, rfl, hk, m⟩ | ⟨hpar, w, m⟩
  · cases par with
    | false => rw [hp] at hk; cases hk
    | true =>
      refine h.calm (by rw [eb]; exact hB) (by rw [eb]; exact m.calm h.b) ?_ ?_ ?_
      all_goals simp only [tdAfter]
      all_goals by_cases x : ts.base.rpc = .fin
      all_goals simp only [x, if_true, if_false]
      rw [h.b.proc hp]; rfl
  · obtain ⟨hni, hns⟩ := m.alive
    cases m with
    | done n hw =>
      show TdP inp tdFail v { ts with base := _ }
      exact h.calm hB (.setWorker (w := w) (st := .idle) (fin_plain rfl rfl) rfl WState.noConfusion WState.noConfusion hni)
        rfl rfl rfl
    | hold js hi hq =>
      simp only [tdAfter, takenJob_eq hi hq]
      exact h.calm hB (.same (.of_same rfl rfl) rfl) rfl rfl rfl
    | stop js hi hq =>
      simp only [tdAfter, takenJob_eq hi hq, hp, if_true]
      have exq : ∀ k, k ≠ w → ((setWorker ts.base w .exited).workers k = .exited ↔ ts.base.workers k = .exited) := by
        intro k hk; simp only [setWorker]; rw [if_neg hk]
      have exw : (setWorker ts.base w .exited).workers w = .exited := if_pos rfl
      have ent := entity_workerTeardown v tdFail w (ts.wtd w)
      refine ⟨hB, h.own, ?_, ?_, ?_, ?_⟩
      · intro k
        show logOf (some k) ((workerTeardown v tdFail w (ts.wtd w)).reverse ++ ts.log) =
          if (setWorker ts.base w .exited).workers k = .exited then _ else _
        rw [logOf_append, h.logW k]
        by_cases e : k = w
        · subst e
          rw [if_pos exw, if_neg hni, logOf_all ent]
          exact List.append_nil _
        · rw [logOf_other ent (fun x => e (Option.some.inj x).symm)]
          by_cases x : ts.base.workers k = .exited
          · rw [if_pos x, if_pos ((exq k e).mpr x)]; rfl
          · rw [if_neg x, if_neg (fun y => x ((exq k e).mp y))]; rfl
      · show logOf none ((workerTeardown v tdFail w (ts.wtd w)).reverse ++ ts.log) = []
        rw [logOf_append, h.logM, logOf_other ent (Option.some_ne_none w)]
        rfl
      · intro k x
        have x' : (if k = w then WState.exited else ts.base.workers k) = .notStarted := x
        by_cases e : k = w
        · rw [if_pos e] at x'; cases x'
        · rw [if_neg e] at x'; exact h.ns k x'
      · show (ts.crashed || (v.pinnedProcess && (ts.wtd w).any tdFail)) = true ↔ _
        rw [Bool.or_eq_true, h.crash, Bool.and_eq_true]
        constructor
        · rintro (⟨a, k, b, c⟩ | a)
          · refine ⟨a, k, ?_, c⟩
            by_cases e : k = w
            · subst e; exact exw
            · exact (exq k e).mpr b
          · exact ⟨a.1, w, exw, a.2⟩
        · rintro ⟨a, k, b, c⟩
          by_cases e : k = w
          · subst e; exact Or.inr ⟨a, c⟩
          · exact Or.inl ⟨a, k, (exq k e).mp b, c⟩
    | task n js hi hq =>
      simp only [tdAfter, takenJob_eq hi hq]
      have cm : Calm ts.base { ts.base with workers := (setWorker (startTask inp ts.base n w) w (.running n)).workers } :=
        .setWorker (.of_same rfl rfl) rfl WState.noConfusion WState.noConfusion hni
      have exq : ∀ k, ((setWorker (startTask inp ts.base n w) w (.running n)).workers k = .exited ↔
          ts.base.workers k = .exited) := cm.ex
      have other : ∀ k, ts.base.workers k = .exited →
          ¬ (k = w ∧ inp.runner = .process ∧ inp.hasTeardown n = true) := fun k x y => hni (y.1 ▸ x)
      refine ⟨hB, ?_, ?_, h.logM, ?_, ?_⟩
      · intro k
        show (if k = w ∧ inp.runner = .process ∧ inp.hasTeardown n = true then ts.wtd k ++ [n] else ts.wtd k) =
          startOrderOf inp k (startTask inp ts.base n w).events
        have e : (startTask inp ts.base n w).events = Ev.start n w :: ts.base.events := by
          simp only [startTask, if_pos hp]
        rw [e, startOrderOf_start, ← h.own k]
        by_cases c : w = k ∧ inp.hasTeardown n = true
        · rw [if_pos c, if_pos ⟨c.1.symm, hp, c.2⟩]
        · rw [if_neg c, if_neg fun x => c ⟨x.1.symm, x.2.2⟩]
      · intro k
        show logOf (some k) ts.log = if (setWorker (startTask inp ts.base n w) w (.running n)).workers k = .exited
          then (workerTeardown v tdFail k
            (if k = w ∧ inp.runner = .process ∧ inp.hasTeardown n = true then ts.wtd k ++ [n] else ts.wtd k)).reverse
          else []
        rw [h.logW k]
        by_cases x : ts.base.workers k = .exited
        · rw [if_pos x, if_pos ((exq k).mpr x), if_neg (other k x)]
        · rw [if_neg x, if_neg (fun y => x ((exq k).mp y))]
      · intro k x
        have x' := cm.nsb k x
        show (if k = w ∧ inp.runner = .process ∧ inp.hasTeardown n = true then ts.wtd k ++ [n] else ts.wtd k) = []
        rw [if_neg (fun y : k = w ∧ _ => hns (y.1 ▸ x'))]; exact h.ns k x'
      · show ts.crashed = true ↔ _
        rw [h.crash]
        constructor
        · rintro ⟨a, k, b, c⟩
          exact ⟨a, k, (exq k).mpr b, by simp only [if_neg (other k b)]; exact c⟩
        · rintro ⟨a, k, b, c⟩
          have b' := (exq k).mp b
          simp only [if_neg (other k b')] at c
          exact ⟨a, k, b', c⟩

theorem treach_tdP {inp : RunInput} {tdFail : Name → Bool} {v : Variant} {ts : TSys}
    (hp : inp.runner = .process) (h : TReach inp tdFail v ts) : TdP inp tdFail v ts := by
  induction h with
  | init => exact init_tdP inp tdFail v
  | next _ hs ih => exact tstep_tdP hp ih hs

end DoitModel.Run
