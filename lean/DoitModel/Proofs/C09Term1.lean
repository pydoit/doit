import DoitModel.Proofs.C09Cycle
/-! # C09 — termination, part 1: the measure

A lexicographic triple `(L1, L2, lin)`:
* `L1` — task names below `N` without a node (decreases when `_gen_node` / `_get_next_node` creates a node);
* `L2` — Σ over the nodes of `calOf`: calc_deps not yet delivered (names not yet in `task.calc_dep`, pending ones, the
  snapshot being iterated, awaited ones); decreases when a finished calc_dep leaves `wait_run_calc` / the snapshot, which
  pays for whatever its result appends to `task_dep`;
* `lin` — a weighted sum with literal weights: list lengths, a rank of the generator position (with a gap at the two
  `yield this_task`), the queues, and a rank of the runner's program counter. -/
namespace DoitModel.Run

def sumF (N : Nat) (g : Name → Node → Nat) (f : Name → Option Node) : Nat :=
  ((List.range N).map fun k => match f k with | some nd => g k nd | none => 0).sum

theorem map_sum_update {h h' : Nat → Nat} {n : Nat} : ∀ (l : List Nat), l.Nodup → n ∈ l → (∀ k, k ≠ n → h' k = h k) →
    ∃ rest, (l.map h).sum = rest + h n ∧ (l.map h').sum = rest + h' n := by
  intro l
  induction l with
  | nil => intro _ hm; cases hm
  | cons a t ih =>
    intro hnd hm heq
    obtain ⟨hat, hnt⟩ := List.nodup_cons.mp hnd
    by_cases e : a = n
    · subst e
      have : t.map h' = t.map h := List.map_congr_left (fun k hk => heq k (fun e => hat (e ▸ hk)))
      exact ⟨(t.map h).sum, by simp [Nat.add_comm], by simp [this, Nat.add_comm]⟩
    · have hmt : n ∈ t := by
        rcases List.mem_cons.mp hm with x | x
        · exact absurd x.symm e
        · exact x
      obtain ⟨rest, r1, r2⟩ := ih hnt hmt heq
      refine ⟨h a + rest, ?_, ?_⟩
      · simp only [List.map_cons, List.sum_cons, r1]; omega
      · simp only [List.map_cons, List.sum_cons, r2, heq a e]; omega

theorem sumF_update {N : Nat} {g : Name → Node → Nat} {n : Name} (hN : n < N) (f : Name → Option Node) (x : Node) :
    ∃ rest, sumF N g f = rest + (match f n with | some nd => g n nd | none => 0) ∧
      sumF N g (fun k => if k = n then some x else f k) = rest + g n x := by
  obtain ⟨rest, r1, r2⟩ := map_sum_update (n := n)
    (h := fun k => match f k with | some nd => g k nd | none => 0)
    (h' := fun k => match (if k = n then some x else f k) with | some nd => g k nd | none => 0)
    (List.range N) List.nodup_range (List.mem_range.mpr hN) (fun k hk => by simp [hk])
  refine ⟨rest, r1, ?_⟩
  unfold sumF; rw [r2]; simp

theorem sumF_congr {N : Nat} {g : Name → Node → Nat} {f f' : Name → Option Node}
    (h : ∀ k, (match f' k with | some nd => g k nd | none => 0) = (match f k with | some nd => g k nd | none => 0)) :
    sumF N g f' = sumF N g f := by
  unfold sumF
  congr 1
  exact List.map_congr_left (fun k _ => h k)

def cntNone (N : Nat) (f : Name → Option Node) : Nat := (List.range N).countP fun k => (f k).isNone

theorem cntNone_congr {N : Nat} {f f' : Name → Option Node} (h : ∀ k, (f' k).isNone = (f k).isNone) :
    cntNone N f' = cntNone N f := by
  unfold cntNone; congr 1; funext k; exact h k

theorem cntNone_lt {N : Nat} {f f' : Name → Option Node} {d : Name} (hd : d < N) (h0 : f d = none)
    (h1 : (f' d).isSome = true) (hk : ∀ k, (f' k).isNone = true → (f k).isNone = true) : cntNone N f' < cntNone N f := by
  refine countP_lt (fun y _ hy => hk y hy) ⟨d, List.mem_range.mpr hd, by rw [h0]; rfl, ?_⟩
  cases h : f' d with
  | none => rw [h] at h1; cases h1
  | some _ => rfl

def cntNot (N : Nat) (l : List Name) : Nat := (List.range N).countP fun p => decide (p ∉ l)

theorem cntNot_append_one {N : Nat} {l : List Name} {x : Name} (hx : x < N) (hn : x ∉ l) :
    cntNot N (l ++ [x]) + 1 ≤ cntNot N l :=
  -- `cntNot` is `missing` of `Proofs/RunFuel.lean`, word for word
  missing_lt (n := N) (fun _ hy => List.mem_append_left _ hy) hx (List.mem_append_right _ (List.mem_singleton_self x)) hn

theorem cntNot_append {N : Nat} : ∀ (new l : List Name), new.Nodup → (∀ x ∈ new, x < N ∧ x ∉ l) →
    cntNot N (l ++ new) + new.length ≤ cntNot N l := by
  intro new
  induction new with
  | nil => intro l _ _; simp
  | cons x xs ih =>
    intro l hnd h
    obtain ⟨hx, hxs⟩ := List.nodup_cons.mp hnd
    have h1 := cntNot_append_one (N := N) (l := l) (h x (by simp)).1 (h x (by simp)).2
    have h2 := ih (l ++ [x]) hxs (fun y hy => ⟨(h y (by simp [hy])).1, by
      simp only [List.mem_append, List.mem_singleton, not_or]
      exact ⟨(h y (by simp [hy])).2, fun e => hx (e ▸ hy)⟩⟩)
    have e : l ++ x :: xs = (l ++ [x]) ++ xs := by simp
    rw [e]; simp only [List.length_cons]; omega

theorem nodup_dedup : ∀ l : List Name, (dedup l).Nodup
  | [] => List.nodup_nil
  | a :: t => by
    rw [dedup]
    by_cases h : a ∈ dedup t
    · rw [if_pos h]; exact nodup_dedup t
    · rw [if_neg h]; exact List.nodup_cons.mpr ⟨h, nodup_dedup t⟩

def calOf (N : Nat) (nd : Node) : Nat :=
  cntNot N nd.dynCalc + nd.pendCalc.length + (if nd.pc.iterC = true then nd.snapCalc.length else 0) +
    nd.waitRunCalc.length

/-- the part of `calOf` that a delivery (`addDeps`) can change -/
def m2Of (N : Nat) (nd : Node) : Nat := cntNot N nd.dynCalc + nd.pendCalc.length

/-- every name a task table mentions is a task index below `N` -/
structure FiniteTable (inp : RunInput) (N : Nat) : Prop where
  sel : ∀ t ∈ inp.sel, t < N
  task : ∀ n, ∀ d ∈ inp.taskDep n, d < N
  cd : ∀ n, ∀ d ∈ inp.calcDep n, d < N
  setup : ∀ n, ∀ d ∈ inp.setup n, d < N
  rt : ∀ n, ∀ d ∈ (inp.calcRes n).tasks, d < N
  rf : ∀ n, ∀ d ∈ (inp.calcRes n).files, d < N
  rc : ∀ n, ∀ d ∈ (inp.calcRes n).calcs, d < N
  rtF : ∀ n, ∀ d ∈ (inp.calcResFail n).tasks, d < N
  rfF : ∀ n, ∀ d ∈ (inp.calcResFail n).files, d < N
  rcF : ∀ n, ∀ d ∈ (inp.calcResFail n).calcs, d < N

variable {inp : RunInput} {N : Nat}

theorem cl_lt (hF : FiniteTable inp N) {t : Name} (h : Cl inp t) : t < N := by
  induction h with
  | ofSel h => exact hF.sel _ h
  | ofTask _ h => exact hF.task _ _ h
  | ofCalc _ h => exact hF.cd _ _ h
  | ofSetup _ _ h => exact hF.setup _ _ h
  | ofRes _ h =>
    rcases h with h | h | h
    · exact hF.rt _ _ h
    · exact hF.rf _ _ h
    · exact hF.rc _ _ h
  | ofResFail _ h =>
    rcases h with h | h | h
    · exact hF.rtF _ _ h
    · exact hF.rfF _ _ h
    · exact hF.rcF _ _ h

theorem addDeps_m2R (nd : Node) (r : CalcRes) (hr : ∀ x ∈ r.calcs, x < N) :
    m2Of N (nd.addDeps r) ≤ m2Of N nd := by
  unfold m2Of
  have hnew : (newCalcDeps nd r).Nodup := by
    unfold newCalcDeps; exact List.Nodup.sublist List.filter_sublist (nodup_dedup _)
  have hmem : ∀ x ∈ newCalcDeps nd r, x < N ∧ x ∉ nd.dynCalc := by
    intro x hx
    simp only [newCalcDeps, List.mem_filter, decide_eq_true_eq] at hx
    exact ⟨hr x (mem_dedup.mp hx.1), hx.2⟩
  have h1 := cntNot_append (N := N) _ nd.dynCalc hnew hmem
  have h2 : ((newCalcDeps nd r).filter (fun c => c ∉ nd.pendCalc)).length ≤
      (newCalcDeps nd r).length := List.length_filter_le _ _
  simp only [Node.addDeps, List.length_append]
  omega

theorem addDeps_m2 (hF : FiniteTable inp N) (nd : Node) (p : Name) :
    m2Of N (nd.addDeps (inp.calcRes p)) ≤ m2Of N nd := addDeps_m2R nd _ (hF.rc p)

theorem deliverF_m2 (hF : FiniteTable inp N) (ex : Bool) (pst : RS) (p : Name) (nd : Node) :
    m2Of N (deliverF inp ex pst p nd) ≤ m2Of N nd := by
  unfold deliverF; split
  · exact addDeps_m2R nd _ (hF.rcF p)
  · exact Nat.le_refl _

theorem deliver_m2 (hF : FiniteTable inp N) (pst : RS) (p : Name) (nd : Node) :
    m2Of N (deliver inp pst p nd) ≤ m2Of N nd := by
  unfold deliver; split
  · exact addDeps_m2 hF nd p
  · exact Nat.le_refl _

theorem absorbDone_m2 (hF : FiniteTable inp N) (s : Sys) (c : Bool) : ∀ (ds : List Name) (nd : Node),
    m2Of N (absorbDone inp s c ds nd) ≤ m2Of N nd := by
  intro ds
  induction ds with
  | nil => intro nd; exact Nat.le_refl _
  | cons a t ih =>
    intro nd
    simp only [absorbDone]
    split
    · exact ih nd
    · split
      · exact Nat.le_trans (ih _) (Nat.le_trans (deliverF_m2 hF _ _ _ _) (deliver_m2 hF _ _ _))
      · exact ih _

theorem absorbDone_all_unfinished (s : Sys) (c : Bool) : ∀ (ds : List Name) (nd : Node),
    (∀ d ∈ ds, unfinished s d = true) → absorbDone inp s c ds nd = nd := by
  intro ds
  induction ds with
  | nil => intro nd _; rfl
  | cons a t ih =>
    intro nd h
    simp only [absorbDone, h a (by simp), if_true]
    exact ih nd (fun d hd => h d (by simp [hd]))

def PC.loopback : PC → Bool
  | .calcIter _ | .taskIter _ | .afterDeps => true
  | _ => false

/-- rank of the generator position.  A step inside the node loses 1.  At the two `yield this_task` (24 → 17, 8 → 1) it
    loses 7, because `wRank` rises by 6 when the node is handed to the runner.  17 → 11: the node may be parked with
    `wait_select` set, which weighs 5.  `continue` (25 → 28) gains 3: paid by the 4 that a pending dep weighs at the loop
    positions, or, when the node is parked instead, by the 4 of `curW`. -/
def posOf : PC → Nat
  | .done => 0 | .afterSelf2 => 1 | .self2 => 8 | .afterSetup => 9 | .setupIter _ => 10 | .setupDecide => 11
  | .afterSelf1 => 17 | .self1 => 24 | .afterDeps => 25 | .taskIter _ => 26 | .calcIter _ => 27 | .loopTop => 28

def todoOf (nd : Node) : Nat :=
  match nd.pc with
  | .calcIter todo => todo.length + nd.snapTask.length
  | .taskIter todo => todo.length
  | _ => 0

/-- the setup-tasks still to be passed to `_node_add_wait_run`: 6 each before the loop; in the loop 5 each (what an
    awaited one weighs in `wait_run`) + 1 for each still to be handed to `_gen_node` -/
def setupTerm (pc : PC) (L : Nat) : Nat :=
  match pc with
  | .loopTop | .calcIter _ | .taskIter _ | .afterDeps | .self1 | .afterSelf1 | .setupDecide => 6 * L
  | .setupIter todo => 5 * L + todo.length
  | _ => 0

/-- the weight of a node.  A dependency weighs 6 while pending, 6 in a snapshot (5 + 1 in `todoOf` until it is handed to
    `_gen_node`), 5 in `wait_run` / `wait_run_calc`: taking the snapshots keeps the sum, `_node_add_wait_run` turns 5 into
    at most 5, and a dependency that reports frees 5, the weight of the node's entry in `ready` (`restOf`); so does
    `wait_select`.  At the loop positions a pending dep weighs 4 more (see `posOf`). -/
def linNode (inp : RunInput) (n : Name) (nd : Node) : Nat :=
  6 * nd.pendTask.length + 6 * nd.pendCalc.length +
  (if nd.pc.loopback = true then 4 * (nd.pendTask.length + nd.pendCalc.length) else 0) +
  (if nd.pc.iterT = true then 5 * nd.snapTask.length else 0) +
  (if nd.pc.iterC = true then 5 * nd.snapCalc.length else 0) +
  todoOf nd + 5 * (nd.waitRun.length + nd.waitRunCalc.length) + posOf nd.pc +
  setupTerm nd.pc (inp.setup n).length + (if nd.waitSelect = true then 5 else 0)

/-- the position-dependent part of `linNode` as a table (arguments: pending deps, the two snapshots, setup-tasks).  Each row
    keeps the order of the summands of `linNode`, so that `linNode_eq` is checked by computation. -/
def pcW : PC → Nat → Nat → Nat → Nat → Nat
  | .loopTop, _, _, _, L => 28 + 6 * L
  | .calcIter todo, p, st, sc, L => 4 * p + 5 * st + 5 * sc + (todo.length + st) + 27 + 6 * L
  | .taskIter todo, p, st, _, L => 4 * p + 5 * st + todo.length + 26 + 6 * L
  | .afterDeps, p, _, _, L => 4 * p + 25 + 6 * L
  | .self1, _, _, _, L => 24 + 6 * L
  | .afterSelf1, _, _, _, L => 17 + 6 * L
  | .setupDecide, _, _, _, L => 11 + 6 * L
  | .setupIter todo, _, _, _, L => 10 + (5 * L + todo.length)
  | .afterSetup, _, _, _, _ => 9
  | .self2, _, _, _, _ => 8
  | .afterSelf2, _, _, _, _ => 1
  | .done, _, _, _, _ => 0
def Node.row (inp : RunInput) (n : Name) (nd : Node) (pc : PC) : Nat :=
  pcW pc (nd.pendTask.length + nd.pendCalc.length) nd.snapTask.length nd.snapCalc.length (inp.setup n).length
def Node.baseW (nd : Node) : Nat :=
  6 * (nd.pendTask.length + nd.pendCalc.length) + 5 * (nd.waitRun.length + nd.waitRunCalc.length) +
    (if nd.waitSelect = true then 5 else 0)

theorem linNode_eq (inp : RunInput) (n : Name) (nd : Node) : linNode inp n nd = nd.baseW + nd.row inp n nd.pc := by
  have h : nd.row inp n nd.pc = (if nd.pc.loopback = true then 4 * (nd.pendTask.length + nd.pendCalc.length) else 0) +
      (if nd.pc.iterT = true then 5 * nd.snapTask.length else 0) +
      (if nd.pc.iterC = true then 5 * nd.snapCalc.length else 0) + todoOf nd + posOf nd.pc +
      setupTerm nd.pc (inp.setup n).length := by
    unfold Node.row todoOf
    generalize nd.pc = pc
    cases pc <;> rfl
  rw [h]; unfold linNode Node.baseW
  generalize (if nd.waitSelect = true then 5 else 0) = w
  generalize (if nd.pc.loopback = true then _ else 0) = v
  generalize (if nd.pc.iterT = true then _ else 0) = x
  generalize (if nd.pc.iterC = true then _ else 0) = y
  omega

theorem linNode_setPc (n : Name) (nd : Node) (pc' : PC) :
    linNode inp n { nd with pc := pc' } = nd.baseW + nd.row inp n pc' := linNode_eq inp n { nd with pc := pc' }

theorem calOf_setPc {nd : Node} {pc pc' : PC} (hpc : nd.pc = pc) (h : pc'.iterC = pc.iterC) :
    calOf N { nd with pc := pc' } = calOf N nd := by
  show _ + _ + (if pc'.iterC = true then _ else 0) + _ = _
  rw [h, ← hpc]; rfl

/-- rank of the dispatcher's last answer while the runner waits for it: running, a yielded node (the rank the generator
    lost at `yield this_task` is kept here until `select_task` has looked at the node), ended -/
def wRank : Option DOut → Nat
  | none => 3
  | some (.node _) => 9
  | some _ => 2

def loopK : Ret → Nat
  | .startLoop k => k
  | .feedLoop k => k

/-- rank of the runner.  Serial: `sTop` 4 > running generator 3; a yielded node 9 > `sExec` 5 > `sTop` 4.  Inside one call
    of `get_next_job`: `gEntry` 15 > `gLoop` 14 > `gWait` 10 + `wRank` (13 running, 19 with a node, 12 ended) > `gRet` 11;
    a node is answered by `gLoop` 14 or `gRet` 11.  Each remaining iteration of the caller's loop counts 20: the next call
    starts at 20 (k - 1) + 15 with the job just queued (3 in `extraOf`), below the 20 k + 11 of the call that returned.
    The jump from `pTop` back to `gEntry` after a result is paid by `U2`. -/
def rOf : RPC → Option DOut → Nat
  | .halted, _ => 0
  | .fin, _ => 1
  | .sWait, o => wRank o
  | .sTop _, _ => 4
  | .sExec _, _ => 5
  | .pJoin, _ => 2
  | .pTop, _ => 3
  | .gRet _ ret, _ => 20 * loopK ret + 11
  | .gWait ret, o => 20 * loopK ret + 10 + wRank o
  | .gLoop _ ret, _ => 20 * loopK ret + 14
  | .gEntry _ ret, _ => 20 * loopK ret + 15

/-- a node is being stepped by the dispatcher -/
def curW : Option Name → Nat
  | some _ => 4
  | none => 0

def restOf (s : Sys) : Nat :=
  5 * s.ready.length + s.toRun.length + curW s.cur + rOf s.rpc s.susp

def L1 (N : Nat) (s : Sys) : Nat := cntNone N s.nodes
def L2 (N : Nat) (s : Sys) : Nat := sumF N (fun _ nd => calOf N nd) s.nodes
def linS (inp : RunInput) (N : Nat) (s : Sys) : Nat := sumF N (linNode inp) s.nodes

def MLt (inp : RunInput) (N : Nat) (s' s : Sys) : Prop :=
  L1 N s' < L1 N s ∨ (L1 N s' = L1 N s ∧
    (L2 N s' < L2 N s ∨ (L2 N s' = L2 N s ∧ linS inp N s' + restOf s' < linS inp N s + restOf s)))

/-- the dispatcher part of the measure did not grow -/
def GLe (inp : RunInput) (N : Nat) (s' s : Sys) : Prop :=
  L1 N s' = L1 N s ∧ (L2 N s' < L2 N s ∨ (L2 N s' = L2 N s ∧
    linS inp N s' + 5 * s'.ready.length ≤ linS inp N s + 5 * s.ready.length))

theorem GLe.refl (s : Sys) : GLe inp N s s := ⟨rfl, Or.inr ⟨rfl, Nat.le_refl _⟩⟩

theorem GLe.trans {a b c : Sys} (h1 : GLe inp N b a) (h2 : GLe inp N c b) : GLe inp N c a := by
  obtain ⟨a1, a2⟩ := h1
  obtain ⟨b1, b2⟩ := h2
  refine ⟨b1.trans a1, ?_⟩
  rcases a2 with x | ⟨x1, x2⟩ <;> rcases b2 with y | ⟨y1, y2⟩
  · exact Or.inl (Nat.lt_trans y x)
  · exact Or.inl (by rw [y1]; exact x)
  · exact Or.inl (by rw [← x1]; exact y)
  · exact Or.inr ⟨y1.trans x1, Nat.le_trans y2 x2⟩

def SameM (inp : RunInput) (N : Nat) (s' t : Sys) : Prop :=
  L1 N s' = L1 N t ∧ L2 N s' = L2 N t ∧ linS inp N s' = linS inp N t

theorem SameM.of_nodes {s' t : Sys} (e : s'.nodes = t.nodes) : SameM inp N s' t := by
  unfold SameM L1 L2 linS; rw [e]; exact ⟨rfl, rfl, rfl⟩

theorem SameM.trans {a b c : Sys} (h1 : SameM inp N a b) (h2 : SameM inp N b c) : SameM inp N a c :=
  ⟨h1.1.trans h2.1, h1.2.1.trans h2.2.1, h1.2.2.trans h2.2.2⟩

theorem upd_sums {s s' : Sys} {n : Name} {nd : Node} (hn : s.nodes n = some nd) (hN : n < N) (x : Node)
    (hm : SameM inp N s' (setNode s n x)) : L1 N s' = L1 N s ∧ ∃ r2 r3,
      (L2 N s' = r2 + calOf N x ∧ L2 N s = r2 + calOf N nd) ∧
      (linS inp N s' = r3 + linNode inp n x ∧ linS inp N s = r3 + linNode inp n nd) := by
  obtain ⟨r2, a2, b2⟩ := sumF_update (g := fun _ nd => calOf N nd) hN s.nodes x
  obtain ⟨r3, a3, b3⟩ := sumF_update (g := linNode inp) hN s.nodes x
  rw [hn] at a2 a3
  refine ⟨hm.1.trans (cntNone_congr fun k => ?_), r2, r3, ⟨hm.2.1.trans b2, a2⟩, ⟨hm.2.2.trans b3, a3⟩⟩
  rw [setNode_nodes]
  by_cases e : k = n
  · rw [if_pos e, e, hn]; rfl
  · rw [if_neg e]

theorem SameM.nodewise {s' t : Sys} (h : ∀ k, s'.nodes k = t.nodes k ∨ ∃ a b, s'.nodes k = some a ∧ t.nodes k = some b ∧
    calOf N a = calOf N b ∧ linNode inp k a = linNode inp k b) : SameM inp N s' t := by
  refine ⟨cntNone_congr fun k => ?_, sumF_congr fun k => ?_, sumF_congr fun k => ?_⟩ <;>
    rcases h k with e | ⟨a, b, ea, eb, ec, el⟩
  · rw [e]
  · rw [ea, eb]; rfl
  · rw [e]
  · rw [ea, eb]; exact ec
  · rw [e]
  · rw [ea, eb]; exact el

theorem sameM_registerWaiting (s : Sys) (n : Name) (wf : List Name) : SameM inp N (registerWaiting s n wf) s := by
  refine .nodewise fun k => ?_
  rw [registerWaiting_nodes]
  cases hk : s.nodes k with
  | none => exact Or.inl rfl
  | some x =>
    by_cases e : k ∈ wf
    · refine Or.inr ⟨_, x, if_pos e, rfl, ?_, ?_⟩ <;> (unfold Node.addWaiting; split <;> rfl)
    · exact Or.inl (if_neg e)

theorem sameM_status {s s' : Sys} {n : Name} {nd : Node} (hn : s.nodes n = some nd) (st : RS)
    (e : s'.nodes = (setNode s n { nd with status := st }).nodes) : SameM inp N s' s := by
  refine .nodewise fun k => ?_
  rw [e, setNode_nodes]
  by_cases ek : k = n
  · exact Or.inr ⟨_, nd, if_pos ek, ek ▸ hn, rfl, rfl⟩
  · exact Or.inl (if_neg ek)

end DoitModel.Run
