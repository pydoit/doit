import DoitModel.Proofs.C12Closure
import DoitModel.Proofs.C12Stuck
/-! # C12 — the order clause on the run model (serial runner)

`inp.sel = pre ++ post`.  Phase 1 (`P1`): only members of `pre` have been popped from `tasks_to_run`; every node and
every started task is in the dependency closure of `pre`.  The phase ends when the dispatcher pops the first element of
`post`: nothing is current or ready then, so every existing node — in particular the node of every member of `pre` —
is finished or belongs to a set of parked nodes that await each other (`Stuck`), and stays so (`P2`).  Hence a member of
`pre` that is started at all is started in phase 1, after tasks of the closure of `pre` only (`Final`). -/
namespace DoitModel.Run

variable {inp : RunInput} {pre post : List Name}

structure P1 (inp : RunInput) (pre post : List Name) (s : Sys) : Prop where
  ncl : AllNCl inp pre s
  split : ∃ done r, pre = done ++ r ∧ s.toRun = r ++ post ∧ ∀ t ∈ done, created s t
  ev : ∀ b ∈ startsOf s.events, Cl (cutSel inp pre) b

def P2 (pre : List Name) (s : Sys) : Prop :=
  ∃ D : Name → Prop, Stuck D s ∧ ∀ a ∈ pre, D a ∨ (stOf s a).finished = true

/-- whatever was started before a member of `pre` is in the closure of `pre` (`startsOf`: newest first) -/
def Final (inp : RunInput) (pre : List Name) (s : Sys) : Prop :=
  ∀ l1 a l2, startsOf s.events = l1 ++ a :: l2 → a ∈ pre → ∀ b ∈ l2, Cl (cutSel inp pre) b

theorem p2_step {s s' : Sys} {perm : List Name} (h2 : Inv2 inp s) (h3 : Inv3 inp s) (hsb : SB s) (h : P2 pre s)
    (hs : serialStep inp s perm = some s') : P2 pre s' := by
  obtain ⟨D, hD, hf⟩ := h
  refine ⟨D, stuck_step h2.inv1 hsb hD hs, ?_⟩
  have hst := shape_stable (serialStep_shape h2 h3 hs)
  intro a ha
  rcases hf a ha with x | x
  · exact Or.inl x
  · right; rw [hst a x]; exact x

/-- a member of `pre` is not started in phase 2 -/
theorem p2_no_start {s : Sys} {b : Name} {nd : Node} (h1 : Inv1 inp s) (h : P2 pre s) (hb : b ∈ pre)
    (hsu : s.susp = some (.node b)) (hn : s.nodes b = some nd) (hd : selDecision inp b nd = .go) : False := by
  obtain ⟨D, hD, hf⟩ := h
  rcases hf b hb with x | x
  · exact stuck_not_yielded h1 hD hsu x
  · have := selDecision_unfinished (inp := inp) (n := b) (nd := nd) (by rw [hd]; simp)
    simp only [stOf, hn] at x; rw [this] at x; cases x

theorem final_step {s s' : Sys} {perm : List Name} (hs : serialStep inp s perm = some s') (h1 : Inv1 inp s)
    (hF : Final inp pre s) (hP : P1 inp pre post s ∨ P2 pre s) : Final inp pre s' := by
  intro l1 a l2 hsp ha b' hb'
  rcases (serialStep_facts hs).ev with e | ⟨b, e, _, hsu, nd, hn, hd⟩
  · exact hF l1 a l2 (e ▸ hsp) ha b' hb'
  · rw [e] at hsp
    cases l1 with
    | nil =>
      -- `a` is the task started by this step
      cases hsp
      rcases hP with p1 | p2
      · exact p1.ev b' hb'
      · exact (p2_no_start h1 p2 ha hsu hn hd).elim
    | cons x l1' => exact hF l1' a l2 (List.cons.inj hsp).2 ha b' hb'

theorem p1_step {s s' : Sys} {perm : List Name} (hser : inp.runner = .serial) (hp : Reach inp s)
    (hs : serialStep inp s perm = some s') (p1 : P1 inp pre post s) : P1 inp pre post s' ∨ P2 pre s' := by
  have F := serialStep_facts hs
  have keeps : ∀ a, created s a → created s' a := fun a ⟨y, hy⟩ =>
    let ⟨y', hy', _⟩ := F.keep a y hy
    ⟨y', hy'⟩
  obtain ⟨done, r, hpre, htr, hcr⟩ := p1.split
  by_cases hA : r = [] ∧ s.rpc = .sWait ∧ s.susp = none ∧ s.cur = none ∧ s.ready = []
  · -- the first element of `post` is about to be popped: phase 2 begins
    obtain ⟨hr0, hrpc, hsu, hc, hrd⟩ := hA
    obtain ⟨st, cl⟩ := stuck_at_pop hser hp hrpc hsu hc hrd
    refine .inr (p2_step (reach_inv2 hp) (reach_inv3 hp) (reach_sb hser hp) ⟨(· ∈ s.waiting), st, fun a ha => ?_⟩ hs)
    rw [hpre, hr0, List.append_nil] at ha
    exact cl a (hcr a ha)
  · left
    have rne : s.rpc = .sWait → s.susp = none → s.cur = none → s.ready = [] → ∃ t r', r = t :: r' := by
      intro a b c d
      cases r with
      | nil => exact absurd ⟨rfl, a, b, c, d⟩ hA
      | cons t r' => exact ⟨t, r', rfl⟩
    refine ⟨?_, ?_, ?_⟩
    · apply serialStep_ncl p1.ncl _ hs
      intro t rest htr' a b c d
      obtain ⟨t', r', e⟩ := rne a b c d
      rw [htr, e] at htr'
      apply Cl.ofSel
      show t ∈ pre
      rw [hpre, e, ← (List.cons.inj htr').1]; simp
    · rcases F.toRun with e | ⟨t, e, a, b, c, d, hcr'⟩
      · exact ⟨done, r, hpre, e ▸ htr, fun x hx => keeps x (hcr x hx)⟩
      · obtain ⟨t', r', e'⟩ := rne a b c d
        rw [htr, e'] at e
        obtain ⟨e1, e2⟩ := List.cons.inj e
        refine ⟨done ++ [t], r', by rw [hpre, e', e1]; simp, e2.symm, fun x hx => ?_⟩
        rcases List.mem_append.mp hx with y | y
        · exact keeps x (hcr x y)
        · cases List.mem_singleton.mp y; exact hcr'
    · rcases F.ev with e | ⟨b, e, _, _, nd, hn, _⟩
      · exact e ▸ p1.ev
      · rw [e]; intro b' hb'
        rcases List.mem_cons.mp hb' with x | x
        · exact x ▸ (p1.ncl b nd hn).self
        · exact p1.ev b' x

theorem order_inv {s : Sys} (hser : inp.runner = .serial) (hsel : inp.sel = pre ++ post) (hr : Reach inp s) :
    Final inp pre s ∧ (P1 inp pre post s ∨ P2 pre s) := by
  induction hr with
  | init =>
    refine ⟨?_, Or.inl ⟨?_, ⟨[], pre, rfl, hsel, fun t a => by cases a⟩, ?_⟩⟩
    · intro l1 a l2 e; simp [init, startsOf] at e
    · intro k y hk; simp [init] at hk
    · intro b hb; simp [init, startsOf] at hb
  | @next s0 s1 c hp hs ih =>
    cases c with
    | take w => cases hs
    | done w => cases hs
    | main perm =>
      have hs : serialStep inp s0 perm = some s1 := hs
      refine ⟨final_step hs (reach_inv2 hp).inv1 ih.1 ih.2, ?_⟩
      rcases ih.2 with p1 | p2
      · exact p1_step hser hp hs p1
      · exact .inr (p2_step (reach_inv2 hp) (reach_inv3 hp) (reach_sb hser hp) p2 hs)

/-- the tasks in the order in which the serial runner started them -/
def startOrder (s : Sys) : List Name := (startsOf s.events).reverse

/-- **Order clause on the run model.**  Serial runner, any reachable state, `pre` any prefix of the selection: a task
    that is started before a member of `pre` belongs to the dependency closure of `pre` — the least set containing
    `pre` and closed under task_dep, calc_dep, the setup-tasks of members that may run (not ignored, not up-to-date)
    and whatever a member delivers as a calc result (`Cl`, `Proofs/RunClosure.lean`). -/
theorem serial_start_order {s : Sys} (hser : inp.runner = .serial) (hsel : inp.sel = pre ++ post)
    (hr : Reach inp s) (before : List Name) (a : Name) (after : List Name)
    (hso : startOrder s = before ++ a :: after) (ha : a ∈ pre) : ∀ b ∈ before, Cl (cutSel inp pre) b := by
  have hf := (order_inv (post := post) hser hsel hr).1
  have e : startsOf s.events = after.reverse ++ a :: before.reverse := by
    have := congrArg List.reverse hso
    simpa [startOrder] using this
  intro b hb
  exact hf _ a _ e ha b (by simpa using hb)

end DoitModel.Run
