import DoitModel.Proofs.OptPrec
import DoitModel.Proofs.OptCfg
/-! M4: the configuration layers — `overwrite_defaults` (INI/TOML/API/per-task sections) below the environment,
    `update_defaults(DOIT_CONFIG)` between environment and sections -/
namespace DoitModel.Opt

theorem updateDefaults_nd (dodo : List (Str × Val)) (p : Params) : (updateDefaults dodo p).nd = p.nd := by
  induction dodo generalizing p with
  | nil => rfl
  | cons x r ih =>
    obtain ⟨k, v⟩ := x
    simp only [updateDefaults]
    rw [ih]
    split <;> rfl

theorem updateDefaults_vals (dodo : List (Str × Val)) (hnd : (dodo.map (·.1)).Nodup) (p : Params) (n : Str) :
    (updateDefaults dodo p).vals n =
      if p.nd n then p.vals n else match alookup n dodo with
        | some v => some v
        | none => p.vals n := by
  induction dodo generalizing p with
  | nil => simp [updateDefaults, alookup]
  | cons x r ih =>
    obtain ⟨k, v⟩ := x
    simp only [List.map_cons, List.nodup_cons] at hnd
    simp only [updateDefaults]
    rw [ih hnd.2, alookup_cons]
    by_cases hk : k = n
    · subst hk
      have hnone := alookup_not_mem k r hnd.1
      by_cases hp : p.nd k = true
      · simp [hp]
      · simp [hp, hnone, Params.setDefault]
    · by_cases hp : p.nd k = true
      · simp [hp, hk]
      · have hk' : ¬ n = k := fun e => hk e.symm
        simp [hp, hk, hk', Params.setDefault]

section wd
variable (f : Opt → Val)

/-- the option with its default replaced by `f o` -/
def wd (o : Opt) : Opt := { o with default := f o }

theorem getopt_wd (spec : List Opt) (argv : List Str) : getopt (spec.map (wd f)) argv = getopt spec argv := by
  simp only [getopt, shortTable, longTable, List.filterMap_map, List.flatMap_map]
  rfl

theorem getOption_wd (spec : List Opt) (k : Key) :
    getOption (spec.map (wd f)) k = (getOption spec k).map fun r => (wd f r.1, r.2) := by
  induction spec with
  | nil => rfl
  | cons a r ih =>
    simp only [List.map_cons, getOption]
    have : matchKey (wd f a) k = matchKey a k := by cases k <;> rfl
    rw [this]
    split <;> simp [ih]

theorem occurrences_wd (spec : List Opt) (o : Opt) (ps : Pairs) :
    occurrences (spec.map (wd f)) (wd f o) ps = occurrences spec o ps := by
  simp only [occurrences]
  congr 1
  funext kv
  rw [getOption_wd]
  cases getOption spec kv.1 with
  | none => rfl
  | some r => rfl

end wd

/-- the default after `overwrite_defaults`.  A value that does not convert leaves the declared default: harmless,
    `overwriteDefaults` fails then and no state is looked at (second part of `overwriteDefaults_char`). -/
def newDefault (ini : List (Str × CfgVal)) (o : Opt) : Val :=
  match alookup o.name ini with
  | some c => match str2typeCfg o c with
    | .ok v => v
    | .error _ => o.default
  | none => o.default

theorem str2type_default (o : Opt) (d : Val) (s : Str) : str2type { o with default := d } s = str2type o s := rfl
theorem str2typeCfg_default (o : Opt) (d : Val) (c : CfgVal) :
    str2typeCfg { o with default := d } c = str2typeCfg o c := by cases c <;> rfl

theorem setDefaultOf_names (st : PState) (k : Str) (v : Val) :
    (setDefaultOf st k v).map (·.name) = st.map (·.name) := by
  simp only [setDefaultOf, List.map_map]
  apply List.map_congr_left
  intro o _
  simp only [Function.comp]
  split <;> rfl

theorem findOpt_some (st : PState) (k : Str) (o : Opt) (h : findOpt st k = some o) : o ∈ st ∧ o.name = k := by
  unfold findOpt at h
  exact ⟨List.mem_of_find?_eq_some h, by simpa using List.find?_some h⟩

theorem findOpt_none (st : PState) (k : Str) (h : findOpt st k = none) (o : Opt) (ho : o ∈ st) : o.name ≠ k := by
  unfold findOpt at h
  have := List.find?_eq_none.mp h o ho
  simpa using this

theorem overwriteDefaults_char (ini : List (Str × CfgVal)) (hini : (ini.map (·.1)).Nodup) (spec st : PState)
    (hnd : (spec.map (·.name)).Nodup) (h : overwriteDefaults ini spec = .ok st) :
    st = spec.map (wd (newDefault ini)) ∧
    ∀ o ∈ spec, ∀ c, alookup o.name ini = some c → ∃ v, str2typeCfg o c = .ok v := by
  induction ini generalizing spec with
  | nil => cases h; exact ⟨(List.map_id'' (fun _ => rfl) _).symm, fun _ _ _ hc => nomatch hc⟩
  | cons x rest ih =>
    obtain ⟨k, c⟩ := x
    rw [List.map_cons, List.nodup_cons] at hini
    unfold overwriteDefaults at h
    cases hf : findOpt spec k with
    | none =>
      -- no option of the table has this key: nothing changes, and no lookup by an option's name meets the entry
      simp only [hf] at h
      obtain ⟨h1, h2⟩ := ih hini.2 spec hnd h
      have hlook : ∀ o ∈ spec, alookup o.name ((k, c) :: rest) = alookup o.name rest :=
        fun o ho => if_neg fun e => findOpt_none spec k hf o ho e.symm
      refine ⟨h1.trans (List.map_congr_left fun o ho => ?_), fun o ho c' hc' => h2 o ho c' ((hlook o ho).symm.trans hc')⟩
      unfold wd newDefault
      rw [hlook o ho]
    | some o0 =>
      obtain ⟨hm0, rfl⟩ := findOpt_some spec k o0 hf
      cases hv : str2typeCfg o0 c with
      | error e => simp only [hf, hv] at h; cases h
      | ok v =>
        simp only [hf, hv] at h
        obtain ⟨h1, h2⟩ := ih hini.2 (setDefaultOf spec o0.name v) (by rw [setDefaultOf_names]; exact hnd) h
        have hknone := alookup_not_mem o0.name rest hini.1
        -- `o0` is the only option with this name; the later entries have other keys
        refine ⟨?_, fun o ho c' hc' => ?_⟩
        · rw [h1, setDefaultOf, List.map_map]
          refine List.map_congr_left fun o ho => ?_
          by_cases hk : o.name = o0.name
          · cases name_inj spec hnd o o0 ho hm0 hk
            simp only [Function.comp, if_pos, wd, newDefault, hknone, alookup_cons, hv]
          · simp only [Function.comp, if_neg hk, wd, newDefault, alookup_cons, if_neg (Ne.symm hk)]
        · by_cases hk : o.name = o0.name
          · cases name_inj spec hnd o o0 ho hm0 hk
            rw [alookup_cons, if_pos rfl] at hc'
            cases hc'
            exact ⟨v, hv⟩
          · rw [alookup_cons, if_neg (Ne.symm hk)] at hc'
            exact h2 o (List.mem_map.2 ⟨o, ho, if_neg hk⟩) c' hc'

theorem specValue_dodo (o : Opt) (occ : List (Bool × Str)) (envv : Option Str) (dodov : Option Val)
    (iniv : Option CfgVal) :
    specValue o occ envv dodov iniv =
      if (envv.isSome || !occ.isEmpty) then specValue o occ envv none iniv
      else match dodov with
        | some v => .ok v
        | none => specValue o occ envv none iniv := by
  cases occ with
  | nil =>
    cases envv with
    | some s => rfl
    | none => cases dodov <;> rfl
  | cons x xs => cases envv <;> rfl

theorem baseValue_withDefault (ini : List (Str × CfgVal)) (o : Opt) (envv : Option Str)
    (hconv : ∀ c, alookup o.name ini = some c → ∃ v, str2typeCfg o c = .ok v) :
    baseValue (wd (newDefault ini) o) envv none = baseValue o envv (alookup o.name ini) := by
  cases envv with
  | some s => rfl
  | none =>
    simp only [baseValue, wd, newDefault]
    cases hc : alookup o.name ini with
    | none => rfl
    | some c =>
      obtain ⟨v, hv⟩ := hconv c hc
      simp only [hv]

theorem specValue_withDefault (ini : List (Str × CfgVal)) (o : Opt) (occ : List (Bool × Str)) (envv : Option Str)
    (hconv : ∀ c, alookup o.name ini = some c → ∃ v, str2typeCfg o c = .ok v) :
    specValue (wd (newDefault ini) o) occ envv none none = specValue o occ envv none (alookup o.name ini) := by
  have hb := baseValue_withDefault ini o envv hconv
  unfold specValue
  cases occ.getLast? with
  | none =>
    cases envv with
    | some s => rfl
    | none => exact hb
  | some l =>
    simp only [hb]
    rfl

end DoitModel.Opt
