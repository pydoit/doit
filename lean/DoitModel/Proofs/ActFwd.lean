import DoitModel.Proofs.ActModeBuf
/-! Frame lemma of the stream machine with the live copy (`Writer` forwarding).  `Fwd` is the all-capture fragment
    of `Mode` (`Mode.ofFwdForest`), so a well-nested list is first read back as a forest and every field of the
    frame is then the corresponding fact about `Mode`; only `quiet` (nothing reaches the original stream when no
    execution is handed a live stream) has an induction of its own. -/
namespace DoitModel.Act.Fwd
open DoitModel.Act

theorem started_append (xs ys : List Ev) : started (xs ++ ys) = started xs ++ started ys := by
  induction xs with
  | nil => rfl
  | cons e xs ih =>
    cases e with
    | save b => exact congrArg (b :: ·) ih
    | _ => exact ih

theorem allOff_append (xs ys : List Ev) : allOff (xs ++ ys) = (allOff xs && allOff ys) := by
  induction xs with
  | nil => rfl
  | cons e xs ih =>
    cases e with
    | getlive b on => exact (congrArg (!on && ·) ih).trans (Bool.and_assoc ..).symm
    | _ => exact ih

theorem started_exec (b : Act) (on : Bool) (body rest : List Ev) :
    started ([.getlive b on, .save b, .set b] ++ body ++ [.restore b, .read b] ++ rest) =
      b :: (started body ++ started rest) := by
  simp only [started_append, started, List.append_nil, List.cons_append, List.nil_append]

theorem allOff_exec (b : Act) (on : Bool) (body rest : List Ev) :
    allOff ([.getlive b on, .save b, .set b] ++ body ++ [.restore b, .read b] ++ rest) =
      (!on && (allOff body && allOff rest)) := by
  simp only [allOff_append, allOff, Bool.and_true, Bool.and_assoc]

theorem flatten_wn (f : Forest) : ∀ o, WN o (flatten o f) := by
  induction f with
  | nil => intro o; cases o <;> exact WN.nil _
  | write n rest ih =>
    intro o
    cases o with
    | none => exact ih none
    | some a => exact WN.write a n _ (ih (some a))
  | exec b on body rest ihb ihr => intro o; cases o <;> exact WN.exec _ b on _ _ (ihb (some b)) (ihr _)
  | kw b rest ih => intro o; cases o <;> exact ih _

theorem wn_is_forest {o : Option Act} {evs : List Ev} (h : WN o evs) : ∃ f : Forest, flatten o f = evs := by
  induction h with
  | nil o => exact ⟨.nil, by cases o <;> rfl⟩
  | write a n rest _ ih =>
    obtain ⟨f, rfl⟩ := ih
    exact ⟨.write n f, rfl⟩
  | exec o b on body rest _ _ ihb ihr =>
    obtain ⟨fb, rfl⟩ := ihb
    obtain ⟨fr, rfl⟩ := ihr
    exact ⟨.exec b on fb fr, by cases o <;> rfl⟩

theorem run_eq_mode (f : Forest) (o : Option Act) (s : St) :
    run s (flatten o f) = Mode.run s (Mode.flatten o (Mode.ofFwdForest f)) := by
  rw [Mode.flatten_ofFwd, Mode.run_ofFwd]

theorem writesOf_eq_mode (c : Act) (f : Forest) (o : Option Act) :
    writesOf c (flatten o f) = Mode.writesOf c (Mode.flatten o (Mode.ofFwdForest f)) := by
  rw [Mode.flatten_ofFwd]
  induction flatten o f with
  | nil => rfl
  | cons e evs ih =>
    cases e with
    | write b n => simp only [List.map, Mode.ofFwd, writesOf, Mode.writesOf, ih]
    | _ => exact ih

theorem started_eq_mode (f : Forest) : ∀ o,
    started (flatten o f) = Mode.started (Mode.flatten o (Mode.ofFwdForest f)) := by
  induction f with
  | nil => intro o; cases o <;> rfl
  | write n rest ih => intro o; cases o <;> exact ih _
  | kw b rest ih => intro o; exact ih o
  | exec b on body rest ihb ihr =>
    intro o
    simp only [flatten, started_exec, Mode.ofFwdForest, Mode.flatten, Mode.started_exec, ihb, ihr]

theorem started_sub_reads (f : Forest) : ∀ o c, c ∈ Mode.started (Mode.flatten o (Mode.ofFwdForest f)) →
    c ∈ Mode.reads (Mode.flatten o (Mode.ofFwdForest f)) := by
  induction f with
  | nil => intro o c h; cases o <;> cases h
  | write n rest ih => intro o c h; cases o <;> exact ih _ c h
  | kw b rest ih => intro o c h; exact ih o c h
  | exec b on body rest ihb ihr =>
    intro o c h
    simp only [Mode.ofFwdForest, Mode.flatten, Mode.started_exec, List.mem_cons, List.mem_append] at h
    simp only [Mode.ofFwdForest, Mode.flatten, Mode.reads_exec, List.mem_append, if_true, List.mem_singleton]
    rcases h with h | h | h
    · exact .inl (.inr h)
    · exact .inl (.inl (ihb _ c h))
    · exact .inr (ihr _ c h)

theorem quiet (f : Forest) : ∀ (o : Option Act) (s : St),
    (Mode.started (Mode.flatten o (Mode.ofFwdForest f))).Nodup → allOff (flatten o f) = true →
    (∀ a, o = some a → reachesOrig s.cell = false) →
    (Mode.run s (Mode.flatten o (Mode.ofFwdForest f))).origLog = s.origLog := by
  induction f with
  | nil => intro o s _ _ _; cases o <;> rfl
  | kw b rest ih => intro o s hn hoff hq; exact ih o s hn hoff hq
  | write n rest ih =>
    intro o s hn hoff hq
    cases o with
    | none => exact ih none s hn hoff hq
    | some a =>
      refine (ih (some a) (Mode.step s (.write a n)) hn hoff fun _ _ => ?_).trans ?_
      · exact (congrArg reachesOrig (emit_cell ..)).trans (hq a rfl)
      · exact (emit_origLog ..).trans (by rw [hq a rfl]; exact List.append_nil _)
  | exec b on body rest ihb ihr =>
    intro o s hn hoff hq
    simp only [flatten, allOff_exec, Bool.and_eq_true, Bool.not_eq_true'] at hoff
    simp only [Mode.ofFwdForest, Mode.flatten, Mode.started_exec, List.nodup_cons, List.mem_append, not_or,
      List.nodup_append] at hn
    obtain ⟨⟨hbB, _⟩, hnB, hnR, _⟩ := hn
    have P := Mode.pre_spec s b on true
    have Q := Mode.block_post (Mode.frame (Mode.ofFwdForest body) (some b) (Mode.run s (Mode.pre b on true)) hnB) hbB
    simp only [Mode.ofFwdForest, Mode.flatten, Mode.run_append]
    rw [ihr o _ hnR hoff.2.2 (fun a ha => by rw [Q.cell]; exact hq a ha), Q.origLog,
      ihb (some b) _ hnB hoff.2.1 (fun _ _ => by rw [P.cell, hoff.1]; rfl), P.origLog]

/-- `Mode.Frame` and `Mode.BFrame` together for the all-capture fragment, plus `quiet` -/
structure Frame (o : Option Act) (evs : List Ev) (s s' : St) : Prop where
  cell : s'.cell = s.cell
  unbound : s'.unbound = s.unbound
  outs : ∀ b, b ∈ started evs → ∃ l, s'.out b = some l ∧ own b l = writesOf b evs
  own : ∀ c, c ∉ started evs → own c (s'.buf c) = own c (s.buf c) ++ writesOf c evs
  untouched : ∀ c, c ∉ started evs → c ∉ bufsOf s.cell → s'.buf c = s.buf c
  keepOut : ∀ c, c ∉ started evs → s'.out c = s.out c
  keepSaved : ∀ c, c ∉ started evs → s'.saved c = s.saved c
  keepLive : ∀ c, c ∉ started evs → s'.live c = s.live c
  quiet : allOff evs = true → (∀ a, o = some a → reachesOrig s.cell = false) → s'.origLog = s.origLog

theorem wn_frame {o : Option Act} {evs : List Ev} (h : WN o evs) (s : St) (hn : (started evs).Nodup)
    (hfresh : ∀ b, b ∈ started evs → s.buf b = [] ∧ b ∉ bufsOf s.cell)
    (ho : ∀ a, o = some a → s.cell = .writer a (s.live a) ∧ a ∉ bufsOf (s.live a) ∧ a ∉ started evs) :
    Frame o evs s (run s evs) := by
  obtain ⟨f, rfl⟩ := wn_is_forest h
  have hs := started_eq_mode f o
  rw [hs] at hn hfresh ho
  rw [run_eq_mode]
  have F := Mode.frame _ o s hn
  have B := Mode.bframe _ o s hn hfresh fun a ha => (ho a ha).2.2
  refine ⟨F.cell, F.unbound, ?_, ?_, ?_, ?_, ?_, ?_, quiet f o s hn⟩
  all_goals intro c; rw [hs]
  · intro hc
    rw [writesOf_eq_mode]
    exact B.outs c (started_sub_reads f o c hc)
  · intro hc
    rw [writesOf_eq_mode]
    by_cases hoc : o = some c
    · subst hoc
      exact Mode.own_ctx _ c _ s hn hc (ho c rfl).1 (ho c rfl).2.1
    · rw [Mode.writesOf_none _ o c hoc hc, List.append_nil]
      exact Mode.own_foreign _ s c (Mode.writesOf_none _ o c hoc hc)
  · exact B.untouched c
  · exact fun hc => Mode.out_only_read _ s c fun e => hc (Mode.reads_sub_started _ o c e)
  · exact F.keepSaved c
  · exact F.keepLive c

end DoitModel.Act.Fwd
