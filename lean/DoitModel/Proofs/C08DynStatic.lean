import DoitModel.Proofs.C08DynConfluence
import DoitModel.Proofs.C08DynExec
/-! # C08 (I10): the theorems for graphs without calc_dep as corollaries of the development for any graph

On `NoCalc` inputs `Dyn.DenOf` / `Dyn.DenCl` are the static `DenOf` / `DenCl`, so the statements about the static denotation
follow (namespace `DynS`).  In `DoitModel.Run`: the invariants of `Proofs/C08Inv.lean` in every reachable state, and the
statements that carry the instance `NoFailDeliver` as an argument. -/
namespace DoitModel.Run.DynS
open DoitModel.Run.Dyn (DenOf_noCalc DenOf_of_static DenOf_to_static DepOf_noCalc)

theorem CalcR_noCalc {inp : RunInput} (hnc : NoCalc inp) {n c : Name} (h : Dyn.CalcR inp n c) : False := by
  induction h with
  | static hc => rw [hnc] at hc; cases hc
  | deliv _ _ _ ih => exact ih

theorem R1_noCalc {inp : RunInput} (hnc : NoCalc inp) (n : Name) : Dyn.R1 inp n ↔ R1 inp n := by
  constructor
  · rintro ⟨dd, L, hL, hT, h1⟩
    have sub : ∀ x, x ∈ L ↔ x ∈ inp.taskDep n := fun x => (hL x).trans (DepOf_noCalc hnc dd n x)
    refine ⟨dd, fun d hd => DenOf_to_static hnc (hT d ((sub d).mpr hd)), ?_⟩
    rw [← Dyn.stage1L_static, ← Dyn.stage1L_congr sub (fun _ _ => rfl)]; exact h1
  · rintro ⟨dd, hT, h1⟩
    exact ⟨dd, inp.taskDep n, fun x => (DepOf_noCalc hnc dd n x).symm, fun d hd => DenOf_of_static hnc (hT d hd),
      by rw [Dyn.stage1L_static]; exact h1⟩

theorem DenCl_noCalc {inp : RunInput} (hnc : NoCalc inp) (t : Name) : Dyn.DenCl inp t ↔ DenCl inp t := by
  constructor
  · intro h
    induction h with
    | ofSel hm => exact DenCl.ofSel hm
    | ofTask _ hd ih => exact DenCl.ofTask ih hd
    | ofCalc _ hc _ => exact (CalcR_noCalc hnc hc).elim
    | ofDeliv _ hc _ _ _ => exact (CalcR_noCalc hnc hc).elim
    | ofSetup _ hr hd ih => exact DenCl.ofSetup ih ((R1_noCalc hnc _).mp hr) hd
  · intro h
    induction h with
    | ofSel hm => exact Dyn.DenCl.ofSel hm
    | ofTask _ hd ih => exact Dyn.DenCl.ofTask ih hd
    | ofSetup _ hr hd ih => exact Dyn.DenCl.ofSetup ih ((R1_noCalc hnc _).mpr hr) hd

theorem status_is_den {inp : RunInput} {s : Sys} (hnc : NoCalc inp) (hr : Reach inp s ∨ PReach inp s) (t : Name)
    (hf : (stOf s t).finished = true) : ∃ d, DenOf inp t d ∧ d.rs = stOf s t := by
  obtain ⟨d, hd, e⟩ := Dyn.status_is_den hr t hf
  exact ⟨d, DenOf_to_static hnc hd, e⟩

theorem report_is_den {inp : RunInput} {s : Sys} (hnc : NoCalc inp) (hr : Reach inp s ∨ PReach inp s) (t : Name)
    (d : Den) (h : ∃ e ∈ s.events, Ev.den? t e = some d) : DenOf inp t d :=
  DenOf_to_static hnc (Dyn.report_is_den hr t d h)

theorem reportOf_is_den {inp : RunInput} {s : Sys} (hnc : NoCalc inp) (hr : Reach inp s ∨ PReach inp s) (t : Name)
    (d : Den) (h : reportOf (trace inp s) t = some d) : DenOf inp t d :=
  DenOf_to_static hnc (Dyn.reportOf_is_den hr t d h)

theorem reported_iff_closure {inp : RunInput} {s : Sys} (hnc : NoCalc inp) (hr : Reach inp s ∨ PReach inp s)
    (hend : s.rpc = .halted) (hhalt : s.halt = .none) (hstop : s.stop = false) (t : Name) :
    Reported s t ↔ DenCl inp t :=
  (Dyn.reported_iff_closure hr hend hhalt hstop t).trans (DenCl_noCalc hnc t)

theorem denSub {inp1 inp2 : RunInput} (hsame : SameTasks inp1 inp2) (hnc : NoCalc inp1) :
    ∀ t d, Dyn.DenOf inp2 t d → Dyn.DenOf inp1 t d :=
  fun _ _ h => DenOf_of_static hnc ((DenOf_to_static (hsame.noCalc hnc) h).same hsame.symm)

theorem confluent_status {inp1 inp2 : RunInput} {s1 s2 : Sys} (hsame : SameTasks inp1 inp2) (hnc : NoCalc inp1)
    (h1 : Reach inp1 s1 ∨ PReach inp1 s1) (h2 : Reach inp2 s2 ∨ PReach inp2 s2) (t : Name)
    (f1 : (stOf s1 t).finished = true) (f2 : (stOf s2 t).finished = true) : stOf s1 t = stOf s2 t :=
  Dyn.confluent_status_of (denSub hsame hnc) h1 h2 t f1 f2

theorem confluent_report {inp1 inp2 : RunInput} {s1 s2 : Sys} (hsame : SameTasks inp1 inp2) (hnc : NoCalc inp1)
    (h1 : Reach inp1 s1 ∨ PReach inp1 s1) (h2 : Reach inp2 s2 ∨ PReach inp2 s2) (t : Name) (d1 d2 : Den)
    (r1 : ∃ e ∈ s1.events, Ev.den? t e = some d1) (r2 : ∃ e ∈ s2.events, Ev.den? t e = some d2) : d1 = d2 :=
  Dyn.confluent_report_of (denSub hsame hnc) h1 h2 t d1 d2 r1 r2

theorem complete_runs_same_reported {inp1 inp2 : RunInput} {s1 s2 : Sys} (hsame : SameTasks inp1 inp2)
    (hsel : ∀ t, t ∈ inp1.sel ↔ t ∈ inp2.sel) (hnc : NoCalc inp1)
    (h1 : Reach inp1 s1 ∨ PReach inp1 s1) (h2 : Reach inp2 s2 ∨ PReach inp2 s2)
    (e1 : s1.rpc = .halted ∧ s1.halt = .none ∧ s1.stop = false)
    (e2 : s2.rpc = .halted ∧ s2.halt = .none ∧ s2.stop = false) (t : Name) :
    Reported s1 t ↔ Reported s2 t := by
  rw [reported_iff_closure hnc h1 e1.1 e1.2.1 e1.2.2, reported_iff_closure (hsame.noCalc hnc) h2 e2.1 e2.2.1 e2.2.2]
  exact ⟨DenCl_same hsame (fun t => (hsel t).mp), DenCl_same hsame.symm (fun t => (hsel t).mpr)⟩

theorem complete_runs_same_exit {inp1 inp2 : RunInput} {s1 s2 : Sys} (hsame : SameTasks inp1 inp2)
    (hsel : ∀ t, t ∈ inp1.sel ↔ t ∈ inp2.sel) (hnc : NoCalc inp1)
    (h1 : Reach inp1 s1 ∨ PReach inp1 s1) (h2 : Reach inp2 s2 ∨ PReach inp2 s2)
    (e1 : s1.rpc = .halted ∧ s1.halt = .none ∧ s1.stop = false)
    (e2 : s2.rpc = .halted ∧ s2.halt = .none ∧ s2.stop = false) : exitCode s1 = exitCode s2 :=
  Dyn.confluent_exit_of (denSub hsame hnc) h1 h2 e1.2.1 e2.2.1 (complete_runs_same_reported hsame hsel hnc h1 h2 e1 e2)

theorem complete_runs_same_reportOf {inp1 inp2 : RunInput} {s1 s2 : Sys} (hsame : SameTasks inp1 inp2)
    (hsel : ∀ t, t ∈ inp1.sel ↔ t ∈ inp2.sel) (hnc : NoCalc inp1)
    (h1 : Reach inp1 s1 ∨ PReach inp1 s1) (h2 : Reach inp2 s2 ∨ PReach inp2 s2)
    (e1 : s1.rpc = .halted ∧ s1.halt = .none ∧ s1.stop = false)
    (e2 : s2.rpc = .halted ∧ s2.halt = .none ∧ s2.stop = false) (t : Name) :
    reportOf (trace inp1 s1) t = reportOf (trace inp2 s2) t :=
  Dyn.complete_runs_same_reportOf_of (denSub hsame hnc) h1 h2 t (complete_runs_same_reported hsame hsel hnc h1 h2 e1 e2 t)

theorem monitor_reports {inp : RunInput} {s : Sys} {r : Name → Nat} (hnc : NoCalc inp) (hac : Acyclic inp r)
    (hr : Reach inp s ∨ PReach inp s) (nTasks : Nat) (hb : ∀ t, r t ≤ nTasks) :
    ((List.range nTasks).all fun t =>
      match reportOf (trace inp s) t with
      | some d => denF inp (nTasks + 1) t == d
      | none => true) = true := by
  simp only [List.all_eq_true, List.mem_range]
  intro t _
  cases h : reportOf (trace inp s) t with
  | none => rfl
  | some d =>
    have := denF_unique hac (reportOf_is_den hnc hr t d h) (nTasks + 1) (by have := hb t; omega)
    simp [this]

theorem complete_exit_is_den {inp : RunInput} {s : Sys} (hnc : NoCalc inp) (hr : Reach inp s ∨ PReach inp s)
    (hend : s.rpc = .halted) (hhalt : s.halt = .none) (hstop : s.stop = false)
    (L : List Name) (hL : ∀ t, t ∈ L ↔ DenCl inp t) (den : Name → Den) (hden : ∀ t ∈ L, DenOf inp t (den t)) :
    exitCode s = exitOfDens (L.map den) :=
  Dyn.complete_exit_is_den hr hend hhalt hstop L (fun t => (hL t).trans (DenCl_noCalc hnc t).symm) den
    (fun t ht => DenOf_of_static hnc (hden t ht))

theorem monitor_den {inp : RunInput} {s : Sys} {r : Name → Nat} (hnc : NoCalc inp) (hac : Acyclic inp r)
    (hr : Reach inp s ∨ PReach inp s) (nTasks : Nat) (hb : ∀ t, r t ≤ nTasks) (hst : ClosureStable inp nTasks)
    (complete : Bool) (hc : complete = true → s.rpc = .halted ∧ s.halt = .none ∧ s.stop = false) :
    monC08Den inp nTasks (trace inp s) (exitCode s) complete = true := by
  unfold monC08Den
  rw [Bool.and_eq_true]
  refine ⟨monitor_reports hnc hac hr nTasks hb, ?_⟩
  cases complete with
  | false => rfl
  | true =>
    obtain ⟨e1, e2, e3⟩ := hc rfl
    simp only [Bool.not_true, Bool.false_or, Bool.and_eq_true, List.all_eq_true, List.mem_range, beq_iff_eq]
    refine ⟨?_, ?_⟩
    · intro t _
      rw [Bool.eq_iff_iff, reportOf_isSome_iff, decide_eq_true_iff, reported_iff_closure hnc hr e1 e2 e3]
      exact ((denClosureSpec_of_stable hac nTasks hb hst) t).symm
    · exact complete_exit_is_den hnc hr e1 e2 e3 _ (denClosureSpec_of_stable hac nTasks hb hst) _
        (fun t _ => denF_is_den hac (nTasks + 1) t (by have := hb t; omega))

theorem monitor_den' {inp : RunInput} {s : Sys} {r : Name → Nat} (hnc : NoCalc inp) (hac : Acyclic inp r)
    (hr : Reach inp s ∨ PReach inp s) (nTasks : Nat) (hb : ∀ t, r t ≤ nTasks)
    (hlt : ∀ t, DenCl inp t → t < nTasks)
    (complete : Bool) (hc : complete = true → s.rpc = .halted ∧ s.halt = .none ∧ s.stop = false) :
    monC08Den inp nTasks (trace inp s) (exitCode s) complete = true :=
  monitor_den hnc hac hr nTasks hb (closureStable hac nTasks hb hlt) complete hc

end DoitModel.Run.DynS

namespace DoitModel.Run

theorem GoOK_of_dyn {inp : RunInput} (hnc : NoCalc inp) {n : Name} (h : Dyn.GoOK inp n) : GoOK inp n := by
  obtain ⟨dd, L, hL, hT, h1, hS, h2, _⟩ := h
  have sub : ∀ x, x ∈ L ↔ x ∈ inp.taskDep n := fun x => (hL x).trans (Dyn.DepOf_noCalc hnc dd n x)
  refine ⟨dd, fun d hd => Dyn.DenOf_to_static hnc (hT d ((sub d).mpr hd)), ?_, fun d hd => Dyn.DenOf_to_static hnc (hS d hd), h2⟩
  rw [← Dyn.stage1L_static, ← Dyn.stage1L_congr sub (fun _ _ => rfl)]; exact h1

theorem invE_of_dyn {inp : RunInput} {s : Sys} (hnc : NoCalc inp) (h : Dyn.InvE inp s) : InvE inp s :=
  ⟨fun n hn => (h.fin n hn).imp fun _ a => ⟨Dyn.DenOf_to_static hnc a.1, a.2⟩,
   fun n hn => (DynS.R1_noCalc hnc n).mp (h.run1 n hn), fun n deps hm => GoOK_of_dyn hnc (h.go n deps hm),
   fun e he t d hd => Dyn.DenOf_to_static hnc (h.rep e he t d hd)⟩

theorem CalcS_noCalc {inp : RunInput} (hnc : NoCalc inp) {s : Sys} {n x : Name} (h : Dyn.CalcS inp s n x) : False := by
  induction h with
  | static hc => rw [hnc] at hc; cases hc
  | deliv _ _ _ ih | delivF _ _ _ _ ih => exact ih

/-- without calc_dep the lists of a node hold static task_deps only, and nothing about calc_deps is pending -/
theorem nodeS_of_dyn {inp : RunInput} {s : Sys} {n : Name} {nd : Node} (hnc : NoCalc inp) (h : Dyn.NodeS inp s n nd) :
    NodeS inp s n nd := by
  have noC : ∀ {l : List Name}, (∀ d ∈ l, d ∈ nd.dynCalc) → l = [] := fun hl =>
    List.eq_nil_iff_forall_not_mem.mpr fun d hd => CalcS_noCalc hnc (h.1.dynC d (hl d hd))
  have task : ∀ d ∈ nd.dynTask, d ∈ inp.taskDep n := by
    intro d hd
    rcases h.1.dynT d hd with a | ⟨_, hc, _⟩ | ⟨_, hc, _⟩
    · exact a
    · exact (CalcS_noCalc hnc hc).elim
    · exact (CalcS_noCalc hnc hc).elim
  have src : ∀ p, Dyn.Src inp n nd.pc.late nd p → Src inp n nd.pc p := by
    rintro p (a | a | a)
    · exact Or.inl (task p a)
    · exact (CalcS_noCalc hnc (h.1.dynC p a)).elim
    · exact Or.inr a
  exact ⟨⟨noC h.1.pendC, noC h.1.snapC, noC h.1.waitC⟩, fun d hd => task d (h.1.pendT d hd),
    fun d hd => task d (h.1.snapT d hd), fun d hd => src d (h.1.wait d hd),
    fun p hp => ⟨(h.1.bad p hp).1, src p (h.1.bad p hp).2⟩, fun p hp => ⟨(h.1.ign p hp).1, src p (h.1.ign p hp).2⟩, h.2⟩

theorem invDen_of_dyn {inp : RunInput} {s : Sys} (hnc : NoCalc inp) (h : Dyn.InvDen inp s) : InvDen inp s :=
  ⟨fun n nd hn => nodeS_of_dyn hnc (h.nodeS n nd hn), invE_of_dyn hnc h.den⟩

theorem reach_invDen {inp : RunInput} {s : Sys} (hnc : NoCalc inp) (h : Reach inp s) : InvDen inp s :=
  invDen_of_dyn hnc (Dyn.reach_invDen h)

theorem preach_invDen {inp : RunInput} {s : Sys} (hnc : NoCalc inp) (h : PReach inp s) : InvDen inp s :=
  invDen_of_dyn hnc (Dyn.preach_invDen h)

theorem created_in_closure {inp : RunInput} [NoFailDeliver inp] {s : Sys} (hnc : NoCalc inp) (hr : Reach inp s ∨ PReach inp s) (t : Name)
    (nd : Node) (h : s.nodes t = some nd) : DenCl inp t :=
  (DynS.DenCl_noCalc hnc t).mp (Dyn.created_in_closure hr t nd h)

theorem confluent_status {inp1 inp2 : RunInput} [NoFailDeliver inp2] [NoFailDeliver inp1] {s1 s2 : Sys} (hsame : SameTasks inp1 inp2) (hnc : NoCalc inp1)
    (h1 : Reach inp1 s1 ∨ PReach inp1 s1) (h2 : Reach inp2 s2 ∨ PReach inp2 s2) (t : Name)
    (f1 : (stOf s1 t).finished = true) (f2 : (stOf s2 t).finished = true) : stOf s1 t = stOf s2 t :=
  DynS.confluent_status hsame hnc h1 h2 t f1 f2

theorem status_matches_report {inp1 inp2 : RunInput} [NoFailDeliver inp2] [NoFailDeliver inp1] {s1 s2 : Sys} (hsame : SameTasks inp1 inp2) (hnc : NoCalc inp1)
    (h1 : Reach inp1 s1 ∨ PReach inp1 s1) (h2 : Reach inp2 s2 ∨ PReach inp2 s2) (t : Name) (d : Den)
    (f1 : (stOf s1 t).finished = true) (r2 : ∃ e ∈ s2.events, Ev.den? t e = some d) : stOf s1 t = d.rs :=
  Dyn.status_matches_report_of (DynS.denSub hsame hnc) h1 h2 t d f1 r2

theorem status_is_denF {inp : RunInput} [NoFailDeliver inp] {s : Sys} {r : Name → Nat} (hnc : NoCalc inp) (hac : Acyclic inp r)
    (hr : Reach inp s ∨ PReach inp s) (t : Name) (f : Nat) (hf : r t < f)
    (h : (stOf s t).finished = true) : (denF inp f t).rs = stOf s t := by
  obtain ⟨d, a, b⟩ := DynS.status_is_den hnc hr t h
  rw [denF_unique hac a f hf]; exact b

theorem C08_monitor_den' {inp : RunInput} [NoFailDeliver inp] {s : Sys} {r : Name → Nat} (hnc : NoCalc inp) (hac : Acyclic inp r)
    (hr : Reach inp s ∨ PReach inp s) (nTasks : Nat) (hb : ∀ t, r t ≤ nTasks)
    (hlt : ∀ t, DenCl inp t → t < nTasks)
    (complete : Bool) (hc : complete = true → s.rpc = .halted ∧ s.halt = .none ∧ s.stop = false) :
    monC08Den inp nTasks (trace inp s) (exitCode s) complete = true :=
  DynS.monitor_den' hnc hac hr nTasks hb hlt complete hc

theorem C08_monitor_pair {inp1 inp2 : RunInput} [NoFailDeliver inp2] [NoFailDeliver inp1] {s1 s2 : Sys} (hsame : SameTasks inp1 inp2)
    (hsel : ∀ t, t ∈ inp1.sel ↔ t ∈ inp2.sel) (hnc : NoCalc inp1)
    (h1 : Reach inp1 s1 ∨ PReach inp1 s1) (h2 : Reach inp2 s2 ∨ PReach inp2 s2)
    (e1 : s1.rpc = .halted ∧ s1.halt = .none ∧ s1.stop = false)
    (e2 : s2.rpc = .halted ∧ s2.halt = .none ∧ s2.stop = false) (nTasks : Nat) :
    monC08Pair nTasks (trace inp1 s1) (trace inp2 s2) (exitCode s1) (exitCode s2) = true := by
  unfold monC08Pair
  simp only [Bool.and_eq_true, List.all_eq_true, List.mem_range, beq_iff_eq]
  exact ⟨fun t _ => DynS.complete_runs_same_reportOf hsame hsel hnc h1 h2 e1 e2 t,
    DynS.complete_runs_same_exit hsame hsel hnc h1 h2 e1 e2⟩

/-- `DynS.monitor_den` applies to the complete run of `exC08` with two worker threads (`Proofs/C08Confluence.lean`); the
    monitor is not evaluated -/
example : ∃ s, PReach exC08 s ∧ monC08Den exC08 4 (trace exC08 s) (exitCode s) true = true :=
  ⟨_, autoRun_preach (by decide) false true 400 _ PReach.init,
   DynS.monitor_den exC08_noCalc exC08_acyclic (Or.inr (autoRun_preach (by decide) false true 400 _ PReach.init)) 4
     (fun t => by show (if t = 1 ∨ t = 3 then 1 else 0) ≤ 4; split <;> omega) exC08_stable true
     (fun _ => by decide +kernel)⟩

end DoitModel.Run
