import DoitModel.Proofs.C08Closure
import DoitModel.Proofs.C08DenF
import DoitModel.Proofs.RunFuel
/-! # C08 (I10): the executable closure `denClosure` against the inductive closure `DenCl` — sound on acyclic graphs,
    complete whenever the computed list is stable under one more round, which `nTasks + 1` rounds reach when the
    closure lives below `nTasks` -/
namespace DoitModel.Run

theorem mem_appNew (x : Name) (ds acc : List Name) : x ∈ appNew ds acc ↔ x ∈ acc ∨ x ∈ ds :=
  mem_addNew acc ds

def closeStep (inp : RunInput) (fuel : Nat) (acc : List Name) (t : Name) : List Name :=
  if stage1 inp (denF inp fuel) t = .run then appNew (inp.setup t) (appNew (inp.taskDep t) acc)
  else appNew (inp.taskDep t) acc

theorem denCloseOnce_eq (inp : RunInput) (fuel : Nat) (cl : List Name) :
    denCloseOnce inp fuel cl = cl.foldl (closeStep inp fuel) cl := rfl

theorem mem_closeStep (inp : RunInput) (fuel : Nat) (acc : List Name) (t x : Name) :
    x ∈ closeStep inp fuel acc t ↔
      x ∈ acc ∨ x ∈ inp.taskDep t ∨ (stage1 inp (denF inp fuel) t = .run ∧ x ∈ inp.setup t) := by
  unfold closeStep
  split
  · rename_i h
    rw [mem_appNew, mem_appNew]
    constructor
    · rintro ((a | a) | a)
      · exact Or.inl a
      · exact Or.inr (Or.inl a)
      · exact Or.inr (Or.inr ⟨h, a⟩)
    · rintro (a | a | ⟨_, a⟩)
      · exact Or.inl (Or.inl a)
      · exact Or.inl (Or.inr a)
      · exact Or.inr a
  · rename_i h
    rw [mem_appNew]
    constructor
    · rintro (a | a)
      · exact Or.inl a
      · exact Or.inr (Or.inl a)
    · rintro (a | a | ⟨b, _⟩)
      · exact Or.inl a
      · exact Or.inr a
      · exact absurd b h

theorem mem_foldl_closeStep (inp : RunInput) (fuel : Nat) (x : Name) : ∀ (L acc : List Name),
    x ∈ L.foldl (closeStep inp fuel) acc ↔
      x ∈ acc ∨ ∃ t ∈ L, x ∈ inp.taskDep t ∨ (stage1 inp (denF inp fuel) t = .run ∧ x ∈ inp.setup t) := by
  intro L
  induction L with
  | nil => intro acc; simp
  | cons a t ih =>
    intro acc
    rw [List.foldl_cons, ih, mem_closeStep]
    constructor
    · rintro ((h | h) | ⟨u, hu, h⟩)
      · exact Or.inl h
      · exact Or.inr ⟨a, by simp, h⟩
      · exact Or.inr ⟨u, by simp [hu], h⟩
    · rintro (h | ⟨u, hu, h⟩)
      · exact Or.inl (Or.inl h)
      · rcases List.mem_cons.mp hu with rfl | hu'
        · exact Or.inl (Or.inr h)
        · exact Or.inr ⟨u, hu', h⟩

theorem mem_denCloseOnce (inp : RunInput) (fuel : Nat) (cl : List Name) (x : Name) :
    x ∈ denCloseOnce inp fuel cl ↔
      x ∈ cl ∨ ∃ t ∈ cl, x ∈ inp.taskDep t ∨ (stage1 inp (denF inp fuel) t = .run ∧ x ∈ inp.setup t) := by
  rw [denCloseOnce_eq]; exact mem_foldl_closeStep inp fuel x cl cl

theorem denCloseIter_mono (inp : RunInput) (fuel : Nat) (x : Name) : ∀ (k : Nat) (cl : List Name),
    x ∈ cl → x ∈ denCloseIter inp fuel k cl := by
  intro k
  induction k with
  | zero => intro cl h; exact h
  | succ k ih => intro cl h; exact ih _ ((mem_denCloseOnce inp fuel cl x).mpr (Or.inl h))

theorem stage1_denF_R1 {inp : RunInput} {r : Name → Nat} (hac : Acyclic inp r) (fuel : Nat) (hb : ∀ t, r t < fuel)
    (t : Name) : stage1 inp (denF inp fuel) t = .run ↔ R1 inp t := by
  constructor
  · intro h; exact ⟨denF inp fuel, fun d _ => denF_is_den hac fuel d (hb d), h⟩
  · rintro ⟨dd, hT, h1⟩
    rw [← h1]
    exact stage1_congr (fun d hd => denF_unique hac (hT d hd) fuel (hb d))

theorem denCloseOnce_sound {inp : RunInput} {r : Name → Nat} (hac : Acyclic inp r) (fuel : Nat)
    (hb : ∀ t, r t < fuel) (cl : List Name) (h : ∀ t ∈ cl, DenCl inp t) :
    ∀ t ∈ denCloseOnce inp fuel cl, DenCl inp t := by
  intro x hx
  rcases (mem_denCloseOnce inp fuel cl x).mp hx with a | ⟨t, ht, a | ⟨a, b⟩⟩
  · exact h x a
  · exact DenCl.ofTask (h t ht) a
  · exact DenCl.ofSetup (h t ht) ((stage1_denF_R1 hac fuel hb t).mp a) b

theorem denCloseIter_sound {inp : RunInput} {r : Name → Nat} (hac : Acyclic inp r) (fuel : Nat)
    (hb : ∀ t, r t < fuel) : ∀ (k : Nat) (cl : List Name), (∀ t ∈ cl, DenCl inp t) →
      ∀ t ∈ denCloseIter inp fuel k cl, DenCl inp t := by
  intro k
  induction k with
  | zero => intro cl h; exact h
  | succ k ih => intro cl h; exact ih _ (denCloseOnce_sound hac fuel hb cl h)

theorem denClosure_sound {inp : RunInput} {r : Name → Nat} (hac : Acyclic inp r) (nTasks : Nat)
    (hb : ∀ t, r t ≤ nTasks) (t : Name) (h : t ∈ denClosure inp nTasks) : DenCl inp t := by
  unfold denClosure at h
  refine denCloseIter_sound hac (nTasks + 1) (fun t => by have := hb t; omega) _ _ ?_ t h
  intro x hx; exact DenCl.ofSel (mem_dedup.mp hx)

/-- the computed closure is stable under one more round (decidable; a driver checks it by evaluation) -/
def ClosureStable (inp : RunInput) (nTasks : Nat) : Prop :=
  ∀ x ∈ denCloseOnce inp (nTasks + 1) (denClosure inp nTasks), x ∈ denClosure inp nTasks

instance (inp : RunInput) (nTasks : Nat) : Decidable (ClosureStable inp nTasks) := by
  unfold ClosureStable; infer_instance

theorem denClosure_complete {inp : RunInput} {r : Name → Nat} (hac : Acyclic inp r) (nTasks : Nat)
    (hb : ∀ t, r t ≤ nTasks) (hst : ClosureStable inp nTasks) (t : Name) (h : DenCl inp t) :
    t ∈ denClosure inp nTasks := by
  have hb' : ∀ t, r t < nTasks + 1 := fun t => by have := hb t; omega
  induction h with
  | ofSel hm => exact denCloseIter_mono inp _ _ _ _ (mem_dedup.mpr hm)
  | @ofTask t d _ hd ih =>
    exact hst d ((mem_denCloseOnce inp _ _ d).mpr (Or.inr ⟨t, ih, Or.inl hd⟩))
  | @ofSetup t d _ hr hd ih =>
    exact hst d ((mem_denCloseOnce inp _ _ d).mpr
      (Or.inr ⟨t, ih, Or.inr ⟨(stage1_denF_R1 hac _ hb' t).mpr hr, hd⟩⟩))

/-- `b` is `a` or strictly longer -/
def Ext (a b : List Name) : Prop := b = a ∨ a.length < b.length

theorem Ext.refl (a : List Name) : Ext a a := Or.inl rfl
theorem Ext.trans {a b c : List Name} (h1 : Ext a b) (h2 : Ext b c) : Ext a c := by
  rcases h1 with rfl | h1 <;> rcases h2 with rfl | h2
  · exact Or.inl rfl
  · exact Or.inr h2
  · exact Or.inr h1
  · exact Or.inr (Nat.lt_trans h1 h2)

theorem appNew_ext : ∀ (ds acc : List Name), Ext acc (appNew ds acc) := by
  intro ds
  induction ds with
  | nil => intro acc; exact Ext.refl _
  | cons d t ih =>
    intro acc
    show Ext acc (appNew t (if d ∈ acc then acc else acc ++ [d]))
    refine Ext.trans ?_ (ih _)
    split
    · exact Ext.refl _
    · exact Or.inr (by simp)

theorem closeStep_ext (inp : RunInput) (fuel : Nat) (acc : List Name) (t : Name) :
    Ext acc (closeStep inp fuel acc t) := by
  unfold closeStep; split
  · exact (appNew_ext _ _).trans (appNew_ext _ _)
  · exact appNew_ext _ _

theorem foldl_ext (inp : RunInput) (fuel : Nat) : ∀ (L acc : List Name), Ext acc (L.foldl (closeStep inp fuel) acc) := by
  intro L
  induction L with
  | nil => intro acc; exact Ext.refl _
  | cons a t ih => intro acc; rw [List.foldl_cons]; exact (closeStep_ext inp fuel acc a).trans (ih _)

theorem closeOnce_ext (inp : RunInput) (fuel : Nat) (cl : List Name) : Ext cl (denCloseOnce inp fuel cl) := by
  rw [denCloseOnce_eq]; exact foldl_ext inp fuel cl cl

theorem iter_fixed (inp : RunInput) (fuel : Nat) (cl : List Name) (h : denCloseOnce inp fuel cl = cl) :
    ∀ k, denCloseIter inp fuel k cl = cl := by
  intro k
  induction k with
  | zero => rfl
  | succ k ih => show denCloseIter inp fuel k (denCloseOnce inp fuel cl) = cl; rw [h]; exact ih

/-- after `k` rounds the list is a fixpoint of a round, or has grown by at least `k` -/
theorem iter_spec (inp : RunInput) (fuel : Nat) : ∀ (k : Nat) (cl : List Name),
    denCloseOnce inp fuel (denCloseIter inp fuel k cl) = denCloseIter inp fuel k cl ∨
    cl.length + k ≤ (denCloseIter inp fuel k cl).length := by
  intro k
  induction k with
  | zero => intro cl; exact Or.inr (Nat.le_refl _)
  | succ k ih =>
    intro cl
    show denCloseOnce inp fuel (denCloseIter inp fuel k (denCloseOnce inp fuel cl)) =
        denCloseIter inp fuel k (denCloseOnce inp fuel cl) ∨
      cl.length + (k + 1) ≤ (denCloseIter inp fuel k (denCloseOnce inp fuel cl)).length
    rcases closeOnce_ext inp fuel cl with e | lt
    · left
      rw [e, iter_fixed inp fuel cl e k]; exact e
    · rcases ih (denCloseOnce inp fuel cl) with a | a
      · exact Or.inl a
      · right; omega

theorem dedup_nodup : ∀ l : List Name, (dedup l).Nodup := by
  intro l
  induction l with
  | nil => simp [dedup]
  | cons a t ih =>
    simp only [dedup]
    split
    · exact ih
    · rename_i h; exact List.nodup_cons.mpr ⟨h, ih⟩

theorem appNew_nodup : ∀ (ds acc : List Name), acc.Nodup → (appNew ds acc).Nodup := by
  intro ds
  induction ds with
  | nil => intro acc h; exact h
  | cons d t ih =>
    intro acc h
    show (appNew t (if d ∈ acc then acc else acc ++ [d])).Nodup
    apply ih
    split
    · exact h
    · rename_i hd
      exact List.nodup_append.mpr ⟨h, by simp, by intro a ha b hb; simp at hb; subst hb; exact fun e => hd (e ▸ ha)⟩

theorem closeStep_nodup (inp : RunInput) (fuel : Nat) (acc : List Name) (t : Name) (h : acc.Nodup) :
    (closeStep inp fuel acc t).Nodup := by
  unfold closeStep; split
  · exact appNew_nodup _ _ (appNew_nodup _ _ h)
  · exact appNew_nodup _ _ h

theorem foldl_nodup (inp : RunInput) (fuel : Nat) : ∀ (L acc : List Name), acc.Nodup →
    (L.foldl (closeStep inp fuel) acc).Nodup := by
  intro L
  induction L with
  | nil => intro acc h; exact h
  | cons a t ih => intro acc h; rw [List.foldl_cons]; exact ih _ (closeStep_nodup inp fuel acc a h)

theorem iter_nodup (inp : RunInput) (fuel : Nat) : ∀ (k : Nat) (cl : List Name), cl.Nodup →
    (denCloseIter inp fuel k cl).Nodup := by
  intro k
  induction k with
  | zero => intro cl h; exact h
  | succ k ih =>
    intro cl h
    exact ih _ (by rw [denCloseOnce_eq]; exact foldl_nodup inp fuel cl cl h)

theorem closureStable {inp : RunInput} {r : Name → Nat} (hac : Acyclic inp r) (nTasks : Nat)
    (hb : ∀ t, r t ≤ nTasks) (hlt : ∀ t, DenCl inp t → t < nTasks) : ClosureStable inp nTasks := by
  have hnd : (denClosure inp nTasks).Nodup := iter_nodup inp _ _ _ (dedup_nodup _)
  have hsub : denClosure inp nTasks ⊆ List.range nTasks := by
    intro x hx
    exact List.mem_range.mpr (hlt x (denClosure_sound hac nTasks hb x hx))
  have hlen : (denClosure inp nTasks).length ≤ nTasks := by
    have := hnd.length_le_of_subset hsub
    simpa using this
  rcases iter_spec inp (nTasks + 1) (nTasks + 1) (dedup inp.sel) with a | a
  · intro x hx
    have e : denCloseOnce inp (nTasks + 1) (denClosure inp nTasks) = denClosure inp nTasks := a
    rw [e] at hx; exact hx
  · exfalso
    have : (dedup inp.sel).length + (nTasks + 1) ≤ (denClosure inp nTasks).length := a
    omega

end DoitModel.Run
