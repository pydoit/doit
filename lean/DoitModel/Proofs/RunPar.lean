import DoitModel.Proofs.RunSerial3
import DoitModel.Proofs.RunAuto
/-! # The parallel runners (`MRunner` / `MThreadRunner` main loop and workers) preserve `Inv2` and `Inv3` -/
namespace DoitModel.Run

theorem setWorker_cases {s : Sys} {w k : Nat} {st : WState} {m : Name} (h : (setWorker s w st).workers k = .running m) :
    (k = w ∧ st = .running m) ∨ (k ≠ w ∧ s.workers k = .running m) := by
  have e : (setWorker s w st).workers k = if k = w then st else s.workers k := rfl
  rw [e] at h
  by_cases c : k = w
  · rw [if_pos c] at h; exact Or.inl ⟨c, h⟩
  · rw [if_neg c] at h; exact Or.inr ⟨c, h⟩

theorem setWorker_running {s : Sys} {w k : Nat} {st : WState} {m : Name} (hst : ∀ m, st ≠ .running m)
    (h : (setWorker s w st).workers k = .running m) : s.workers k = .running m := by
  rcases setWorker_cases h with ⟨_, e⟩ | ⟨_, e⟩
  · exact absurd e (hst m)
  · exact e

theorem count_cons_task (j : Job) (q : List Job) (n : Name) :
    (j :: q).count (.task n) = (if j = .task n then 1 else 0) + q.count (.task n) := by
  rw [List.count_cons]; by_cases e : j = .task n <;> simp [e]; omega

theorem setWorker_ne (s : Sys) (st : WState) {v w : Nat} (h : v ≠ w) : (setWorker s w st).workers v = s.workers v :=
  if_neg h

theorem setWorker_self (s : Sys) (w : Nat) (st : WState) : (setWorker s w st).workers w = st := if_pos rfl

structure WorkerFrame (s s' : Sys) (w : Nat) : Prop where
  nodes : s'.nodes = s.nodes
  ready : s'.ready = s.ready
  waiting : s'.waiting = s.waiting
  cur : s'.cur = s.cur
  toRun : s'.toRun = s.toRun
  susp : s'.susp = s.susp
  rpc : s'.rpc = s.rpc
  stop : s'.stop = s.stop
  halt : s'.halt = s.halt
  procCount : s'.procCount = s.procCount
  freeProc : s'.freeProc = s.freeProc
  nStarted : s'.nStarted = s.nStarted
  others : ∀ v, v ≠ w → s'.workers v = s.workers v

theorem TakeStep.workerFrame {inp : RunInput} {s s' : Sys} {w : Nat} (h : TakeStep inp s w s') : WorkerFrame s s' w := by
  cases h with
  | hold => exact ⟨rfl, rfl, rfl, rfl, rfl, rfl, rfl, rfl, rfl, rfl, rfl, rfl, fun _ _ => rfl⟩
  | stop => exact ⟨rfl, rfl, rfl, rfl, rfl, rfl, rfl, rfl, rfl, rfl, rfl, rfl, fun _ hv => setWorker_ne s _ hv⟩
  | task => exact ⟨rfl, rfl, rfl, rfl, rfl, rfl, rfl, rfl, rfl, rfl, rfl, rfl, fun _ hv => setWorker_ne _ _ hv⟩

theorem DoneStep.workerFrame {s s' : Sys} {w : Nat} (h : DoneStep s w s') : WorkerFrame s s' w := by
  cases h; exact ⟨rfl, rfl, rfl, rfl, rfl, rfl, rfl, rfl, rfl, rfl, rfl, rfl, fun _ hv => setWorker_ne s _ hv⟩

theorem WorkerFrame.holding {s s' : Sys} {w : Nat} (f : WorkerFrame s s' w) (n : Name) : holding s' n = holding s n := by
  unfold Run.holding; rw [f.rpc]

theorem WorkerFrame.awaiting {s s' : Sys} {w : Nat} (f : WorkerFrame s s' w) (a : awaiting s') : awaiting s := by
  unfold Run.awaiting at a; rw [f.rpc] at a; exact a

theorem Inv2.worker {inp : RunInput} {s s' : Sys} {w : Nat} (h : Inv2 inp s) (f : WorkerFrame s s' w) (new : List Ev)
    (hev : s'.events = new ++ s.events) (hord : OrdOK (new ++ s.events)) (hgo : ∀ n deps, Ev.go n deps ∉ new)
    (hjq : ∀ n, Job.task n ∈ s'.jobQ → Job.task n ∈ s.jobQ) : Inv2 inp s' := by
  refine h.outer f.nodes f.ready f.waiting f.cur f.susp new hev hord (fun n deps hm => absurd hm (hgo n deps)) ?_
    f.awaiting ?_ ?_
  · intro p hp; unfold sentBack at hp; rw [f.rpc] at hp; exact h.sb p hp
  · intro n hn; rw [f.rpc] at hn
    obtain ⟨d, hd⟩ := h.f1 n (hn.imp (hjq n) id)
    exact ⟨d, by rw [hev]; exact List.mem_append_right _ hd⟩
  · intro n hn; rw [f.rpc] at hn; exact h.x n hn

theorem take_silent {inp : RunInput} {s s' : Sys} {j : Job} {w : Nat} (h2 : Inv2 inp s) (h3 : Inv3 inp s) (f : WorkerFrame s s' w)
    (hq : s.jobQ = j :: s'.jobQ) (hj : ∀ m, j ≠ .task m) (eev : s'.events = s.events) (erq : s'.resQ = s.resQ)
    (ew : ∀ k m, s'.workers k = .running m → s.workers k = .running m) : Inv2 inp s' ∧ Inv3 inp s' := by
  have hmem : ∀ m, Job.task m ∈ s'.jobQ → Job.task m ∈ s.jobQ := fun m hm => by
    rw [hq]; exact List.mem_cons_of_mem _ hm
  have hc := fun m => counts_same eev m
  refine ⟨h2.worker f [] eev h2.ord (fun _ _ => List.not_mem_nil) hmem, ?_⟩
  refine h3.outer f.nodes f.susp [] eev (fun _ => ⟨rfl, rfl⟩) f.awaiting ?_ ?_ ?_ ?_ ?_ ?_ ?_ ?_ ?_
  · intro m; rw [(hc m).2.1, (hc m).2.2.1]; exact (h3.p0 m).2
  · intro m
    have := h3.j m
    rw [hq, count_cons_task, if_neg (hj m), Nat.zero_add] at this
    rw [f.holding, (hc m).1, (hc m).2.1]; exact this
  · intro k m hk; rw [(hc m).2.1, (hc m).2.2.1]; exact h3.w1 k m (ew k m hk)
  · intro k k' m a b; exact h3.w2 k k' m (ew k m a) (ew k' m b)
  · intro m hm; rw [erq] at hm; rw [(hc m).2.2.1]; exact h3.q1 m hm
  · rw [erq]; exact h3.q2
  · intro m hm; rw [f.holding] at hm; exact h3.j2 m (hm.imp (hmem m) id)
  · intro m hm; rw [f.rpc] at hm; rw [(hc m).2.1, (hc m).2.2.1]; exact h3.x3 m hm
  · intro m k hm hk; rw [f.rpc] at hm; exact h3.xw m k hm (ew k m hk)

theorem take_task {inp : RunInput} {s s' : Sys} {n : Name} {w : Nat} (h2 : Inv2 inp s) (h3 : Inv3 inp s)
    (f : WorkerFrame s s' w) (hq : s.jobQ = .task n :: s'.jobQ)
    (hev : s'.events = (if inp.runner = .process then [Ev.start n w] else [Ev.start n w, Ev.execute n]) ++ s.events)
    (erq : s'.resQ = s.resQ)
    (ew : ∀ k m, s'.workers k = .running m → (k = w ∧ n = m) ∨ s.workers k = .running m) :
    Inv2 inp s' ∧ Inv3 inp s' := by
  have hn_in : Job.task n ∈ s.jobQ := by rw [hq]; exact List.mem_cons_self
  have hmem : ∀ m, Job.task m ∈ s'.jobQ → Job.task m ∈ s.jobQ := fun m hm => by
    rw [hq]; exact List.mem_cons_of_mem _ hm
  have hcnt : ∀ m, s.jobQ.count (.task m) = (if n = m then 1 else 0) + s'.jobQ.count (.task m) := by
    intro m; rw [hq, count_cons_task]
    by_cases e : n = m
    · rw [if_pos e, if_pos (e ▸ rfl)]
    · rw [if_neg e, if_neg (fun x => e (Job.task.inj x))]
  obtain ⟨deps, hgo⟩ := h2.f1 n (Or.inl hn_in)
  have sc := startTask_counts inp n w
  have hc := fun m => counts_append hev m
  -- the job was the only place of `n`: not started, not held, no second job
  have key : cStart s n = 0 ∧ cFin s n = 0 ∧ holding s n = 0 ∧ s'.jobQ.count (.task n) = 0 := by
    have := h3.j n; rw [hcnt n, if_pos rfl] at this
    have := h3.p0 n; omega
  have hrun : stOf s n = .run := h3.j2 n (Or.inl hn_in)
  constructor
  · refine h2.worker f _ hev ?_ ?_ hmem
    · split
      · exact ⟨⟨deps, hgo⟩, h2.ord⟩
      · exact ⟨⟨deps, by simp [hgo]⟩, trivial, h2.ord⟩
    · intro m d hm; split at hm <;> simp at hm
  · -- only the start counter of `n` moves, from 0 to 1
    have hfin : ∀ m, cFin s' m = cFin s m := fun m => by rw [(hc m).2.2.1, (sc m).fin, Nat.zero_add]
    have hst : ∀ m, n ≠ m → cStart s' m = cStart s m := fun m e => by
      rw [(hc m).2.1, (sc m).start, if_neg e, Nat.zero_add]
    have hstn : cStart s' n = 1 := by rw [(hc n).2.1, (sc n).start, if_pos rfl, key.1]
    have other : ∀ m, cStart s m = 1 → n ≠ m := fun m a e => by subst e; rw [key.1] at a; cases a
    refine h3.outer f.nodes f.susp _ hev (fun m => ⟨(sc m).go, (sc m).term⟩) f.awaiting ?_ ?_ ?_ ?_ ?_ ?_ ?_ ?_ ?_
    · intro m; rw [hfin]
      by_cases e : n = m
      · subst e; rw [hstn, key.2.1]; exact Nat.zero_le 1
      · rw [hst m e]; exact (h3.p0 m).2
    · intro m
      rw [f.holding, (hc m).1, (hc m).2.1, (sc m).go, (sc m).start]
      have := h3.j m; rw [hcnt m] at this
      omega
    · intro k m hk
      rcases ew k m hk with ⟨_, e⟩ | hk'
      · subst e; exact ⟨hstn, (hfin n).trans key.2.1, hrun⟩
      · obtain ⟨a, b, c⟩ := h3.w1 k m hk'
        exact ⟨(hst m (other m a)).trans a, (hfin m).trans b, c⟩
    · intro k k' m a b
      rcases ew k m a with ⟨ek, e⟩ | a' <;> rcases ew k' m b with ⟨ek', e'⟩ | b'
      · rw [ek, ek']
      · subst e; exact absurd rfl (other n (h3.w1 k' n b').1)
      · subst e'; exact absurd rfl (other n (h3.w1 k n a').1)
      · exact h3.w2 k k' m a' b'
    · intro m hm; rw [erq] at hm
      obtain ⟨a, c⟩ := h3.q1 m hm
      exact ⟨(hfin m).trans a, c⟩
    · rw [erq]; exact h3.q2
    · intro m hm; rw [f.holding] at hm; exact h3.j2 m (hm.imp (hmem m) id)
    · intro m hm; rw [f.rpc] at hm
      obtain ⟨a, b⟩ := h3.x3 m hm
      exact ⟨(hst m (other m a)).trans a, (hfin m).trans b⟩
    · intro m k hm hk; rw [f.rpc] at hm
      rcases ew k m hk with ⟨_, e⟩ | hk'
      · subst e; exact absurd rfl (other n (h3.x3 n hm).1)
      · exact h3.xw m k hm hk'

theorem takeStep_inv {inp : RunInput} {s s' : Sys} {w : Nat} (h2 : Inv2 inp s) (h3 : Inv3 inp s)
    (hs : takeStep inp s w = some s') : Inv2 inp s' ∧ Inv3 inp s' := by
  have f := (takeStep_spec hs).workerFrame
  cases takeStep_spec hs with
  | hold _ hq =>
    exact take_silent h2 h3 f hq (fun m e => by cases e) rfl rfl (fun _ _ a => a)
  | stop _ hq =>
    exact take_silent h2 h3 f hq (fun m e => by cases e) rfl rfl
      (fun k m hk => setWorker_running (s := s) (fun _ e => by cases e) hk)
  | @task n js _ hq =>
    exact take_task h2 h3 f hq (startTask_events inp s n w) rfl
      (fun k m hk => (setWorker_cases (s := startTask inp s n w) hk).imp
        (fun x => ⟨x.1, WState.running.inj x.2⟩) (fun x => x.2))

theorem done_inv {inp : RunInput} {s s' : Sys} {n : Name} {w : Nat} (h2 : Inv2 inp s) (h3 : Inv3 inp s)
    (f : WorkerFrame s s' w) (hw : s.workers w = .running n) (hev : s'.events = [Ev.fin n w] ++ s.events)
    (ejq : s'.jobQ = s.jobQ) (erq : s'.resQ = s.resQ ++ [n])
    (ew : ∀ k m, s'.workers k = .running m → s.workers k = .running m ∧ k ≠ w) : Inv2 inp s' ∧ Inv3 inp s' := by
  obtain ⟨a1, a2, a3⟩ := h3.w1 w n hw
  have cnt : ∀ m, Counts [Ev.fin n w] m 0 0 (if n = m then 1 else 0) 0 := by
    intro m; constructor <;> simp [Ev.isGoOf, Ev.isStartOf, Ev.isFinOf, Ev.isTerminalOf]
  have hc := fun m => counts_append hev m
  constructor
  · exact h2.worker f _ hev ⟨trivial, h2.ord⟩ (by simp) (fun m hm => ejq ▸ hm)
  · -- only the end counter of `n` moves, from 0 to 1
    have hgo : ∀ m, cGo s' m = cGo s m := fun m => by rw [(hc m).1, (cnt m).go, Nat.zero_add]
    have hst : ∀ m, cStart s' m = cStart s m := fun m => by rw [(hc m).2.1, (cnt m).start, Nat.zero_add]
    have hfin : ∀ m, n ≠ m → cFin s' m = cFin s m := fun m e => by
      rw [(hc m).2.2.1, (cnt m).fin, if_neg e, Nat.zero_add]
    have hfinn : cFin s' n = 1 := by rw [(hc n).2.2.1, (cnt n).fin, if_pos rfl, a2]
    refine h3.outer f.nodes f.susp _ hev (fun m => ⟨(cnt m).go, (cnt m).term⟩) f.awaiting ?_ ?_ ?_ ?_ ?_ ?_ ?_ ?_ ?_
    · intro m; rw [hst]
      by_cases e : n = m
      · subst e; rw [hfinn, a1]; exact Nat.le_refl 1
      · rw [hfin m e]; exact (h3.p0 m).2
    · intro m; rw [ejq, f.holding, hgo, hst]; exact h3.j m
    · intro k m hk
      obtain ⟨hk', hne⟩ := ew k m hk
      obtain ⟨b1, b2, b3⟩ := h3.w1 k m hk'
      have hnm : n ≠ m := by intro e; subst e; exact hne (h3.w2 k w n hk' hw)
      exact ⟨(hst m).trans b1, (hfin m hnm).trans b2, b3⟩
    · intro k k' m a b; exact h3.w2 k k' m (ew k m a).1 (ew k' m b).1
    · intro m hm
      rw [erq] at hm
      rcases List.mem_append.mp hm with a | a
      · obtain ⟨b1, b2⟩ := h3.q1 m a
        have hnm : n ≠ m := by intro e; subst e; rw [a2] at b1; cases b1
        exact ⟨(hfin m hnm).trans b1, b2⟩
      · cases List.mem_singleton.mp a; exact ⟨hfinn, a3⟩
    · rw [erq]
      refine List.nodup_append.mpr ⟨h3.q2, by simp, ?_⟩
      intro a ha b hb e
      cases List.mem_singleton.mp hb; subst e
      have := (h3.q1 a ha).1; rw [a2] at this; cases this
    · intro m hm; rw [ejq, f.holding] at hm; exact h3.j2 m hm
    · intro m hm; rw [f.rpc] at hm
      obtain ⟨b1, b2⟩ := h3.x3 m hm
      have hnm : n ≠ m := by intro e; subst e; exact h3.xw n w hm hw
      exact ⟨(hst m).trans b1, (hfin m hnm).trans b2⟩
    · intro m k hm hk; rw [f.rpc] at hm; exact h3.xw m k hm (ew k m hk).1

theorem doneStep_inv {inp : RunInput} {s s' : Sys} {w : Nat} (h2 : Inv2 inp s) (h3 : Inv3 inp s)
    (hs : doneStep s w = some s') : Inv2 inp s' ∧ Inv3 inp s' := by
  have f := (doneStep_spec hs).workerFrame
  cases doneStep_spec hs with
  | done hw =>
    exact done_inv h2 h3 f hw rfl rfl rfl (fun k m hk =>
      (setWorker_cases (s := s) hk).elim (fun x => by cases x.2) (fun x => ⟨x.2, x.1⟩))


/-- `get_next_job` has returned its job: queued (a `None` in the start loop is not), perhaps a worker started -/
structure Handed (s : Sys) (job : Job) (s' : Sys) : Prop where
  nodes : s'.nodes = s.nodes
  ready : s'.ready = s.ready
  waiting : s'.waiting = s.waiting
  toRun : s'.toRun = s.toRun
  cur : s'.cur = s.cur
  susp : s'.susp = s.susp
  events : s'.events = s.events
  tdown : s'.tdown = s.tdown
  resQ : s'.resQ = s.resQ
  jobQ : s'.jobQ = s.jobQ ++ [job] ∨ (job = .stop ∧ s'.jobQ = s.jobQ)
  workers : ∀ k m, s'.workers k = .running m → s.workers k = .running m
  free : s'.rpc.free = true
  sent : sentBack s' = none

theorem gReturn_handed (s : Sys) (job : Job) (ret : Ret) : Handed s job (gReturn s job ret) := by
  have started : ∀ k m, (setWorker s s.nStarted .idle).workers k = .running m → s.workers k = .running m :=
    fun _ _ a => setWorker_running (fun _ e => by cases e) a
  cases ret with
  | startLoop k =>
    simp only [gReturn]
    by_cases c1 : job = .stop
    · rw [if_pos c1]
      exact ⟨rfl, rfl, rfl, rfl, rfl, rfl, rfl, rfl, rfl, Or.inr ⟨c1, rfl⟩, fun _ _ a => a, rfl, rfl⟩
    rw [if_neg c1]
    by_cases c2 : k ≤ 1
    · rw [if_pos c2]; exact ⟨rfl, rfl, rfl, rfl, rfl, rfl, rfl, rfl, rfl, Or.inl rfl, started, rfl, rfl⟩
    · rw [if_neg c2]
      exact ⟨rfl, rfl, rfl, rfl, rfl, rfl, rfl, rfl, rfl, Or.inl rfl, started, rfl, rfl⟩
  | feedLoop k =>
    simp only [gReturn]
    by_cases c1 : k ≤ 1
    · rw [if_pos c1]
      by_cases c2 : s.nStarted > s.freeProc
      · rw [if_pos c2]; exact ⟨rfl, rfl, rfl, rfl, rfl, rfl, rfl, rfl, rfl, Or.inl rfl, fun _ _ a => a, rfl, rfl⟩
      · rw [if_neg c2]
        exact ⟨rfl, rfl, rfl, rfl, rfl, rfl, rfl, rfl, rfl, Or.inl rfl, fun _ _ a => a, rfl, rfl⟩
    · rw [if_neg c1]
      exact ⟨rfl, rfl, rfl, rfl, rfl, rfl, rfl, rfl, rfl, Or.inl rfl, fun _ _ a => a, rfl, rfl⟩

theorem Handed.inv {inp : RunInput} {s s' : Sys} {job : Job} {ret : Ret} (hd : Handed s job s') (h2 : Inv2 inp s)
    (h3 : Inv3 inp s) (hr : s.rpc = .gRet job ret) : Inv2 inp s' ∧ Inv3 inp s' := by
  obtain ⟨e1, e2, e3, _, e4, e5, e6, _, e8, ej, ew, hq, hsb⟩ := hd
  obtain ⟨hnaw, hold', hnx, hng⟩ := free_facts hq
  have hold : ∀ m, holding s m = if job = .task m then 1 else 0 := by
    intro m; unfold holding; rw [hr]; cases job <;> simp
  -- the job held before is in the queue now
  have hcnt : ∀ m, s'.jobQ.count (.task m) = s.jobQ.count (.task m) + holding s m := by
    intro m; rw [hold m]
    rcases ej with e | ⟨e, e'⟩
    · rw [e, List.count_append]; simp [List.count_cons]
    · rw [e', e, if_neg (fun x => by cases x), Nat.add_zero]
  have hmem : ∀ m, Job.task m ∈ s'.jobQ → Job.task m ∈ s.jobQ ∨ holding s m = 1 := by
    intro m hm
    have h1 := count_task_pos.mp hm
    rw [hcnt m, hold m] at h1
    by_cases x : Job.task m ∈ s.jobQ
    · exact Or.inl x
    · have h0 : s.jobQ.count (.task m) = 0 := List.count_eq_zero.mpr x
      right; rw [hold m]
      by_cases y : job = .task m
      · exact if_pos y
      · rw [if_neg y] at h1; omega
  have held : ∀ m, holding s m = 1 → ∃ r, s.rpc = .gRet (.task m) r := by
    intro m b; rw [hold m] at b
    by_cases x : job = .task m
    · exact ⟨ret, by rw [hr, x]⟩
    · rw [if_neg x] at b; cases b
  have hc := fun m => counts_same e6 m
  constructor
  · refine h2.outer e1 e2 e3 e4 e5 [] e6 h2.ord (by simp) (fun p hp => by rw [hsb] at hp; cases hp)
      (fun a => absurd a hnaw) ?_ (fun m a => absurd a (hnx m))
    intro m hm
    rw [e6]
    rcases hm with a | ⟨r, a⟩
    · exact h2.f1 m ((hmem m a).imp id (held m))
    · exact absurd a (hng m r)
  · refine h3.outer e1 e5 [] e6 (by simp) (fun a => absurd a hnaw) ?_ ?_ ?_ ?_ ?_ ?_ ?_ ?_ ?_
    · intro m; rw [(hc m).2.1, (hc m).2.2.1]; exact (h3.p0 m).2
    · intro m; rw [hcnt m, hold', (hc m).1, (hc m).2.1]; have := h3.j m; omega
    · intro k m hk; rw [(hc m).2.1, (hc m).2.2.1]; exact h3.w1 k m (ew k m hk)
    · intro k k' m a b; exact h3.w2 k k' m (ew k m a) (ew k' m b)
    · intro m hm; rw [e8] at hm; rw [(hc m).2.2.1]; exact h3.q1 m hm
    · rw [e8]; exact h3.q2
    · intro m hm; rw [hold'] at hm
      rcases hm with a | a
      · exact h3.j2 m (hmem m a)
      · cases a
    · intro m hm; exact absurd hm (hnx m)
    · intro m k hm; exact absurd hm (hnx m)

theorem rpcMove_inv {inp : RunInput} {s s' : Sys} (h2 : Inv2 inp s) (h3 : Inv3 inp s)
    (e1 : s'.nodes = s.nodes) (e2 : s'.ready = s.ready) (e3 : s'.waiting = s.waiting) (e4 : s'.cur = s.cur)
    (e5 : s'.susp = s.susp) (e6 : s'.events = s.events) (e7 : s'.jobQ = s.jobQ) (e8 : s'.resQ = s.resQ)
    (e9 : s'.workers = s.workers)
    (hsb : sentBack s' = none ∨ sentBack s' = sentBack s) (hq : s'.rpc.free = true)
    (hh0 : ∀ n, holding s n = 0) : Inv2 inp s' ∧ Inv3 inp s' := by
  obtain ⟨haw, _, hx, hg⟩ := free_facts hq
  constructor
  · refine h2.outer e1 e2 e3 e4 e5 [] (by simpa using e6) h2.ord (by simp) ?_ (fun a => absurd a haw) ?_
      (fun m a => absurd a (hx m))
    · intro p hp
      rcases hsb with e | e
      · rw [e] at hp; cases hp
      · rw [e] at hp; exact h2.sb p hp
    · intro m hm
      rw [e6]
      rcases hm with a | ⟨r, a⟩
      · exact h2.f1 m (Or.inl (e7 ▸ a))
      · exact absurd a (hg m r)
  · exact inv3_rpc h3 e1 e5 [] e6 (fun _ => ⟨rfl, rfl, rfl, rfl⟩) e7 e8 e9 hq hh0

theorem Inv2.of_fields {inp : RunInput} {s s' : Sys} (h : Inv2 inp s) (e1 : s'.nodes = s.nodes)
    (e2 : s'.ready = s.ready) (e3 : s'.waiting = s.waiting) (e4 : s'.cur = s.cur) (e5 : s'.susp = s.susp)
    (e6 : s'.events = s.events) (e7 : s'.jobQ = s.jobQ) (e8 : s'.rpc = s.rpc) : Inv2 inp s' := by
  refine h.outer e1 e2 e3 e4 e5 [] e6 h.ord (fun _ _ a => nomatch a) ?_ ?_ ?_ (fun m a => h.x m (e8 ▸ a))
  · intro p hp; unfold sentBack at hp; rw [e8] at hp; exact h.sb p hp
  · intro a; unfold awaiting at a; rw [e8] at a; exact a
  · intro m hm; rw [e7, e8] at hm; rw [e6]; exact h.f1 m hm

theorem pTopResult_inv {inp : RunInput} {s s' : Sys} {n : Name} {rest : List Name} {nd : Node} (h2 : Inv2 inp s)
    (h3 : Inv3 inp s) (hr : s.rpc = .pTop) (hq : s.resQ = n :: rest) (hn : s.nodes n = some nd)
    (e : s' = { processResult inp { s with resQ := rest } n nd with
                rpc := .gEntry (some n) (.feedLoop (s.freeProc + 1)), freeProc := 0 }) :
    Inv2 inp s' ∧ Inv3 inp s' := by
  subst e
  have hold : ∀ n, holding s n = 0 := by intro n; simp [holding, hr]
  have hnq : n ∈ s.resQ := by rw [hq]; simp
  obtain ⟨q1a, q1b⟩ := h3.q1 n hnq
  have hrun : nd.status = .run := by simpa [stOf, hn] using q1b
  have hnd : (n :: rest).Nodup := hq ▸ h3.q2
  have ⟨hnr, hrest⟩ := List.nodup_cons.mp hnd
  constructor
  · have a : Inv2 inp { s with resQ := rest } := h2.of_fields rfl rfl rfl rfl rfl rfl rfl rfl
    have b := inv2_result (.gEntry (some n) (.feedLoop (s.freeProc + 1))) a hn hrun
      (fun p hp => by simp only [sentBack, Option.some.injEq] at hp; exact hp.symm)
      (fun a => by rcases a with a | ⟨r, a⟩ <;> cases a) (fun m r a => by cases a) (fun m a => by cases a)
    exact b.of_fields rfl rfl rfl rfl rfl rfl rfl rfl
  · have f := processResult_keeps inp { s with resQ := rest } n nd
    have cstart : cStart s n = 1 := by have := h3.p0 n; have := h3.j n; omega
    refine h3.result hn hrun 0 [] (processResult_nodes inp _ n nd) f.susp ?_ (fun m => ⟨rfl, rfl, (ite_self 0).symm, rfl⟩)
      cstart q1a f.jobQ f.workers ?_ ?_ (fun w hw => by have := (h3.w1 w n hw).2.1; omega) hold (fun m => by simp [holding])
      (by simp [awaiting]) (fun m a => by cases a)
    · show (processResult inp _ n nd).events = _
      rw [processResult_events, List.append_nil]
    · intro m hm
      have f7' : (processResult inp { s with resQ := rest } n nd).resQ = rest := f.resQ
      have hm' : m ∈ rest := f7' ▸ hm
      exact ⟨by rw [hq]; exact List.mem_cons_of_mem _ hm', fun e => hnr (e ▸ hm')⟩
    · show (processResult inp _ n nd).resQ.Nodup
      rw [f.resQ]; exact hrest

theorem mainStep_inv {inp : RunInput} {s s' : Sys} {perm : List Name} (h2 : Inv2 inp s) (h3 : Inv3 inp s)
    (hs : mainStep inp s perm = some s') : Inv2 inp s' ∧ Inv3 inp s' := by
  have raised : ∀ hl, ((∃ ret, s.rpc = .gWait ret) ∨ s.rpc = .pTop) → Inv2 inp (raise s hl) ∧ Inv3 inp (raise s hl) :=
    fun hl hr => ⟨inv2_raise h2 hl, inv3_raise h3 (fun n => by rcases hr with ⟨r, e⟩ | e <;> simp [holding, e]) hl⟩
  cases mainStep_spec hs with
  | entryStop hr | join hr | joined hr =>
    exact rpcMove_inv h2 h3 rfl rfl rfl rfl rfl rfl rfl rfl rfl (Or.inl rfl) rfl (fun n => by simp [holding, hr])
  | entry hr =>
    exact rpcMove_inv h2 h3 rfl rfl rfl rfl rfl rfl rfl rfl rfl (Or.inr (by simp [sentBack, hr])) rfl
      (fun n => by simp [holding, hr])
  | @send node ret s0 hr hsd =>
    exact ⟨inv2_send (.gWait ret) h2 (by simp [sentBack, hr]) hsd rfl (fun n r a => by cases a) (fun n a => by cases a),
      inv3_send (.gWait ret) h3 h2 (by simp [sentBack, hr]) hsd (fun n => by simp [holding, hr])
        (fun n r a => by cases a) (fun n a => by cases a)⟩
  | tick _ hsu hd => exact ⟨inv2_dtick h2 hsu hd, inv3_dtick h3 hsu hd⟩
  | @select ret n nd d hr hsu hn hd hg ha =>
    subst hd
    have haw : awaiting s := Or.inr ⟨ret, hr⟩
    constructor
    · exact inv2_select _ h2 haw hsu hn ha
        (fun p hp => by simp only [sentBack, Option.some.injEq] at hp; exact hp.symm) (by simp [awaiting])
        (fun m r a => by cases a) (fun m a => by cases a)
    · refine inv3_select _ h3 h2 haw hsu hn ha (by simp [awaiting]) ?_ (fun m a => by cases a)
      intro m; simp [holding, selGo_eq_zero hg]
  | @go ret n nd hr hsu hn hd =>
    have haw : awaiting s := Or.inr ⟨ret, hr⟩
    have a := inv2_select (.gRet (.task n) ret) h2 haw hsu hn (by rw [hd]; simp) (fun p hp => by simp [sentBack] at hp)
      (by simp [awaiting]) (fun m r a => by cases a; exact ⟨rfl, hd⟩) (fun m a => by cases a)
    have b := inv3_select (.gRet (.task n) ret) h3 h2 haw hsu hn (by rw [hd]; simp) (by simp [awaiting])
      (fun m => by simp only [holding, hd, selGo]) (fun m a => by cases a)
    rw [hd] at a b
    exact ⟨a, b⟩
  | @holdOn ret hr | @stopIter ret hr =>
    exact rpcMove_inv h2 h3 rfl rfl rfl rfl rfl rfl rfl rfl rfl (Or.inl rfl) rfl (awaiting_holding (Or.inr ⟨ret, hr⟩))
  | lost hr | assertFail hr | cyclic hr | crash hr => exact raised _ (Or.inl ⟨_, hr⟩)
  | resultLost hr => exact raised _ (Or.inr hr)
  | ret hr => exact (gReturn_handed ..).inv h2 h3 hr
  | result hr _ hq hn => exact pTopResult_inv h2 h3 hr hq hn rfl
  | finish hr => exact ⟨inv2_finishRun h2, inv3_finishRun h3 hr⟩

theorem preach_inv {inp : RunInput} {s : Sys} (h : PReach inp s) : Inv2 inp s ∧ Inv3 inp s := by
  induction h with
  | init => exact ⟨init_inv2 inp, init_inv3 inp⟩
  | @next s0 s1 c _ hs ih =>
    cases c with
    | main perm => exact mainStep_inv ih.1 ih.2 hs
    | take w => exact takeStep_inv ih.1 ih.2 hs
    | done w => exact doneStep_inv ih.1 ih.2 hs

end DoitModel.Run
