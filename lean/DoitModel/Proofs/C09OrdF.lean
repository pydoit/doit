import DoitModel.Proofs.C09Ord2
import DoitModel.Proofs.C08DynInvDen
/-! # C09 — the order of terminal reports also along what a FAILED calc_dep delivered

`CalcH` / `StageH` add to `CalcG` / `StageG` the deliveries of a calc_dep with status `fail` that satisfies `P` — instantiated
with `Dyn.SF inp`, in every reachable state equivalent to "it has a start event" (`Dyn.InvDen.started_iff`).  `InvTF` rides
on `InvT` (for the statuses) and on `AllDCF` of C08 (what a processed, started-and-failed calc_dep returned is in the
node's dynamic lists). -/
namespace DoitModel.Run

inductive CalcH (inp : RunInput) (σ : Name → RS) (P : Name → Prop) (n : Name) : Name → Prop
  | base {c : Name} : c ∈ inp.calcDep n → CalcH inp σ P n c
  | res {p c : Name} : CalcH inp σ P n p → (σ p).good = true → c ∈ (inp.calcRes p).calcs → CalcH inp σ P n c
  | resF {p c : Name} : CalcH inp σ P n p → σ p = .fail → P p → c ∈ (inp.calcResFail p).calcs → CalcH inp σ P n c

def StageH (inp : RunInput) (σ : Name → RS) (P : Name → Prop) (n d : Name) : Prop :=
  d ∈ inp.taskDep n ∨ CalcH inp σ P n d ∨
    ∃ p, CalcH inp σ P n p ∧ (((σ p).good = true ∧ (d ∈ (inp.calcRes p).tasks ∨ d ∈ (inp.calcRes p).files)) ∨
      (σ p = .fail ∧ P p ∧ (d ∈ (inp.calcResFail p).tasks ∨ d ∈ (inp.calcResFail p).files)))

variable {inp : RunInput} {P : Name → Prop}

theorem CalcG.toH {σ : Name → RS} {n c : Name} (h : CalcG inp σ n c) : CalcH inp σ P n c := by
  induction h with
  | base h => exact .base h
  | res _ hg hc ih => exact .res ih hg hc

theorem StageG.toH {σ : Name → RS} {n d : Name} (h : StageG inp σ n d) : StageH inp σ P n d := by
  rcases h with a | a | ⟨p, a, b, c⟩
  · exact Or.inl a
  · exact Or.inr (Or.inl a.toH)
  · exact Or.inr (Or.inr ⟨p, a.toH, Or.inl ⟨b, c⟩⟩)

theorem CalcH.mono {σ σ' : Name → RS} {n c : Name}
    (hm : ∀ p, CalcH inp σ P n p → CalcH inp σ' P n p → (σ p).finished = true → σ' p = σ p)
    (h : CalcH inp σ P n c) : CalcH inp σ' P n c := by
  induction h with
  | base h => exact .base h
  | res hp hg hc ih => exact .res ih (by rw [hm _ hp ih (RS.good_finished hg)]; exact hg) hc
  | resF hp hf hP hc ih => exact .resF ih (by rw [hm _ hp ih (by rw [hf]; rfl)]; exact hf) hP hc

theorem StageH.mono {σ σ' : Name → RS} {n d : Name}
    (hm : ∀ p, CalcH inp σ P n p → CalcH inp σ' P n p → (σ p).finished = true → σ' p = σ p)
    (h : StageH inp σ P n d) : StageH inp σ' P n d := by
  rcases h with a | a | ⟨p, a, b⟩
  · exact Or.inl a
  · exact Or.inr (Or.inl (a.mono hm))
  · refine Or.inr (Or.inr ⟨p, a.mono hm, ?_⟩)
    rcases b with ⟨b1, b2⟩ | ⟨b1, b2⟩
    · exact Or.inl ⟨by rw [hm p a (a.mono hm) (RS.good_finished b1)]; exact b1, b2⟩
    · exact Or.inr ⟨by rw [hm p a (a.mono hm) (by rw [b1]; rfl)]; exact b1, b2⟩

theorem CalcH.toG {σ : Name → RS} {n c : Name} (hgood : ∀ p, CalcG inp σ n p → (σ p).good = true)
    (h : CalcH inp σ P n c) : CalcG inp σ n c := by
  induction h with
  | base h => exact .base h
  | res _ hg hc ih => exact .res ih hg hc
  | resF _ hf _ _ ih => have := hgood _ ih; rw [hf] at this; cases this

theorem StageH.toG {σ : Name → RS} {n d : Name} (hgood : ∀ p, CalcG inp σ n p → (σ p).good = true)
    (h : StageH inp σ P n d) : StageG inp σ n d := by
  rcases h with a | a | ⟨p, a, b⟩
  · exact Or.inl a
  · exact Or.inr (Or.inl (a.toG hgood))
  · rcases b with ⟨b1, b2⟩ | ⟨b1, _⟩
    · exact Or.inr (Or.inr ⟨p, a.toG hgood, b1, b2⟩)
    · have := hgood _ (a.toG hgood); rw [b1] at this; cases this

def InvTF (inp : RunInput) (P : Name → Prop) (s : Sys) : Prop :=
  ∀ n a, fstTerm s.events n = some a → ∀ d, StageH inp (stOf s) P n d → ∃ b, fstTerm s.events d = some b ∧ b < a

theorem invTF_change {s s' : Sys} {n0 : Name} {r : RS} {new : List Ev} (h : InvTF inp P s)
    (hnone0 : fstTerm s.events n0 = none)
    (hst : ∀ x, stOf s' x = if x = n0 then r else stOf s x) (hev : s'.events = new ++ s.events)
    (hother : ∀ m, m ≠ n0 → ∀ e ∈ new, Ev.isTerminalOf m e = false)
    (Kt : ∀ x, StageH inp (stOf s) P n0 x → ∃ b, fstTerm s.events x = some b) : InvTF inp P s' := by
  have hne : ∀ x, x ≠ n0 → stOf s' x = stOf s x := fun x hx => by rw [hst, if_neg hx]
  have back : ∀ n, (n = n0 ∨ ∃ a, fstTerm s.events n = some a) → ∀ d, StageH inp (stOf s') P n d →
      StageH inp (stOf s) P n d := by
    intro n hn d hd
    apply StageH.mono _ hd
    intro p _ hp _
    by_cases e : p = n0
    · subst e
      have hsg : StageH inp (stOf s) P n p := Or.inr (Or.inl hp)
      rcases hn with rfl | ⟨a, ha⟩
      · obtain ⟨b, hb⟩ := Kt _ hsg; rw [hnone0] at hb; cases hb
      · obtain ⟨b, hb, _⟩ := h n a ha p hsg
        rw [hnone0] at hb; cases hb
    · exact (hne p e).symm
  exact order_change h hnone0 hev hother (fun _ x hx => Kt x (back n0 (Or.inl rfl) x hx))
    fun n a _ ha => back n (Or.inr ⟨a, ha⟩)

theorem select_stageH_finished {s : Sys} {n : Name} {nd : Node} (c : Ctx9 inp s) (hdcf : AllDCF inp P s)
    (hsusp : s.susp = some (.node n)) (hn : s.nodes n = some nd) :
    ∀ x, StageH inp (stOf s) P n x → (stOf s x).finished = true := by
  have hok := c.h2.inv1.node n nd hn
  obtain ⟨_, clsT, clsC, hpr⟩ := yielded_closed c hsusp hn
  have dlv : ∀ p ∈ nd.dynCalc, (stOf s p).good = true → Delivered inp nd p :=
    fun p hp hg => c.hG.dc n nd hn p hp (hpr p) hg
  have dlvF : ∀ p ∈ nd.dynCalc, stOf s p = .fail → P p → DeliveredF inp nd p :=
    fun p hp hf hP => hdcf n nd hn p hp (hpr p) hf hP
  have calcIn : ∀ x, CalcH inp (stOf s) P n x → x ∈ nd.dynCalc := by
    intro x hx
    induction hx with
    | base h => exact hok.st.2 _ h
    | res _ hg hc ih => exact (dlv _ ih hg).2.2 _ hc
    | resF _ hf hP hc ih => exact (dlvF _ ih hf hP).2.2 _ hc
  intro x hx
  rcases hx with a | a | ⟨p, a, b⟩
  · exact clsT x (hok.st.1 x a)
  · exact clsC x (calcIn x a)
  · rcases b with ⟨b, c'⟩ | ⟨b, hP, c'⟩
    · rcases c' with c' | c'
      · exact clsT x ((dlv p (calcIn p a) b).1 x c')
      · exact clsT x ((dlv p (calcIn p a) b).2.1 x c')
    · rcases c' with c' | c'
      · exact clsT x ((dlvF p (calcIn p a) b hP).1 x c')
      · exact clsT x ((dlvF p (calcIn p a) b hP).2.1 x c')

theorem invTF_select {s s' : Sys} {n : Name} {nd : Node} {extra : List Ev} (h : InvTF inp P s) (c : Ctx9 inp s)
    (hdcf : AllDCF inp P s) (hsusp : s.susp = some (.node n)) (hn : s.nodes n = some nd)
    (hd : selDecision inp n nd ≠ .assertFail)
    (hst : ∀ x, stOf s' x = if x = n then selStatus (selDecision inp n nd) else stOf s x)
    (hev : s'.events = extra ++ (selEvents inp n nd (selDecision inp n nd) ++ s.events))
    (hq : ∀ e ∈ extra, e.quiet = true) : InvTF inp P s' := by
  obtain ⟨_, hnone0, hother⟩ := select_frame c hn hd hq
  have hev' : s'.events = (extra ++ selEvents inp n nd (selDecision inp n nd)) ++ s.events := by
    rw [hev, List.append_assoc]
  have K := select_stageH_finished c hdcf hsusp hn
  exact invTF_change h hnone0 hst hev' hother fun x hx => fstTerm_some_of_cTerm (c.a6 x (K x hx))

theorem invTF_result {s s' : Sys} {n : Name} {nd : Node} {mid : List Ev} (h : InvTF inp P s) (hT : InvT inp s)
    (c : Ctx9 inp s) (hn : s.nodes n = some nd) (hrun : nd.status = .run) (hgo : ∃ deps, Ev.go n deps ∈ s.events)
    (hst : ∀ x, stOf s' x = if x = n then resStatus (inp.outcome n) else stOf s x)
    (hev : s'.events = resEvents n (inp.outcome n) ++ (mid ++ s.events))
    (hq : ∀ e ∈ mid, e.quiet = true) : InvTF inp P s' := by
  obtain ⟨_, hnone0, hother⟩ := result_frame c hn hrun hq
  have hev' : s'.events = (resEvents n (inp.outcome n) ++ mid) ++ s.events := by
    rw [hev, List.append_assoc]
  obtain ⟨deps, hg⟩ := hgo
  obtain ⟨inFin, stageIn, _⟩ := go_deps c hg
  -- every calc_dep of a task chosen for execution is executed / up-to-date: nothing failed delivered
  have hgood : ∀ p, CalcG inp (stOf s) n p → (stOf s p).good = true :=
    fun p hp => hT.ev p (inFin p (stageIn p (Or.inr (Or.inl hp))))
  exact invTF_change h hnone0 hst hev' hother fun x hx => finBefore_fstTerm (inFin x (stageIn x (hx.toG hgood)))

theorem invTF_quiet {s s' : Sys} {new : List Ev} (h : InvTF inp P s) (hst : ∀ x, stOf s' x = stOf s x)
    (hev : s'.events = new ++ s.events) (hq : ∀ e ∈ new, e.quiet = true) : InvTF inp P s' := by
  have e : stOf s' = stOf s := funext hst
  intro n a ha d hd
  rw [e] at hd
  exact order_quiet h hev hq n a ha d hd

theorem invTF_step {s s' : Sys} (h : InvTF inp P s) (hT : InvT inp s) (c : Ctx9 inp s) (hdcf : AllDCF inp P s)
    (sh : Shape inp s s') : InvTF inp P s' := by
  cases sh with
  | quiet new hst hev hq _ => exact invTF_quiet h hst hev hq
  | select n nd extra haw hsusp hn hd hst hev hq _ => exact invTF_select h c hdcf hsusp hn hd hst hev hq
  | result n nd mid hn hrun hgo hst hev hq _ => exact invTF_result h hT c hn hrun hgo hst hev hq

theorem init_invTF (inp : RunInput) (P : Name → Prop) : InvTF inp P (init inp) := by
  intro n a ha; simp [init, fstTerm] at ha

theorem reach_invTF {s : Sys} (h : Reach inp s) : InvTF inp (Dyn.SF inp) s :=
  Move.reach (fun hr => And.intro (reach_invT hr) (And.intro (reach_ctx9 hr) (Dyn.reach_invDen hr).dcf)) (init_invTF inp _)
    (fun h2 h3 q ih m => invTF_step ih q.1 q.2.1 q.2.2 (m.shape h2 h3)) h

theorem preach_invTF {s : Sys} (h : PReach inp s) : InvTF inp (Dyn.SF inp) s :=
  Move.preach (fun hr => And.intro (preach_invT hr) (And.intro (preach_ctx9 hr) (Dyn.preach_invDen hr).dcf)) (init_invTF inp _)
    (fun h2 h3 q ih m => invTF_step ih q.1 q.2.1 q.2.2 (m.shape h2 h3)) h

end DoitModel.Run
