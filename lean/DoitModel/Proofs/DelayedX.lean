import DoitModel.Model.DelayedX
import DoitModel.Proofs.DelayedSpec
/-! # M1+X: which transitions write which events

The dispatcher half of the extended system (`dtick`: `_add_task` with calc_dep / setup sections, the loader section)
never writes a `start`: only `select_task` does, and for a task with setup-tasks only its SECOND call. -/
namespace DoitModel.DelayedX
open DoitModel.Run (RS Name)
open DoitModel.Delayed (Input Ev Susp Choice TDef LId)

def EvQuiet (s s' : Sys) : Prop := s'.events = s.events ∨ ∃ c, s'.events = Ev.creator c :: s.events

theorem events_ite {c : Prop} [Decidable c] {a b : Sys} {ev : List Ev} (ha : a.events = ev) (hb : b.events = ev) :
    (if c then a else b).events = ev := by
  split <;> assumption

theorem registerWaiting_events (s : Sys) (n : Name) (l : List Name) : (registerWaiting s n l).events = s.events := rfl

theorem withCalcTable_events (s : Sys) (w : Name) (o : Nat) (ds : List Name) :
    (withCalcTable s w o ds).events = s.events := by
  unfold withCalcTable
  cases s.tasks w with
  | none => exact events_ite rfl rfl
  | some cur => exact events_ite rfl (events_ite rfl rfl)

theorem genStep_events (s : Sys) (n : Name) (nd : Node) (d : Name) (pc' : PC) :
    (genStep s n nd d pc').events = s.events := by
  unfold genStep
  cases s.nodes d with
  | some x => exact events_ite rfl rfl
  | none => cases s.tasks d <;> rfl

theorem addWaitRun_events (s : Sys) (n : Name) (nd : Node) (ds : List Name) (pc' : PC) :
    (addWaitRun s n nd ds pc').events = s.events := rfl

theorem addWaitCalc_events (inp : Input) (s : Sys) (n : Name) (nd : Node) (cs : List Name) (pc' : PC) :
    (addWaitCalc inp s n nd cs pc').events = s.events :=
  withCalcTable_events ..

theorem finishLoader_events (s : Sys) (n : Name) (nd : Node) (l : LId) (tk : TDef) :
    (finishLoader s n nd l tk).events = s.events := by
  unfold finishLoader
  cases s.tasks n with
  | none => rfl
  | some cur => exact events_ite rfl rfl

theorem regexBlock_events (inp : Input) (s : Sys) (l : LId) (g : Nat) : (regexBlock inp s l g).events = s.events := by
  unfold regexBlock
  cases s.targets (inp.gtarget g) with
  | some o => rfl
  | none =>
    cases inp.baseOf l with
    | none => rfl
    | some b => exact events_ite (events_ite rfl rfl) rfl

theorem afterCreate_events (inp : Input) (s : Sys) (n : Name) (nd : Node) (l : LId) :
    (afterCreate inp s n nd l).events = s.events := by
  unfold afterCreate
  cases nd.task.rx with
  | none => exact finishLoader_events ..
  | some g =>
    cases hs : (regexBlock inp s l g).susp with
    | err e => simp only [hs]; exact regexBlock_events ..
    | _ => simp only [hs]; exact (finishLoader_events ..).trans (regexBlock_events ..)

theorem evalCreator_events (inp : Input) (s : Sys) (l : LId) (t : Name) (b : Bool) :
    (evalCreator inp s l t b).events = Ev.creator (inp.creatorOf l) :: s.events := by
  unfold evalCreator
  cases Delayed.regTargets s.targets (Delayed.targetPairs (inp.make (inp.creatorOf l) t)) <;> rfl

theorem loaderStep_quiet (inp : Input) (s : Sys) (n : Name) (nd : Node) (l : LId) :
    EvQuiet s (loaderStep inp s n nd l) := by
  unfold loaderStep
  cases s.tasks (Delayed.toLoad inp l n) with
  | none => exact .inl rfl
  | some tT =>
    by_cases hm : mustCreate inp s l tT = true
    · refine .inr ⟨inp.creatorOf l, ?_⟩
      simp only [if_pos hm]
      cases hs : (evalCreator inp s l (Delayed.toLoad inp l n) nd.bad).susp with
      | err e => exact evalCreator_events ..
      | _ => exact (afterCreate_events ..).trans (evalCreator_events ..)
    · simp only [if_neg hm]; exact .inl (afterCreate_events ..)

theorem nodeStep_quiet (inp : Input) (s : Sys) (n : Name) (nd : Node) : EvQuiet s (nodeStep inp s n nd) := by
  unfold nodeStep
  cases nd.pc with
  | start => exact .inl (events_ite rfl rfl)
  | loopTop => exact .inl rfl
  | calcIter todo => cases todo with
    | nil => exact .inl (addWaitCalc_events ..)
    | cons c cs => exact .inl (genStep_events ..)
  | taskIter todo => cases todo with
    | nil => exact .inl rfl
    | cons d ds => exact .inl (genStep_events ..)
  | afterDeps => exact .inl (events_ite rfl (events_ite rfl rfl))
  | loaderPc => cases nd.task.loader with
    | none => exact .inl rfl
    | some l => exact loaderStep_quiet ..
  | self1 => exact .inl rfl
  | setup1 => exact .inl (events_ite rfl rfl)
  | setup2 => exact .inl (events_ite rfl rfl)
  | setupIter todo => cases todo with
    | nil => exact .inl (events_ite rfl rfl)
    | cons d ds => exact .inl (genStep_events ..)
  | self2 => exact .inl rfl
  | done => exact .inl rfl

theorem dtick_quiet (inp : Input) (s : Sys) : EvQuiet s (dtick inp s) := by
  unfold dtick
  cases s.cur with
  | some n =>
    simp only []
    cases s.nodes n with
    | none => exact .inl rfl
    | some nd => exact nodeStep_quiet ..
  | none =>
    cases s.ready with
    | cons r rs => exact .inl rfl
    | nil =>
      cases s.toRun with
      | nil => exact .inl (events_ite (events_ite rfl rfl) rfl)
      | cons t ts =>
        simp only []
        cases s.nodes t with
        | some x => exact .inl rfl
        | none => cases s.tasks t <;> exact .inl rfl

theorem clearSelect_events (s : Sys) (p : Name) (nd : Node) : (clearSelect s p nd).events = s.events :=
  events_ite rfl rfl

theorem wakeOne_events {inp : Input} {s s' : Sys} {pst : RS} {p w : Name} {nd : Node}
    (h : wakeOne inp s pst p w nd = some s') : s'.events = s.events := by
  unfold wakeOne at h
  refine Delayed.ite_elim h (fun _ h => Delayed.ite_elim h (fun _ h => ?_) (fun _ h => nomatch h)) (fun _ h => ?_)
  · cases h; exact events_ite (withCalcTable_events ..) (withCalcTable_events ..)
  · cases h; exact events_ite rfl rfl

theorem updateWaiting_events (inp : Input) (pst : RS) (p : Name) (perm : List Name) :
    ∀ s s', updateWaiting inp pst p s perm = some s' → s'.events = s.events := by
  induction perm with
  | nil => intro s s' h; cases h; rfl
  | cons w ws ih =>
    intro s s' h
    simp only [updateWaiting] at h
    cases hw : s.nodes w with
    | none => simp only [hw] at h; exact ih _ _ h
    | some nd =>
      simp only [hw] at h
      cases hk : wakeOne inp s pst p w nd with
      | none => simp only [hk] at h; cases h
      | some s1 => simp only [hk] at h; exact (ih _ _ h).trans (wakeOne_events hk)

theorem feed_events {inp : Input} {s s' : Sys} {p : Name} {perm : List Name} (h : feed inp s p perm = some s') :
    s'.events = s.events := by
  unfold feed at h
  cases hp : s.nodes p with
  | none => simp only [hp] at h; cases h; rfl
  | some nd =>
    simp only [hp] at h
    refine Delayed.ite_elim h (fun _ h => Delayed.ite_elim h (fun _ h => ?_) (fun _ h => nomatch h)) (fun _ h => ?_)
    · cases hu : updateWaiting inp nd.status p
          (clearSelect { s with dispatched := s.dispatched.filter (· ≠ p) } p nd) perm with
      | none => simp only [hu] at h; cases h; rfl
      | some s1 =>
        simp only [hu] at h; cases h
        exact (updateWaiting_events _ _ _ _ _ _ hu).trans (clearSelect_events ..)
    · cases h; exact clearSelect_events ..

theorem handBack_events {inp : Input} {s s' : Sys} {p : Name} {perm : List Name}
    (h : handBack inp s p perm = some s') : s'.events = s.events :=
  Delayed.ite_elim h (fun _ h => by cases h; rfl) (fun _ h => feed_events h)

theorem finishStep_events {inp : Input} {s s' : Sys} {n : Name} {perm : List Name}
    (h : finishStep inp s n perm = some s') :
    s'.events = Ev.failure n :: s.events ∨ s'.events = Ev.success n :: s.events := by
  unfold finishStep at h
  refine Delayed.ite_elim h (fun _ h => ?_) (fun _ h => nomatch h)
  cases hn : s.nodes n with
  | none => simp only [hn] at h; cases h
  | some nd =>
    simp only [hn] at h
    refine Delayed.ite_elim h (fun _ h => nomatch h) fun _ h =>
      Delayed.ite_elim h (fun _ h => .inl ?_) (fun _ h => .inr ?_)
    · exact Delayed.ite_elim h (fun _ h => feed_events h) (fun _ h => by cases h; rfl)
    · exact Delayed.ite_elim h (fun _ h => by cases h; rfl) (fun _ h => feed_events h)

/-- the first selection of a task with setup-tasks never starts it (`C15X_created_start_after_all_partial`) -/
theorem step_start_guard {inp : Input} {s s' : Sys} {c : Choice} (h : step inp s c = some s') (n : Name)
    (hev : s'.events = Ev.start n :: s.events) :
    s.susp = .yielded n ∧ ∃ nd, s.nodes n = some nd ∧ nd.bad = false ∧
      ((nd.task.setup = [] ∧ nd.status = .none ∧ inp.utd n = false) ∨
       (nd.task.setup ≠ [] ∧ nd.status = .run ∧ n ∉ s.running)) := by
  -- a step that leaves the events alone, or puts another event on top, is none of ours
  have same : s'.events = s.events → False := fun e => List.cons_ne_self _ _ (hev.symm.trans e)
  have other : ∀ {e}, s'.events = e :: s.events → e = Ev.start n := fun e => (List.cons.inj (e.symm.trans hev)).1
  cases c with
  | resume => exact Delayed.ite_elim h (fun _ h => by cases h; exact (same rfl).elim) (fun _ h => nomatch h)
  | finish m perm => rcases finishStep_events h with e | e <;> cases other e
  | tick perm =>
    simp only [step] at h
    cases hs : s.susp with
    | running =>
      simp only [hs] at h; cases h
      rcases dtick_quiet inp s with e | ⟨c, e⟩
      · exact (same e).elim
      · cases other e
    | yielded m =>
      simp only [hs, selectStep] at h
      cases hn : s.nodes m with
      | none => simp only [hn] at h; cases h; exact (same rfl).elim
      | some nd =>
        simp only [hn] at h
        -- a node that is reported and handed back gets `unmet` / `skipUtd` on top, or nothing
        have back : ∀ {s1 : Sys} {e}, s1.events = e :: s.events → handBack inp s1 m perm = some s' → e = Ev.start n :=
          fun e1 hb => other ((handBack_events hb).trans e1)
        refine Delayed.ite_elim h (fun c0 h => ?_) (fun c0 h => ?_)
        · refine Delayed.ite_elim h (fun _ h => ?_) fun cb h => Delayed.ite_elim h (fun _ h => ?_) fun cu h =>
            Delayed.ite_elim h (fun _ h => ?_) (fun cs h => ?_)
          · cases back rfl h
          · cases back rfl h
          · exact (same ((handBack_events h).trans rfl)).elim
          · cases h; cases other rfl
            exact ⟨rfl, nd, hn, Bool.not_eq_true _ ▸ cb,
              .inl ⟨Decidable.not_not.mp cs, c0, Bool.not_eq_true _ ▸ cu⟩⟩
        · refine Delayed.ite_elim h (fun c1 h => Delayed.ite_elim h (fun _ h => ?_) (fun cb h => ?_)) (fun _ h => ?_)
          · cases back rfl h
          · cases h; cases other rfl
            exact ⟨rfl, nd, hn, Bool.not_eq_true _ ▸ cb, .inr ⟨c1.2.1, c1.1, c1.2.2⟩⟩
          · cases h; exact (same rfl).elim
    | idle => simp only [hs] at h; cases h
    | holdOn => simp only [hs] at h; cases h
    | stopIter => simp only [hs] at h; cases h
    | err e => simp only [hs] at h; cases h

theorem autoRun_reach {inp : Input} : ∀ (k : Nat) (s : Sys), Reach inp s → Reach inp (autoRun inp k s)
  | 0, _, h => h
  | k + 1, s, h => by
    simp only [autoRun]
    split
    · rename_i s' hs; exact autoRun_reach k s' (Reach.next h hs)
    · exact h

end DoitModel.DelayedX
