import DoitModel.Proofs.Status
/-! # M2 — under the invariant, `get_status` decides exactly the specification

Also: `get_status(get_log=True)` against the `get_log=False` decision, and the statuses that a fresh mtime leaves alone
under md5 (for the corollaries of C04). -/
namespace DoitModel.Status

theorem depIs_of_some {fs : FS} {p : Path} {cur : FMeta} (h : fs p = some cur) (v : Mod) (c : Checker) (r : Rcd) :
    depIs v c r fs p = (depVerdict c r cur p == v) := by
  unfold depIs; rw [h]

theorem deps_same_of {c : Checker} {r : Rcd} {fs : FS} {deps : List Path} (h1 : deps.any (depMissing fs) = false)
    (h2 : deps.any (depIs .crash c r fs) = false) (h3 : deps.any (depIs .modified c r fs) = false) {p : Path}
    (hp : p ∈ deps) : ∃ cur, fs p = some cur ∧ depVerdict c r cur p = .same := by
  obtain ⟨cur, hcur⟩ := exists_of_not_missing h1 hp
  have m2 := any_false_of h2 hp
  have m3 := any_false_of h3 hp
  rw [depIs_of_some hcur] at m2 m3
  refine ⟨cur, hcur, ?_⟩
  cases hv : depVerdict c r cur p with
  | same => rfl
  | modified => rw [hv] at m3; cases m3
  | crash => rw [hv] at m2; cases m2

theorem fileVerdict_upToDate_iff (c : Checker) (r : Rcd) (fs : FS) (deps : List Path) :
    fileVerdict c r fs deps = .upToDate ↔ ∀ p, p ∈ deps → ∃ cur, fs p = some cur ∧ depVerdict c r cur p = .same := by
  unfold fileVerdict
  constructor
  · intro h p hp
    cases h1 : deps.any (depMissing fs) with
    | true => rw [h1] at h; cases h
    | false =>
    cases h2 : deps.any (depIs .crash c r fs) with
    | true => rw [h1, h2] at h; cases h
    | false =>
    cases h3 : deps.any (depIs .modified c r fs) with
    | true => rw [h1, h2, h3] at h; cases h
    | false => exact deps_same_of h1 h2 h3 hp
  · intro h
    have hany : ∀ f : Path → Bool, (∀ p cur, fs p = some cur → depVerdict c r cur p = .same → f p = false) →
        ¬ deps.any f = true := fun f hf ha => by
      obtain ⟨p, hp, hfp⟩ := List.any_eq_true.mp ha
      obtain ⟨cur, hc, hv⟩ := h p hp
      rw [hf p cur hc hv] at hfp
      cases hfp
    rw [if_neg (hany _ fun p cur hc _ => by unfold depMissing; rw [hc]; rfl),
      if_neg (hany _ fun p cur hc hv => by rw [depIs_of_some hc, hv]; rfl),
      if_neg (hany _ fun p cur hc hv => by rw [depIs_of_some hc, hv]; rfl)]

theorem statusOf_upToDate_iff_verdicts (fixed : Bool) (c : Checker) (d : TaskDef) (r : Rcd) (fs : FS) (resOf : Name → Option Res) :
    statusOf fixed c d r fs resOf = .upToDate ↔
      earlyRun d r.getValues resOf fs = false ∧ checkerChanged c r = false ∧
      (∀ p, p ∈ d.deps → ∃ cur, fs p = some cur ∧ depVerdict c r cur p = .same) ∧ depsChanged fixed r d.deps = false := by
  constructor
  · intro h
    cases statusOf_spec.of_eq h with
    | upToDate h1 h2 h3 h4 h5 h6 => exact ⟨h1, h2, fun p hp => deps_same_of h3 h4 h5 hp, h6⟩
  · rintro ⟨h1, h2, h3, h4⟩
    unfold statusOf
    rw [if_neg (h1 ▸ Bool.false_ne_true), if_neg (h2 ▸ Bool.false_ne_true), (fileVerdict_upToDate_iff c r fs d.deps).mpr h3]
    exact if_neg (h4 ▸ Bool.false_ne_true)

theorem early_eq (d : TaskDef) (vals : Values) (resOf : Name → Option Res) (fs : FS) :
    (!utdFalse vals resOf d.uptodate && (!d.deps.isEmpty || utdEvaluated vals resOf d.uptodate)
      && d.targets.all (fun p => (fs p).isSome)) = !earlyRun d vals resOf fs := by
  have : (fun p => (fs p).isSome) = fun p => !depMissing fs p := funext fun p => by unfold depMissing; cases fs p <;> rfl
  rw [this, List.all_eq_not_any_not]
  simp only [earlyRun, Bool.not_or, Bool.not_and, Bool.not_not]

theorem specUpToDate_none (c : Checker) (d : TaskDef) (fs : FS) (resOf : Name → Option Res) :
    specUpToDate c d none fs resOf = true ↔ earlyRun d Values.empty resOf fs = false ∧ d.deps = [] := by
  unfold specUpToDate
  rw [early_eq, Bool.and_eq_true, Bool.not_eq_true', List.isEmpty_iff]
  rfl

theorem specUpToDate_some (c : Checker) (d : TaskDef) (e : Exec) (fs : FS) (resOf : Name → Option Res) :
    specUpToDate c d (some e) fs resOf = true ↔ earlyRun d e.values resOf fs = false ∧ e.checker = c ∧
      sameSet e.deps d.deps = true ∧ ∀ p, p ∈ d.deps → depUnmod c e fs p = true := by
  unfold specUpToDate
  rw [early_eq, Bool.and_eq_true, Bool.not_eq_true']
  simp only [lastValues, Bool.and_eq_true, beq_iff_eq, List.all_eq_true, and_assoc]

theorem sameSet_refl (a : List Path) : sameSet a a = true :=
  have h : a.all (· ∈ a) = true := List.all_eq_true.mpr fun _ hx => decide_eq_true hx
  Bool.and_eq_true_iff.mpr ⟨h, h⟩

theorem sameSet_mem {a b : List Path} (h : sameSet a b = true) {p : Path} (hp : p ∈ b) : p ∈ a :=
  of_decide_eq_true (List.all_eq_true.mp (Bool.and_eq_true_iff.mp h).2 p hp)

theorem resOf_eq_specRes {s : St} (h : Inv s) : s.resOf = s.specRes := by
  funext t
  have := h.agree t
  unfold St.resOf St.specRes
  cases hs : s.shadow t with
  | none => rw [hs] at this; exact this.2.1
  | some e => rw [hs] at this; exact this.2.1

theorem getValues_eq_last {s : St} (h : Inv s) (t : Name) : (s.rcd t).getValues = lastValues (s.shadow t) := by
  have := h.agree t
  unfold Rcd.getValues
  cases hs : s.shadow t with
  | none => rw [hs] at this; rw [this.1]; rfl
  | some e => rw [hs] at this; rw [this.1]; rfl

theorem checkModified_stateOf_ne_crash (c : Checker) (sm now : FMeta) : checkModified c (stateOf c sm) now ≠ .crash := by
  intro h
  obtain ⟨rfl, m, hm⟩ := checkModified_crash h
  cases hm

theorem depVerdict_same_iff {r : Rcd} {e : Exec} (hag : AgreeSome r e) {c : Checker} (hc : e.checker = c) {fs : FS}
    {p : Path} (hp : p ∈ e.deps) {cur : FMeta} (hcur : fs p = some cur) :
    depVerdict c r cur p = .same ↔ depUnmod c e fs p = true := by
  obtain ⟨_, _, _, hdeps, hfst⟩ := hag
  obtain ⟨sm, hsaw, hst⟩ := hfst p hp
  have hns : notSaved r p = false := by unfold notSaved; rw [hdeps]; exact (Bool.not_eq_false' _).mpr (decide_eq_true hp)
  unfold depVerdict depUnmod unmodBy
  rw [hst, hcur, hsaw, hc]
  dsimp only
  rw [if_neg (hns ▸ Bool.false_ne_true), beq_iff_eq]

/-- C03 ∧ C04 in one state: the status computed from the record is `up-to-date` exactly when the specification,
    which reads only the ghost state, says so -/
theorem decision_eq_spec {s : St} (h : Inv s) (t : Name) : s.status true t = .upToDate ↔ s.spec t = true := by
  have hag := h.agree t
  unfold St.status St.spec
  rw [statusOf_upToDate_iff_verdicts, resOf_eq_specRes h, getValues_eq_last h t]
  cases hs : s.shadow t with
  | none =>
    rw [hs] at hag
    obtain ⟨_, _, hck, hdeps, hfst⟩ := hag
    rw [specUpToDate_none]
    refine and_congr_right fun _ => ⟨fun ⟨_, hall, _⟩ => ?_, fun hd => ⟨?_, fun p hp => ?_, ?_⟩⟩
    · -- no dependency has a saved state, so there is none
      cases hd : (s.defs t).deps with
      | nil => rfl
      | cons a l =>
        obtain ⟨cur, _, hv⟩ := hall a (hd ▸ List.mem_cons_self)
        unfold depVerdict at hv
        rw [hfst a] at hv
        cases hv
    · unfold checkerChanged; rw [hck]
    · rw [hd] at hp; cases hp
    · unfold depsChanged; rw [hdeps]
  | some e =>
    rw [hs] at hag
    obtain ⟨_, _, hck, hdeps, _⟩ := id hag
    rw [specUpToDate_some]
    have hcc : checkerChanged s.checker (s.rcd t) = false ↔ e.checker = s.checker := by
      unfold checkerChanged; rw [hck]; exact decide_eq_false_iff_not.trans Decidable.not_not
    have hdc : depsChanged true (s.rcd t) (s.defs t).deps = false ↔ sameSet e.deps (s.defs t).deps = true := by
      unfold depsChanged; rw [hdeps]; exact Iff.of_eq (Bool.not_eq_false' _)
    refine and_congr_right fun _ => ⟨fun ⟨h1, hall, h3⟩ => ⟨hcc.mp h1, hdc.mp h3, fun p hp => ?_⟩,
      fun ⟨hc, hss, hall⟩ => ⟨hcc.mpr hc, fun p hp => ?_, hdc.mpr hss⟩⟩
    · obtain ⟨cur, hcur, hv⟩ := hall p hp
      exact (depVerdict_same_iff hag (hcc.mp h1) (sameSet_mem (hdc.mp h3) hp) hcur).mp hv
    · have hu := hall p hp
      cases hcur : s.fs p with
      | none => unfold depUnmod at hu; rw [hcur] at hu; cases hu
      | some cur => exact ⟨cur, rfl, (depVerdict_same_iff hag hc (sameSet_mem hss hp) hcur).mpr hu⟩

theorem checkModified_md5_same {m sz c : Nat} {cur : FMeta} (h : checkModified .md5 (.md5 m sz c) cur = .same) :
    cur.mtime = m ∨ (cur.size = sz ∧ c = cur.cid) := by
  simp only [checkModified] at h
  by_cases h1 : cur.mtime = m
  · exact Or.inl h1
  rw [if_neg h1] at h
  by_cases h2 : cur.size ≠ sz
  · rw [if_pos h2] at h; cases h
  rw [if_neg h2] at h
  by_cases h3 : c ≠ cur.cid
  · rw [if_pos h3] at h; cases h
  · exact Or.inr ⟨Decidable.not_not.mp h2, Decidable.not_not.mp h3⟩

theorem md5_content {s : St} (hinv : Inv s) {t : Name} (hc : s.checker = .md5) (hst : s.status true t = .upToDate)
    {e : Exec} (he : s.shadow t = some e) {p : Path} (hp : p ∈ (s.defs t).deps) :
    ∃ now sm, s.fs p = some now ∧ e.saw p = some sm ∧ now.size = sm.size ∧ now.cid = sm.cid := by
  have hspec := (decision_eq_spec hinv t).mp hst
  unfold St.spec at hspec
  rw [he, specUpToDate_some, hc] at hspec
  have hu := hspec.2.2.2 p hp
  unfold depUnmod at hu
  cases hnow : s.fs p with
  | none => rw [hnow] at hu; cases hu
  | some now =>
    cases hsaw : e.saw p with
    | none => rw [hnow, hsaw] at hu; cases hu
    | some sm =>
      rw [hnow, hsaw] at hu
      refine ⟨now, sm, rfl, rfl, ?_⟩
      rcases checkModified_md5_same (beq_iff_eq.mp hu) with hm | ⟨hsz, hcid⟩
      · rw [(hinv.saw t e he p sm hsaw).2 now hnow hm]; exact ⟨rfl, rfl⟩
      · exact ⟨hsz, hcid.symm⟩

theorem unmodBy_self (c : Checker) (m : FMeta) : unmodBy c m m = true := by
  cases c with
  | md5 => exact beq_iff_eq.mpr (if_pos rfl)
  | ts => exact beq_iff_eq.mpr (if_neg (Decidable.not_not.mpr rfl))

theorem statusLog_eq_statusOf (c : Checker) (d : TaskDef) (r : Rcd) (fs : FS) (resOf : Name → Option Res)
    (hnc : d.deps.any (depIs .crash c (logRcd c r) fs) = false) :
    statusLog c d r fs resOf = statusOf true c d r fs resOf := by
  rw [statusLog_eq, hnc]; rfl

theorem statusLog_upToDate_iff (c : Checker) (d : TaskDef) (r : Rcd) (fs : FS) (resOf : Name → Option Res) :
    statusLog c d r fs resOf = .upToDate ↔ statusOf true c d r fs resOf = .upToDate := by
  rw [statusLog_eq]
  constructor
  · intro h
    by_cases hc : d.deps.any (depIs .crash c (logRcd c r) fs) = true
    · rw [if_pos hc] at h; cases h
    · rw [if_neg hc] at h; exact h
  · intro h
    -- up-to-date means the checker is unchanged, so the log loop reads the same record and does not raise either
    obtain ⟨_, hcc, _, hcr, _⟩ := statusOf_upToDate_iff.1 h
    rw [logRcd_same hcc, hcr]; exact h

theorem St.statusLog_upToDate_iff (s : St) (t : Name) : s.statusLog t = .upToDate ↔ s.status true t = .upToDate :=
  Status.statusLog_upToDate_iff _ _ _ _ _

theorem any_congr {α} {l : List α} {f g : α → Bool} (h : ∀ x, x ∈ l → f x = g x) : l.any f = l.any g := by
  induction l with
  | nil => rfl
  | cons a t ih =>
    simp only [List.any_cons, h a (by simp), ih (fun x hx => h x (by simp [hx]))]

theorem statusOf_congr (fixed : Bool) (c : Checker) (d : TaskDef) (r : Rcd) (fs fs' : FS) (resOf : Name → Option Res)
    (hm : ∀ p, depMissing fs' p = depMissing fs p)
    (hv : ∀ v p, depIs v c r fs' p = depIs v c r fs p) :
    statusOf fixed c d r fs' resOf = statusOf fixed c d r fs resOf := by
  have hm' : depMissing fs' = depMissing fs := funext hm
  have hv' : ∀ v, depIs v c r fs' = depIs v c r fs := fun v => funext (hv v)
  unfold statusOf earlyRun fileVerdict
  rw [hm', hv' .crash, hv' .modified]

theorem depIs_fresh_md5 {r : Rcd} {fs : FS} {clock : Nat} (hst : StOk fs clock r) (v : Mod) (p q : Path)
    (cur cur' : FMeta) (hcur : fs p = some cur) (hsz : cur'.size = cur.size) (hcid : cur'.cid = cur.cid)
    (hfresh : clock < cur'.mtime) :
    depIs v .md5 r (fun x => if x = p then some cur' else fs x) q = depIs v .md5 r fs q := by
  by_cases hq : q = p
  · subst hq
    simp only [depIs, if_true, hcur, depVerdict]
    cases hr : r.fstate q with
    | none => rfl
    | some st =>
      cases st with
      | ts m => rfl
      | md5 m sz c' =>
        have h1 := hst q m sz c' hr
        have hne : cur'.mtime ≠ m := by omega
        simp only [checkModified, hne, if_false, hsz, hcid]
        by_cases hm : cur.mtime = m
        ·          -- the equal-mtime shortcut said `same`; by `StOk` size and content are the saved ones: `same` again
          have := h1.2 cur hcur hm
          simp [hm, this.1, this.2]
        ·          simp [hm]
  · simp only [depIs, hq, if_false]

theorem depMissing_fresh (fs : FS) (p q : Path) (cur cur' : FMeta) (hcur : fs p = some cur) :
    depMissing (fun x => if x = p then some cur' else fs x) q = depMissing fs q := by
  by_cases hq : q = p
  · subst hq; simp [depMissing, hcur]
  · simp [depMissing, hq]

theorem statusOf_fresh_md5 {r : Rcd} {fs : FS} {clock : Nat} (hst : StOk fs clock r) (fixed : Bool) (d : TaskDef)
    (resOf : Name → Option Res) (p : Path) (cur cur' : FMeta) (hcur : fs p = some cur) (hsz : cur'.size = cur.size)
    (hcid : cur'.cid = cur.cid) (hfresh : clock < cur'.mtime) :
    statusOf fixed .md5 d r (fun x => if x = p then some cur' else fs x) resOf = statusOf fixed .md5 d r fs resOf :=
  statusOf_congr fixed .md5 d r fs _ resOf (fun q => depMissing_fresh fs p q cur cur' hcur)
    (fun v q => depIs_fresh_md5 hst v p q cur cur' hcur hsz hcid hfresh)

end DoitModel.Status
