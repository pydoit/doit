import DoitModel.Proofs.RunSys
import DoitModel.Proofs.C08Inv
import DoitModel.Proofs.C08DynDen
import DoitModel.Proofs.C08DynDeliverF
/-! # C08 (I10) with calc_dep: soundness of the dynamic dependency lists and of `bad_deps` / `ignored_deps`

`NodeS`: every entry of `task.calc_dep` (`dynCalc`) is static or was delivered by an executed / up-to-date member or by one
that failed during its execution (`CalcS`), every entry of `task.task_dep` likewise (`TaskS`); pending lists, snapshots
and wait sets are drawn from them; `bad_deps` / `ignored_deps` hold failed / ignored dependencies only. -/
namespace DoitModel.Run.Dyn

/-- on inputs where no failing calc task has returned dependency values (`NoFailDeliver`) `delivOf` is the delivery
    of the executed / up-to-date calc tasks only -/
theorem delivOf_noFail {inp : RunInput} [h : NoFailDeliver inp] (c : Name) (d : Den) :
    delivOf inp c d = if d.rs.good then inp.calcRes c else {} := by
  unfold delivOf; rw [h.nil c]; split <;> simp

/-- `c` has a derived outcome, and it is a failure during the execution of `c` (`startedFail`) -/
def SF (inp : RunInput) (c : Name) : Prop := ∃ d, DenOf inp c d ∧ startedFail inp c d = true

def StartF (inp : RunInput) (s : Sys) : Prop := ∀ c, stOf s c = .fail → started s c = true → SF inp c

/-- calc_deps of `n` justified by the statuses in `s` -/
inductive CalcS (inp : RunInput) (s : Sys) (n : Name) : Name → Prop
  | static {c : Name} : c ∈ inp.calcDep n → CalcS inp s n c
  | deliv {c x : Name} : CalcS inp s n c → (stOf s c).good = true → x ∈ (inp.calcRes c).calcs → CalcS inp s n x
  | delivF {c x : Name} : CalcS inp s n c → stOf s c = .fail → SF inp c → x ∈ (inp.calcResFail c).calcs →
      CalcS inp s n x

/-- task_deps of `n` justified by the statuses in `s` -/
def TaskS (inp : RunInput) (s : Sys) (n x : Name) : Prop :=
  x ∈ inp.taskDep n ∨
  (∃ c, CalcS inp s n c ∧ (stOf s c).good = true ∧ (x ∈ (inp.calcRes c).tasks ∨ x ∈ (inp.calcRes c).files)) ∨
  ∃ c, CalcS inp s n c ∧ stOf s c = .fail ∧ SF inp c ∧
    (x ∈ (inp.calcResFail c).tasks ∨ x ∈ (inp.calcResFail c).files)

theorem CalcS.stable {inp : RunInput} {s s' : Sys} {n x : Name} (hst : Stable s s') (h : CalcS inp s n x) :
    CalcS inp s' n x := by
  induction h with
  | static hc => exact CalcS.static hc
  | deliv _ hg hm ih => exact CalcS.deliv ih (by rw [hst _ (RS.good_finished hg)]; exact hg) hm
  | delivF _ hf hsf hm ih => exact CalcS.delivF ih (by rw [hst _ (by rw [hf]; rfl)]; exact hf) hsf hm

theorem TaskS.stable {inp : RunInput} {s s' : Sys} {n x : Name} (hst : Stable s s') (h : TaskS inp s n x) :
    TaskS inp s' n x := by
  rcases h with a | ⟨c, hc, hg, hm⟩ | ⟨c, hc, hf, hsf, hm⟩
  · exact Or.inl a
  · exact Or.inr (Or.inl ⟨c, hc.stable hst, by rw [hst _ (RS.good_finished hg)]; exact hg, hm⟩)
  · exact Or.inr (Or.inr ⟨c, hc.stable hst, by rw [hst _ (by rw [hf]; rfl)]; exact hf, hsf, hm⟩)

/-- where an entry of `wait_run` / `bad_deps` / `ignored_deps` of node `n` can come from (`lt`: the setup-tasks have
    been passed to `_node_add_wait_run`) -/
def Src (inp : RunInput) (n : Name) (lt : Bool) (nd : Node) (p : Name) : Prop :=
  p ∈ nd.dynTask ∨ p ∈ nd.dynCalc ∨ (lt = true ∧ p ∈ inp.setup n)

theorem Src.mono {inp : RunInput} {n : Name} {lt lt' : Bool} {a b : Node} {p : Name} (hl : lt = true → lt' = true)
    (hT : ∀ x, x ∈ a.dynTask → x ∈ b.dynTask) (hC : ∀ x, x ∈ a.dynCalc → x ∈ b.dynCalc)
    (h : Src inp n lt a p) : Src inp n lt' b p := by
  rcases h with x | x | ⟨x, y⟩
  · exact Or.inl (hT _ x)
  · exact Or.inr (Or.inl (hC _ x))
  · exact Or.inr (Or.inr ⟨hl x, y⟩)

structure NodeD (inp : RunInput) (s : Sys) (n : Name) (lt : Bool) (nd : Node) : Prop where
  pendT : ∀ d ∈ nd.pendTask, d ∈ nd.dynTask
  pendC : ∀ d ∈ nd.pendCalc, d ∈ nd.dynCalc
  snapT : ∀ d ∈ nd.snapTask, d ∈ nd.dynTask
  snapC : ∀ d ∈ nd.snapCalc, d ∈ nd.dynCalc
  wait : ∀ d ∈ nd.waitRun, Src inp n lt nd d
  waitC : ∀ d ∈ nd.waitRunCalc, d ∈ nd.dynCalc
  bad : ∀ p ∈ nd.bad, stOf s p = .fail ∧ Src inp n lt nd p
  ign : ∀ p ∈ nd.ign, stOf s p = .ign ∧ Src inp n lt nd p
  dynC : ∀ x ∈ nd.dynCalc, CalcS inp s n x
  dynT : ∀ x ∈ nd.dynTask, TaskS inp s n x

theorem NodeD.stable {inp : RunInput} {s s' : Sys} {n : Name} {lt : Bool} {a : Node} (h : NodeD inp s n lt a)
    (hst : Stable s s') : NodeD inp s' n lt a := by
  refine ⟨h.pendT, h.pendC, h.snapT, h.snapC, h.wait, h.waitC, ?_, ?_, fun x hx => (h.dynC x hx).stable hst,
    fun x hx => (h.dynT x hx).stable hst⟩
  · intro p hp
    obtain ⟨a1, a2⟩ := h.bad p hp
    exact ⟨by rw [hst p (by rw [a1]; rfl)]; exact a1, a2⟩
  · intro p hp
    obtain ⟨a1, a2⟩ := h.ign p hp
    exact ⟨by rw [hst p (by rw [a1]; rfl)]; exact a1, a2⟩

theorem NodeD.late {inp : RunInput} {s : Sys} {n : Name} {lt lt' : Bool} {a : Node} (h : NodeD inp s n lt a)
    (hl : lt = true → lt' = true) : NodeD inp s n lt' a :=
  ⟨h.pendT, h.pendC, h.snapT, h.snapC, fun d hd => (h.wait d hd).mono hl (fun _ x => x) (fun _ x => x), h.waitC,
   fun p hp => ⟨(h.bad p hp).1, ((h.bad p hp).2).mono hl (fun _ x => x) (fun _ x => x)⟩,
   fun p hp => ⟨(h.ign p hp).1, ((h.ign p hp).2).mono hl (fun _ x => x) (fun _ x => x)⟩, h.dynC, h.dynT⟩

/-- `NodeD` does not read `pc`, `status`, `waitingMe`, `waitSelect`, `anc`, and the wait sets may shrink -/
theorem NodeD.shrink {inp : RunInput} {s : Sys} {n : Name} {lt : Bool} {a b : Node} (h : NodeD inp s n lt a)
    (e1 : b.pendTask = a.pendTask) (e2 : b.pendCalc = a.pendCalc) (e3 : b.snapTask = a.snapTask)
    (e4 : b.snapCalc = a.snapCalc) (e5 : ∀ d ∈ b.waitRun, d ∈ a.waitRun) (e6 : ∀ d ∈ b.waitRunCalc, d ∈ a.waitRunCalc)
    (e7 : b.bad = a.bad) (e8 : b.ign = a.ign) (e9 : b.dynTask = a.dynTask) (e10 : b.dynCalc = a.dynCalc) :
    NodeD inp s n lt b := by
  have hsrc : ∀ p, Src inp n lt a p → Src inp n lt b p := fun p hp =>
    hp.mono (fun x => x) (fun _ x => by rw [e9]; exact x) (fun _ x => by rw [e10]; exact x)
  refine ⟨?_, ?_, ?_, ?_, ?_, ?_, ?_, ?_, ?_, ?_⟩
  · rw [e1, e9]; exact h.pendT
  · rw [e2, e10]; exact h.pendC
  · rw [e3, e9]; exact h.snapT
  · rw [e4, e10]; exact h.snapC
  · exact fun d hd => hsrc d (h.wait d (e5 d hd))
  · rw [e10]; exact fun d hd => h.waitC d (e6 d hd)
  · rw [e7]; exact fun p hp => ⟨(h.bad p hp).1, hsrc p (h.bad p hp).2⟩
  · rw [e8]; exact fun p hp => ⟨(h.ign p hp).1, hsrc p (h.ign p hp).2⟩
  · rw [e10]; exact h.dynC
  · rw [e9]; exact h.dynT

theorem NodeD.ctl {inp : RunInput} {s : Sys} {n : Name} {lt : Bool} {a b : Node} (h : NodeD inp s n lt a)
    (e1 : b.pendTask = a.pendTask) (e2 : b.pendCalc = a.pendCalc) (e3 : b.snapTask = a.snapTask)
    (e4 : b.snapCalc = a.snapCalc) (e5 : b.waitRun = a.waitRun) (e6 : b.waitRunCalc = a.waitRunCalc)
    (e7 : b.bad = a.bad) (e8 : b.ign = a.ign) (e9 : b.dynTask = a.dynTask) (e10 : b.dynCalc = a.dynCalc) :
    NodeD inp s n lt b :=
  h.shrink e1 e2 e3 e4 (fun _ x => e5 ▸ x) (fun _ x => e6 ▸ x) e7 e8 e9 e10

theorem mem_bad_parentStatus {pst : RS} {p q : Name} {nd : Node} (h : q ∈ (parentStatus pst p nd).bad) :
    q ∈ nd.bad ∨ (pst = .fail ∧ q = p) := by
  simp only [parentStatus] at h
  by_cases e : pst = .fail
  · rw [if_pos e] at h
    exact (List.mem_append.mp h).imp_right fun x => ⟨e, List.mem_singleton.mp x⟩
  · rw [if_neg e] at h; exact Or.inl h

theorem mem_ign_parentStatus {pst : RS} {p q : Name} {nd : Node} (h : q ∈ (parentStatus pst p nd).ign) :
    q ∈ nd.ign ∨ (pst = .ign ∧ q = p) := by
  simp only [parentStatus] at h
  by_cases e : pst = .ign
  · rw [if_pos e] at h
    exact (List.mem_append.mp h).imp_right fun x => ⟨e, List.mem_singleton.mp x⟩
  · rw [if_neg e] at h; exact Or.inl h

theorem parentStatus_D {inp : RunInput} {s : Sys} {n : Name} {lt : Bool} {nd : Node} {pst : RS} {p : Name}
    (h : NodeD inp s n lt nd) (hst : stOf s p = pst) (hsrc : Src inp n lt nd p) :
    NodeD inp s n lt (parentStatus pst p nd) := by
  refine ⟨h.pendT, h.pendC, h.snapT, h.snapC, h.wait, h.waitC, ?_, ?_, h.dynC, h.dynT⟩
  · intro q hq
    rcases mem_bad_parentStatus hq with x | ⟨e, rfl⟩
    · exact h.bad q x
    · exact ⟨hst.trans e, hsrc⟩
  · intro q hq
    rcases mem_ign_parentStatus hq with x | ⟨e, rfl⟩
    · exact h.ign q x
    · exact ⟨hst.trans e, hsrc⟩

theorem addDeps_gen_D {inp : RunInput} {s : Sys} {n : Name} {lt : Bool} {nd : Node} (r : CalcRes)
    (h : NodeD inp s n lt nd) (hC : ∀ x ∈ r.calcs, CalcS inp s n x)
    (hT : ∀ x, x ∈ r.tasks ∨ x ∈ r.files → TaskS inp s n x) :
    NodeD inp s n lt (nd.addDeps r) := by
  have g := addDeps_grow nd r
  have hsrc : ∀ q, Src inp n lt nd q → Src inp n lt (nd.addDeps r) q :=
    fun q hq => hq.mono (fun x => x) g.dynTask g.dynCalc
  refine ⟨?_, ?_, ?_, ?_, ?_, ?_, ?_, ?_, ?_, ?_⟩
  · intro d hd
    simp only [Node.addDeps, List.mem_append] at hd ⊢
    rcases hd with a | a
    · exact Or.inl (h.pendT d a)
    · exact Or.inr a
  · intro d hd
    simp only [Node.addDeps, List.mem_append, List.mem_filter] at hd ⊢
    rcases hd with a | a
    · exact Or.inl (h.pendC d a)
    · exact Or.inr a.1
  · intro d hd; exact g.dynTask d (h.snapT d hd)
  · intro d hd; exact g.dynCalc d (h.snapC d hd)
  · intro d hd; exact hsrc d (h.wait d hd)
  · intro d hd; exact g.dynCalc d (h.waitC d hd)
  · intro q hq; exact ⟨(h.bad q hq).1, hsrc q (h.bad q hq).2⟩
  · intro q hq; exact ⟨(h.ign q hq).1, hsrc q (h.ign q hq).2⟩
  · intro x hx
    simp only [Node.addDeps, List.mem_append] at hx
    rcases hx with a | a
    · exact h.dynC x a
    · simp only [newCalcDeps, List.mem_filter] at a
      exact hC x (mem_dedup.mp a.1)
  · intro x hx
    simp only [Node.addDeps, List.mem_append] at hx
    rcases hx with a | a
    · exact h.dynT x a
    · simp only [newTaskDeps, List.mem_append] at a
      rcases a with a | a
      · exact hT x (Or.inl a)
      · exact hT x (Or.inr (implicitNew_mem a))

theorem addDeps_D {inp : RunInput} {s : Sys} {n : Name} {lt : Bool} {nd : Node} {p : Name}
    (h : NodeD inp s n lt nd) (hg : (stOf s p).good = true) (hp : p ∈ nd.dynCalc) :
    NodeD inp s n lt (nd.addDeps (inp.calcRes p)) :=
  addDeps_gen_D _ h (fun _ hx => CalcS.deliv (h.dynC p hp) hg hx) (fun _ hx => Or.inr (Or.inl ⟨p, h.dynC p hp, hg, hx⟩))

theorem addDepsF_D {inp : RunInput} {s : Sys} {n : Name} {lt : Bool} {nd : Node} {p : Name}
    (h : NodeD inp s n lt nd) (hf : stOf s p = .fail) (hsf : SF inp p) (hp : p ∈ nd.dynCalc) :
    NodeD inp s n lt (nd.addDeps (inp.calcResFail p)) :=
  addDeps_gen_D _ h (fun _ hx => CalcS.delivF (h.dynC p hp) hf hsf hx)
    (fun _ hx => Or.inr (Or.inr ⟨p, h.dynC p hp, hf, hsf, hx⟩))

theorem deliver_D {inp : RunInput} {s : Sys} {n : Name} {lt : Bool} {nd : Node} {pst : RS} {p : Name}
    (h : NodeD inp s n lt nd) (hst : stOf s p = pst) (hp : p ∈ nd.dynCalc) :
    NodeD inp s n lt (deliver inp pst p nd) := by
  unfold deliver
  by_cases hg : pst.good = true
  · rw [if_pos hg]; exact addDeps_D h (by rw [hst]; exact hg) hp
  · rw [if_neg hg]; exact h

theorem deliverF_D {inp : RunInput} {s : Sys} {n : Name} {lt : Bool} {nd : Node} {pst : RS} {p : Name} {ex : Bool}
    (h : NodeD inp s n lt nd) (hst : stOf s p = pst) (hp : p ∈ nd.dynCalc)
    (hF : pst = .fail → ex = true → SF inp p) :
    NodeD inp s n lt (deliverF inp ex pst p nd) := by
  unfold deliverF
  by_cases hc : pst = .fail ∧ ex = true
  · rw [if_pos hc]; exact addDepsF_D h (hst.trans hc.1) (hF hc.1 hc.2) hp
  · rw [if_neg hc]; exact h

theorem absorbDone_D {inp : RunInput} {s : Sys} {n : Name} {lt : Bool} (hF : StartF inp s) (isCalc : Bool) :
    ∀ (ds : List Name) (nd : Node), NodeD inp s n lt nd → (∀ d ∈ ds, if isCalc = true then d ∈ nd.dynCalc else Src inp n lt nd d) →
    NodeD inp s n lt (absorbDone inp s isCalc ds nd) := by
  intro ds
  induction ds with
  | nil => intro nd h _; exact h
  | cons a t ih =>
    intro nd h hq
    simp only [absorbDone]
    by_cases hu : unfinished s a = true
    · simp only [hu, if_true]; exact ih nd h (fun d hd => hq d (by simp [hd]))
    · simp only [hu, Bool.false_eq_true, if_false]
      have ha := hq a (by simp)
      cases isCalc with
      | false =>
        simp only [Bool.false_eq_true, if_false] at ha ⊢
        have g := parentStatus_grow (stOf s a) a nd
        apply ih _ (parentStatus_D h rfl ha)
        intro d hd
        have := hq d (by simp [hd])
        simp only [Bool.false_eq_true, if_false] at this ⊢
        exact this.mono (fun x => x) g.dynTask g.dynCalc
      | true =>
        simp only [if_true] at ha ⊢
        have g1 := parentStatus_grow (stOf s a) a nd
        have g2 := deliver_grow inp (stOf s a) a (parentStatus (stOf s a) a nd)
        have g3 := deliverF_grow inp (started s a) (stOf s a) a
          (deliver inp (stOf s a) a (parentStatus (stOf s a) a nd))
        apply ih _ (deliverF_D (deliver_D (parentStatus_D h rfl (Or.inr (Or.inl ha))) rfl (g1.dynCalc a ha)) rfl
          (g2.dynCalc a (g1.dynCalc a ha)) (fun e1 e2 => hF a e1 e2))
        intro d hd
        have := hq d (by simp [hd])
        simp only [if_true] at this ⊢
        exact g3.dynCalc d (g2.dynCalc d (g1.dynCalc d this))

theorem waitNode_D {inp : RunInput} {s : Sys} {n : Name} {lt : Bool} {nd : Node} (hF : StartF inp s) (ds : List Name)
    (isCalc : Bool) (pc' : PC) (h : NodeD inp s n lt nd)
    (hds : ∀ d ∈ ds, if isCalc = true then d ∈ nd.dynCalc else Src inp n lt nd d) :
    NodeD inp s n lt (waitNode inp s nd ds isCalc pc') := by
  have h1 := absorbDone_D hF isCalc ds nd h hds
  obtain ⟨g, _, _⟩ := absorbDone_spec inp s isCalc ds nd
  have hds' : ∀ d ∈ ds.filter (unfinished s),
      if isCalc = true then d ∈ (absorbDone inp s isCalc ds nd).dynCalc
      else Src inp n lt (absorbDone inp s isCalc ds nd) d := by
    intro d hd
    have := hds d (List.mem_filter.mp hd).1
    cases isCalc with
    | false =>
      simp only [Bool.false_eq_true, if_false] at this ⊢
      exact this.mono (fun x => x) g.dynTask g.dynCalc
    | true => simp only [if_true] at this ⊢; exact g.dynCalc d this
  unfold waitNode addWaits
  generalize absorbDone inp s isCalc ds nd = x at h1 hds' ⊢
  cases isCalc with
  | false =>
    simp only [Bool.false_eq_true, if_false] at hds' ⊢
    refine ⟨h1.pendT, h1.pendC, h1.snapT, h1.snapC, ?_, h1.waitC, h1.bad, h1.ign, h1.dynC, h1.dynT⟩
    intro d hd
    rcases List.mem_append.mp hd with a | a
    · exact hds' d a
    · exact h1.wait d a
  | true =>
    simp only [if_true] at hds' ⊢
    refine ⟨h1.pendT, h1.pendC, h1.snapT, h1.snapC, h1.wait, ?_, h1.bad, h1.ign, h1.dynC, h1.dynT⟩
    intro d hd
    rcases List.mem_append.mp hd with a | a
    · exact hds' d a
    · exact h1.waitC d a

theorem wokenNode_D {inp : RunInput} {s : Sys} {n : Name} {lt : Bool} {w : Node} {pst : RS} {p : Name}
    (h : NodeD inp s n lt w) (hp : p ∈ w.waitRun ∨ p ∈ w.waitRunCalc) (hst : stOf s p = pst) :
    NodeD inp s n lt (wokenNode inp pst p w) := by
  unfold wokenNode
  by_cases hc : p ∈ w.waitRunCalc
  · rw [if_pos hc]
    have hpc : p ∈ w.dynCalc := h.waitC p hc
    exact deliver_D ((parentStatus_D h hst (Or.inr (Or.inl hpc))).shrink rfl rfl rfl rfl
      (fun d hd => (List.mem_filter.mp hd).1) (fun d hd => (List.mem_filter.mp hd).1) rfl rfl rfl rfl) hst hpc
  · rw [if_neg hc]
    exact (parentStatus_D h hst (h.wait p (hp.resolve_right hc))).shrink rfl rfl rfl rfl
      (fun d hd => (List.mem_filter.mp hd).1) (fun _ x => x) rfl rfl rfl rfl

def NodeS (inp : RunInput) (s : Sys) (n : Name) (nd : Node) : Prop :=
  NodeD inp s n nd.pc.late nd ∧ (nd.pc.ph2 = true → nd.status ≠ .none)

theorem NodeS.stable {inp : RunInput} {s s' : Sys} {n : Name} {a : Node} (h : NodeS inp s n a) (hst : Stable s s') :
    NodeS inp s' n a := ⟨h.1.stable hst, h.2⟩

theorem NodeS.setPc {inp : RunInput} {s : Sys} {n : Name} {nd : Node} (pc' : PC) (h : NodeS inp s n nd)
    (hl : nd.pc.late = true → pc'.late = true) (hp : pc'.ph2 = true → nd.pc.ph2 = true ∨ nd.status ≠ .none) :
    NodeS inp s n { nd with pc := pc' } := by
  refine ⟨(h.1.late hl).ctl rfl rfl rfl rfl rfl rfl rfl rfl rfl rfl, ?_⟩
  intro e
  rcases hp e with a | a
  · exact h.2 a
  · exact a

theorem mkNode_S (inp : RunInput) (s : Sys) (t : Name) (anc : List Name) : NodeS inp s t (mkNode inp t anc) := by
  -- a new node has empty snapshots, wait sets, `bad_deps` and `ignored_deps`
  exact ⟨⟨fun d hd => hd, fun d hd => hd, nofun, nofun, nofun, nofun, nofun, nofun,
    fun x hx => CalcS.static (mem_dedup.mp hx), fun x hx => Or.inl hx⟩, nofun⟩

theorem NodeS.addWaiting {inp : RunInput} {s : Sys} {k : Name} {x : Node} (h : NodeS inp s k x) (m : Name) :
    NodeS inp s k (x.addWaiting m) := by
  unfold Node.addWaiting
  by_cases c : m ∈ x.waitingMe
  · rw [if_pos c]; exact h
  · rw [if_neg c]; exact ⟨h.1.ctl rfl rfl rfl rfl rfl rfl rfl rfl rfl rfl, h.2⟩

theorem NodeS.setStatus {inp : RunInput} {s : Sys} {n : Name} {nd : Node} (st' : RS) (h : NodeS inp s n nd)
    (hne : st' ≠ .none) : NodeS inp s n { nd with status := st' } :=
  ⟨h.1.ctl rfl rfl rfl rfl rfl rfl rfl rfl rfl rfl, fun _ => hne⟩

theorem waitNode_S {inp : RunInput} {s : Sys} {n : Name} {nd : Node} (hF : StartF inp s) (ds : List Name) (isCalc : Bool)
    (pc' : PC) (h : NodeS inp s n nd)
    (hds : ∀ d ∈ ds, if isCalc = true then d ∈ nd.dynCalc else Src inp n pc'.late nd d)
    (hl : nd.pc.late = true → pc'.late = true) (hp : pc'.ph2 = true → nd.pc.ph2 = true ∨ nd.status ≠ .none) :
    NodeS inp s n (waitNode inp s nd ds isCalc pc') := by
  have f := waitNode_facts inp s nd ds isCalc pc'
  refine ⟨?_, ?_⟩
  · rw [f.pc]; exact waitNode_D hF ds isCalc pc' (h.1.late hl) hds
  · intro e; rw [f.pc] at e; rw [f.status]
    rcases hp e with a | a
    · exact h.2 a
    · exact a

theorem wokenNode_S {inp : RunInput} {s : Sys} {n : Name} {w : Node} {pst : RS} {p : Name}
    (h : NodeS inp s n w) (hp : p ∈ w.waitRun ∨ p ∈ w.waitRunCalc) (hst : stOf s p = pst) :
    NodeS inp s n (wokenNode inp pst p w) := by
  have u := wokenNode_upd inp pst p w
  exact ⟨by rw [u.pc]; exact wokenNode_D h.1 hp hst, by rw [u.pc, u.status]; exact h.2⟩

theorem wokenF_S {inp : RunInput} {s : Sys} {n : Name} {w : Node} {pst : RS} {p : Name}
    (h : NodeS inp s n w) (hp : p ∈ w.waitRun ∨ p ∈ w.waitRunCalc) (hst : stOf s p = pst)
    (hF : pst = .fail → started s p = true → SF inp p) :
    NodeS inp s n (wokenF inp s pst p w) := by
  have h1 := wokenNode_S h hp hst
  have u := wokenNode_upd inp pst p w
  unfold wokenF
  by_cases hc : p ∈ w.waitRunCalc
  · rw [if_pos hc]
    have g := deliverF_grow inp (started s p) pst p (wokenNode inp pst p w)
    refine ⟨?_, ?_⟩
    · rw [g.pc]; exact deliverF_D h1.1 hst (u.dynCalc p (h.1.waitC p hc)) hF
    · rw [g.pc, g.status]; exact h1.2
  · rw [if_neg hc]; exact h1

def InvN (inp : RunInput) (s : Sys) : Prop := ∀ n nd, s.nodes n = some nd → NodeS inp s n nd

theorem invN_congr {inp : RunInput} {s s' : Sys} (h : InvN inp s) (e : s'.nodes = s.nodes) : InvN inp s' := by
  intro n nd hn; rw [e] at hn
  exact (h n nd hn).stable (Stable.of_eq (stOf_congr e))

theorem invN_stable {inp : RunInput} {s : Sys} {n : Name} {x : Node} (h : InvN inp s) (hst : Stable s (setNode s n x))
    (hx : NodeS inp s n x) : InvN inp (setNode s n x) := by
  intro m md hm
  rw [setNode_nodes] at hm
  by_cases e : m = n
  · rw [if_pos e] at hm; subst e; cases hm; exact hx.stable hst
  · rw [if_neg e] at hm; exact (h m md hm).stable hst

theorem invN_setNode {inp : RunInput} {s : Sys} {n : Name} {nd x : Node} (h : InvN inp s)
    (hn : s.nodes n = some nd) (hst : x.status = nd.status) (hx : NodeS inp s n x) : InvN inp (setNode s n x) :=
  invN_stable h (Stable.of_eq (stOf_setNode_same hn hst)) hx

theorem invN_create {inp : RunInput} {s : Sys} {t : Name} (anc : List Name) (h : InvN inp s)
    (ht : s.nodes t = none) : InvN inp (setNode s t (mkNode inp t anc)) :=
  invN_stable h (Stable.of_eq (stable_create anc ht)) (mkNode_S inp s t anc)

theorem invN_status {inp : RunInput} {s : Sys} {n : Name} {nd : Node} (st' : RS) (h : InvN inp s)
    (hn : s.nodes n = some nd) (hu : nd.status.finished = false) (hne : st' ≠ .none) :
    InvN inp (setNode s n { nd with status := st' }) := by
  refine invN_stable h ?_ ((h n nd hn).setStatus st' hne)
  intro d hd; rw [stOf_setNode]
  by_cases e : d = n
  · subst e; simp only [stOf, hn, hu] at hd; cases hd
  · rw [if_neg e]

theorem invN_registerWaiting {inp : RunInput} {s : Sys} (n : Name) (wf : List Name) (h : InvN inp s) :
    InvN inp (registerWaiting s n wf) := by
  have hstb : Stable s (registerWaiting s n wf) := Stable.of_eq (stOf_registerWaiting s n wf)
  intro k y hy
  rw [registerWaiting_nodes] at hy
  cases hk : s.nodes k with
  | none => rw [hk] at hy; cases hy
  | some x =>
    rw [hk] at hy
    by_cases hkw : k ∈ wf
    · simp only [hkw, if_true, Option.some.injEq] at hy; subst hy
      exact ((h k x hk).stable hstb).addWaiting n
    · simp only [hkw, if_false, Option.some.injEq] at hy; subst hy
      exact (h k x hk).stable hstb

theorem genStep_invN {inp : RunInput} {s : Sys} {n : Name} {nd : Node} (d : Name) (pc' : PC)
    (h : InvN inp s) (hn : s.nodes n = some nd) (hx : NodeS inp s n { nd with pc := pc' }) :
    InvN inp (genStep inp s n nd d pc') := by
  generalize hg : genStep inp s n nd d pc' = g
  cases genStep_spec hg with
  | fresh hd =>
    have hdn : d ≠ n := by intro e; subst e; rw [hn] at hd; cases hd
    have hn1 : (setNode s d (mkNode inp d (nd.anc ++ [d]))).nodes n = some nd := by
      rw [setNode_nodes, if_neg (Ne.symm hdn), hn]
    exact invN_congr (invN_setNode (x := { nd with pc := pc' }) (invN_create (nd.anc ++ [d]) h hd) hn1 rfl
      (hx.stable (Stable.of_eq (stable_create (nd.anc ++ [d]) hd)))) rfl
  | cyclic => exact invN_congr h rfl
  | known => exact invN_setNode h hn rfl hx

theorem addWaitRun_invN {inp : RunInput} {s : Sys} {n : Name} {nd : Node} (ds : List Name) (isCalc : Bool)
    (pc' : PC) (h : InvN inp s) (hn : s.nodes n = some nd)
    (hx : NodeS inp s n (waitNode inp s nd ds isCalc pc')) : InvN inp (addWaitRun inp s n nd ds isCalc pc') := by
  have f := waitNode_facts inp s nd ds isCalc pc'
  unfold addWaitRun
  apply invN_registerWaiting
  exact invN_setNode (x := waitNode inp s nd ds isCalc pc') h hn f.status hx

/-- the position moves forward: `late` from `afterSetup` on, `ph2` only inside the `run` branch -/
theorem nodeMove_S {inp : RunInput} {s : Sys} {n : Name} {nd x : Node} {perm : List Name}
    (hm : NodeMove inp n nd perm x) (hS : NodeS inp s n nd) : NodeS inp s n x := by
  have early : ∀ {b : Bool}, nd.pc.late = false → nd.pc.late = true → b = true := fun e x => by rw [e] at x; cases x
  cases hm with
  | loopTop hpc hp =>
    have hD := hS.1.late (lt' := false) (early (by rw [hpc]; rfl))
    exact ⟨⟨nofun, nofun, hD.pendT, fun d hd => hD.pendC d (hp.mem_iff.mp hd), hD.wait, hD.waitC, hD.bad, hD.ign, hD.dynC,
      hD.dynT⟩, nofun⟩
  | again hpc | depsDone hpc | selected hpc => exact hS.setPc _ (early (by rw [hpc]; rfl)) nofun
  | noSetup | setupSkip | finish => exact hS.setPc _ (fun _ => rfl) nofun
  | setupGo hpc hrun => exact hS.setPc _ (early (by rw [hpc]; rfl)) (fun _ => Or.inr (by rw [hrun]; nofun))
  | setupDone hpc => exact hS.setPc _ (fun _ => rfl) (fun _ => Or.inl (by rw [hpc]; rfl))

theorem nodePark_S {inp : RunInput} {s : Sys} {n : Name} {nd x : Node} (hp : NodePark inp n nd x)
    (hS : NodeS inp s n nd) : NodeS inp s n x := by
  cases hp with
  | deps hpc => exact hS.setPc _ (fun e => by rw [hpc] at e; cases e) nofun
  | select hpc =>
    have ok' := hS.setPc .setupDecide (fun e => by rw [hpc] at e; cases e) nofun
    exact ⟨ok'.1.ctl rfl rfl rfl rfl rfl rfl rfl rfl rfl rfl, ok'.2⟩
  | setup hpc => exact hS.setPc _ (fun _ => rfl) (fun _ => Or.inl (by rw [hpc]; rfl))

theorem nodeStep_invN {inp : RunInput} {s s' : Sys} {n : Name} {nd : Node} {perm : List Name}
    (hF : StartF inp s) (h : InvN inp s) (hn : s.nodes n = some nd) (hs : NodeStep inp s n nd perm s') : InvN inp s' := by
  have hS := h n nd hn
  have early : ∀ {b : Bool}, nd.pc.late = false → nd.pc.late = true → b = true := fun e x => by rw [e] at x; cases x
  cases hs with
  | move hm => exact invN_setNode h hn hm.status (nodeMove_S hm hS)
  | park hp => exact invN_congr (invN_setNode h hn hp.status (nodePark_S hp hS)) rfl
  | yield1 hpc =>
    exact invN_congr (invN_setNode (x := { nd with pc := .afterSelf1 }) h hn rfl (hS.setPc _ (early (by rw [hpc]; rfl)) nofun)) rfl
  | yield2 hpc =>
    exact invN_congr (invN_setNode (x := { nd with pc := .afterSelf2 }) h hn rfl
      (hS.setPc _ (fun _ => rfl) (fun _ => Or.inl (by rw [hpc]; rfl)))) rfl
  | calcGen hpc | taskGen hpc => exact genStep_invN _ _ h hn (hS.setPc _ (early (by rw [hpc]; rfl)) nofun)
  | setupGen hpc =>
    exact genStep_invN _ _ h hn (hS.setPc _ (early (by rw [hpc]; rfl)) (fun _ => Or.inl (by rw [hpc]; rfl)))
  | calcWait hpc =>
    exact addWaitRun_invN _ _ _ h hn (waitNode_S hF _ true _ hS (fun d hd => hS.1.snapC d hd) (early (by rw [hpc]; rfl)) nofun)
  | taskWait hpc =>
    exact addWaitRun_invN _ _ _ h hn
      (waitNode_S hF _ false _ hS (fun d hd => Or.inl (hS.1.snapT d hd)) (early (by rw [hpc]; rfl)) nofun)
  | setupWait hpc =>
    exact addWaitRun_invN _ _ _ h hn
      (waitNode_S hF _ false _ hS (fun d hd => Or.inr (Or.inr ⟨rfl, hd⟩)) (fun _ => rfl) (fun _ => Or.inl (by rw [hpc]; rfl)))
  | done => exact invN_congr h rfl

theorem dtick_invN {inp : RunInput} {s s' : Sys} {perm : List Name} (hF : StartF inp s) (h : InvN inp s)
    (hs : dtick inp s perm = some s') : InvN inp s' := by
  cases dtick_spec hs with
  | node _ hn hs => exact nodeStep_invN hF h hn hs
  | create _ _ _ hnt => exact invN_congr (invN_create [_] h hnt) rfl
  | _ => exact invN_congr h rfl

theorem wakeOne_invN {inp : RunInput} {s : Sys} {pst : RS} {p w : Name} {nd : Node} (h : InvN inp s)
    (hw : s.nodes w = some nd) (hp : stOf s p = pst) (hcr : wakeCrash p nd = false)
    (hF : pst = .fail → started s p = true → SF inp p) :
    InvN inp (wakeOne inp s pst p w nd) ∧ (∀ x, stOf (wakeOne inp s pst p w nd) x = stOf s x) := by
  have hS := h w nd hw
  have hu := wokenF_upd inp s pst p nd
  have hin : p ∈ nd.waitRun ∨ p ∈ nd.waitRunCalc := by
    simp only [wakeCrash, Bool.and_eq_false_iff, decide_eq_false_iff_not, Decidable.not_not] at hcr
    exact hcr
  have hst : ∀ x, stOf (setNode s w (wokenF inp s pst p nd)) x = stOf s x := stOf_setNode_same hw hu.status
  have e := (wakeOne_frame inp s pst p w nd).1
  exact ⟨invN_congr (invN_setNode h hw hu.status (wokenF_S hS hin hp hF)) e, fun x => (stOf_congr e x).trans (hst x)⟩

theorem updateWaiting_invN {inp : RunInput} {pst : RS} {p : Name} :
    ∀ (perm : List Name) (s s' : Sys), InvN inp s → stOf s p = pst → (pst = .fail → started s p = true → SF inp p) →
      updateWaiting inp pst p s perm = some s' → InvN inp s' := by
  intro perm
  induction perm with
  | nil => intro s s' h _ _ hs; simp only [updateWaiting] at hs; cases hs; exact h
  | cons w ws ih =>
    intro s s' h hp hF hs
    simp only [updateWaiting] at hs
    cases hw : s.nodes w with
    | none => simp only [hw] at hs; exact ih s s' h hp hF hs
    | some nd =>
      simp only [hw] at hs
      by_cases hcr : wakeCrash p nd = true
      · rw [if_pos hcr] at hs; cases hs
      · rw [if_neg hcr] at hs
        obtain ⟨h1, e1⟩ := wakeOne_invN (w := w) h hw hp (Bool.not_eq_true _ ▸ hcr) hF
        exact ih _ s' h1 (by rw [e1]; exact hp)
          (by rw [started_congr (wakeOne_events inp s pst p w nd) p]; exact hF) hs

theorem sendHead_invN {inp : RunInput} {s : Sys} {p : Name} {nd : Node} (h : InvN inp s)
    (hn : s.nodes p = some nd) :
    InvN inp (sendHead s p nd) ∧ (∀ x, stOf (sendHead s p nd) x = stOf s x) := by
  have hS := h p nd hn
  unfold sendHead
  by_cases c : nd.waitSelect = true
  · rw [if_pos c]
    have h1 : InvN inp (setNode s p { nd with waitSelect := false }) :=
      invN_setNode (x := { nd with waitSelect := false }) h hn rfl ⟨hS.1.ctl rfl rfl rfl rfl rfl rfl rfl rfl rfl rfl, hS.2⟩
    refine ⟨invN_congr h1 rfl, ?_⟩
    intro x
    show stOf (setNode s p { nd with waitSelect := false }) x = stOf s x
    exact stOf_setNode_same (x := { nd with waitSelect := false }) hn rfl x
  · rw [if_neg c]; exact ⟨invN_congr h rfl, fun _ => rfl⟩

theorem send_invN {inp : RunInput} {s s' : Sys} {processed : Option Name} {perm : List Name} (hF : StartF inp s)
    (h : InvN inp s)
    (hs : send inp s processed perm = some s') : InvN inp s' := by
  cases send_spec hs with
  | first | lost | keyError => exact invN_congr h rfl
  | running hn | assertion hn => exact invN_congr (sendHead_invN h hn).1 rfl
  | @woken p nd s2 hn _ _ _ hu =>
    obtain ⟨h1, e1⟩ := sendHead_invN h hn
    have hst : stOf s p = nd.status := by simp only [stOf, hn]
    refine invN_congr (updateWaiting_invN perm _ s2 h1 (by rw [e1, hst]) ?_ hu) rfl
    intro e1' e2'
    rw [started_congr (sendHead_events s p nd) p] at e2'
    exact hF p (hst.trans e1') e2'

end DoitModel.Run.Dyn
