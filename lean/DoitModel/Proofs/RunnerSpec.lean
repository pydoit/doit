import DoitModel.Model.Run
/-! # The runners' step functions, branch by branch

As `RunSpec.lean` does for the dispatcher: `serialStep` (`Runner.run_tasks`), `mainStep` (`MRunner`: `get_next_job`, the result
loop), `gReturn` (what the caller of `get_next_job` does with the job), `takeStep` and `doneStep` (a worker). -/
namespace DoitModel.Run

inductive SerialStep (inp : RunInput) (s : Sys) (perm : List Name) : Sys → Prop
  | stop {node} : s.rpc = .sTop node → s.stop = true → SerialStep inp s perm { s with rpc := .fin }
  | send {node s0} : s.rpc = .sTop node → s.stop = false → send inp s node perm = some s0 →
      SerialStep inp s perm { s0 with rpc := .sWait }
  | tick {s'} : s.rpc = .sWait → s.susp = none → dtick inp s perm = some s' → SerialStep inp s perm s'
  | lost {n} : s.rpc = .sWait → s.susp = some (.node n) → s.nodes n = none → SerialStep inp s perm (raise s .crash)
  | go {n nd} : s.rpc = .sWait → s.susp = some (.node n) → s.nodes n = some nd → selDecision inp n nd = .go →
      SerialStep inp s perm { startTask inp (applySel inp s n nd .go) n 0 with rpc := .sExec n }
  | assertFail {n nd} : s.rpc = .sWait → s.susp = some (.node n) → s.nodes n = some nd →
      selDecision inp n nd = .assertFail → SerialStep inp s perm (raise s .crash)
  | select {n nd d} : s.rpc = .sWait → s.susp = some (.node n) → s.nodes n = some nd → selDecision inp n nd = d →
      d ≠ .go → d ≠ .assertFail → SerialStep inp s perm { applySel inp s n nd d with rpc := .sTop (some n) }
  | stopIter : s.rpc = .sWait → s.susp = some .stopIter → SerialStep inp s perm { s with rpc := .fin }
  | cyclic {k} : s.rpc = .sWait → s.susp = some (.cyclic k) → SerialStep inp s perm (raise s .cyclic)
  | holdOn : s.rpc = .sWait → s.susp = some .holdOn → SerialStep inp s perm (raise s .crash)
  | crash : s.rpc = .sWait → s.susp = some .crash → SerialStep inp s perm (raise s .crash)
  | execLost {n} : s.rpc = .sExec n → s.nodes n = none → SerialStep inp s perm (raise s .crash)
  | result {n nd} : s.rpc = .sExec n → s.nodes n = some nd → SerialStep inp s perm
      { processResult inp { s with events := Ev.fin n 0 :: s.events } n nd with rpc := .sTop (some n) }
  | finish : s.rpc = .fin → SerialStep inp s perm (finishRun s)

theorem serialStep_spec {inp : RunInput} {s s' : Sys} {perm : List Name} (h : serialStep inp s perm = some s') :
    SerialStep inp s perm s' := by
  -- the rows keep `s.rpc`, `s.susp` inside `{ s with .. }`, so the case analysis is done on the fields of `s`
  obtain ⟨nodes, ready, waiting, toRun, dispatched, cur, susp, rpc, stop, final, tdown, halt, events, freeProc,
    procCount, nStarted, jobQ, resQ, workers⟩ := s
  unfold serialStep at h
  cases rpc with
  | sTop node =>
    simp only [] at h
    by_cases hst : stop = true
    · rw [if_pos hst] at h; cases h; exact .stop rfl hst
    · rw [if_neg hst] at h
      generalize hsd : send inp _ node perm = r at h
      cases r with
      | none => cases h
      | some s0 => cases h; exact .send rfl ((Bool.not_eq_true _).mp hst) hsd
  | sWait =>
    cases susp with
    | none => exact .tick rfl rfl h
    | some o =>
      cases o with
      | init => cases h
      | node n =>
        simp only [] at h
        cases hn : nodes n with
        | none => simp only [hn] at h; cases h; exact .lost rfl rfl hn
        | some nd =>
          simp only [hn] at h
          generalize hd : selDecision inp n nd = d at h
          cases d with
          | go => cases h; exact .go rfl rfl hn hd
          | assertFail => cases h; exact .assertFail rfl rfl hn hd
          | _ => cases h; exact .select rfl rfl hn hd Sel.noConfusion Sel.noConfusion
      | stopIter => cases h; exact .stopIter rfl rfl
      | holdOn => cases h; exact .holdOn rfl rfl
      | cyclic k => cases h; exact .cyclic rfl rfl
      | crash => cases h; exact .crash rfl rfl
  | sExec n =>
    simp only [] at h
    cases hn : nodes n with
    | none => simp only [hn] at h; cases h; exact .execLost rfl hn
    | some nd => simp only [hn] at h; cases h; exact .result rfl hn
  | fin => cases h; exact .finish rfl
  | _ => cases h

inductive MainStep (inp : RunInput) (s : Sys) (perm : List Name) : Sys → Prop
  | entryStop {c ret} : s.rpc = .gEntry c ret → s.stop = true → MainStep inp s perm { s with rpc := .gRet .stop ret }
  | entry {c ret} : s.rpc = .gEntry c ret → s.stop = false → MainStep inp s perm { s with rpc := .gLoop c ret }
  | send {node ret s0} : s.rpc = .gLoop node ret → send inp s node perm = some s0 →
      MainStep inp s perm { s0 with rpc := .gWait ret }
  | tick {ret s'} : s.rpc = .gWait ret → s.susp = none → dtick inp s perm = some s' → MainStep inp s perm s'
  | lost {ret n} : s.rpc = .gWait ret → s.susp = some (.node n) → s.nodes n = none →
      MainStep inp s perm (raise s .crash)
  | go {ret n nd} : s.rpc = .gWait ret → s.susp = some (.node n) → s.nodes n = some nd → selDecision inp n nd = .go →
      MainStep inp s perm { applySel inp s n nd .go with rpc := .gRet (.task n) ret }
  | assertFail {ret n nd} : s.rpc = .gWait ret → s.susp = some (.node n) → s.nodes n = some nd →
      selDecision inp n nd = .assertFail → MainStep inp s perm (raise s .crash)
  | select {ret n nd d} : s.rpc = .gWait ret → s.susp = some (.node n) → s.nodes n = some nd →
      selDecision inp n nd = d → d ≠ .go → d ≠ .assertFail →
      MainStep inp s perm { applySel inp s n nd d with rpc := .gLoop (some n) ret }
  | holdOn {ret} : s.rpc = .gWait ret → s.susp = some .holdOn →
      MainStep inp s perm { s with freeProc := s.freeProc + 1, rpc := .gRet .hold ret }
  | stopIter {ret} : s.rpc = .gWait ret → s.susp = some .stopIter → MainStep inp s perm { s with rpc := .gRet .stop ret }
  | cyclic {ret k} : s.rpc = .gWait ret → s.susp = some (.cyclic k) → MainStep inp s perm (raise s .cyclic)
  | crash {ret} : s.rpc = .gWait ret → s.susp = some .crash → MainStep inp s perm (raise s .crash)
  | ret {job ret} : s.rpc = .gRet job ret → MainStep inp s perm (gReturn s job ret)
  | join : s.rpc = .pTop → s.procCount = 0 → MainStep inp s perm { s with rpc := .pJoin }
  | resultLost {n rest} : s.rpc = .pTop → s.procCount ≠ 0 → s.resQ = n :: rest → s.nodes n = none →
      MainStep inp s perm (raise s .crash)
  | result {n rest nd} : s.rpc = .pTop → s.procCount ≠ 0 → s.resQ = n :: rest → s.nodes n = some nd →
      MainStep inp s perm { processResult inp { s with resQ := rest } n nd with
        rpc := .gEntry (some n) (.feedLoop (s.freeProc + 1)), freeProc := 0 }
  | joined : s.rpc = .pJoin → allExited s s.nStarted = true → MainStep inp s perm { s with rpc := .fin }
  | finish : s.rpc = .fin → MainStep inp s perm (finishRun s)

theorem mainStep_spec {inp : RunInput} {s s' : Sys} {perm : List Name} (h : mainStep inp s perm = some s') :
    MainStep inp s perm s' := by
  obtain ⟨nodes, ready, waiting, toRun, dispatched, cur, susp, rpc, stop, final, tdown, halt, events, freeProc,
    procCount, nStarted, jobQ, resQ, workers⟩ := s
  unfold mainStep at h
  cases rpc with
  | gEntry c ret =>
    simp only [] at h
    by_cases hst : stop = true
    · rw [if_pos hst] at h; cases h; exact .entryStop rfl hst
    · rw [if_neg hst] at h; cases h; exact .entry rfl ((Bool.not_eq_true _).mp hst)
  | gLoop node ret =>
    simp only [] at h
    generalize hsd : send inp _ node perm = r at h
    cases r with
    | none => cases h
    | some s0 => cases h; exact .send rfl hsd
  | gWait ret =>
    cases susp with
    | none => exact .tick rfl rfl h
    | some o =>
      cases o with
      | init => cases h
      | node n =>
        simp only [] at h
        cases hn : nodes n with
        | none => simp only [hn] at h; cases h; exact .lost rfl rfl hn
        | some nd =>
          simp only [hn] at h
          generalize hd : selDecision inp n nd = d at h
          cases d with
          | go => cases h; exact .go rfl rfl hn hd
          | assertFail => cases h; exact .assertFail rfl rfl hn hd
          | _ => cases h; exact .select rfl rfl hn hd Sel.noConfusion Sel.noConfusion
      | stopIter => cases h; exact .stopIter rfl rfl
      | holdOn => cases h; exact .holdOn rfl rfl
      | cyclic k => cases h; exact .cyclic rfl rfl
      | crash => cases h; exact .crash rfl rfl
  | gRet job ret => cases h; exact .ret rfl
  | pTop =>
    simp only [] at h
    by_cases hp : procCount = 0
    · rw [if_pos hp] at h; cases h; exact .join rfl hp
    · rw [if_neg hp] at h
      cases resQ with
      | nil => cases h
      | cons n rest =>
        simp only [] at h
        cases hn : nodes n with
        | none => simp only [hn] at h; cases h; exact .resultLost rfl hp rfl hn
        | some nd => simp only [hn] at h; cases h; exact .result rfl hp rfl hn
  | pJoin =>
    simp only [] at h
    generalize ha : allExited _ nStarted = b at h
    cases b with
    | true => rw [if_pos rfl] at h; cases h; exact .joined rfl ha
    | false => rw [if_neg Bool.false_ne_true] at h; cases h
  | fin => cases h; exact .finish rfl
  | _ => cases h

inductive GReturnRow (s : Sys) (job : Job) : Ret → Sys → Prop
  | noWorker (k : Nat) : job = .stop → GReturnRow s job (.startLoop k) { s with rpc := .pTop, procCount := s.nStarted }
  | lastWorker (k : Nat) : job ≠ .stop → k ≤ 1 → GReturnRow s job (.startLoop k)
      { setWorker s s.nStarted .idle with
        jobQ := s.jobQ ++ [job], nStarted := s.nStarted + 1, procCount := (s.nStarted + 1 : Nat), rpc := .pTop }
  | nextWorker (k : Nat) : job ≠ .stop → ¬ k ≤ 1 → GReturnRow s job (.startLoop k)
      { setWorker s s.nStarted .idle with
        jobQ := s.jobQ ++ [job], nStarted := s.nStarted + 1, rpc := .gEntry none (.startLoop (k - 1)) }
  | fed (k : Nat) : k ≤ 1 → s.nStarted > s.freeProc → GReturnRow s job (.feedLoop k)
      { s with jobQ := s.jobQ ++ [job], procCount := if job = .stop then s.procCount - 1 else s.procCount, rpc := .pTop }
  | noProc (k : Nat) : k ≤ 1 → ¬ s.nStarted > s.freeProc → GReturnRow s job (.feedLoop k)
      (raise { s with jobQ := s.jobQ ++ [job],
                      procCount := if job = .stop then s.procCount - 1 else s.procCount } .crash)
  | feedNext (k : Nat) : ¬ k ≤ 1 → GReturnRow s job (.feedLoop k)
      { s with jobQ := s.jobQ ++ [job], procCount := if job = .stop then s.procCount - 1 else s.procCount,
               rpc := .gEntry none (.feedLoop (k - 1)) }

theorem gReturn_row (s : Sys) (job : Job) (ret : Ret) : GReturnRow s job ret (gReturn s job ret) := by
  cases ret with
  | startLoop k =>
    rw [gReturn]
    by_cases c1 : job = .stop
    · rw [if_pos c1]; exact .noWorker k c1
    rw [if_neg c1]
    by_cases c2 : k ≤ 1
    · rw [if_pos c2]; exact .lastWorker k c1 c2
    · rw [if_neg c2]; exact .nextWorker k c1 c2
  | feedLoop k =>
    rw [gReturn]
    by_cases c1 : k ≤ 1
    · rw [if_pos c1]
      by_cases c2 : s.nStarted > s.freeProc
      · rw [if_pos c2]; exact .fed k c1 c2
      · rw [if_neg c2]; exact .noProc k c1 c2
    · rw [if_neg c1]; exact .feedNext k c1

theorem gReturn_row.of_eq {s s' : Sys} {job : Job} {ret : Ret} (h : gReturn s job ret = s') : GReturnRow s job ret s' :=
  h ▸ gReturn_row s job ret

inductive TakeStep (inp : RunInput) (s : Sys) (w : Nat) : Sys → Prop
  | hold {js} : s.workers w = .idle → s.jobQ = .hold :: js → TakeStep inp s w { s with jobQ := js }
  | stop {js} : s.workers w = .idle → s.jobQ = .stop :: js → TakeStep inp s w { setWorker s w .exited with jobQ := js }
  | task {n js} : s.workers w = .idle → s.jobQ = .task n :: js →
      TakeStep inp s w { setWorker (startTask inp s n w) w (.running n) with jobQ := js }

theorem takeStep_spec {inp : RunInput} {s s' : Sys} {w : Nat} (h : takeStep inp s w = some s') :
    TakeStep inp s w s' := by
  unfold takeStep at h
  by_cases hw : s.workers w = .idle
  · rw [if_pos hw] at h
    cases hq : s.jobQ with
    | nil => simp only [hq] at h; cases h
    | cons j js =>
      simp only [hq] at h
      cases j with
      | hold => cases h; exact .hold hw hq
      | stop => cases h; exact .stop hw hq
      | task n => cases h; exact .task hw hq
  · rw [if_neg hw] at h; cases h

inductive DoneStep (s : Sys) (w : Nat) : Sys → Prop
  | done {n} : s.workers w = .running n →
      DoneStep s w { setWorker s w .idle with events := Ev.fin n w :: s.events, resQ := s.resQ ++ [n] }

theorem doneStep_spec {s s' : Sys} {w : Nat} (h : doneStep s w = some s') : DoneStep s w s' := by
  unfold doneStep at h
  cases hw : s.workers w with
  | running n => simp only [hw] at h; cases h; exact .done hw
  | _ => simp only [hw] at h; cases h

end DoitModel.Run
