import DoitModel.Proofs.C15Obey2
import DoitModel.Proofs.C15Target
/-! # Delayed creation: nothing outside the closure of the selection gets a node

`InClos inp s n`: `n` is reachable from the selected tasks through task_dep edges of the `Task` objects the nodes hold
(`nodeDeps`) or of the initial table entries (`origDeps`: for a placeholder the creator's `executed` and what
`_filter_tasks`/`Task.__init__` put there).  `ClosInv`: every node is in the closure.  A `start t` needs a node, so
every task that is handed to execution is in the closure ("exactly the producer and what it depends on"). -/
namespace DoitModel.Delayed
open DoitModel.Run (RS Name)

def origDeps (inp : Input) (p : Name) : List Name :=
  match lookup0 inp.tasks0 p with
  | some td => td.deps
  | none => []

inductive InClos (inp : Input) (s : Sys) : Name → Prop
  | sel {n : Name} : n ∈ inp.sel → InClos inp s n
  | dep {p n : Name} : InClos inp s p → (n ∈ nodeDeps s p ∨ n ∈ origDeps inp p) → InClos inp s n

theorem InClos.mono {inp : Input} {s s' : Sys}
    (hm : ∀ p n, n ∈ nodeDeps s p → n ∈ nodeDeps s' p ∨ n ∈ origDeps inp p) {n : Name} (h : InClos inp s n) :
    InClos inp s' n := by
  induction h with
  | sel hs => exact .sel hs
  | dep _ hd ih =>
    rcases hd with hd | hd
    · exact .dep ih (hm _ _ hd)
    · exact .dep ih (Or.inr hd)

def NodeC (nd : Node) : Prop :=
  (∀ d ∈ nd.pend, d ∈ nd.task.deps) ∧ (∀ ds, nd.pc = .taskIter ds → ∀ d ∈ ds, d ∈ nd.task.deps)

structure ClosInv (inp : Input) (s : Sys) : Prop where
  node : ∀ n nd, s.nodes n = some nd →
    InClos inp s n ∧ NodeC nd ∧ (nd.task.loader ≠ none → lookup0 inp.tasks0 n = some nd.task)
  tab : ∀ n td, s.tasks n = some td → td.loader ≠ none → lookup0 inp.tasks0 n = some td
  toRun : ∀ t ∈ s.toRun, t ∈ inp.sel

variable {inp : Input} {s s' : Sys} {n : Name} {nd : Node} {l : LId} {perm : List Name}

theorem ClosInv.of_nodes (h : ClosInv inp s)
    (hm : ∀ p k, k ∈ nodeDeps s p → k ∈ nodeDeps s' p ∨ k ∈ origDeps inp p)
    (hnode : ∀ n nd, s'.nodes n = some nd →
      InClos inp s n ∧ NodeC nd ∧ (nd.task.loader ≠ none → lookup0 inp.tasks0 n = some nd.task))
    (htab : ∀ n td, s'.tasks n = some td → td.loader ≠ none → lookup0 inp.tasks0 n = some td)
    (hrun : ∀ t ∈ s'.toRun, t ∈ s.toRun) : ClosInv inp s' :=
  ⟨fun n nd hn => ⟨(hnode n nd hn).1.mono hm, (hnode n nd hn).2⟩, htab, fun t ht => h.toRun t (hrun t ht)⟩

theorem ClosInv.setTasks (h : ClosInv inp s) (h2 : s'.nodes = s.nodes)
    (h3 : s'.toRun = s.toRun) (ht : ∀ n td, s'.tasks n = some td → td.loader ≠ none → lookup0 inp.tasks0 n = some td) :
    ClosInv inp s' :=
  h.of_nodes (fun p k hk => Or.inl (by rw [nodeDeps_congr h2]; exact hk)) (fun n nd hn => h.node n nd (h2 ▸ hn))
    ht (fun t ht' => h3 ▸ ht')

theorem ClosInv.congr (h : ClosInv inp s) (h1 : s'.tasks = s.tasks)
    (h2 : s'.nodes = s.nodes) (h3 : s'.toRun = s.toRun) : ClosInv inp s' :=
  h.setTasks h2 h3 (fun n td hn => h.tab n td (h1 ▸ hn))

theorem clos_upd {x : Node} (h : ClosInv inp s) (hin : InClos inp s n)
    (hdeps : ∀ d ∈ nodeDeps s n, d ∈ x.task.deps ∨ d ∈ origDeps inp n) (hc : NodeC x)
    (horig : x.task.loader ≠ none → lookup0 inp.tasks0 n = some x.task) : ClosInv inp (setNode s n x) := by
  refine h.of_nodes (fun p k hk => ?_) (fun k nd' hk => ?_) h.tab (fun _ ht => ht)
  · rw [nodeDeps_setNode]
    by_cases hp : p = n
    · rw [if_pos hp, hp]; exact hdeps k (hp ▸ hk)
    · rw [if_neg hp]; exact Or.inl hk
  · rcases upd_some hk with ⟨rfl, rfl⟩ | ⟨_, hk⟩
    · exact ⟨hin, hc, horig⟩
    · exact h.node k nd' hk

theorem clos_setNode {nd x : Node} (h : ClosInv inp s)
    (hn : s.nodes n = some nd) (ht : x.task = nd.task) (hc : NodeC x) : ClosInv inp (setNode s n x) :=
  clos_upd h (h.node n nd hn).1 (fun d hd => Or.inl (by rw [ht, ← nodeDeps_node hn]; exact hd)) hc
    (by rw [ht]; exact (h.node n nd hn).2.2)

theorem clos_newNode {s₀ : Sys} {d₀ : Name} {d : Name} {td : TDef} (anc : List Name) (h : ClosInv inp s)
    (hd : s.nodes d = none) (ht : s.tasks d = some td) (hin : InClos inp s d) :
    ClosInv inp (setNode s d (mkNodeI s₀ d₀ td anc)) :=
  clos_upd h hin (fun k hk => by rw [nodeDeps_none hd] at hk; cases hk)
    ⟨fun x hx => hx, fun ds e => by simp [mkNodeI, mkNode] at e⟩ (fun hl => h.tab d td ht hl)

/-- the node is reset to another task object whose dependencies extend the old ones, or to the table entry while the
    old object was the initial placeholder -/
theorem clos_reset {t : TDef} (h : ClosInv inp s)
    (hn : s.nodes n = some nd)
    (hdeps : ∀ d ∈ nd.task.deps, d ∈ t.deps ∨ d ∈ origDeps inp n)
    (horig : t.loader ≠ none → lookup0 inp.tasks0 n = some t) :
    ClosInv inp (setNode s n { nd with task := t, pend := t.deps, pc := .start }) :=
  clos_upd h (h.node n nd hn).1 (fun d hd => hdeps d (by rw [← nodeDeps_node hn]; exact hd))
    ⟨fun x hx => hx, nofun⟩ horig

theorem clos_registerWaiting (n : Name) (wf : List Name) (h : ClosInv inp s) :
    ClosInv inp (registerWaiting s n wf) := by
  refine h.of_nodes (fun p k hk => Or.inl (by rw [nodeDeps_registerWaiting]; exact hk)) (fun k nd' hk => ?_)
    h.tab (fun _ ht => ht)
  rcases registerWaiting_node s n wf k with ⟨_, h1⟩ | ⟨x, w, hx, h1⟩
  · rw [h1] at hk; cases hk
  · rw [h1] at hk; cases hk; exact h.node k x hx

theorem clos_genStep {d : Name} {ds : List Name} (h : ClosInv inp s)
    (hn : s.nodes n = some nd) (hpc : nd.pc = .taskIter (d :: ds)) (hs : GenSpec s n nd d (.taskIter ds) s') :
    ClosInv inp s' := by
  obtain ⟨hin, hc, _⟩ := h.node n nd hn
  have hx : NodeC { nd with pc := .taskIter ds } :=
    ⟨hc.1, fun ds' e => by cases e; exact fun x hx => hc.2 _ hpc x (List.mem_cons_of_mem _ hx)⟩
  have hdd : d ∈ nodeDeps s n := by rw [nodeDeps_node hn]; exact hc.2 _ hpc d List.mem_cons_self
  cases hs with
  | raise e _ => exact h.congr rfl rfl rfl
  | seen => exact clos_setNode h hn rfl hx
  | new td hd ht =>
    have h1 := clos_newNode (s₀ := s) (d₀ := d) (nd.anc ++ [d]) h hd ht (.dep hin (Or.inl hdd))
    exact (clos_setNode (x := { nd with pc := .taskIter ds }) h1 (setNode_other hn hd) rfl hx).congr rfl rfl rfl

theorem clos_addWaitRun (h : ClosInv inp s)
    (hn : s.nodes n = some nd) (ds : List Name) : ClosInv inp (addWaitRun s n nd ds .afterDeps) := by
  unfold addWaitRun
  apply clos_registerWaiting
  exact clos_setNode h hn rfl ⟨(h.node n nd hn).2.1.1, fun ds' e => nomatch e⟩

theorem clos_feed {p : Name} (h : ClosInv inp s)
    (hf : feed s p perm = some s') : ClosInv inp s' := by
  cases feed_spec hf with
  | crash => exact h.congr rfl rfl rfl
  | woke nd s1 _ _ hu =>
    have h1 := updateWaiting_induct (P := ClosInv inp) nd.status p
      (fun x w wd rd wt hx hw =>
        (clos_setNode (x := wokenNode nd.status p wd) hx hw rfl (hx.node w wd hw).2.1).congr rfl rfl rfl) perm
      { s with dispatched := s.dispatched.filter (· ≠ p) } s1 (h.congr rfl rfl rfl) hu
    exact h1.congr rfl rfl rfl
  | skip => exact h.congr rfl rfl rfl

theorem clos_regexBlock {s r : Sys} {g : GId} (h : ClosInv inp s)
    (hr : RegexSpec inp s l g r) : ClosInv inp r := by
  obtain ⟨gf, gt, su, rfl, _⟩ := hr.frame
  exact h.congr rfl rfl rfl

theorem mutated_deps_sub (s : Sys) (tk : TDef) : ∀ d ∈ tk.deps, d ∈ (mutated s tk).deps :=
  fun _ hd => implicitDeps_sub _ _ _ _ hd

theorem clos_finishLoader (s0 : Sys)
    (h : ClosInv inp s) (hn : s.nodes n = some nd) (hl : nd.task.loader ≠ none)
    (hf : FinLoaderSpec s n nd l (mutated s0 nd.task) s') : ClosInv inp s' := by
  have horigN : lookup0 inp.tasks0 n = some nd.task := (h.node n nd hn).2.2 hl
  cases hf with
  | crash _ => exact h.congr rfl rfl rfl
  | same cur _ _ =>
    have h1 := clos_reset (t := mutated s0 nd.task) h hn (fun d hd => Or.inl (mutated_deps_sub s0 nd.task d hd))
      (fun e => absurd rfl e)
    refine h1.setTasks rfl rfl (fun k td hk hld => ?_)
    rcases upd_some hk with ⟨_, rfl⟩ | ⟨_, hk⟩
    · exact absurd rfl hld
    · exact h.tab k td hk hld
  | other cur hc _ =>
    -- the table entry is another object: the initial placeholder's dependencies stay in the closure as `origDeps`
    have h1 := clos_reset (t := cur) h hn
      (fun _ hd => Or.inr (by simpa [origDeps, horigN] using hd)) (fun e => h.tab n cur hc e)
    exact h1.congr rfl rfl rfl

theorem clos_afterCreate (h : ClosInv inp s) (hn : s.nodes n = some nd) (hl : nd.task.loader ≠ none)
    (ha : AfterCreateSpec inp s n nd l s') : ClosInv inp s' := by
  cases ha with
  | plain _ => exact clos_finishLoader s h hn hl finishLoader_spec
  | raised g r e _ hr _ => exact clos_regexBlock h hr
  | rx g r _ hr _ =>
    have hr' := clos_regexBlock h hr
    obtain ⟨gf, gt, su, rfl, _⟩ := hr.frame
    exact clos_finishLoader s hr' hn hl finishLoader_spec

theorem clos_evalCreator {b : Bool} (tname : Name) (h : ClosInv inp s) :
    ClosInv inp (evalCreator inp s l tname b) := by
  unfold evalCreator
  cases regTargets s.targets (targetPairs (inp.make (inp.creatorOf l) tname)) with
  | none => exact h.congr rfl rfl rfl
  | some tg =>
    refine h.setTasks rfl rfl ?_
    intro k td hk hld
    cases hl' : td.loader with
    | none => exact absurd hl' hld
    | some l0 => exact h.tab k td (insertNew_old _ _ _ _ _ _ _ hk hl') hld

theorem clos_loaderStep (h : ClosInv inp s)
    (hn : s.nodes n = some nd) (hl : nd.task.loader = some l) (hs : LoaderSpec inp s n nd l s') :
    ClosInv inp s' := by
  have hl' : nd.task.loader ≠ none := by rw [hl]; intro e; cases e
  cases hs with
  | crash => exact h.congr rfl rfl rfl
  | raised tT e _ _ _ => exact clos_evalCreator _ h
  | created tT s' _ _ _ ha =>
    exact clos_afterCreate (clos_evalCreator _ h)
      (by rw [(evalCreator_facts inp s l (toLoad inp l n)).1]; exact hn) hl' ha
  | loaded tT s' _ _ ha => exact clos_afterCreate h hn hl' ha

theorem clos_nodeStep (h : ClosInv inp s)
    (hn : s.nodes n = some nd) (hs : NodeStepSpec inp s n nd s') : ClosInv inp s' := by
  obtain ⟨_, hc, _⟩ := h.node n nd hn
  cases hs with
  | move pc' w c _ _ hit' _ _ =>
    exact (clos_setNode (x := { nd with pc := pc' }) h hn rfl ⟨hc.1, fun ds e => absurd e (hit' ds)⟩).congr
      rfl rfl rfl
  | loop _ =>
    exact clos_setNode h hn rfl ⟨nofun, fun ds e => (by injection e with e; subst e; exact hc.1)⟩
  | gen d ds s' hpc hg => exact clos_genStep h hn hpc hg
  | wait _ => exact clos_addWaitRun h hn _
  | load l s' _ hl hs => exact clos_loaderStep h hn hl hs
  | yield _ =>
    exact (clos_setNode (x := { nd with pc := .done }) h hn rfl ⟨hc.1, nofun⟩).congr
      rfl rfl rfl
  | done _ => exact h.congr rfl rfl rfl

theorem clos_dtick (h : ClosInv inp s) (hs : TickSpec inp s s') : ClosInv inp s' := by
  cases hs with
  | node n nd s' _ hn hs => exact clos_nodeStep h hn hs
  | root t ts td ht hn htt =>
    have h1 := clos_newNode (s₀ := s) (d₀ := t) [t] h hn htt (.sel (h.toRun t (ht ▸ List.mem_cons_self)))
    exact h1.of_nodes (fun _ _ hk => Or.inl hk) h1.node h1.tab (fun x hx => ht ▸ List.mem_cons_of_mem _ hx)
  | sched su cu rd tr _ htr => exact h.of_nodes (fun _ _ hk => Or.inl hk) h.node h.tab htr

theorem clos_handBack (h : ClosInv inp s)
    (hb : handBack inp s n perm = some s') : ClosInv inp s' := by
  rcases handBack_cases hb with rfl | hf
  · exact h.congr rfl rfl rfl
  · exact clos_feed h hf

theorem clos_status (h : ClosInv inp s) (hn : s.nodes n = some nd)
    (st' : RS) : ClosInv inp (setNode s n { nd with status := st' }) :=
  clos_setNode h hn rfl (h.node n nd hn).2.1

theorem clos_selectStep (h : ClosInv inp s)
    (hs : SelectSpec inp s n perm s') : ClosInv inp s' := by
  cases hs with
  | crash => exact h.congr rfl rfl rfl
  | unmet nd s' hn _ _ hb =>
    refine clos_handBack ?_ hb
    unfold failSys
    exact (clos_status h hn .fail).congr rfl rfl rfl
  | utd nd s' hn _ _ _ hb =>
    refine clos_handBack ?_ hb
    exact (clos_status h hn .utd).congr rfl rfl rfl
  | start nd hn _ _ _ => exact (clos_status h hn .run).congr rfl rfl rfl

theorem clos_finishStep (h : ClosInv inp s)
    (hs : finishStep inp s n perm = some s') : ClosInv inp s' := by
  obtain ⟨nd, b, _, hn, _, hb, hs'⟩ := finishStep_cases hs
  have q : ClosInv inp b := by
    cases hb with
    | failure => unfold failSys; exact (clos_status h hn .fail).congr rfl rfl rfl
    | success => exact (clos_status h hn .ok).congr rfl rfl rfl
  rcases hs' with rfl | hf
  · exact q
  · exact clos_feed q hf

theorem clos_init (inp : Input) : ClosInv inp (init inp) :=
  ⟨fun _ _ h => by simp [init] at h, fun n td h _ => h, fun t ht => ht⟩

theorem clos_step {c : Choice} (h : ClosInv inp s) (hs : step inp s c = some s') :
    ClosInv inp s' := by
  cases step_spec hs with
  | tick _ => exact clos_dtick h dtick_spec
  | select n perm s' _ hsel => exact clos_selectStep h (selectStep_spec hsel)
  | resume => exact h.congr rfl rfl rfl
  | finish n perm s' hf => exact clos_finishStep h hf

theorem clos_reach (hr : Reach inp s) : ClosInv inp s := by
  induction hr with
  | init => exact clos_init inp
  | next _ hs ih => exact clos_step ih hs

theorem started_in_closure (hc : CountOK (stOf s) s.events) (h : ClosInv inp s) (t : Name)
    (ht : Ev.start t ∈ s.events) : InClos inp s t := by
  cases hn : s.nodes t with
  | none => exact absurd rfl (hc.fresh t (stOf_none hn) _ ht)
  | some nd => exact (h.node t nd hn).1

end DoitModel.Delayed
