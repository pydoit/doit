import DoitModel.Model.Clean
/-! The ordered-dict primitives of the clean model (`alookup`, `keys`, `pop1`, `setdef`, `addRev`): what each does
    to the key list and to the stored lists. -/
namespace DoitModel.Clean

theorem alookup_eq_none_iff {α β : Type} [DecidableEq α] {k : α} :
    ∀ {l : List (α × β)}, alookup k l = none ↔ k ∉ l.map Prod.fst := by
  intro l
  induction l with
  | nil => exact ⟨fun _ => List.not_mem_nil, fun _ => rfl⟩
  | cons ab l ih =>
    obtain ⟨a, b⟩ := ab
    rw [alookup, List.map_cons, List.mem_cons, not_or]
    by_cases h : a = k
    · rw [if_pos h]; exact ⟨nofun, fun h' => absurd h.symm h'.1⟩
    · rw [if_neg h]; exact ih.trans ⟨fun h' => ⟨fun e => h e.symm, h'⟩, And.right⟩

theorem mem_keys_of_alookup {c : Name} {g : List Name} {ns : Nodes} (h : alookup c ns = some g) : c ∈ keys ns :=
  Classical.byContradiction fun hn => nomatch (alookup_eq_none_iff.2 hn).symm.trans h

theorem keys_pop1 {c : Name} : ∀ {ns : Nodes}, keys (pop1 c ns) = (keys ns).erase c := by
  intro ns
  induction ns with
  | nil => rfl
  | cons av ns ih =>
    obtain ⟨a, v⟩ := av
    unfold pop1 keys
    rw [List.map_cons, List.erase_cons]
    by_cases h : a = c
    · rw [if_pos h, if_pos (beq_iff_eq.2 h)]
    · rw [if_neg h, if_neg (fun e => h (beq_iff_eq.1 e)), List.map_cons]; exact congrArg _ ih

theorem alookup_pop1 {c x : Name} (hx : x ≠ c) : ∀ {ns : Nodes}, alookup x (pop1 c ns) = alookup x ns := by
  intro ns
  induction ns with
  | nil => rfl
  | cons av ns ih =>
    obtain ⟨a, v⟩ := av
    unfold pop1
    by_cases h : a = c
    · rw [if_pos h, alookup, if_neg (fun e => hx (e.symm.trans h))]
    · rw [if_neg h, alookup, alookup, ih]

theorem keys_pop1_perm {c : Name} {ns : Nodes} (h : c ∈ keys ns) : (keys ns).Perm (c :: keys (pop1 c ns)) :=
  keys_pop1 ▸ List.perm_cons_erase h

theorem length_pop1 {c : Name} {ns : Nodes} (h : c ∈ keys ns) :
    (pop1 c ns).length + 1 = ns.length := by
  have := (keys_pop1_perm h).length_eq
  rw [keys, keys, List.length_cons, List.length_map, List.length_map] at this
  exact this.symm

theorem keys_setdef {k : Name} : ∀ {ns : Nodes},
    k ∈ keys ns ∧ keys (setdef k ns) = keys ns ∨ k ∉ keys ns ∧ keys (setdef k ns) = keys ns ++ [k] := by
  intro ns
  induction ns with
  | nil => exact Or.inr ⟨List.not_mem_nil, rfl⟩
  | cons av ns ih =>
    obtain ⟨a, v⟩ := av
    unfold setdef
    by_cases h : a = k
    · rw [if_pos h]; exact Or.inl ⟨List.mem_cons.2 (Or.inl h.symm), rfl⟩
    · rw [if_neg h]
      rcases ih with ⟨hk, e⟩ | ⟨hk, e⟩
      · exact Or.inl ⟨List.mem_cons_of_mem _ hk, congrArg (a :: ·) e⟩
      · exact Or.inr ⟨fun hm => (List.mem_cons.1 hm).elim (fun e => h e.symm) hk, congrArg (a :: ·) e⟩

theorem keys_addRev {k y : Name} : ∀ {ns : Nodes}, keys (addRev k y ns) = keys (setdef k ns) := by
  intro ns
  induction ns with
  | nil => rfl
  | cons av ns ih =>
    obtain ⟨a, v⟩ := av
    unfold addRev setdef
    by_cases h : a = k
    · rw [if_pos h, if_pos h]; rfl
    · rw [if_neg h, if_neg h]; exact congrArg (a :: ·) ih

theorem mem_keys_setdef {k x : Name} {ns : Nodes} : x ∈ keys (setdef k ns) ↔ x = k ∨ x ∈ keys ns := by
  rcases keys_setdef (k := k) (ns := ns) with ⟨hk, e⟩ | ⟨_, e⟩
  · rw [e]; exact ⟨Or.inr, fun h => h.elim (fun e => e ▸ hk) id⟩
  · rw [e, List.mem_append, List.mem_singleton]; exact Or.comm

theorem nodup_keys_setdef {k : Name} {ns : Nodes} (h : (keys ns).Nodup) : (keys (setdef k ns)).Nodup := by
  rcases keys_setdef (k := k) (ns := ns) with ⟨_, e⟩ | ⟨hk, e⟩
  · rw [e]; exact h
  · rw [e, (List.perm_append_singleton k _).nodup_iff]; exact List.nodup_cons.2 ⟨hk, h⟩

theorem mem_keys_addRev {k y x : Name} {ns : Nodes} : x ∈ keys (addRev k y ns) ↔ x = k ∨ x ∈ keys ns :=
  keys_addRev ▸ mem_keys_setdef

theorem nodup_keys_addRev {k y : Name} {ns : Nodes} (h : (keys ns).Nodup) : (keys (addRev k y ns)).Nodup :=
  keys_addRev ▸ nodup_keys_setdef h

theorem chOf_cons (c b : Name) (v : List Name) (ns : Nodes) :
    chOf ((c, v) :: ns) b = if c = b then v else chOf ns b := by
  unfold chOf
  rw [alookup]
  by_cases h : c = b
  · rw [if_pos h, if_pos h]; rfl
  · rw [if_neg h, if_neg h]

theorem chOf_setdef {k b : Name} : ∀ {ns : Nodes}, chOf (setdef k ns) b = chOf ns b := by
  intro ns
  induction ns with
  | nil =>
    rw [setdef, chOf_cons]
    by_cases h : k = b
    · rw [if_pos h]; rfl
    · rw [if_neg h]
  | cons av ns ih =>
    obtain ⟨a, v⟩ := av
    unfold setdef
    by_cases h : a = k
    · rw [if_pos h]
    · rw [if_neg h, chOf_cons, chOf_cons, ih]

theorem mem_chOf_addRev {k y b a : Name} :
    ∀ {ns : Nodes}, a ∈ chOf (addRev k y ns) b ↔ a ∈ chOf ns b ∨ (b = k ∧ a = y) := by
  intro ns
  induction ns with
  | nil =>
    rw [addRev, chOf_cons]
    by_cases h : k = b
    · rw [if_pos h, List.mem_singleton]
      exact ⟨fun e => Or.inr ⟨h.symm, e⟩, fun e => e.elim nofun And.right⟩
    · rw [if_neg h]
      exact ⟨nofun, fun e => e.elim id (fun e => absurd e.1.symm h)⟩
  | cons cv ns ih =>
    obtain ⟨c, v⟩ := cv
    unfold addRev
    by_cases hck : c = k
    · rw [if_pos hck, chOf_cons, chOf_cons]
      by_cases hcb : c = b
      · rw [if_pos hcb, if_pos hcb, List.mem_append, List.mem_singleton]
        exact or_congr_right ⟨fun e => ⟨hcb.symm.trans hck, e⟩, And.right⟩
      · rw [if_neg hcb, if_neg hcb]
        exact ⟨Or.inl, fun e => e.elim id (fun e => absurd (hck.trans e.1.symm) hcb)⟩
    · rw [if_neg hck, chOf_cons, chOf_cons]
      by_cases hcb : c = b
      · rw [if_pos hcb, if_pos hcb]
        exact ⟨Or.inl, fun e => e.elim id (fun e => absurd (hcb.trans e.1) hck)⟩
      · rw [if_neg hcb, if_neg hcb]; exact ih

theorem idxOf_snoc_lt {l : List Nat} {a x n : Nat} (ha : a ∈ l)
    (hx : x ∈ l ∧ l.idxOf a < l.idxOf x ∨ x = n ∧ n ∉ l) : (l ++ [n]).idxOf a < (l ++ [n]).idxOf x := by
  rw [List.idxOf_append, if_pos ha, List.idxOf_append]
  rcases hx with ⟨hx, h⟩ | ⟨rfl, hn⟩
  · rw [if_pos hx]; exact h
  · rw [if_neg hn, List.idxOf_cons_self, Nat.zero_add]; exact List.idxOf_lt_length_of_mem ha

/-- induction along a left fold with an invariant that may mention the elements consumed so far -/
theorem foldl_prefix_induction {α β : Type} (op : β → α → β) (motive : List α → β → Prop) (l : List α) {b : β}
    (h0 : motive [] b) (hs : ∀ pre a b, a ∈ l → motive pre b → motive (pre ++ [a]) (op b a)) :
    motive l (l.foldl op b) := by
  have : ∀ (suf pre : List α) (b : β), (∀ a, a ∈ suf → a ∈ l) → motive pre b →
      motive (pre ++ suf) (suf.foldl op b) := by
    intro suf
    induction suf with
    | nil => intro pre b _ h; rw [List.append_nil]; exact h
    | cons a suf ih =>
      intro pre b hm h
      rw [List.append_cons]
      exact ih _ _ (fun x hx => hm x (List.mem_cons_of_mem _ hx)) (hs pre a b (hm a List.mem_cons_self) h)
  exact this l [] b (fun _ h => h) h0

end DoitModel.Clean
