import DoitModel.Model.Act
/-! The stream machine with `io.capture` as a per-execution mode (`Mode`).  `Fwd.emit` is shared with the all-capture
    machine `Fwd`.  `Frame` is closed under concatenation, so the forest induction only has to look at one write and
    one execution block. -/
namespace DoitModel.Act.Fwd

theorem emit_eq (t : Tok) : ∀ (str : Stream) (s : St), emit t str s =
    { s with buf := (emit t str s).buf, origLog := s.origLog ++ if reachesOrig str then [t] else [] }
  | .orig, _ => rfl
  | .null, s => by simp only [emit, reachesOrig, Bool.false_eq_true, if_false, List.append_nil]
  | .writer _ l, s => emit_eq t l _

@[simp] theorem emit_cell (t : Tok) (str : Stream) (s : St) : (emit t str s).cell = s.cell := by rw [emit_eq]
@[simp] theorem emit_live (t : Tok) (str : Stream) (s : St) : (emit t str s).live = s.live := by rw [emit_eq]
@[simp] theorem emit_saved (t : Tok) (str : Stream) (s : St) : (emit t str s).saved = s.saved := by rw [emit_eq]
@[simp] theorem emit_out (t : Tok) (str : Stream) (s : St) : (emit t str s).out = s.out := by rw [emit_eq]
@[simp] theorem emit_unbound (t : Tok) (str : Stream) (s : St) : (emit t str s).unbound = s.unbound := by
  rw [emit_eq]

theorem emit_origLog (t : Tok) (str : Stream) (s : St) :
    (emit t str s).origLog = s.origLog ++ if reachesOrig str then [t] else [] := by rw [emit_eq]

theorem emit_buf_of_notin (t : Tok) (c : Act) : ∀ (str : Stream) (s : St), c ∉ bufsOf str →
    (emit t str s).buf c = s.buf c
  | .orig, _, _ => rfl
  | .null, _, _ => rfl
  | .writer a l, s, h => by
    simp only [bufsOf, List.mem_cons, not_or] at h
    rw [emit, emit_buf_of_notin t c l _ h.2]
    exact if_neg h.1

theorem own_append (c : Act) (xs ys : List Tok) : own c (xs ++ ys) = own c xs ++ own c ys := by
  simp [own]

theorem own_snoc_ne (c : Act) (xs : List Tok) (t : Tok) (h : t.1 ≠ c) : own c (xs ++ [t]) = own c xs := by
  simp [own, h]

theorem emit_own_of_ne (t : Tok) (c : Act) (h : t.1 ≠ c) : ∀ (str : Stream) (s : St),
    own c ((emit t str s).buf c) = own c (s.buf c)
  | .orig, _ => rfl
  | .null, _ => rfl
  | .writer a l, s => by
    rw [emit, emit_own_of_ne t c h l]
    by_cases hca : c = a
    · subst hca
      exact (congrArg (own c) (if_pos rfl)).trans (own_snoc_ne c _ t h)
    · exact congrArg (own c) (if_neg hca)

theorem emit_owner (a n : Nat) (l : Stream) (s : St) (h : a ∉ bufsOf l) :
    (emit (a, n) (.writer a l) s).buf a = s.buf a ++ [(a, n)] := by
  rw [emit, emit_buf_of_notin (a, n) a l _ h]
  exact if_pos rfl

end DoitModel.Act.Fwd

namespace DoitModel.Act.Mode
open DoitModel.Act

theorem run_append (s : Fwd.St) (xs ys : List Ev) : run s (xs ++ ys) = run (run s xs) ys :=
  List.foldl_append ..

theorem run_cons (s : Fwd.St) (e : Ev) (xs : List Ev) : run s (e :: xs) = run (step s e) xs := rfl

theorem writesOf_append (a : Act) (xs ys : List Ev) :
    writesOf a (xs ++ ys) = writesOf a xs ++ writesOf a ys := by
  induction xs with
  | nil => rfl
  | cons e xs ih =>
    cases e with
    | write b n =>
      by_cases hb : b = a <;> simp only [List.cons_append, writesOf, hb, if_true, if_false, ih]
    | _ => exact ih

theorem started_append (xs ys : List Ev) : started (xs ++ ys) = started xs ++ started ys := by
  induction xs with
  | nil => rfl
  | cons e xs ih =>
    cases e with
    | getlive b on => exact congrArg (b :: ·) ih
    | _ => exact ih

theorem reads_append (xs ys : List Ev) : reads (xs ++ ys) = reads xs ++ reads ys := by
  induction xs with
  | nil => rfl
  | cons e xs ih =>
    cases e with
    | read b => exact congrArg (b :: ·) ih
    | _ => exact ih

theorem started_block (b : Act) (on cap : Bool) (B : List Ev) :
    started (pre b on cap ++ B ++ post b cap) = b :: started B := by
  cases cap <;> simp only [pre, post, ↓reduceIte, Bool.false_eq_true, started_append, started, List.append_nil,
    List.cons_append, List.nil_append]

theorem writesOf_block (c b : Act) (on cap : Bool) (B : List Ev) :
    writesOf c (pre b on cap ++ B ++ post b cap) = writesOf c B := by
  cases cap <;> simp only [pre, post, ↓reduceIte, Bool.false_eq_true, writesOf_append, writesOf, List.append_nil,
    List.nil_append]

theorem reads_block (b : Act) (on cap : Bool) (B : List Ev) :
    reads (pre b on cap ++ B ++ post b cap) = reads B ++ if cap then [b] else [] := by
  cases cap <;> simp only [pre, post, ↓reduceIte, Bool.false_eq_true, reads_append, reads, List.nil_append]

theorem started_exec (b : Act) (on cap : Bool) (B R : List Ev) :
    started (pre b on cap ++ B ++ post b cap ++ R) = b :: (started B ++ started R) := by
  rw [started_append, started_block]; rfl

theorem writesOf_exec (c b : Act) (on cap : Bool) (B R : List Ev) :
    writesOf c (pre b on cap ++ B ++ post b cap ++ R) = writesOf c B ++ writesOf c R := by
  rw [writesOf_append, writesOf_block]

theorem reads_exec (b : Act) (on cap : Bool) (B R : List Ev) :
    reads (pre b on cap ++ B ++ post b cap ++ R) = reads B ++ (if cap then [b] else []) ++ reads R := by
  rw [reads_append, reads_block]

theorem step_swapNC (s : Fwd.St) (a : Act) : step s (.swapNC a) =
    if given (s.live a) then { s with saved := upd s.saved a (some s.cell), cell := s.live a } else s := rfl

theorem step_buf (s : Fwd.St) (e : Ev) (h : ∀ a n, e ≠ .write a n) :
    (step s e).buf = s.buf ∧ (step s e).origLog = s.origLog := by
  cases e with
  | write a n => exact absurd rfl (h a n)
  | restore a => simp only [step]; cases s.saved a <;> exact ⟨rfl, rfl⟩
  | swapNC a => simp only [step]; cases given (s.live a) <;> exact ⟨rfl, rfl⟩
  | restoreNC a => simp only [step]; cases given (s.live a) <;> cases s.saved a <;> exact ⟨rfl, rfl⟩
  | _ => exact ⟨rfl, rfl⟩

theorem step_out (s : Fwd.St) (e : Ev) (h : ∀ a, e ≠ .read a) : (step s e).out = s.out := by
  cases e with
  | read a => exact absurd rfl (h a)
  | write a n => exact Fwd.emit_out ..
  | restore a => simp only [step]; cases s.saved a <;> rfl
  | swapNC a => simp only [step]; cases given (s.live a) <;> rfl
  | restoreNC a => simp only [step]; cases given (s.live a) <;> cases s.saved a <;> rfl
  | _ => rfl

theorem reads_sub_started (f : Forest) : ∀ (o : Option Act) (c : Act),
    c ∈ reads (flatten o f) → c ∈ started (flatten o f) := by
  induction f with
  | nil => intro o c h; cases o <;> cases h
  | write n rest ih => intro o c h; cases o <;> exact ih _ c h
  | kw b rest ih => intro o c h; exact ih o c h
  | exec b on cap body rest ihb ihr =>
    intro o c h
    simp only [flatten, started_exec, List.mem_cons, List.mem_append]
    simp only [flatten, reads_exec, List.mem_append] at h
    rcases h with (h | h) | h
    · exact Or.inr (Or.inl (ihb _ c h))
    · cases cap
      · cases h
      · exact Or.inl (List.mem_singleton.mp h)
    · exact Or.inr (Or.inr (ihr _ c h))

theorem out_only_read (evs : List Ev) : ∀ (s : Fwd.St) (c : Act), c ∉ reads evs → (run s evs).out c = s.out c := by
  induction evs with
  | nil => intro s c _; rfl
  | cons e evs ih =>
    intro s c hc
    rw [run_cons]
    cases e with
    | read a =>
      simp only [reads, List.mem_cons, not_or] at hc
      exact (ih _ c hc.2).trans (if_neg hc.1)
    | _ => exact (ih _ c hc).trans (congrFun (step_out s _ (fun _ h => by cases h)) c)

theorem writesOf_none (f : Forest) : ∀ (o : Option Act) (c : Act), o ≠ some c → c ∉ started (flatten o f) →
    writesOf c (flatten o f) = [] := by
  induction f with
  | nil => intro o c _ _; cases o <;> rfl
  | write n rest ih =>
    intro o c ho hc
    cases o with
    | none => exact ih none c ho hc
    | some a => exact (if_neg fun e => ho (congrArg some e)).trans (ih (some a) c ho hc)
  | exec b on cap body rest ihb ihr =>
    intro o c ho hc
    simp only [flatten, started_exec, List.mem_cons, List.mem_append, not_or] at hc
    simp only [flatten, writesOf_exec]
    rw [ihb (some b) c (fun e => hc.1 (Option.some.inj e).symm) hc.2.1, ihr o c ho hc.2.2]
    rfl
  | kw b rest ih => intro o c ho hc; exact ih o c ho hc

/-- the steps before the callable of `b`: with capture off a live stream handed over is the object already in the
    cell; whenever the steps after the callable will restore, the stream to restore is the one found -/
structure Pre (b : Act) (on cap : Bool) (s s' : Fwd.St) : Prop where
  cell : s'.cell = if cap then .writer b (if on then s.cell else .null) else s.cell
  saved : cap = true ∨ given (s'.live b) = true → s'.saved b = some s.cell
  keepSaved : ∀ c, c ≠ b → s'.saved c = s.saved c
  keepLive : ∀ c, c ≠ b → s'.live c = s.live c
  unbound : s'.unbound = s.unbound
  origLog : s'.origLog = s.origLog
  buf : s'.buf = s.buf
  out : s'.out = s.out

theorem pre_spec (s : Fwd.St) (b : Act) (on cap : Bool) : Pre b on cap s (run s (pre b on cap)) := by
  cases cap with
  | true =>
    exact ⟨congrArg (Fwd.Stream.writer b) (if_pos rfl), fun _ => if_pos rfl, fun _ hc => if_neg hc,
      fun _ hc => if_neg hc, rfl, rfl, rfl, rfl⟩
  | false =>
    -- `swapNC` re-binds the cell only when handed a live stream, and that stream is the cell's content
    have hl : (step s (.getlive b on)).live b = if on then s.cell else .null := if_pos rfl
    show Pre b on false s (step (step s (.getlive b on)) (.swapNC b))
    rw [step_swapNC]
    cases hg : given ((step s (.getlive b on)).live b) with
    | false =>
      exact ⟨rfl, fun h => h.elim (fun h => nomatch h) (fun h => nomatch hg.symm.trans h), fun _ _ => rfl,
        fun _ hc => if_neg hc, rfl, rfl, rfl, rfl⟩
    | true =>
      have hon : on = true := by
        cases on
        · rw [hl] at hg; cases hg
        · rfl
      subst hon
      exact ⟨hl, fun _ => if_pos rfl, fun _ hc => if_neg hc, fun _ hc => if_neg hc, rfl, rfl, rfl, rfl⟩

/-- `X`: the stream the steps before the callable found in the cell -/
structure Post (b : Act) (cap : Bool) (X : Fwd.Stream) (s s' : Fwd.St) : Prop where
  cell : s'.cell = X
  saved : s'.saved = s.saved
  live : s'.live = s.live
  unbound : s'.unbound = s.unbound
  origLog : s'.origLog = s.origLog
  buf : s'.buf = s.buf
  outB : s'.out b = if cap then some (s.buf b) else s.out b
  keepOut : ∀ c, c ≠ b → s'.out c = s.out c

theorem post_spec (s : Fwd.St) (b : Act) (cap : Bool) (X : Fwd.Stream) (hc : cap = false → s.cell = X)
    (h : cap = true ∨ given (s.live b) = true → s.saved b = some X) :
    Post b cap X s (run s (post b cap)) := by
  cases cap with
  | true =>
    show Post b true X s (step (step s (.restore b)) (.read b))
    simp only [step, h (Or.inl rfl), Fwd.restoreTo]
    exact ⟨rfl, rfl, rfl, rfl, rfl, rfl, if_pos rfl, fun _ hc => if_neg hc⟩
  | false =>
    show Post b false X s (step s (.restoreNC b))
    simp only [step]
    cases hg : given (s.live b) with
    | false => exact ⟨hc rfl, rfl, rfl, rfl, rfl, rfl, rfl, fun _ _ => rfl⟩
    | true =>
      simp only [h (Or.inr hg), Fwd.restoreTo, if_true]
      exact ⟨rfl, rfl, rfl, rfl, rfl, rfl, rfl, fun _ _ => rfl⟩

/-- `pass` is about the actions that do not start in `evs` (in a scenario: its context action), whose writes go to the
    cell as found: they are on the original stream afterwards exactly when that cell reaches it -/
structure Frame (evs : List Ev) (s s' : Fwd.St) : Prop where
  cell : s'.cell = s.cell
  unbound : s'.unbound = s.unbound
  keepSaved : ∀ c, c ∉ started evs → s'.saved c = s.saved c
  keepLive : ∀ c, c ∉ started evs → s'.live c = s.live c
  pass : ∀ c, c ∉ started evs →
    Fwd.own c s'.origLog = Fwd.own c s.origLog ++ (if Fwd.reachesOrig s.cell then writesOf c evs else [])

theorem frame_nil (s : Fwd.St) : Frame [] s s :=
  ⟨rfl, rfl, fun _ _ => rfl, fun _ _ => rfl, fun c _ => by simp only [writesOf, ite_self, List.append_nil]⟩

theorem frame_append {xs ys : List Ev} {s s1 s2 : Fwd.St} (F1 : Frame xs s s1) (F2 : Frame ys s1 s2) :
    Frame (xs ++ ys) s s2 := by
  have hs : ∀ c, c ∉ started (xs ++ ys) → c ∉ started xs ∧ c ∉ started ys := by
    intro c hc
    rw [started_append, List.mem_append, not_or] at hc
    exact hc
  refine ⟨F2.cell.trans F1.cell, F2.unbound.trans F1.unbound, ?_, ?_, ?_⟩
  · intro c hc; exact (F2.keepSaved c (hs c hc).2).trans (F1.keepSaved c (hs c hc).1)
  · intro c hc; exact (F2.keepLive c (hs c hc).2).trans (F1.keepLive c (hs c hc).1)
  · intro c hc
    rw [F2.pass c (hs c hc).2, F1.pass c (hs c hc).1, F1.cell, writesOf_append, List.append_assoc]
    cases Fwd.reachesOrig s.cell <;> rfl

theorem frame_write (a n : Nat) (s : Fwd.St) : Frame [.write a n] s (step s (.write a n)) := by
  refine ⟨Fwd.emit_cell .., Fwd.emit_unbound .., fun c _ => congrFun (Fwd.emit_saved ..) c,
    fun c _ => congrFun (Fwd.emit_live ..) c, fun c _ => ?_⟩
  show Fwd.own c (Fwd.emit (a, n) s.cell s).origLog = _
  rw [Fwd.emit_origLog, Fwd.own_append]
  cases Fwd.reachesOrig s.cell
  · rfl
  · by_cases hac : a = c <;> simp [writesOf, Fwd.own, hac]

theorem block_post {b : Act} {on cap : Bool} {B : List Ev} {s s2 : Fwd.St}
    (FB : Frame B (run s (pre b on cap)) s2) (hb : b ∉ started B) :
    Post b cap s.cell s2 (run s2 (post b cap)) := by
  have P := pre_spec s b on cap
  exact post_spec s2 b cap s.cell (fun hcap => by rw [FB.cell, P.cell, hcap]; rfl)
    (by rw [FB.keepLive b hb, FB.keepSaved b hb]; exact P.saved)

theorem frame_block {b : Act} {on cap : Bool} {B : List Ev} {s s2 : Fwd.St}
    (FB : Frame B (run s (pre b on cap)) s2) (hb : b ∉ started B)
    (hw : ∀ c, c ≠ b → c ∉ started B → writesOf c B = []) :
    Frame (pre b on cap ++ B ++ post b cap) s (run s2 (post b cap)) := by
  have P := pre_spec s b on cap
  have Q := block_post FB hb
  have hs : ∀ c, c ∉ started (pre b on cap ++ B ++ post b cap) → c ≠ b ∧ c ∉ started B := by
    intro c hc
    rw [started_block, List.mem_cons, not_or] at hc
    exact hc
  refine ⟨Q.cell, Q.unbound.trans (FB.unbound.trans P.unbound), ?_, ?_, ?_⟩
  · intro c hc
    rw [Q.saved, FB.keepSaved c (hs c hc).2, P.keepSaved c (hs c hc).1]
  · intro c hc
    rw [Q.live, FB.keepLive c (hs c hc).2, P.keepLive c (hs c hc).1]
  · intro c hc
    rw [Q.origLog, FB.pass c (hs c hc).2, writesOf_block, hw c (hs c hc).1 (hs c hc).2, P.origLog]
    simp only [ite_self]

theorem frame (f : Forest) : ∀ (o : Option Act) (s : Fwd.St), (started (flatten o f)).Nodup →
    Frame (flatten o f) s (run s (flatten o f)) := by
  induction f with
  | nil => intro o s _; cases o <;> exact frame_nil s
  | write n rest ih =>
    intro o s hn
    cases o with
    | none => exact ih none s hn
    | some a => exact frame_append (frame_write a n s) (ih (some a) _ hn)
  | kw b rest ih => intro o s hn; exact ih o s hn
  | exec b on cap body rest ihb ihr =>
    intro o s hn
    simp only [flatten, started_exec, List.nodup_cons, List.mem_append, not_or, List.nodup_append] at hn
    obtain ⟨⟨hbB, _⟩, hnB, hnR, _⟩ := hn
    simp only [flatten, run_append]
    exact frame_append (frame_block (ihb (some b) _ hnB) hbB fun c hc hcB =>
      writesOf_none body (some b) c (fun e => hc (Option.some.inj e).symm) hcB) (ihr o _ hnR)

theorem frame_exec (b : Act) (on cap : Bool) (body : Forest) (s : Fwd.St)
    (hn : (b :: started (flatten (some b) body)).Nodup) :
    Frame (pre b on cap ++ flatten (some b) body ++ post b cap) s
      (run (run (run s (pre b on cap)) (flatten (some b) body)) (post b cap)) :=
  frame_block (frame body (some b) _ (List.nodup_cons.mp hn).2) (List.nodup_cons.mp hn).1 fun c hc hcB =>
    writesOf_none body (some b) c (fun e => hc (Option.some.inj e).symm) hcB

/-- steps of capture-off executions in any order never store anything but the original stream -/
structure NCInv (s : Fwd.St) : Prop where
  cell : s.cell = .orig
  live : ∀ a, s.live a = .orig ∨ s.live a = .null
  saved : ∀ a, s.saved a = none ∨ s.saved a = some .orig

theorem nc_only_inv (evs : List Ev) : ∀ (s : Fwd.St), ncOnly evs = true → NCInv s →
    (run s evs).cell = .orig ∧ (run s evs).origLog = s.origLog ++ allWrites evs ∧ (run s evs).out = s.out := by
  induction evs with
  | nil => intro s _ I; exact ⟨I.cell, (List.append_nil _).symm, rfl⟩
  | cons e evs ih =>
    intro s hnc I
    rw [run_cons]
    have hout : ∀ a, e ≠ .read a := fun a he => by subst he; exact absurd hnc Bool.false_ne_true
    have hlog : (∀ a n, e ≠ .write a n) →
        (step s e).origLog ++ allWrites evs = s.origLog ++ allWrites (e :: evs) := fun he => by
      rw [(step_buf s e he).2]
      cases e with
      | write a n => exact absurd rfl (he a n)
      | _ => rfl
    suffices h : ncOnly evs = true ∧ NCInv (step s e) ∧
        (step s e).origLog ++ allWrites evs = s.origLog ++ allWrites (e :: evs) by
      obtain ⟨h1, h2, h3⟩ := ih _ h.1 h.2.1
      exact ⟨h1, h2.trans h.2.2, h3.trans (step_out s e hout)⟩
    cases e with
    | save a => exact absurd hnc Bool.false_ne_true
    | set a => exact absurd hnc Bool.false_ne_true
    | restore a => exact absurd hnc Bool.false_ne_true
    | read a => exact absurd hnc Bool.false_ne_true
    | getlive a on =>
      refine ⟨hnc, ⟨I.cell, fun b => ?_, I.saved⟩, hlog fun _ _ h => nomatch h⟩
      have hl : (step s (.getlive a on)).live b = if b = a then (if on then s.cell else .null) else s.live b := rfl
      rw [hl]
      by_cases hb : b = a
      · rw [if_pos hb, I.cell]; cases on <;> simp
      · rw [if_neg hb]; exact I.live b
    | write a n =>
      refine ⟨hnc, ⟨(Fwd.emit_cell ..).trans I.cell, fun b => ?_, fun b => ?_⟩, ?_⟩
      · rw [show (step s (.write a n)).live = s.live from Fwd.emit_live ..]; exact I.live b
      · rw [show (step s (.write a n)).saved = s.saved from Fwd.emit_saved ..]; exact I.saved b
      · show (Fwd.emit (a, n) s.cell s).origLog ++ _ = _
        rw [Fwd.emit_origLog, I.cell, List.append_assoc]; rfl
    | swapNC a =>
      refine ⟨hnc, ?_, hlog fun _ _ h => nomatch h⟩
      rcases I.live a with hl | hl <;> simp only [step, hl, given, Bool.false_eq_true, ↓reduceIte]
      · refine ⟨rfl, I.live, fun b => ?_⟩
        by_cases hb : b = a
        · exact Or.inr ((if_pos hb).trans (congrArg some I.cell))
        · exact (I.saved b).imp (if_neg hb).trans (if_neg hb).trans
      · exact I
    | restoreNC a =>
      refine ⟨hnc, ?_, hlog fun _ _ h => nomatch h⟩
      rcases I.live a with hl | hl <;> simp only [step, hl, given, Bool.false_eq_true, ↓reduceIte]
      · rcases I.saved a with hs | hs <;> rw [hs]
        · exact ⟨I.cell, I.live, I.saved⟩
        · exact ⟨rfl, I.live, I.saved⟩
      · exact I

theorem step_ofFwd (s : Fwd.St) (e : Fwd.Ev) : step s (ofFwd e) = Fwd.step s e := by
  cases e <;> rfl

theorem run_ofFwd (evs : List Fwd.Ev) : ∀ s : Fwd.St, run s (evs.map ofFwd) = Fwd.run s evs := by
  induction evs with
  | nil => intro s; rfl
  | cons e evs ih => intro s; simp only [List.map, run_cons, step_ofFwd]; exact ih _

theorem flatten_ofFwd (f : Fwd.Forest) : ∀ o, flatten o (ofFwdForest f) = (Fwd.flatten o f).map ofFwd := by
  induction f with
  | nil => intro o; cases o <;> rfl
  | write n rest ih => intro o; cases o <;> simp only [ofFwdForest, flatten, Fwd.flatten, ih, List.map, ofFwd]
  | exec b on body rest ihb ihr =>
    intro o
    simp only [ofFwdForest, flatten, Fwd.flatten, ihb, ihr, pre, post, if_true, List.map_append, List.map, ofFwd]
  | kw b rest ih => intro o; simp only [ofFwdForest, flatten, Fwd.flatten, ih]

end DoitModel.Act.Mode
