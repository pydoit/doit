import DoitModel.Proofs.C11Just
import DoitModel.Proofs.C11Base
import DoitModel.Proofs.C11Lazy
import DoitModel.Proofs.C19Walk
import DoitModel.Proofs.C05Inv
/-! # C11, laziness monitor on the model: the trace of a state, the facts about reports that the proof uses -/
namespace DoitModel.Run
open DoitModel.Report

/-- the observable part of newly emitted events, chronological -/
def obsOf (inp : RunInput) (new : List Ev) : List Ev := (new.filter fun e => !hidden inp e).reverse

theorem trace_append {inp : RunInput} {s s' : Sys} {new : List Ev} (e : s'.events = new ++ s.events) :
    trace inp s' = trace inp s ++ obsOf inp new := by
  simp [trace, obsOf, e, List.filter_append]

theorem mem_obsOf {inp : RunInput} {new : List Ev} {e : Ev} : e ∈ obsOf inp new ↔ e ∈ new ∧ hidden inp e = false := by
  simp [obsOf]

/-- the invariants of other files that the laziness proof relies on -/
structure Ctx (inp : RunInput) (s : Sys) : Prop where
  h2 : Inv2 inp s
  h3 : Inv3 inp s
  hg : InvG inp s
  h19 : Inv19 inp s
  lz : Lazy s
  tb : TdB inp s
  hF : InvF inp s

theorem reach_ctx {inp : RunInput} {s : Sys} (hser : inp.runner = .serial) (h : Reach inp s) : Ctx inp s :=
  ⟨reach_inv2 h, reach_inv3 h, reach_invG h, reach_inv19 h, reach_lazy h, reach_tdB hser h, reach_invF h⟩

theorem preach_ctx {inp : RunInput} {s : Sys} (hpar : inp.runner ≠ .serial) (h : PReach inp s) : Ctx inp s :=
  ⟨(preach_inv h).1, (preach_inv h).2, preach_invG h, preach_inv19 h, preach_lazy h, preach_tdB hpar h, preach_invF h⟩

theorem mem_startOrder {inp : RunInput} {d : Name} {evs : List Ev} (h : d ∈ startOrder inp evs) :
    ∃ w, Ev.start d w ∈ evs := by
  simp only [startOrder, List.mem_reverse, List.mem_filterMap] at h
  obtain ⟨e, he, hd⟩ := h
  cases e <;> simp only [tdName] at hd <;> try cases hd
  rename_i n w
  split at hd
  · cases hd; exact ⟨w, he⟩
  · cases hd

theorem Ctx.mention_status {inp : RunInput} {s : Sys} (c : Ctx inp s) {d : Name} {e : Ev} (he : e ∈ s.events)
    (hm : Ev.mentions d e = true) (hh : hidden inp e = false) : stOf s d ≠ .none := by
  intro h0
  have g0 := c.h19.g0 d h0
  cases e with
  | teardown n =>
    have hn : n = d := by simpa [Ev.mentions] using hm
    subst hn
    have hin := c.tb.tdm n he
    by_cases hp : inp.runner = .process
    · rw [c.tb.proc hp] at hin; cases hin
    · rw [c.tb.shared hp] at hin
      obtain ⟨w, hw⟩ := mem_startOrder hin
      have := g0 _ hw
      simp [Ev.touches] at this
  | go n ds => cases hh
  | complete => cases hm
  | _ =>
    have := g0 _ he
    simp only [Ev.touches, decide_eq_false_iff_not] at this
    simp only [Ev.mentions, decide_eq_true_eq] at hm
    exact this hm

theorem Ctx.unmentioned {inp : RunInput} {s : Sys} (c : Ctx inp s) {d : Name} (h0 : stOf s d = .none) :
    ∀ e ∈ trace inp s, Ev.mentions d e = false := by
  intro e he
  obtain ⟨h1, h2⟩ := mem_trace.mp he
  cases hm : Ev.mentions d e with
  | false => rfl
  | true => exact absurd h0 (c.mention_status h1 hm h2)

theorem Ctx.status_mention {inp : RunInput} {s : Sys} (c : Ctx inp s) {d : Name} (h : stOf s d ≠ .none) :
    Ev.getStatus d ∈ trace inp s :=
  mem_trace.mpr ⟨c.h19.g1 d h, rfl⟩

theorem Ctx.good_finished {inp : RunInput} {s : Sys} (c : Ctx inp s) {d : Name} (h : (stOf s d).good = true) :
    finishedIn (trace inp s) d = true := finishedIn_trace_iff.mpr (good_finBefore c.h2 h)

theorem finBefore_mentioned {inp : RunInput} {s : Sys} {d : Name} (h : finBefore s.events d) :
    ∃ e ∈ trace inp s, Ev.mentions d e = true := by
  rcases h with a | a
  · exact ⟨_, mem_trace.mpr ⟨a, rfl⟩, by simp [Ev.mentions]⟩
  · exact ⟨_, mem_trace.mpr ⟨a, rfl⟩, by simp [Ev.mentions]⟩

theorem Ctx.run_noTerminal {inp : RunInput} {s : Sys} (c : Ctx inp s) {a : Name} (h : stOf s a = .run) :
    (trace inp s).any (Ev.isTerminalOf a) = false := by
  have h0 : cTerm s a = 0 := c.h3.t a (by rw [h]; rfl)
  cases hx : (trace inp s).any (Ev.isTerminalOf a) with
  | false => rfl
  | true =>
    obtain ⟨e, he, hp⟩ := List.any_eq_true.mp hx
    have : 0 < s.events.countP (Ev.isTerminalOf a) := List.countP_pos_iff.mpr ⟨e, (mem_trace.mp he).1, hp⟩
    unfold cTerm at h0; omega

/-- the deliveries known in state `s`: an executed / up-to-date task delivers its values, a task that failed after its
    actions were started delivers what it returned before failing -/
def Ds (inp : RunInput) (s : Sys) : Name → CalcRes → Prop := fun p r =>
  ((stOf s p).good = true ∧ r = inp.calcRes p) ∨ (stOf s p = .fail ∧ started s p = true ∧ r = inp.calcResFail p)

theorem knowsD_ds (inp : RunInput) (s : Sys) : KnowsD inp (Ds inp s) s :=
  ⟨fun _ h => Or.inl ⟨h, rfl⟩, fun _ h1 h2 => Or.inr ⟨h1, h2, rfl⟩⟩

theorem finishedIn_status {inp : RunInput} {s : Sys} (c : Ctx inp s) {p : Name}
    (h : finishedIn (trace inp s) p = true) : (stOf s p).good = true := finBefore_good c.hF (finishedIn_trace_iff.mp h)

theorem failedRunIn_status {inp : RunInput} {s : Sys} (c : Ctx inp s) {p : Name}
    (h : failedRunIn (trace inp s) p = true) : stOf s p = .fail := by
  unfold failedRunIn at h
  simp only [Bool.and_eq_true] at h
  obtain ⟨e, he, hp⟩ := List.any_eq_true.mp h.2
  cases e <;> simp [Ev.isFailRepOf] at hp
  subst hp
  exact c.hF.fl _ _ (mem_trace.mp he).1

/-- what is known to be delivered in `s` is what the monitor reads off the trace (`resAt`) -/
theorem Ctx.ds_resAt {inp : RunInput} {n : Nat} (hb : BoundedP inp n) {s : Sys} (c : Ctx inp s) {p : Name}
    {r : CalcRes} (hp : p < n) (h : Ds inp s p r) :
    (∀ x ∈ r.calcs, x ∈ (resAt inp (trace inp s) p).calcs) ∧ (∀ x ∈ r.tasks, x ∈ (resAt inp (trace inp s) p).tasks) ∧
    (∀ x ∈ r.files, x ∈ (resAt inp (trace inp s) p).files) := by
  rcases h with ⟨hg, rfl⟩ | ⟨hf, hs, rfl⟩
  · have := c.good_finished hg
    unfold resAt; rw [if_pos this]; exact ⟨fun _ h => h, fun _ h => h, fun _ h => h⟩
  · by_cases hna : inp.noAct p = true
    · obtain ⟨a, b, d⟩ := hb.na p hp hna
      rw [a, b, d]
      exact ⟨fun _ h => (by cases h), fun _ h => (by cases h), fun _ h => (by cases h)⟩
    · have hnf : finishedIn (trace inp s) p = false := by
        cases hx : finishedIn (trace inp s) p with
        | false => rfl
        | true => have := finishedIn_status c hx; rw [hf] at this; cases this
      have hfr : failedRunIn (trace inp s) p = true := by
        unfold failedRunIn
        simp only [Bool.and_eq_true]
        constructor
        · unfold started at hs
          obtain ⟨e, he, hpe⟩ := List.any_eq_true.mp hs
          cases e <;> simp at hpe
          rename_i m w
          subst hpe
          exact List.any_eq_true.mpr ⟨_, mem_trace.mpr ⟨he, by simpa [hidden] using hna⟩, by simp [Ev.isStartOf]⟩
        · obtain ⟨k, hk⟩ := c.hF.fe p hf
          exact List.any_eq_true.mpr ⟨_, mem_trace.mpr ⟨hk, rfl⟩, by simp [Ev.isFailRepOf]⟩
      unfold resAt
      rw [hnf, hfr]
      exact ⟨fun _ h => h, fun _ h => h, fun _ h => h⟩

theorem resLe_step {inp : RunInput} {s s' : Sys} (c' : Ctx inp s') {new : List Ev} (hev : s'.events = new ++ s.events) :
    ResLe inp (trace inp s) (trace inp s ++ obsOf inp new) := by
  apply resLe_append
  intro p hp
  rw [← trace_append hev]
  have hp' : failedRunIn (trace inp s') p = true := by
    rw [trace_append hev]
    unfold failedRunIn at hp ⊢
    simp only [Bool.and_eq_true] at hp ⊢
    exact ⟨by rw [List.any_append, hp.1]; rfl, by rw [List.any_append, hp.2]; rfl⟩
  have hst := failedRunIn_status c' hp'
  cases hx : finishedIn (trace inp s') p with
  | false => rfl
  | true => have := finishedIn_status c' hx; rw [hst] at this; cases this

/-- the systems are started according to `inp.runner`: the other one never moves -/
theorem reach_mismatch {inp : RunInput} {s : Sys} (hne : inp.runner ≠ .serial) (h : Reach inp s) : s = init inp := by
  induction h with
  | init => rfl
  | @next s0 s1 c _ hs ih =>
    subst ih
    cases c with
    | main perm => simp [step, serialStep, init, hne] at hs
    | take w => cases hs
    | done w => cases hs

theorem preach_mismatch {inp : RunInput} {s : Sys} (hser : inp.runner = .serial) (h : PReach inp s) : s = init inp := by
  induction h with
  | init => rfl
  | @next s0 s1 c _ hs ih =>
    subst ih
    cases c with
    | main perm => simp [pstep, mainStep, init, hser] at hs
    | take w => simp [pstep, takeStep, init] at hs
    | done w => simp [pstep, doneStep, init] at hs

theorem first_run_ranFirst {inp : RunInput} {s : Sys} {n : Name} {nd : Node} (c : Ctx inp s)
    (hsusp : s.susp = some (.node n)) (hn : s.nodes n = some nd) (h0 : nd.status = .none)
    (hrun : selStatus (selDecision inp n nd) = .run) (nT : Nat) : ranFirst inp nT (trace inp s) n = true := by
  -- the only answer of the first pass with status `run` is `runFirst` or `go`
  have key : nd.ign = [] ∧ inp.ignored n = false ∧ nd.bad = [] ∧ inp.statusOf n ≠ .error ∧ effStatus inp n ≠ .utd := by
    generalize hd : selDecision inp n nd = d at hrun
    cases selDecision_spec.of_eq hd with
    | runFirst _ a b c d e => exact ⟨a, b, c, d, e⟩
    | go1 _ a b c d e => exact ⟨a, b, c, d, e⟩
    | go2 a => rw [h0] at a; cases a
    | _ => cases hrun
  obtain ⟨hi, hig, hb, he, hu⟩ := key
  have good := loop_deps_good c.h2 hsusp hn hb hi
  have closed := loop_deps_closed c.h2 c.hg hsusp hn hb hi
  have hok := c.h2.inv1.node n nd hn
  have hcs := calcsAt_subset closed (trace inp s) nT (inp.calcDep n) closed.1
  have hrunS : effStatus inp n = .run := by
    unfold effStatus at hu ⊢
    by_cases ha : inp.always = true
    · rw [if_pos ha]
    · rw [if_neg ha] at hu ⊢
      cases hst : inp.statusOf n with
      | run => rfl
      | utd => exact absurd hst hu
      | error => exact absurd hst he
  unfold ranFirst
  simp only [Bool.and_eq_true, List.all_eq_true, Bool.not_eq_true', bne_iff_ne, ne_eq, beq_iff_eq]
  refine ⟨⟨⟨hig, he⟩, hrunS⟩, ?_⟩
  intro x hx
  apply c.good_finished
  apply good
  simp only [List.mem_append, List.mem_flatMap, List.mem_filter] at hx
  rcases hx with (a | a) | ⟨cc, ⟨hcc, _⟩, a⟩
  · exact List.mem_append.mpr (Or.inl (hok.st.1 x a))
  · exact List.mem_append.mpr (Or.inr (hcs x a))
  · have := closed.2.2 cc (hcs cc hcc)
    rcases a with b | b
    · exact this.2.1 x b
    · exact this.2.2 x b

end DoitModel.Run
