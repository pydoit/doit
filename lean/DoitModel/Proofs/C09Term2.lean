import DoitModel.Proofs.C09Term1
/-! # C09 — termination, part 2: every step of the dispatcher generator decreases the measure -/
namespace DoitModel.Run

variable {inp : RunInput} {N : Nat}

theorem mlt_upd {s s' : Sys} {n : Name} {nd x : Node} (hn : s.nodes n = some nd) (hN : n < N)
    (hm : SameM inp N s' (setNode s n x))
    (h : calOf N x < calOf N nd ∨
      (calOf N x = calOf N nd ∧ linNode inp n x + restOf s' < linNode inp n nd + restOf s)) : MLt inp N s' s := by
  obtain ⟨e1, r2, r3, ⟨c', c⟩, ⟨l', l⟩⟩ := upd_sums hn hN x hm
  refine Or.inr ⟨e1, ?_⟩
  rw [c', c, l', l]
  rcases h with h | ⟨h1, h2⟩
  · exact Or.inl (Nat.add_lt_add_left h _)
  · exact Or.inr ⟨by rw [h1], by rw [Nat.add_assoc, Nat.add_assoc]; exact Nat.add_lt_add_left h2 _⟩

theorem gle_upd {s s' : Sys} {n : Name} {nd x : Node} (hn : s.nodes n = some nd) (hN : n < N)
    (hm : SameM inp N s' (setNode s n x))
    (h : calOf N x < calOf N nd ∨
      (calOf N x = calOf N nd ∧ linNode inp n x + 5 * s'.ready.length ≤ linNode inp n nd + 5 * s.ready.length)) :
    GLe inp N s' s := by
  obtain ⟨e1, r2, r3, ⟨c', c⟩, ⟨l', l⟩⟩ := upd_sums hn hN x hm
  refine ⟨e1, ?_⟩
  rw [c', c, l', l]
  rcases h with h | ⟨h1, h2⟩
  · exact Or.inl (Nat.add_lt_add_left h _)
  · exact Or.inr ⟨by rw [h1], by rw [Nat.add_assoc, Nat.add_assoc]; exact Nat.add_le_add_left h2 _⟩

theorem mlt_sameM {s s' : Sys} (hm : SameM inp N s' s) (h : restOf s' < restOf s) : MLt inp N s' s :=
  Or.inr ⟨hm.1, Or.inr ⟨hm.2.1, by rw [hm.2.2]; exact Nat.add_lt_add_left h _⟩⟩

theorem mlt_same {s s' : Sys} (e : s'.nodes = s.nodes) (h : restOf s' < restOf s) : MLt inp N s' s :=
  mlt_sameM (SameM.of_nodes e) h

theorem pcMove_add (inp : RunInput) (n : Name) {nd : Node} {pc : PC} (hpc : nd.pc = pc) (pc' : PC) {a b : Nat}
    (h : nd.row inp n pc' + a < nd.row inp n pc + b) :
    linNode inp n { nd with pc := pc' } + a < linNode inp n nd + b := by
  rw [linNode_setPc, linNode_eq inp n nd, hpc, Nat.add_assoc, Nat.add_assoc]
  exact Nat.add_lt_add_left h _

theorem pcMove_lt (inp : RunInput) (n : Name) {nd : Node} {pc : PC} (hpc : nd.pc = pc) (pc' : PC)
    (hC : pc'.iterC = pc.iterC) (h : nd.row inp n pc' < nd.row inp n pc) :
    calOf N { nd with pc := pc' } = calOf N nd ∧ linNode inp n { nd with pc := pc' } < linNode inp n nd := by
  refine ⟨calOf_setPc hpc hC, ?_⟩
  rw [linNode_setPc, linNode_eq inp n nd, hpc]
  exact Nat.add_lt_add_left h _

theorem L1_create {s : Sys} {d : Name} (hd : s.nodes d = none) (hlt : d < N) (x : Node) :
    L1 N (setNode s d x) < L1 N s := by
  refine cntNone_lt hlt hd (by rw [setNode_nodes, if_pos rfl]; rfl) (fun k hk => ?_)
  rw [setNode_nodes] at hk
  by_cases e : k = d
  · rw [e, hd]; rfl
  · rwa [if_neg e] at hk

theorem addWaitRun_mlt {s : Sys} {n : Name} {nd : Node} (hn : s.nodes n = some nd) (hN : n < N) (ds : List Name)
    (c : Bool) (pc' : PC)
    (hx : calOf N (waitNode inp s nd ds c pc') < calOf N nd ∨
      (calOf N (waitNode inp s nd ds c pc') = calOf N nd ∧
        linNode inp n (waitNode inp s nd ds c pc') < linNode inp n nd)) :
    MLt inp N (addWaitRun inp s n nd ds c pc') s :=
  mlt_upd hn hN (sameM_registerWaiting _ _ _)
    (hx.imp id fun ⟨a, b⟩ => ⟨a, show _ + restOf s < _ from Nat.add_lt_add_right b _⟩)

/-- the awaited calc_deps: either one of them is finished (its delivery is paid by `calOf`), or all move from the snapshot to
    `wait_run_calc` -/
theorem waitNode_calc_lt (hF : FiniteTable inp N) (s : Sys) (n : Name) (nd : Node) (hpc : nd.pc = .calcIter []) :
    calOf N (waitNode inp s nd nd.snapCalc true (.taskIter nd.snapTask)) < calOf N nd ∨
    (calOf N (waitNode inp s nd nd.snapCalc true (.taskIter nd.snapTask)) = calOf N nd ∧
     linNode inp n (waitNode inp s nd nd.snapCalc true (.taskIter nd.snapTask)) < linNode inp n nd) := by
  by_cases hall : ∀ d ∈ nd.snapCalc, unfinished s d = true
  · right
    have ex : waitNode inp s nd nd.snapCalc true (.taskIter nd.snapTask) =
        { nd with waitRunCalc := nd.snapCalc ++ nd.waitRunCalc, pc := .taskIter nd.snapTask } := by
      unfold waitNode addWaits
      rw [absorbDone_all_unfinished s true nd.snapCalc nd hall, List.filter_eq_self.mpr hall, if_pos rfl]
    rw [ex]
    constructor
    · simp only [calOf, hpc, PC.iterC, List.length_append, if_true, Bool.false_eq_true, if_false]; omega
    · rw [linNode_eq, linNode_eq inp n nd, hpc]
      simp only [Node.baseW, Node.row, pcW, List.length_append, List.length_nil]; omega
  · left
    have g := (absorbDone_spec inp s true nd.snapCalc nd).1
    have hm2 := absorbDone_m2 hF s true nd.snapCalc nd
    have hlt : (nd.snapCalc.filter (unfinished s)).length < nd.snapCalc.length := by
      apply List.length_filter_lt_length_iff_exists.mpr
      have ⟨d, hd⟩ := Classical.not_forall.mp hall
      obtain ⟨h1, h2⟩ := Classical.not_imp.mp hd
      exact ⟨d, h1, h2⟩
    unfold m2Of at hm2
    simp only [waitNode, addWaits, if_true, calOf, hpc, PC.iterC, List.length_append, g.waitRunCalc,
      Bool.false_eq_true, if_false]
    omega

theorem waitNode_plain (s : Sys) (n : Name) (nd : Node) (ds : List Name) (pc' : PC) :
    calOf N (waitNode inp s nd ds false pc') = calOf N { nd with pc := pc' } ∧
    linNode inp n (waitNode inp s nd ds false pc') =
      linNode inp n { nd with pc := pc' } + 5 * (ds.filter (unfinished s)).length := by
  obtain ⟨g, sd, _⟩ := absorbDone_spec inp s false ds nd
  obtain ⟨_, s2, s3, s4⟩ := sd rfl
  unfold waitNode addWaits
  rw [if_neg Bool.false_ne_true]
  -- only the fields of the absorbed node that the measure reads matter
  generalize absorbDone inp s false ds nd = a at g s2 s3 s4
  constructor
  · show cntNot N a.dynCalc + a.pendCalc.length + (if pc'.iterC = true then a.snapCalc.length else 0) +
      a.waitRunCalc.length = _
    rw [s2, s4, g.snapCalc, g.waitRunCalc]; rfl
  · rw [linNode_eq, linNode_setPc]
    simp only [Node.baseW, Node.row, s3, s4, g.snapTask, g.snapCalc, g.waitRun, g.waitRunCalc, g.waitSelect,
      List.length_append]
    omega

theorem addWaitRun_plain_mlt {s : Sys} {n : Name} {nd : Node} {pc : PC} (hn : s.nodes n = some nd) (hN : n < N)
    (hpc : nd.pc = pc) (ds : List Name) (pc' : PC) (hC : pc'.iterC = pc.iterC)
    (h : nd.row inp n pc' + 5 * ds.length < nd.row inp n pc) : MLt inp N (addWaitRun inp s n nd ds false pc') s := by
  obtain ⟨e1, e2⟩ := waitNode_plain (inp := inp) (N := N) s n nd ds pc'
  have hle : (ds.filter (unfinished s)).length ≤ ds.length := List.length_filter_le _ _
  refine addWaitRun_mlt hn hN ds false pc' (Or.inr ⟨e1.trans (calOf_setPc hpc hC), ?_⟩)
  rw [e2, linNode_setPc, linNode_eq inp n nd, hpc]
  omega


theorem nodeMove_lt {n : Name} {nd x : Node} {perm : List Name} (hm : NodeMove inp n nd perm x) :
    calOf N x = calOf N nd ∧ linNode inp n x < linNode inp n nd := by
  cases hm with
  | loopTop hpc hp =>
    have hl : perm.length = nd.pendCalc.length := hp.length_eq
    constructor
    · simp only [calOf, hpc, PC.iterC, hl, List.length_nil, if_true, Bool.false_eq_true, if_false]; omega
    · rw [linNode_eq, linNode_eq inp n nd, hpc]
      simp only [Node.baseW, Node.row, pcW, hl, List.length_nil]; omega
  | again hpc hp =>
    have hpos : nd.pendTask.length + nd.pendCalc.length ≥ 1 := by
      rcases hp with a | a
      · have := List.length_pos_iff.mpr a; omega
      · have := List.length_pos_iff.mpr a; omega
    exact pcMove_lt inp n hpc .loopTop rfl (by simp only [Node.row, pcW]; omega)
  | depsDone hpc | noSetup hpc | selected hpc | setupGo hpc | setupSkip hpc | setupDone hpc | finish hpc =>
    refine pcMove_lt inp n hpc _ ?_ ?_
    · rfl
    · simp only [Node.row, pcW]; omega

/-- a parked node may gain up to 3: the dispatcher then has no current node, which is worth 4 -/
theorem nodePark_lt {n : Name} {nd x : Node} (hp : NodePark inp n nd x) :
    calOf N x = calOf N nd ∧ linNode inp n x < linNode inp n nd + 4 := by
  cases hp with
  | deps hpc | setup hpc =>
    refine ⟨calOf_setPc hpc rfl, ?_⟩
    rw [linNode_setPc, linNode_eq inp n nd, hpc]; simp only [Node.row, pcW]; omega
  | select hpc =>
    refine ⟨calOf_setPc (N := N) (pc' := .setupDecide) hpc rfl, ?_⟩
    rw [linNode_eq, linNode_eq inp n nd, hpc]
    simp only [Node.baseW, Node.row, pcW, if_true]
    split <;> omega

theorem genStep_mlt {s : Sys} {n : Name} {nd : Node} {pc : PC} (hn : s.nodes n = some nd) (hN : n < N) {b : Nat}
    (hw : ∀ o, rOf s.rpc o = b + wRank o) (hsu : s.susp = none) (hpc : nd.pc = pc) (d : Name) (pc' : PC)
    (hb' : ∀ k y, (genStep inp s n nd d pc').nodes k = some y → k < N) (hC : pc'.iterC = pc.iterC)
    (h : nd.row inp n pc' < nd.row inp n pc) : MLt inp N (genStep inp s n nd d pc') s := by
  generalize hg : genStep inp s n nd d pc' = g at hb'
  cases genStep_spec hg with
  | fresh hd =>
    have hnd : n ≠ d := fun e => by rw [e, hd] at hn; cases hn
    have hd' : d < N := hb' d (mkNode inp d (nd.anc ++ [d])) (by
      show (setNode (setNode s d _) n _).nodes d = _
      rw [setNode_nodes, if_neg (Ne.symm hnd), setNode_nodes, if_pos rfl])
    have h1 := (upd_sums (inp := inp) (N := N) (s := setNode s d (mkNode inp d (nd.anc ++ [d]))) (n := n) (nd := nd)
      (by rw [setNode_nodes, if_neg hnd]; exact hn) hN { nd with pc := pc' } (SameM.of_nodes rfl)).1
    exact Or.inl (h1 ▸ L1_create hd hd' _)
  | cyclic hd ha =>
    refine mlt_same rfl ?_
    show _ + _ + _ + rOf s.rpc (some (.cyclic d)) < _ + _ + _ + rOf s.rpc s.susp
    rw [hsu, hw, hw]; exact Nat.add_lt_add_left (Nat.add_lt_add_left (Nat.lt_succ_self 2) _) _
  | known hd ha =>
    obtain ⟨hcal, hlin⟩ := pcMove_lt (N := N) inp n hpc pc' hC h
    exact mlt_upd hn hN (SameM.of_nodes rfl) (Or.inr ⟨hcal, Nat.add_lt_add_right hlin _⟩)

theorem nodeStep_mlt {s s' : Sys} {n : Name} {nd : Node} {perm : List Name} (hF : FiniteTable inp N)
    (hc : s.cur = some n) (hn : s.nodes n = some nd) (hN : n < N) {b : Nat} (hw : ∀ o, rOf s.rpc o = b + wRank o)
    (hsu : s.susp = none)
    (hb' : ∀ k y, s'.nodes k = some y → k < N)
    (hs : NodeStep inp s n nd perm s') : MLt inp N s' s := by
  -- around the node only `curW` and `wRank` change
  have outer : ∀ (x : Node) (w dp : List Name) (c : Option Name) (o : Option DOut), calOf N x = calOf N nd →
      linNode inp n x + (curW c + wRank o) < linNode inp n nd + 7 →
      MLt inp N { setNode s n x with waiting := w, dispatched := dp, cur := c, susp := o } s := by
    intro x w dp c o a h
    refine mlt_upd hn hN (SameM.of_nodes rfl) (Or.inr ⟨a, ?_⟩)
    have e1 : curW (some n) = 4 := rfl
    have e2 : wRank none = 3 := rfl
    simp only [restOf, setNode_ready, setNode_toRun, setNode_rpc, hc, hsu, hw]
    omega
  cases hs with
  | move hm =>
    obtain ⟨a, b⟩ := nodeMove_lt (N := N) hm
    exact outer _ _ _ _ _ a (by simp only [setNode_cur, setNode_susp, hc, hsu, curW, wRank]; omega)
  | park hp =>
    obtain ⟨a, b⟩ := nodePark_lt (N := N) hp
    exact outer _ _ _ _ _ a (by simp only [setNode_susp, hsu, curW, wRank]; omega)
  | yield1 hpc | yield2 hpc =>
    -- `wRank` keeps what `pcW` loses at `yield this_task`
    refine outer _ _ _ _ _ (calOf_setPc hpc rfl) (pcMove_add inp n hpc _ ?_)
    simp only [Node.row, pcW, setNode_cur, hc, curW, wRank]
    omega
  | calcGen hpc | taskGen hpc | setupGen hpc =>
    exact genStep_mlt hn hN hw hsu hpc _ _ hb' rfl (by simp only [Node.row, pcW, List.length_cons]; omega)
  | calcWait hpc => exact addWaitRun_mlt hn hN _ _ _ (waitNode_calc_lt hF s n nd hpc)
  | taskWait hpc | setupWait hpc =>
    exact addWaitRun_plain_mlt hn hN hpc _ _ rfl (by simp only [Node.row, pcW, List.length_nil]; omega)
  | done hpc =>
    refine mlt_same rfl ?_
    simp only [restOf, hc, hsu, hw, curW, wRank]; omega

theorem dtick_mlt {s s' : Sys} {perm : List Name} (hF : FiniteTable inp N) {b : Nat}
    (hw : ∀ o, rOf s.rpc o = b + wRank o) (hsu : s.susp = none)
    (hb : ∀ k y, s.nodes k = some y → k < N) (hb' : ∀ k y, s'.nodes k = some y → k < N)
    (hs : dtick inp s perm = some s') : MLt inp N s' s := by
  have hrest : restOf s = 5 * s.ready.length + s.toRun.length + curW s.cur + (b + 3) := by
    simp only [restOf, hsu, hw, wRank]
  -- the generator ends or raises: `wRank` drops from 3 to 2
  have ends : ∀ o : DOut, wRank (some o) = 2 → MLt inp N { s with susp := some o } s := by
    intro o ho
    refine mlt_same rfl ?_
    rw [hrest]; simp only [restOf, hw, ho]; omega
  cases dtick_spec hs with
  | lost hc hn => exact ends .crash rfl
  | node hc hn hst => exact nodeStep_mlt hF hc hn (hb _ _ hn) hw hsu hb' hst
  | pop hc hrd =>
    refine mlt_same rfl ?_
    rw [hrest]; simp only [restOf, hsu, hw, hc, hrd, curW, wRank, List.length_cons]; omega
  | create hc hrd htr ht =>
    exact Or.inl (L1_create ht (hb' _ (mkNode inp _ [_]) (by
      show (setNode s _ _).nodes _ = _; rw [setNode_nodes, if_pos rfl])) _)
  | skip hc hrd htr ht =>
    refine mlt_same rfl ?_
    rw [hrest]; simp only [restOf, hsu, hw, hc, htr, curW, wRank, List.length_cons]; omega
  | deadlock => exact ends (.cyclic _) rfl
  | holdOn => exact ends .holdOn rfl
  | stopIter => exact ends .stopIter rfl

end DoitModel.Run
