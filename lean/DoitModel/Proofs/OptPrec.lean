import DoitModel.Proofs.OptValues
/-! M4: defaults, environment, command line — the value `parse` gives an option is the specification's -/
namespace DoitModel.Opt

theorem initParams_nd (st : List Opt) (p : Params) : (initParams st p).nd = p.nd := by
  induction st generalizing p with
  | nil => rfl
  | cons a r ih => simp [initParams, ih, Params.setDefault]

theorem initParams_other (st : List Opt) (p : Params) (n : Str) (h : n ∉ st.map (·.name)) :
    (initParams st p).vals n = p.vals n := by
  induction st generalizing p with
  | nil => rfl
  | cons a r ih =>
    simp only [List.map_cons, List.mem_cons, not_or] at h
    simp [initParams, ih _ h.2, Params.setDefault, h.1]

theorem initParams_vals (st : List Opt) (hnd : (st.map (·.name)).Nodup) (p : Params) (o : Opt) (ho : o ∈ st) :
    (initParams st p).vals o.name = some o.default := by
  induction st generalizing p with
  | nil => cases ho
  | cons a r ih =>
    simp only [List.map_cons, List.nodup_cons] at hnd
    rcases List.mem_cons.mp ho with e | m
    · subst e; simp [initParams, initParams_other r _ _ hnd.1, Params.setDefault]
    · simp [initParams, ih hnd.2 _ m]

theorem applyEnv_other (env) (st : List Opt) (p p' : Params) (n : Str) (h : n ∉ st.map (·.name))
    (he : applyEnv env st p = .ok p') : p'.vals n = p.vals n ∧ p'.nd n = p.nd n := by
  induction st generalizing p with
  | nil => simp [applyEnv] at he; subst he; exact ⟨rfl, rfl⟩
  | cons a r ih =>
    simp only [List.map_cons, List.mem_cons, not_or] at h
    unfold applyEnv at he
    split at he
    · exact ih _ h.2 he
    · split at he
      · cases he
      · have := ih _ h.2 he
        simpa [Params.set, h.1] using this

theorem applyEnv_effect (env) (st : List Opt) (hnd : (st.map (·.name)).Nodup) (o : Opt) (ho : o ∈ st)
    (p p' : Params) (he : applyEnv env st p = .ok p') :
    match envOf env o with
    | some s => ∃ v, str2type o s = .ok v ∧ p'.vals o.name = some v ∧ p'.nd o.name = true
    | none => p'.vals o.name = p.vals o.name ∧ p'.nd o.name = p.nd o.name := by
  induction st generalizing p with
  | nil => cases ho
  | cons a r ih =>
    simp only [List.map_cons, List.nodup_cons] at hnd
    unfold applyEnv at he
    rcases List.mem_cons.mp ho with e | m
    · subst e
      unfold envOf
      split at he
      · next hn => rw [hn]; exact applyEnv_other env r _ _ _ hnd.1 he
      · next s hs =>
        rw [hs]
        split at he
        · cases he
        · next v hv =>
          have := applyEnv_other env r _ _ _ hnd.1 he
          exact ⟨v, hv, by simp [this.1, Params.set], by simp [this.2, Params.set]⟩
    · have hne : o.name ≠ a.name := by
        intro e; apply hnd.1; rw [← e]; exact List.mem_map_of_mem m
      split at he
      · exact ih hnd.2 m _ he
      · split at he
        · cases he
        · have := ih hnd.2 m _ he
          revert this
          cases envOf env o <;> simp [Params.set, hne]

theorem env_value (env) (st : List Opt) (hnd : (st.map (·.name)).Nodup) (o : Opt) (ho : o ∈ st) (p0 : Params)
    (he : applyEnv env st (initParams st Params.empty) = .ok p0) :
    ∃ bv, baseValue o (envOf env o) none = .ok bv ∧ p0.vals o.name = some bv ∧
      p0.nd o.name = (envOf env o).isSome := by
  have henv := applyEnv_effect env st hnd o ho _ p0 he
  cases hev : envOf env o with
  | some s =>
    rw [hev] at henv
    obtain ⟨bv, hbv, hv0, hnd0⟩ := henv
    exact ⟨bv, hbv, hv0, hnd0⟩
  | none =>
    rw [hev] at henv
    exact ⟨o.default, rfl, henv.1.trans (initParams_vals st hnd _ o ho), henv.2.trans (by rw [initParams_nd]; rfl)⟩

/-- the command-line branch of `specValue` with the value before the command line already converted
    (`specValue_cmd`).  The model's `cmdLineValue` is the same with that value still an `Except` and no occurrence an
    error; `cmdText` is the case of one occurrence on the declared default. -/
def cmdValue (o : Opt) (base : Val) (occ : List (Bool × Str)) : Except Err Val :=
  match occ.getLast? with
  | none => .ok base
  | some (inv, v) =>
    match o.ty with
    | .bool => .ok (.b (!inv))
    | .list => listAfter base (occ.map (·.2))
    | .int => str2type o v
    | .str => str2type o v

theorem cmdValue_cons (o : Opt) (base v1 : Val) (x : Bool × Str) (rest : List (Bool × Str))
    (h : occStep o (some base) x = .ok v1) : cmdValue o base (x :: rest) = cmdValue o v1 rest := by
  obtain ⟨inv, t⟩ := x
  unfold occStep at h
  have hlist : o.ty = .list → ∃ xs, base = .l xs ∧ v1 = .l (xs ++ [t]) := by
    intro hty
    rw [hty] at h
    cases base with
    | l xs => exact ⟨xs, rfl, (Except.ok.inj h).symm⟩
    | _ => cases h
  unfold cmdValue
  cases rest with
  | nil =>
    -- a single occurrence: the closed form is the step itself
    rw [List.getLast?_singleton, List.getLast?_nil]
    cases hty : o.ty with
    | list => obtain ⟨xs, rfl, rfl⟩ := hlist hty; rfl
    | bool => rw [hty] at h; exact h
    | int => rw [hty] at h; exact h
    | str => rw [hty] at h; exact h
  | cons y r =>
    -- a later occurrence decides and neither side looks at the value before, except for a list:
    -- `xs ++ t :: ts = (xs ++ [t]) ++ ts`
    rw [List.getLast?_cons_cons, List.getLast?_eq_some_getLast (List.cons_ne_nil y r)]
    cases hty : o.ty with
    | list =>
      obtain ⟨xs, rfl, rfl⟩ := hlist hty
      exact congrArg (fun l => Except.ok (Val.l l)) (List.append_assoc xs [t] _).symm
    | bool => rfl
    | int => rfl
    | str => rfl

theorem occResult_cmdValue (o : Opt) (base : Val) (occ : List (Bool × Str)) (r : Option Val)
    (h : occResult o (some base) occ = .ok r) : ∃ v, r = some v ∧ cmdValue o base occ = .ok v := by
  induction occ generalizing base with
  | nil => cases h; exact ⟨base, rfl, rfl⟩
  | cons x rest ih =>
    unfold occResult at h
    cases hv : occStep o (some base) x with
    | error e => simp only [hv] at h; cases h
    | ok v1 =>
      simp only [hv] at h
      obtain ⟨v, hr, hc⟩ := ih v1 h
      exact ⟨v, hr, (cmdValue_cons o base v1 x rest hv).trans hc⟩

theorem specValue_cmd (o : Opt) (occ : List (Bool × Str)) (envv : Option Str) (iniv : Option CfgVal) (base : Val)
    (hb : baseValue o envv iniv = .ok base) : specValue o occ envv none iniv = cmdValue o base occ := by
  unfold specValue cmdValue
  cases occ.getLast? with
  | none => cases envv <;> exact hb
  | some last =>
    simp only [hb]
    cases o.ty <;> rfl

theorem parse_value (st : PState) (hnd : (st.map (·.name)).Nodup) (env : Str → Option Str) (argv : List Str)
    (p : Params) (pos : List Str) (h : (parse false st env argv).2 = .ok (p, pos)) :
    ∃ ps, getopt st argv = .ok (ps, pos) ∧ ∀ o ∈ st,
      ∃ v, specValue o (occurrences st o ps) (envOf env o) none none = .ok v ∧ p.vals o.name = some v ∧
        p.nd o.name = ((envOf env o).isSome || !(occurrences st o ps).isEmpty) := by
  rw [parse_eq] at h
  cases he : applyEnv env st (initParams st Params.empty) with
  | error e => simp only [he] at h; cases h
  | ok p0 =>
    cases hg : getopt st argv with
    | error e => simp only [he, hg] at h; cases h
    | ok r =>
      obtain ⟨ps, pos'⟩ := r
      cases hap : (applyPairs false ps st p0).2 with
      | error e => simp only [he, hg, hap] at h; cases h
      | ok p1 =>
        simp only [he, hg, hap] at h
        cases h
        refine ⟨ps, rfl, fun o ho => ?_⟩
        obtain ⟨bv, hb, hv0, hnd0⟩ := env_value env st hnd o ho p0 he
        obtain ⟨hr, hndv⟩ := applyPairs_effect st hnd o ho ps p0 p hap
        rw [hv0] at hr
        obtain ⟨v, hv, hcv⟩ := occResult_cmdValue o bv _ _ hr
        exact ⟨v, (specValue_cmd o _ _ none bv hb).trans hcv, hv, by rw [hndv, hnd0]⟩

end DoitModel.Opt
