import DoitModel.Proofs.C12Cut
import DoitModel.Proofs.RunnerSpec
/-! # C12 — while only members of a prefix `pre` of the selection have been popped from `tasks_to_run`, every node
    belongs to the dependency closure of `pre` (`Cl (cutSel inp pre)`) -/
namespace DoitModel.Run

variable {inp : RunInput} {pre : List Name}

/-- every node satisfies the closure obligations of `Proofs/RunClosure.lean` with respect to the prefix -/
def AllNCl (inp : RunInput) (pre : List Name) (s : Sys) : Prop :=
  ∀ k y, s.nodes k = some y → NCl (cutSel inp pre) k y

theorem AllNCl.of_eq {s s' : Sys} (h : AllNCl inp pre s) (e : s'.nodes = s.nodes) : AllNCl inp pre s' := by
  intro k y hk; rw [e] at hk; exact h k y hk

theorem dtick_eq_nodeStep {s : Sys} {perm : List Name} {n : Name} {nd : Node} (hc : s.cur = some n)
    (hn : s.nodes n = some nd) : dtick inp s perm = nodeStep inp s n nd perm := by
  simp only [dtick, hc, hn]

theorem dtick_ncl {s s' : Sys} {perm : List Name} (h : AllNCl inp pre s)
    (hpop : ∀ t rest, s.toRun = t :: rest → s.cur = none → s.ready = [] → Cl (cutSel inp pre) t)
    (hs : dtick inp s perm = some s') : AllNCl inp pre s' := by
  cases dtick_spec hs with
  | node hc hn _ =>
    exact nodeStep_ncl (inp := cutSel inp pre) h hn (by rw [nodeStep_cut, ← dtick_eq_nodeStep hc hn]; exact hs)
  | @create t ts hc hrd htr _ =>
    exact AllNCl.of_eq (ncl_setNode h (mkNode_ncl (inp := cutSel inp pre) [t] (hpop t ts htr hc hrd))) rfl
  | lost | pop | skip | deadlock | holdOn | stopIter => exact h.of_eq rfl

theorem status_ncl {s s' : Sys} {n : Name} {nd : Node} (st' : RS) (h : AllNCl inp pre s) (hn : s.nodes n = some nd)
    (hrun : st' = .run → nd.status = .run ∨ MayRun inp n)
    (e : s'.nodes = (setNode s n { nd with status := st' }).nodes) : AllNCl inp pre s' := by
  have hnd := h n nd hn
  have hx : NCl (cutSel inp pre) n { nd with status := st' } :=
    ⟨hnd.self, hnd.dt, hnd.dc, hnd.pt, hnd.pcalc, hnd.st, hnd.sc, hnd.pcl, fun a => by
      rcases hrun a with b | b
      · exact hnd.run b
      · exact b⟩
  exact AllNCl.of_eq (ncl_setNode h hx) e

theorem serialStep_ncl {s s' : Sys} {perm : List Name} (h : AllNCl inp pre s)
    (hpop : ∀ t rest, s.toRun = t :: rest → s.rpc = .sWait → s.susp = none → s.cur = none → s.ready = [] →
      Cl (cutSel inp pre) t)
    (hs : serialStep inp s perm = some s') : AllNCl inp pre s' := by
  -- `select_task` sets the status `run` only for a task that may run
  have selRun : ∀ {n nd d}, selDecision inp n nd = d → selStatus d = .run → nd.status = .run ∨ MayRun inp n :=
    fun hd e => (Decidable.em _).imp_right fun hst => sel_mayRun hst (hd ▸ e)
  cases serialStep_spec hs with
  | stop | stopIter | finish | lost | assertFail | cyclic | holdOn | crash | execLost => exact h.of_eq rfl
  | @send _ s0 _ _ hsd =>
    exact AllNCl.of_eq (s := s0) (send_nclNodes (inp := cutSel inp pre) h (by rw [send_cut]; exact hsd)) rfl
  | tick hr hsu hs => exact dtick_ncl h (fun t rest a b c => hpop t rest a hr hsu b c) hs
  | @go n nd _ _ hn hd =>
    exact status_ncl (selStatus .go) h hn (selRun hd) (applySel_nodes inp s n nd .go nofun)
  | @select n nd d _ _ hn hd _ h2 =>
    exact status_ncl (selStatus d) h hn (selRun hd) (applySel_nodes inp s n nd d h2)
  | @result n nd _ hn =>
    refine status_ncl (resStatus (inp.outcome n)) h hn (fun e => ?_) (processResult_nodes inp _ n nd)
    generalize inp.outcome n = o at e
    cases o <;> cases e

end DoitModel.Run
