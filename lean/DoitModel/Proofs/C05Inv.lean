import DoitModel.Proofs.C05Shape
import DoitModel.Model.RunFail
/-! # C05 — the invariant `InvF`: reports agree with statuses, an up-to-date task has only good dependencies,
    `--continue` never sets `_stop_running` -/
namespace DoitModel.Run

theorem closed_calcOf {inp : RunInput} {t : Name} {cs deps : List Name} (hc : DepsClosed inp t cs deps) {c : Name}
    (h : CalcOf inp t c) : c ∈ cs := by
  induction h with
  | base h => exact hc.1 _ h
  | step _ h ih => exact (hc.2.2 _ ih).1 _ h

/-- a closed dependency list contains every non-setup dependency except possibly static task_deps -/
theorem closed_depNS {inp : RunInput} {t : Name} {cs deps : List Name} (hc : DepsClosed inp t cs deps) {d : Name}
    (h : DepNS inp t d) : d ∈ inp.taskDep t ∨ d ∈ deps := by
  cases h with
  | task h => exact Or.inl h
  | ofCalc h => exact Or.inr (hc.2.1 _ (closed_calcOf hc h))
  | resTask h h' => exact Or.inr ((hc.2.2 _ (closed_calcOf hc h)).2.1 _ h')
  | resFile h h' => exact Or.inr ((hc.2.2 _ (closed_calcOf hc h)).2.2 _ h')

/-- reports agree with statuses: `fl` / `ut` / `ok` a failure / up-to-date / success report goes with that status (`ok`: and
    with a `go`); `fe` a failed task has a failure report; `ud` an up-to-date task has `effStatus = utd` and only good
    non-setup dependencies; `st` `--continue` never sets `_stop_running` -/
structure InvF (inp : RunInput) (s : Sys) : Prop where
  fl : ∀ n k, Ev.failure n k ∈ s.events → stOf s n = .fail
  ut : ∀ n, Ev.skipUtd n ∈ s.events → stOf s n = .utd
  ok : ∀ n, Ev.success n ∈ s.events → stOf s n = .ok ∧ ∃ deps, Ev.go n deps ∈ s.events
  ud : ∀ n, stOf s n = .utd → effStatus inp n = .utd ∧ ∀ d, DepNS inp n d → (stOf s d).good = true
  st : inp.continue_ = true → s.stop = false
  fe : ∀ n, stOf s n = .fail → ∃ k, Ev.failure n k ∈ s.events

/-- the calc members are all good, hence have delivered -/
theorem loop_deps_closed {inp : RunInput} {s : Sys} {n : Name} {nd : Node} (h : Inv2 inp s) (hg : InvG inp s)
    (hsusp : s.susp = some (.node n)) (hn : s.nodes n = some nd) (hb : nd.bad = []) (hi : nd.ign = []) :
    DepsClosed inp n nd.dynCalc (nd.dynTask ++ nd.dynCalc) := by
  have hok := h.inv1.node n nd hn
  obtain ⟨nd', hn', hpc⟩ := h.inv1.sp n hsusp
  rw [hn] at hn'; cases hn'
  have hm1 : nd.pendTask = [] ∧ nd.pendCalc = [] ∧ nd.waitRunCalc = [] := by
    rcases hpc with e | e <;> exact hok.m1 (by rw [e]; rfl)
  have noC : nd.pc.iterC = false := by rcases hpc with e | e <;> (rw [e]; rfl)
  refine ⟨hok.st.2, fun c hc => List.mem_append_right _ hc, fun c hc => ?_⟩
  have hpr : Processed nd c := ⟨by rw [hm1.2.1]; exact List.not_mem_nil,
    (fun (e : nd.pc.iterC = true ∧ c ∈ nd.snapCalc) => by rw [noC] at e; cases e.1),
    by rw [hm1.2.2]; exact List.not_mem_nil⟩
  obtain ⟨d1, d2, d3⟩ := hg.dc n nd hn c hc hpr (loop_deps_good h hsusp hn hb hi c (List.mem_append_right _ hc))
  exact ⟨d3, fun x hx => List.mem_append_left _ (d1 x hx), fun x hx => List.mem_append_left _ (d2 x hx)⟩

theorem utd_deps_good {inp : RunInput} {s : Sys} {n : Name} {nd : Node} (h : Inv2 inp s) (hg : InvG inp s)
    (hsusp : s.susp = some (.node n)) (hn : s.nodes n = some nd) (hd : selDecision inp n nd = .utd) :
    effStatus inp n = .utd ∧ ∀ d, DepNS inp n d → (stOf s d).good = true := by
  cases selDecision_spec.of_eq hd with
  | utd _ hi _ hb _ heff =>
    have good := loop_deps_good h hsusp hn hb hi
    refine ⟨heff, fun d hdn => ?_⟩
    rcases closed_depNS (loop_deps_closed h hg hsusp hn hb hi) hdn with a | a
    · exact good d (List.mem_append_left _ ((h.inv1.node n nd hn).st.1 d a))
    · exact good d a

theorem init_invF (inp : RunInput) : InvF inp (init inp) := by
  constructor
  · intro n k h; simp [init] at h
  · intro n h; simp [init] at h
  · intro n h; simp [init] at h
  · intro n h; simp [init, stOf] at h
  · intro _; rfl
  · intro n h; simp [init, stOf] at h

theorem quiet_not {new : List Ev} (hq : ∀ e ∈ new, e.quiet = true) :
    (∀ n k, Ev.failure n k ∉ new) ∧ (∀ n, Ev.skipUtd n ∉ new) ∧ (∀ n, Ev.success n ∉ new) := by
  refine ⟨fun n k h => ?_, fun n h => ?_, fun n h => ?_⟩ <;> (have := hq _ h; simp [Ev.quiet] at this)

theorem mem_go_mono {new old : List Ev} {n : Name} (h : ∃ deps, Ev.go n deps ∈ old) :
    ∃ deps, Ev.go n deps ∈ new ++ old := by
  obtain ⟨deps, hd⟩ := h; exact ⟨deps, List.mem_append.mpr (Or.inr hd)⟩

/-- a transition that sets the status of the unfinished task `m` to `st'` and whose terminal reports are those of `m`
    with that status -/
theorem invF_report {inp : RunInput} {s s' : Sys} (h : InvF inp s) {m : Name} {st' : RS} {new : List Ev}
    (hunf : (stOf s m).finished = false) (hst : ∀ x, stOf s' x = if x = m then st' else stOf s x)
    (hev : s'.events = new ++ s.events) (hstop : inp.continue_ = true → s'.stop = s.stop)
    (nf : ∀ n k, Ev.failure n k ∈ new → n = m ∧ st' = .fail) (nu : ∀ n, Ev.skipUtd n ∈ new → n = m ∧ st' = .utd)
    (ns : ∀ n, Ev.success n ∈ new → n = m ∧ st' = .ok ∧ ∃ deps, Ev.go m deps ∈ s.events)
    (fe : st' = .fail → ∃ k, Ev.failure m k ∈ new)
    (ud : st' = .utd → effStatus inp m = .utd ∧ ∀ d, DepNS inp m d → (stOf s d).good = true) : InvF inp s' := by
  have hm : stOf s' m = st' := (hst m).trans (if_pos rfl)
  have keep : ∀ x, (stOf s x).finished = true → stOf s' x = stOf s x := by
    intro x hx
    by_cases e : x = m
    · subst e; rw [hunf] at hx; cases hx
    · exact (hst x).trans (if_neg e)
  have old : ∀ {x st}, stOf s x = st → st.finished = true → stOf s' x = st :=
    fun hx hf => (keep _ (by rw [hx]; exact hf)).trans hx
  have good : ∀ {x}, (effStatus inp x = .utd ∧ ∀ d, DepNS inp x d → (stOf s d).good = true) →
      (effStatus inp x = .utd ∧ ∀ d, DepNS inp x d → (stOf s' d).good = true) :=
    fun ⟨a, b⟩ => ⟨a, fun d hd => by rw [keep d (RS.good_finished (b d hd))]; exact b d hd⟩
  refine ⟨fun n k hmem => ?_, fun n hmem => ?_, fun n hmem => ?_, fun n hnu => ?_,
    fun hc => (hstop hc).trans (h.st hc), fun n hn => ?_⟩
  · rcases List.mem_append.mp (hev ▸ hmem) with a | a
    · obtain ⟨rfl, e⟩ := nf n k a; exact hm.trans e
    · exact old (h.fl n k a) rfl
  · rcases List.mem_append.mp (hev ▸ hmem) with a | a
    · obtain ⟨rfl, e⟩ := nu n a; exact hm.trans e
    · exact old (h.ut n a) rfl
  · rw [hev]
    rcases List.mem_append.mp (hev ▸ hmem) with a | a
    · obtain ⟨rfl, e, hg⟩ := ns n a; exact ⟨hm.trans e, mem_go_mono hg⟩
    · exact ⟨old (h.ok n a).1 rfl, mem_go_mono (h.ok n a).2⟩
  · by_cases e : n = m
    · subst e; exact good (ud (hm.symm.trans hnu))
    · rw [hst n, if_neg e] at hnu; exact good (h.ud n hnu)
  · rw [hev]
    by_cases e : n = m
    · subst e; obtain ⟨k, hk⟩ := fe (hm.symm.trans hn); exact ⟨k, List.mem_append_left _ hk⟩
    · rw [hst n, if_neg e] at hn
      obtain ⟨k, hk⟩ := h.fe n hn; exact ⟨k, List.mem_append_right _ hk⟩

theorem invF_step {inp : RunInput} {s s' : Sys} (h : InvF inp s) (h2 : Inv2 inp s) (hg : InvG inp s)
    (sh : Shape inp s s') : InvF inp s' := by
  cases sh with
  | quiet new hst hev hq hstop =>
    obtain ⟨q1, q2, q3⟩ := quiet_not hq
    have old : ∀ {e}, e ∈ s'.events → (e ∈ new → False) → e ∈ s.events :=
      fun he hn => (List.mem_append.mp (hev ▸ he)).resolve_left hn
    refine ⟨fun n k hm => ?_, fun n hm => ?_, fun n hm => ?_, fun n hn => ?_, fun hc => hstop.trans (h.st hc),
      fun n hn => ?_⟩
    · rw [hst]; exact h.fl n k (old hm (q1 n k))
    · rw [hst]; exact h.ut n (old hm (q2 n))
    · rw [hst, hev]; exact ⟨(h.ok n (old hm (q3 n))).1, mem_go_mono (h.ok n (old hm (q3 n))).2⟩
    · rw [hst] at hn
      exact ⟨(h.ud n hn).1, fun d hd => by rw [hst]; exact (h.ud n hn).2 d hd⟩
    · rw [hst] at hn; rw [hev]
      exact (h.fe n hn).imp fun k hk => List.mem_append_right _ hk
  | select m md extra haw hsusp hn hd hst hev hq hstop =>
    obtain ⟨q1, q2, q3⟩ := quiet_not hq
    refine invF_report h (by simp only [stOf, hn]; exact selDecision_unfinished hd) hst
      (new := extra ++ selEvents inp m md (selDecision inp m md)) (by rw [hev, List.append_assoc]) hstop
      (fun n k a => ?_) (fun n a => ?_) (fun n a => ?_)
      (fun e => (selEvents_of_fail e).imp fun k hk => List.mem_append_right _ hk)
      (fun e => utd_deps_good h2 hg hsusp hn (selStatus_utd e))
    · have b := selEvents_failure ((List.mem_append.mp a).resolve_left (q1 n k)); exact ⟨b.1, b.2.1⟩
    · have b := selEvents_skipUtd ((List.mem_append.mp a).resolve_left (q2 n)); exact ⟨b.1, by rw [b.2]; rfl⟩
    · exact absurd ((List.mem_append.mp a).resolve_left (q3 n)) selEvents_success
  | result m md mid hn hrun hgo hst hev hq hstop =>
    obtain ⟨q1, q2, q3⟩ := quiet_not hq
    refine invF_report h (by simp only [stOf, hn, hrun]; rfl) hst
      (new := resEvents m (inp.outcome m) ++ mid) (by rw [hev, List.append_assoc]) hstop
      (fun n k a => ?_) (fun n a => ?_) (fun n a => ?_)
      (fun e => (resEvents_of_fail e).imp fun k hk => List.mem_append_left _ hk)
      (fun e => by rcases resStatus_cases (inp.outcome m) with x | x <;> (rw [x] at e; cases e))
    · have b := resEvents_failure ((List.mem_append.mp a).resolve_right (q1 n k)); exact ⟨b.1, b.2.1⟩
    · rcases mem_resEvents ((List.mem_append.mp a).resolve_right (q2 n)) with ⟨e, _⟩ | ⟨_, e, _⟩ <;> cases e
    · have b := resEvents_success ((List.mem_append.mp a).resolve_right (q3 n)); exact ⟨b.1, b.2, hgo⟩

theorem finBefore_good {inp : RunInput} {s : Sys} (hF : InvF inp s) {d : Name} (h : finBefore s.events d) :
    (stOf s d).good = true := by
  rcases h with a | a
  · rw [(hF.ok d a).1]; rfl
  · rw [hF.ut d a]; rfl

theorem reach_invF {inp : RunInput} {s : Sys} (h : Reach inp s) : InvF inp s :=
  Move.reach (fun hr => reach_invG hr) (init_invF inp) (fun h2 h3 hG ih m => invF_step ih h2 hG (m.shape h2 h3)) h

theorem preach_invF {inp : RunInput} {s : Sys} (h : PReach inp s) : InvF inp s :=
  Move.preach (fun hr => preach_invG hr) (init_invF inp) (fun h2 h3 hG ih m => invF_step ih h2 hG (m.shape h2 h3)) h

end DoitModel.Run
