import DoitModel.Proofs.DelayedWF
/-! # Delayed creation: the target rule (structural core)

`RxOK`: a task object that belongs to a regex group `g` (a `_regex_target…` placeholder or the creator's own task
selected through its `target_regex`) either still carries its loader and has the command-line word among its
file_deps, or — once it is `DelayedLoaded` — has the task that owns the word as a target among its task_deps, unless
other loaders of the group are still to be tried.  `TgtInv`: that for every table entry and every node in every
state that did not raise, and `notFound x` is raised only while nobody has registered `x`. -/
namespace DoitModel.Delayed
open DoitModel.Run (RS Name)

def NoErr (s : Sys) : Prop := ∀ e, s.susp ≠ .err e

def RxOK (inp : Input) (s : Sys) (g : GId) (td : TDef) : Prop :=
  (td.loader ≠ none → inp.gtarget g ∈ td.fileDep) ∧
  (td.loader = none → (∃ o, s.targets (inp.gtarget g) = some o ∧ o ∈ td.deps) ∨ s.gtasks g ≠ [])

structure TgtOK (inp : Input) (s : Sys) : Prop where
  tab : ∀ n td g, s.tasks n = some td → td.rx = some g → RxOK inp s g td
  node : ∀ n nd g, s.nodes n = some nd → nd.task.rx = some g → RxOK inp s g nd.task

structure TgtInv (inp : Input) (s : Sys) : Prop where
  nf : ∀ x, s.susp = .err (.notFound x) → s.targets x = none ∧ ∃ g, inp.gtarget g = x ∧ s.gtasks g = []
  ok : NoErr s → TgtOK inp s

variable {inp : Input} {s s' : Sys} {n : Name} {nd : Node} {l : LId} {perm : List Name}

theorem RxOK.transfer {g : GId} {td : TDef} (h : RxOK inp s g td)
    (ht : ∀ x o, s.targets x = some o → s'.targets x = some o) (hg : s.gtasks g ≠ [] → s'.gtasks g ≠ []) :
    RxOK inp s' g td := by
  refine ⟨h.1, fun hl => ?_⟩
  rcases h.2 hl with ⟨o, h1, h2⟩ | h1
  · exact Or.inl ⟨o, ht _ _ h1, h2⟩
  · exact Or.inr (hg h1)

theorem RxOK.congr {g : GId} {td : TDef} (h : RxOK inp s g td)
    (ht : s'.targets = s.targets) (hg : s'.gtasks = s.gtasks) : RxOK inp s' g td :=
  h.transfer (fun x o hx => by rw [ht]; exact hx) (fun hx => by rw [hg]; exact hx)

theorem TgtOK.quiet (h : TgtOK inp s) (q : Quiet s s') (ht : s'.targets = s.targets)
    (hg : s'.gtasks = s.gtasks) : TgtOK inp s' := by
  constructor
  · intro n td g hn hr
    rw [q.tasks] at hn
    exact (h.tab n td g hn hr).congr ht hg
  · intro n nd' g hn hr
    rcases q.nodes n nd' hn with ⟨nd, h1, h2⟩ | h1
    · rw [h2] at hr ⊢; exact (h.node n nd g h1 hr).congr ht hg
    · exact (h.tab n _ g h1 hr).congr ht hg

theorem TgtInv.of_err {s' : Sys} {e : Err} (he : s'.susp = .err e)
    (hnf : ∀ x, e = .notFound x → s'.targets x = none ∧ ∃ g, inp.gtarget g = x ∧ s'.gtasks g = []) :
    TgtInv inp s' :=
  ⟨fun x hx => hnf x (by rw [he] at hx; cases hx; rfl), fun hne => absurd he (hne e)⟩

theorem regTargets_ext : ∀ (ps : List (Name × Name)) (t tg : Name → Option Name), regTargets t ps = some tg →
    ∀ x o, t x = some o → tg x = some o := by
  intro ps
  induction ps with
  | nil => intro t tg h x o hx; simp only [regTargets] at h; cases h; exact hx
  | cons p r ih =>
    intro t tg h x o hx
    obtain ⟨f, o'⟩ := p
    simp only [regTargets] at h
    cases hf : t f with
    | some y => simp [hf] at h
    | none =>
      simp only [hf] at h
      refine ih _ tg h x o ?_
      by_cases hxf : x = f
      · subst hxf; rw [hf] at hx; cases hx
      · simpa [hxf] using hx

theorem implicitDeps_sub (targets : Name → Option Name) :
    ∀ (fs deps : List Name) (d : Name), d ∈ deps → d ∈ implicitDeps targets deps fs := by
  intro fs
  induction fs with
  | nil => intro deps d hd; exact hd
  | cons f fs ih =>
    intro deps d hd
    simp only [implicitDeps]
    split
    · split
      · exact ih _ _ hd
      · exact ih _ _ (List.mem_append_left _ hd)
    · exact ih _ _ hd

theorem implicitDeps_mem (targets : Name → Option Name) :
    ∀ (fs deps : List Name) (f o : Name), f ∈ fs → targets f = some o → o ∈ implicitDeps targets deps fs := by
  intro fs
  induction fs with
  | nil => intro deps f o hf _; cases hf
  | cons f' fs ih =>
    intro deps f o hf ht
    rcases List.mem_cons.mp hf with h1 | h1
    · subst h1
      simp only [implicitDeps, ht]
      split
      · rename_i ho; exact implicitDeps_sub _ _ _ _ ho
      · exact implicitDeps_sub _ _ _ _ (List.mem_append_right _ (List.mem_singleton.mpr rfl))
    · simp only [implicitDeps]
      split
      · split
        · exact ih _ f o h1 ht
        · exact ih _ f o h1 ht
      · exact ih _ f o h1 ht

theorem tgt_evalCreator {b : Bool} (tname : Name) (h : TgtOK inp s) :
    TgtOK inp (evalCreator inp s l tname b) := by
  unfold evalCreator
  cases hr : regTargets s.targets (targetPairs (inp.make (inp.creatorOf l) tname)) with
  | none => exact ⟨h.tab, h.node⟩
  | some tg =>
    have hext := regTargets_ext _ _ _ hr
    constructor
    · intro n td g hn hg
      exact (h.tab n td g (insertNew_rx _ _ _ _ _ _ _ hn hg) hg).transfer hext (fun x => x)
    · intro n nd g hn hg
      exact (h.node n nd g hn hg).transfer hext (fun x => x)

theorem tgt_finishLoader {tk' : TDef}
    (h : TgtOK inp s) (htk : ∀ g, tk'.rx = some g → RxOK inp s g tk') (hf : FinLoaderSpec s n nd l tk' s') :
    TgtOK inp s' := by
  cases hf with
  | crash _ => exact ⟨h.tab, h.node⟩
  | same cur hc _ =>
    constructor
    · intro k td g hk hg
      rcases upd_some hk with ⟨_, rfl⟩ | ⟨_, hk⟩
      · exact (htk g hg).congr rfl rfl
      · exact (h.tab k td g hk hg).congr rfl rfl
    · intro k nd' g hk hg
      rcases upd_some hk with ⟨_, rfl⟩ | ⟨_, hk⟩
      · exact (htk g hg).congr rfl rfl
      · exact (h.node k nd' g hk hg).congr rfl rfl
  | other cur hc _ =>
    refine ⟨fun k td g hk hg => (h.tab k td g hk hg).congr rfl rfl, fun k nd' g hk hg => ?_⟩
    rcases upd_some hk with ⟨rfl, rfl⟩ | ⟨_, hk⟩
    · exact (h.tab _ cur g hc hg).congr rfl rfl
    · exact (h.node k nd' g hk hg).congr rfl rfl

theorem tgtInv_finishLoader {tk' : TDef}
    (h : TgtOK inp s) (hne : NoErr s) (htk : ∀ g, tk'.rx = some g → RxOK inp s g tk')
    (hf : FinLoaderSpec s n nd l tk' s') : TgtInv inp s' := by
  refine ⟨fun x hx => ?_, fun _ => tgt_finishLoader h htk hf⟩
  rcases hf.susp with h1 | h1
  · rw [h1] at hx; exact absurd hx (hne _)
  · rw [h1] at hx; cases hx

theorem tgt_afterCreate (h : TgtOK inp s) (hne : NoErr s)
    (hn : s.nodes n = some nd) (hl : nd.task.loader ≠ none) (ha : AfterCreateSpec inp s n nd l s') :
    TgtInv inp s' := by
  cases ha with
  | plain hrx =>
    exact tgtInv_finishLoader h hne (fun g (hg : (mutated s nd.task).rx = some g) => nomatch hrx.symm.trans hg) finishLoader_spec
  | raised g r e hrx hr he =>
    cases hr with
    | found o _ => exact absurd he (hne e)
    | crash => exact TgtInv.of_err (e := .crash) rfl nofun
    | exhausted ht =>
      exact TgtInv.of_err (e := .notFound (inp.gtarget g)) rfl (fun x hx => by cases hx; exact ⟨ht, g, rfl, if_pos rfl⟩)
    | next b _ => exact absurd he (hne e)
  | rx g r hrx hr hno =>
    have hfd : inp.gtarget g ∈ nd.task.fileDep := (h.node n nd g hn hrx).1 hl
    -- the placeholder after the reset: the producer of the word among its task_deps, or the group not exhausted
    have hreset : ∀ r : Sys, r.tasks = s.tasks → r.nodes = s.nodes → r.susp = s.susp →
        (∀ g' td, RxOK inp s g' td → RxOK inp r g' td) →
        ((∃ o, r.targets (inp.gtarget g) = some o ∧ s.targets (inp.gtarget g) = some o) ∨ r.gtasks g ≠ []) →
        TgtInv inp (finishLoader r n nd l (mutated s nd.task)) := by
      intro r ht hnn hsu hmono hg
      refine tgtInv_finishLoader ⟨fun k td g' hk hg' => hmono _ _ (h.tab k td g' (ht ▸ hk) hg'),
        fun k nd' g' hk hg' => hmono _ _ (h.node k nd' g' (hnn ▸ hk) hg')⟩ (fun e he => hne e (hsu ▸ he)) (fun g' hg' => ?_)
        finishLoader_spec
      cases hrx.symm.trans hg'
      refine ⟨fun hc => absurd rfl hc, fun _ => ?_⟩
      rcases hg with ⟨o, ho, ho'⟩ | hg
      · exact Or.inl ⟨o, ho, implicitDeps_mem _ _ _ _ _ hfd ho'⟩
      · exact Or.inr hg
    cases hr with
    | found o ho => exact hreset _ rfl rfl rfl (fun _ _ hx => hx.congr rfl rfl) (Or.inl ⟨o, ho, ho⟩)
    | crash => exact absurd rfl (hno _)
    | exhausted _ => exact absurd rfl (hno _)
    | next b hb =>
      have hg' : ∀ g', s.gtasks g' ≠ [] → (if g' = g then (s.gtasks g).filter (· ≠ b) else s.gtasks g') ≠ [] := by
        intro g' hx
        by_cases hgg : g' = g
        · rw [if_pos hgg]; exact hb
        · rw [if_neg hgg]; exact hx
      exact hreset _ rfl rfl rfl (fun g' _ hx => hx.transfer (fun _ _ hy => hy) (hg' g'))
        (Or.inr (by show (if g = g then _ else _) ≠ []; rw [if_pos rfl]; exact hb))

theorem tgt_loaderStep (h : TgtOK inp s) (hne : NoErr s)
    (hn : s.nodes n = some nd) (hl : nd.task.loader = some l) (hs : LoaderSpec inp s n nd l s') : TgtInv inp s' := by
  have hl' : nd.task.loader ≠ none := by rw [hl]; intro e; cases e
  cases hs with
  | crash => exact TgtInv.of_err (e := .crash) rfl nofun
  | raised tT e _ _ he =>
    rcases (evalCreator_facts inp s l (toLoad inp l n)).2 with h1 | h1
    · rw [h1] at he; exact absurd he (hne e)
    · exact TgtInv.of_err h1 nofun
  | created tT s' _ _ hno ha =>
    exact tgt_afterCreate (tgt_evalCreator _ h) hno
      (by rw [(evalCreator_facts inp s l (toLoad inp l n)).1]; exact hn) hl' ha
  | loaded tT s' _ _ ha => exact tgt_afterCreate h hne hn hl' ha

theorem TgtInv.quiet (h : TgtInv inp s) (hne : NoErr s) (q : Quiet s s')
    (ht : s'.targets = s.targets) (hg : s'.gtasks = s.gtasks) (hnf : ∀ x, s'.susp ≠ .err (.notFound x)) :
    TgtInv inp s' :=
  ⟨fun x hx => absurd hx (hnf x), fun _ => (h.ok hne).quiet q ht hg⟩

theorem tgt_step {c : Choice} (h : TgtInv inp s) (hs : step inp s c = some s') :
    TgtInv inp s' := by
  have hne : NoErr s := fun e he => step_err_none he hs
  cases step_spec hs with
  | tick _ =>
    rcases tick_cases (inp := inp) (s := s) dtick_spec with ⟨q, c | ⟨n, nd, _, _, _, heq⟩⟩ | ⟨n, nd, l, _, hn, _, hl, hs⟩
    · exact h.quiet hne q c.1 c.2.1 (fun x hx => hne _ (c.notFound hx))
    · exact h.quiet hne q (by rw [heq]; rfl) (by rw [heq]; rfl) (by rw [heq]; nofun)
    · exact tgt_loaderStep (h.ok hne) hne hn hl hs
  | select n perm s' _ hsel =>
    have c := resumed_selectStep (selectStep_spec hsel)
    exact h.quiet hne (quiet_selectStep hsel) c.1 c.2.1 c.2.2.2
  | resume => exact h.quiet hne (Quiet.of_eq rfl rfl rfl rfl rfl) rfl rfl nofun
  | finish n perm s' hf =>
    have c := calm_finishStep hf
    exact h.quiet hne (quiet_finishStep hf) c.1 c.2.1 (fun x hx => hne _ (c.notFound hx))

/-- a task of the initial table that belongs to a regex group still carries its loader and has the word as file_dep -/
def RxWF (inp : Input) : Prop :=
  ∀ n td g, lookup0 inp.tasks0 n = some td → td.rx = some g → td.loader ≠ none ∧ inp.gtarget g ∈ td.fileDep

theorem rxWF_of_bool (h : rxB inp = true) : RxWF inp := by
  intro n td g hn hg
  have hm := lookup0_mem _ _ _ hn
  unfold rxB at h
  rw [List.all_eq_true] at h
  have := h _ hm
  simp only [hg, Bool.and_eq_true, List.contains_iff_mem] at this
  refine ⟨fun e => ?_, this.2⟩
  rw [e] at this; simp at this

theorem tgt_init (wf : RxWF inp) : TgtInv inp (init inp) :=
  ⟨fun x hx => by simp [init] at hx,
   fun _ => ⟨fun n td g hn hg => ⟨fun _ => (wf n td g hn hg).2, fun hl => absurd hl (wf n td g hn hg).1⟩,
             fun n nd g hn _ => by simp [init] at hn⟩⟩

theorem tgt_reach (wf : RxWF inp) (hr : Reach inp s) : TgtInv inp s := by
  induction hr with
  | init => exact tgt_init wf
  | next _ hs ih => exact tgt_step ih hs

end DoitModel.Delayed
