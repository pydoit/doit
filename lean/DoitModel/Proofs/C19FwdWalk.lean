import DoitModel.Proofs.C19Walk
/-! # C19: the process runner with forwarded reports (`FSys`)

The reporting invariant with `execute_task` reports as part of the trace, arriving late: `pendOf fq n` of them are still
on the queue.  It holds in every reachable `FSys` state, together with the queue discipline. -/
namespace DoitModel.Report
open DoitModel.Run

def pendOf (q : List Msg) : Name → Nat := fun n => q.count (.rep n)

/-- `q3`: the results on the real queue are the model's `resQ`; `q1`: no forwarded report is behind the result of its
    task (the worker puts the report first); `q2`: a task whose report is still on the queue is `run`.  `Report.Merge`
    states `q1` for an abstract FIFO merge of producers; no theorem relates the two. -/
structure FInv (inp : RunInput) (f : FSys) : Prop where
  b2 : Inv2 inp f.base
  b3 : Inv3 inp f.base
  fb : RepInv inp true true (pendOf f.fq) f.base
  q3 : f.fq.filterMap Msg.resName = f.base.resQ
  q1 : ∀ pre post n, f.fq = pre ++ Msg.res n :: post → Msg.rep n ∉ post
  q2 : ∀ n, Msg.rep n ∈ f.fq → stOf f.base n = .run

theorem pendOf_pos {q : List Msg} {n : Name} : pendOf q n ≥ 1 ↔ Msg.rep n ∈ q := by
  unfold pendOf; rw [ge_iff_le, List.one_le_count_iff]

theorem res_mem_iff {q : List Msg} {n : Name} : Msg.res n ∈ q ↔ n ∈ q.filterMap Msg.resName := by
  rw [List.mem_filterMap]
  constructor
  · intro h; exact ⟨_, h, rfl⟩
  · rintro ⟨m, hm, e⟩; cases m <;> simp [Msg.resName] at e; subst e; exact hm

/-- a forwarded report is taken from the queue and handed to the reporter: nothing the run model looks at changes -/
theorem deliver_base {inp : RunInput} {s s' : Sys} (n : Name) (h2 : Inv2 inp s) (h3 : Inv3 inp s)
    (hs' : s' = { s with events := Ev.execute n :: s.events }) : Inv2 inp s' ∧ Inv3 inp s' := by
  have hev : s'.events = [Ev.execute n] ++ s.events := by rw [hs']; rfl
  have hc : ∀ m, cGo s' m = cGo s m ∧ cStart s' m = cStart s m ∧ cFin s' m = cFin s m := by
    intro m; simp [cGo, cStart, cFin, hev, Ev.isGoOf, Ev.isStartOf, Ev.isFinOf]
  subst hs'
  constructor
  · refine h2.outer rfl rfl rfl rfl rfl _ hev ⟨trivial, h2.ord⟩ (by simp) (fun p hp => h2.sb p hp) (fun a => a) ?_
      (fun m a => h2.x m a)
    intro m hm
    obtain ⟨d, hd⟩ := h2.f1 m hm
    exact ⟨d, by simp [hd]⟩
  · refine h3.outer rfl rfl _ hev (fun m => by simp [Ev.isGoOf, Ev.isTerminalOf]) (fun a => a)
      ?_ ?_ ?_ ?_ ?_ ?_ ?_ ?_ ?_
    · intro m; rw [(hc m).2.1, (hc m).2.2]; exact (h3.p0 m).2
    · intro m; rw [(hc m).1, (hc m).2.1]; exact h3.j m
    · intro w m hw; rw [(hc m).2.1, (hc m).2.2]; exact h3.w1 w m hw
    · exact h3.w2
    · intro m hm; rw [(hc m).2.2]; exact h3.q1 m hm
    · exact h3.q2
    · intro m hm; exact h3.j2 m hm
    · intro m hm; rw [(hc m).2.1, (hc m).2.2]; exact h3.x3 m hm
    · intro m w hm; exact h3.xw m w hm

theorem split_snoc {α : Type} {l pre post : List α} {a b : α} (h : l ++ [a] = pre ++ b :: post) :
    (post = [] ∧ a = b ∧ l = pre) ∨ (∃ post0, post = post0 ++ [a] ∧ l = pre ++ b :: post0) := by
  induction pre generalizing l with
  | nil =>
    cases l with
    | nil => simp at h; left; exact ⟨h.2, h.1, rfl⟩
    | cons x l =>
      simp only [List.cons_append, List.nil_append, List.cons.injEq] at h
      right; exact ⟨l, h.2.symm, by simp [h.1]⟩
  | cons p pre ih =>
    cases l with
    | nil =>
      simp only [List.nil_append, List.cons_append, List.cons.injEq] at h
      have := h.2; cases pre <;> simp at this
    | cons x l =>
      simp only [List.cons_append, List.cons.injEq] at h
      rcases ih h.2 with ⟨a1, a2, a3⟩ | ⟨p0, a1, a2⟩
      · left; exact ⟨a1, a2, by rw [h.1, a3]⟩
      · right; exact ⟨p0, a1, by rw [h.1, a2]; rfl⟩

theorem repFirst_snoc {q : List Msg} {m : Msg} (h : ∀ pre post n, q = pre ++ Msg.res n :: post → Msg.rep n ∉ post)
    (hm : ∀ n, m = .rep n → Msg.res n ∉ q) :
    ∀ pre post n, q ++ [m] = pre ++ Msg.res n :: post → Msg.rep n ∉ post := by
  intro pre post k hsp
  rcases split_snoc hsp with ⟨a1, _, _⟩ | ⟨p0, a1, a2⟩
  · rw [a1]; exact List.not_mem_nil
  · rw [a1]
    intro hx
    rcases List.mem_append.mp hx with x | x
    · exact h pre p0 k a2 x
    · exact hm k (List.mem_singleton.mp x).symm (by rw [a2]; simp)

theorem pendOf_rep_cons (n : Name) (q : List Msg) (x : Name) :
    pendOf (Msg.rep n :: q) x = pendOf q x + (if x = n then 1 else 0) := by
  unfold pendOf; rw [List.count_cons]
  by_cases e : x = n
  · subst e; simp
  · have : ¬ n = x := fun a => e a.symm
    simp [e, this]

theorem pendOf_res_cons (n : Name) (q : List Msg) : pendOf (Msg.res n :: q) = pendOf q := by
  funext x; unfold pendOf; rw [List.count_cons]; simp

theorem pendOf_snoc_rep (n : Name) (q : List Msg) (x : Name) :
    pendOf (q ++ [Msg.rep n]) x = pendOf q x + (if x = n then 1 else 0) := by
  unfold pendOf; rw [List.count_append]
  by_cases e : x = n
  · subst e; simp
  · have : ¬ n = x := fun a => e a.symm
    simp [e, this]

theorem pendOf_snoc_res (n : Name) (q : List Msg) : pendOf (q ++ [Msg.res n]) = pendOf q := by
  funext x; unfold pendOf; rw [List.count_append]; simp []

theorem init_finv (inp : RunInput) : FInv inp (finit inp) :=
  ⟨init_inv2 inp, init_inv3 inp, init_repInv inp true true, rfl, fun pre _ _ h => (by cases pre <;> cases h), nofun⟩

theorem fstep_take {inp : RunInput} (hp : inp.runner = .process) {f f' : FSys} {w : Nat} (h : FInv inp f)
    (hs : fstep inp f (.take w) = some f') : FInv inp f' := by
  obtain ⟨h2, h3, hb, q3, q1, q2⟩ := h
  simp only [fstep] at hs
  cases ht : takeStep inp f.base w with
  | none => simp only [ht] at hs; cases hs
  | some s' =>
    obtain ⟨i2, i3⟩ := takeStep_inv h2 h3 ht
    rcases takeStep_start h3 ht with ⟨a, b, c, d, js, hj⟩ | ⟨n, js, hj, hrun, hstart, _, hfin0, hev, hst, hf, hrq⟩
    · have : f' = ⟨s', f.fq⟩ := by rcases hj with hj | hj <;> simp only [ht, hj] at hs <;> cases hs <;> rfl
      subst this
      exact ⟨i2, i3, hb.same a b c, q3.trans d.symm, q1, fun n hn => (b n).trans (q2 n hn)⟩
    · simp only [ht, hj] at hs; cases hs
      -- the result of `n` is not on the queue: its actions have not ended
      have hnres : Msg.res n ∉ f.fq := by
        intro hm
        have := (h3.q1 n (by rw [← q3]; exact res_mem_iff.mp hm)).1; omega
      refine ⟨i2, i3, ?_, ?_, ?_, ?_⟩
      · exact rep_start hb (fun _ => rfl) hrun (hev.trans (by rw [startTask_events, if_pos hp]; rfl)) hst hf
          (by rw [pendOf_snoc_rep, if_pos rfl]; rfl) (fun x hx => by rw [pendOf_snoc_rep, if_neg hx]; rfl)
      · show (f.fq ++ [Msg.rep n]).filterMap Msg.resName = _
        rw [List.filterMap_append, q3, hrq]; exact List.append_nil _
      · exact repFirst_snoc q1 fun k e => by cases e; exact hnres
      · intro k hk
        rw [hst]
        rcases List.mem_append.mp hk with x | x
        · exact q2 k x
        · cases List.mem_singleton.mp x; exact hrun

theorem fstep_done {inp : RunInput} {f f' : FSys} {w : Nat} (h : FInv inp f)
    (hs : fstep inp f (.done w) = some f') : FInv inp f' := by
  obtain ⟨h2, h3, hb, q3, q1, q2⟩ := h
  simp only [fstep] at hs
  cases hw : f.base.workers w with
  | running n =>
    simp only [hw] at hs
    cases hd : doneStep f.base w with
    | none => simp only [hd, Option.map_none] at hs; cases hs
    | some s' =>
      simp only [hd, Option.map_some, Option.some.injEq] at hs; subst hs
      obtain ⟨i2, i3⟩ := doneStep_inv h2 h3 hd
      have hR := doneStep_rep hb h3 hd
      obtain ⟨hm⟩ := doneStep_spec hd
      cases hw.symm.trans hm
      refine ⟨i2, i3, ?_, ?_, ?_, ?_⟩
      · show RepInv inp true true (pendOf (f.fq ++ [Msg.res n])) _
        rw [pendOf_snoc_res]; exact hR
      · show (f.fq ++ [Msg.res n]).filterMap Msg.resName = f.base.resQ ++ [n]
        rw [List.filterMap_append, q3]; rfl
      · exact repFirst_snoc q1 fun _ e => Msg.noConfusion e
      · intro k hk
        show stOf f.base k = .run
        rcases List.mem_append.mp hk with x | x
        · exact q2 k x
        · cases List.mem_singleton.mp x
  | _ => simp only [hw] at hs; cases hs

theorem fstep_deliver {inp : RunInput} {f f' : FSys} (h : FInv inp f)
    (hs : fstep inp f (.deliver) = some f') : FInv inp f' := by
  obtain ⟨h2, h3, hb, q3, q1, q2⟩ := h
  simp only [fstep] at hs
  by_cases hg : atGet f.base ∨ atDrain f.base
  case neg => rw [if_neg hg] at hs; cases hs
  rw [if_pos hg] at hs
  cases hq : f.fq with
  | nil => simp only [hq] at hs; cases hs
  | cons m q =>
    simp only [hq] at hs
    cases m with
    | res k => cases hs
    | rep n =>
      cases hs
      have hin : Msg.rep n ∈ f.fq := by rw [hq]; exact List.mem_cons_self
      have hrun := q2 n hin
      obtain ⟨i2, i3⟩ := deliver_base n h2 h3 rfl
      refine ⟨i2, i3, ?_, ?_, ?_, ?_⟩
      · exact rep_execute hb hrun (h3.t n (by rw [hrun]; rfl))
          (by have := h3.j n; have := (h3.p0 n).1; omega) rfl (stOf_congr rfl) rfl
          (by rw [hq, pendOf_rep_cons, if_pos rfl])
          (fun x hx => by rw [hq, pendOf_rep_cons, if_neg hx]; rfl)
      · show q.filterMap Msg.resName = f.base.resQ
        rw [← q3, hq]; rfl
      · intro pre post k hsp
        exact q1 (Msg.rep n :: pre) post k (by rw [hq, show q = _ from hsp]; rfl)
      · intro k hk
        exact q2 k (by rw [hq]; exact List.mem_cons_of_mem _ hk)

theorem fstep_main {inp : RunInput} {f f' : FSys} {perm : List Name} (h : FInv inp f)
    (hs : fstep inp f (.main perm) = some f') : FInv inp f' := by
  obtain ⟨h2, h3, hb, q3, q1, q2⟩ := h
  simp only [fstep] at hs
  by_cases hget : atGet f.base
  · rw [if_pos hget] at hs
    cases hq : f.fq with
    | nil => simp only [hq] at hs; cases hs
    | cons m q =>
      simp only [hq] at hs
      cases m with
      | rep k => cases hs
      | res k =>
        simp only [] at hs
        cases hm : mainStep inp f.base perm with
        | none => simp only [hm, Option.map_none] at hs; cases hs
        | some s' =>
          simp only [hm, Option.map_some, Option.some.injEq] at hs; subst hs
          obtain ⟨i2, i3⟩ := mainStep_inv h2 h3 hm
          have hrq : f.base.resQ = k :: q.filterMap Msg.resName := by rw [← q3, hq]; rfl
          -- FIFO: the forwarded report of `k` was ahead of its result
          have hnrep : Msg.rep k ∉ q := q1 [] q k (by rw [hq]; rfl)
          have hpend : ∀ n rest, atGet f.base → f.base.resQ = n :: rest → pendOf f.fq n = 0 := by
            intro n rest _ e
            rw [hrq] at e; cases e
            cases hc : pendOf f.fq k with
            | zero => rfl
            | succ z =>
              have : Msg.rep k ∈ f.fq := pendOf_pos.mp (by omega)
              rw [hq] at this
              exact absurd (List.mem_of_ne_of_mem (fun e => Msg.noConfusion e) this) hnrep
          obtain ⟨hR, _, hB⟩ := mainStep_rep hb h2 h3 hpend hm
          obtain ⟨e1, e2⟩ := hB hget k _ hrq
          refine ⟨i2, i3, ?_, e1.symm, ?_, ?_⟩
          · show RepInv inp true true (pendOf q) _
            rw [← pendOf_res_cons k q, ← hq]; exact hR
          · intro pre post x hsp
            exact q1 (Msg.res k :: pre) post x (by rw [hq, show q = _ from hsp]; rfl)
          · intro x hx
            have hxk : x ≠ k := by intro e; subst e; exact hnrep hx
            exact (e2 x hxk).trans (q2 x (by rw [hq]; exact List.mem_cons_of_mem _ hx))
  · rw [if_neg hget] at hs
    have general : ∀ s', mainStep inp f.base perm = some s' → FInv inp ⟨s', f.fq⟩ := by
      intro s' hm
      obtain ⟨i2, i3⟩ := mainStep_inv h2 h3 hm
      obtain ⟨b1, hA, _⟩ := mainStep_rep hb h2 h3 (fun _ _ a => absurd a hget) hm
      obtain ⟨b2, b3⟩ := hA hget
      refine ⟨i2, i3, b1, by rw [q3]; exact b2.symm, q1, ?_⟩
      intro x hx
      show stOf s' x = .run
      -- a status that changes belongs to a task not yet started, which has no report on the queue
      by_cases e : stOf s' x = stOf f.base x
      · rw [e]; exact q2 x hx
      · have h0 := b3 x e
        have h1 := (hb.rep.task x).ex
        have h2' : pendOf f.fq x ≥ 1 := pendOf_pos.mpr hx
        unfold cStart at h0
        simp only [h0, if_true] at h1
        omega
    by_cases hdr : atDrain f.base
    · rw [if_pos hdr] at hs
      cases hq : f.fq with
      | nil =>
        simp only [hq] at hs
        cases hm : mainStep inp f.base perm with
        | none => simp only [hm, Option.map_none] at hs; cases hs
        | some s' =>
          simp only [hm, Option.map_some, Option.some.injEq] at hs; subst hs
          have := general s' hm; rw [hq] at this; exact this
      | cons m q => simp only [hq] at hs; cases hs
    · rw [if_neg hdr] at hs
      cases hm : mainStep inp f.base perm with
      | none => simp only [hm, Option.map_none] at hs; cases hs
      | some s' =>
        simp only [hm, Option.map_some, Option.some.injEq] at hs; subst hs
        exact general s' hm

theorem fstep_inv {inp : RunInput} (hp : inp.runner = .process) {f f' : FSys} {c : FChoice} (h : FInv inp f)
    (hs : fstep inp f c = some f') : FInv inp f' := by
  cases c with
  | take w => exact fstep_take hp h hs
  | done w => exact fstep_done h hs
  | deliver => exact fstep_deliver h hs
  | main perm => exact fstep_main h hs

theorem freach_inv {inp : RunInput} (hp : inp.runner = .process) {f : FSys} (h : FReach inp f) : FInv inp f := by
  induction h with
  | init => exact init_finv inp
  | next _ hs ih => exact fstep_inv hp ih hs

theorem ftry_step {inp : RunInput} {f f' : FSys} : ∀ {cs : List FChoice}, ftry inp f cs = some f' →
    ∃ c, fstep inp f c = some f'
  | [], h => by cases h
  | c :: cs, h => by
    unfold ftry at h
    cases hc : fstep inp f c with
    | some g => simp only [hc, Option.some.injEq] at h; subst h; exact ⟨c, hc⟩
    | none => simp only [hc] at h; exact ftry_step h

theorem fauto_reach {inp : RunInput} : ∀ (k : Nat) (f : FSys), FReach inp f → FReach inp (fauto inp k f)
  | 0, _, h => h
  | k + 1, f, h => by
    unfold fauto
    split
    · rename_i f' hf
      obtain ⟨c, hc⟩ := ftry_step hf
      exact fauto_reach k f' (FReach.next h hc)
    · exact h

end DoitModel.Report
