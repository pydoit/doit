import DoitModel.Proofs.C09Term3
/-! # C09 — termination, part 4: the parallel runners

The measure of the serial system is extended by a first component `U2` — task names below `N` whose node has no final
status yet; it never increases and decreases when the main thread processes a result, which pays for the `free_proc + 1`
calls of `get_next_job` that follow — and by the queues of `MRunner` (`extraOf`: jobs queued, workers executing,
results queued).  The loop counters of `_run_start_processes` / of the feed loop are part of the rank of the runner's
program counter (`rOf`). -/
namespace DoitModel.Run

variable {inp : RunInput} {N : Nat}

/-- a job weighs 3 in the job queue, 2 while a worker executes it, 1 as a result in the result queue: each hand-over
    (pick-up, completion, `result_q.get()`) loses 1; a `hold` / `stop` job picked up just vanishes -/
def extraOf (s : Sys) : Nat := 3 * s.jobQ.length + 2 * cntRun s.workers s.nStarted + s.resQ.length

def U2 (N : Nat) (s : Sys) : Nat := (List.range N).countP fun n => !(stOf s n).finished

def MLtP (inp : RunInput) (N : Nat) (s' s : Sys) : Prop :=
  U2 N s' < U2 N s ∨ (U2 N s' = U2 N s ∧ (L1 N s' < L1 N s ∨ (L1 N s' = L1 N s ∧
    (L2 N s' < L2 N s ∨ (L2 N s' = L2 N s ∧
      linS inp N s' + restOf s' + extraOf s' < linS inp N s + restOf s + extraOf s)))))

theorem u2_le_shape {s s' : Sys} (sh : Shape inp s s') : U2 N s' ≤ U2 N s := by
  unfold U2
  apply List.countP_mono_left
  intro x _ hx
  cases sh with
  | quiet new hst hev hq _ => rw [hst] at hx; exact hx
  | select n nd extra haw hsusp hn hd hst hev hq _ =>
    rw [hst] at hx
    by_cases e : x = n
    · subst e
      have : (stOf s x).finished = false := by simp [stOf, hn, selDecision_unfinished hd]
      simp [this]
    · simpa [e] using hx
  | result n nd mid hn hrun hgo hst hev hq _ =>
    rw [hst] at hx
    by_cases e : x = n
    · subst e
      have : (stOf s x).finished = false := by simp [stOf, hn, hrun, RS.finished]
      simp [this]
    · simpa [e] using hx

theorem u2_lt_result {s s' : Sys} {n : Name} (hN : n < N) (h0 : (stOf s n).finished = false)
    (h1 : (stOf s' n).finished = true) (hle : ∀ x, (stOf s' x).finished = false → (stOf s x).finished = false) :
    U2 N s' < U2 N s := by
  refine countP_lt (fun y _ hy => ?_) ⟨n, List.mem_range.mpr hN, by rw [h0]; rfl, by rw [h1]; rfl⟩
  simp only [Bool.not_eq_eq_eq_not, Bool.not_true] at hy ⊢
  exact hle y hy

theorem mltP_of_mlt {s s' : Sys} (hU : U2 N s' ≤ U2 N s) (h : MLt inp N s' s) (e : extraOf s' = extraOf s) :
    MLtP inp N s' s := by
  by_cases hu : U2 N s' < U2 N s
  · exact Or.inl hu
  · right; refine ⟨by omega, ?_⟩
    rcases h with a | ⟨a, b | ⟨b, c⟩⟩
    · exact Or.inl a
    · exact Or.inr ⟨a, Or.inl b⟩
    · exact Or.inr ⟨a, Or.inr ⟨b, by omega⟩⟩

theorem mltP_same {s s' : Sys} (hU : U2 N s' ≤ U2 N s) (hm : SameM inp N s' s)
    (h : restOf s' + extraOf s' < restOf s + extraOf s) : MLtP inp N s' s := by
  obtain ⟨m1, m2, m3⟩ := hm
  by_cases hu : U2 N s' < U2 N s
  · exact Or.inl hu
  · right; exact ⟨by omega, Or.inr ⟨m1, Or.inr ⟨m2, by omega⟩⟩⟩

theorem cntRun_set_nonrun (f : Nat → WState) (w : Nat) (st : WState) (h0 : isRun (f w) = false)
    (h1 : isRun st = false) (k : Nat) : cntRun (fun i => if i = w then st else f i) k = cntRun f k := by
  by_cases hw : w < k
  · have := cntRun_update f w st k hw
    simp only [h0, h1, Bool.false_eq_true, if_false, Nat.add_zero] at this
    exact this
  · exact cntRun_congr k (fun i hi => by simp [show i ≠ w by omega])

theorem cntRun_set_le (f : Nat → WState) (w : Nat) (st : WState) (k : Nat) :
    cntRun (fun i => if i = w then st else f i) k ≤ cntRun f k + 1 := by
  by_cases hw : w < k
  · have := cntRun_update f w st k hw
    split at this <;> split at this <;> omega
  · have := cntRun_congr (f := fun i => if i = w then st else f i) (g := f) k
      (fun i hi => by simp [show i ≠ w by omega])
    omega

theorem extraOf_congr {s s' : Sys} (e1 : s'.jobQ = s.jobQ) (e2 : s'.resQ = s.resQ) (e3 : s'.workers = s.workers)
    (e4 : s'.nStarted = s.nStarted) : extraOf s' = extraOf s := by
  unfold extraOf; rw [e1, e2, e3, e4]

theorem U2_congr {s s' : Sys} (e : s'.nodes = s.nodes) : U2 N s' = U2 N s := by
  unfold U2 stOf; rw [e]

theorem mltP_worker {s s' : Sys} {w : Nat} (f : WorkerFrame s s' w)
    (h : 3 * s'.jobQ.length + 2 * cntRun s'.workers s.nStarted + s'.resQ.length <
      3 * s.jobQ.length + 2 * cntRun s.workers s.nStarted + s.resQ.length) : MLtP inp N s' s := by
  refine mltP_same (Nat.le_of_eq (U2_congr f.nodes)) (SameM.of_nodes f.nodes) ?_
  unfold restOf extraOf
  rw [f.ready, f.toRun, f.cur, f.rpc, f.susp, f.nStarted]
  exact Nat.add_lt_add_left h _

theorem mltP_put (s : Sys) (job : Job) (r : RPC) (p : Int) (h : Halt) (hlt : rOf r s.susp + 3 < rOf s.rpc s.susp) :
    MLtP inp N { s with jobQ := s.jobQ ++ [job], procCount := p, rpc := r, halt := h } s := by
  refine mltP_same (Nat.le_of_eq (U2_congr rfl)) (SameM.of_nodes rfl) ?_
  simp only [restOf, extraOf, List.length_append, List.length_singleton]
  omega

theorem mltP_start (s : Sys) (job : Job) (r : RPC) (p : Int) (hlt : rOf r s.susp + 3 < rOf s.rpc s.susp) :
    MLtP inp N { setWorker s s.nStarted .idle with
      jobQ := s.jobQ ++ [job], nStarted := s.nStarted + 1, procCount := p, rpc := r } s := by
  refine mltP_same (Nat.le_of_eq (U2_congr rfl)) (SameM.of_nodes rfl) ?_
  simp only [restOf, extraOf, setWorker, cntRun_start, List.length_append, List.length_singleton]
  omega

theorem pstep_mltP (hF : FiniteTable inp N) {s s' : Sys} {c : Choice} (hr : PReach inp s)
    (hs : pstep inp s c = some s') : MLtP inp N s' s := by
  have hi := preach_inv hr
  have hP := preach_invP hr
  have hb : ∀ k y, s.nodes k = some y → k < N := fun k y hk => cl_lt hF ((preach_minv hr).nodes k y hk).self
  have hb' : ∀ k y, s'.nodes k = some y → k < N :=
    fun k y hk => cl_lt hF ((preach_minv (PReach.next hr hs)).nodes k y hk).self
  have hU : U2 N s' ≤ U2 N s := u2_le_shape (pstep_shape hi.1 hi.2 hs)
  have quiet : ∀ (r : RPC) (h : Halt) (ev : List Ev) (f : Nat) (p : Int), rOf r s.susp < rOf s.rpc s.susp →
      MLtP inp N { s with rpc := r, halt := h, events := ev, freeProc := f, procCount := p } s := fun r h ev f p hlt =>
    mltP_of_mlt (Nat.le_of_eq (U2_congr rfl)) (runner_mlt (SameM.of_nodes rfl) rfl rfl rfl rfl hlt)
      (extraOf_congr rfl rfl rfl rfl)
  cases c with
  | take w =>
    have ht := takeStep_spec (show takeStep inp s w = some s' from hs)
    have f := ht.workerFrame
    cases ht with
    | hold hw hq => refine mltP_worker f ?_; simp only [hq, List.length_cons]; omega
    | stop hw hq =>
      refine mltP_worker f ?_
      have := cntRun_set_nonrun s.workers w .exited (by rw [hw]; rfl) rfl s.nStarted
      simp only [setWorker, hq, this, List.length_cons]; omega
    | @task n js hw hq =>
      refine mltP_worker f ?_
      have := cntRun_set_le s.workers w (.running n) s.nStarted
      simp only [setWorker, startTask, hq, List.length_cons]; omega
  | done w =>
    have hd := doneStep_spec (show doneStep s w = some s' from hs)
    have f := hd.workerFrame
    cases hd with
    | done hw =>
      refine mltP_worker f ?_
      have hlt : w < s.nStarted := Decidable.byContradiction fun h => by
        have := hP.ns w (by omega)
        rw [hw] at this; cases this
      have := cntRun_update s.workers w .idle s.nStarted hlt
      simp only [hw, isRun, if_true, Bool.false_eq_true, if_false] at this
      simp only [setWorker, List.length_append, List.length_singleton]; omega
  | main perm =>
    cases mainStep_spec (show mainStep inp s perm = some s' from hs) with
    | entryStop hrp | entry hrp | join hrp | joined hrp | finish hrp | resultLost hrp =>
      exact quiet _ _ _ _ _ (by simp only [hrp, rOf]; omega)
    | send hrp hsd =>
      obtain ⟨_, _, o3, o4, o5, _, _, _, _, _, _, o12⟩ := (send_outer hsd).1
      exact mltP_of_mlt hU
        (send_mlt hF hb hsd (.gWait _) (c := 20 * loopK _ + 10) (fun o => rfl) (by simp only [hrp, rOf]; omega))
        (extraOf_congr o3 o4 o5 o12)
    | tick hrp hsu hd =>
      obtain ⟨_, _, o3, o4, o5, _, _, _, _, _, _, o12⟩ := dtick_outer hd
      exact mltP_of_mlt hU (dtick_mlt (b := 20 * loopK _ + 10) hF (fun o => by rw [hrp]; rfl) hsu hb hb' hd)
        (extraOf_congr o3 o4 o5 o12)
    | lost hrp hsu | assertFail hrp hsu | holdOn hrp hsu | stopIter hrp hsu | cyclic hrp hsu | crash hrp hsu =>
      exact quiet _ _ _ _ _ (by simp only [hrp, hsu, rOf, wRank]; omega)
    | @go ret n nd hrp hsu hn =>
      have k := applySel_keeps inp s n nd .go
      exact mltP_of_mlt hU
        (runner_mlt (sameM_status hn _ (applySel_nodes inp s n nd .go nofun)) k.ready k.toRun k.cur k.susp
          (by simp only [hrp, hsu, rOf, wRank]; omega))
        (extraOf_congr k.jobQ k.resQ k.workers k.nStarted)
    | @select ret n nd d hrp hsu hn _ _ ha =>
      have k := applySel_keeps inp s n nd d
      exact mltP_of_mlt hU
        (runner_mlt (sameM_status hn _ (applySel_nodes inp s n nd d ha)) k.ready k.toRun k.cur k.susp
          (by simp only [hrp, hsu, rOf, wRank]; omega))
        (extraOf_congr k.jobQ k.resQ k.workers k.nStarted)
    | @ret job ret hrp =>
      generalize hg : gReturn s job ret = g
      cases gReturn_row.of_eq hg with
      | noWorker k => exact quiet _ _ _ _ _ (by simp only [hrp, rOf, loopK]; omega)
      | lastWorker k | nextWorker k => exact mltP_start s job _ _ (by simp only [hrp, rOf, loopK]; omega)
      | fed k | noProc k | feedNext k => exact mltP_put s job _ _ _ (by simp only [hrp, rOf, loopK]; omega)
    | @result n rest nd hrp hpc hq hn =>
      left
      have hq1 := hi.2.q1 n (by rw [hq]; exact List.mem_cons_self)
      have hst : ∀ x, stOf { processResult inp { s with resQ := rest } n nd with
          rpc := .gEntry (some n) (.feedLoop (s.freeProc + 1)), freeProc := 0 } x =
          if x = n then resStatus (inp.outcome n) else stOf s x := fun x =>
        (stOf_congr (s' := { processResult inp { s with resQ := rest } n nd with
          rpc := .gEntry (some n) (.feedLoop (s.freeProc + 1)), freeProc := 0 }) rfl x).trans
          (stOf_processResult inp _ n nd x)
      refine u2_lt_result (hb n nd hn) (by rw [hq1.2]; rfl) (by rw [hst, if_pos rfl]; exact resStatus_finished _) ?_
      intro x hx
      rw [hst] at hx
      by_cases e : x = n
      · rw [e, hq1.2]; rfl
      · rwa [if_neg e] at hx

def muP (inp : RunInput) (N : Nat) (s : Sys) : Nat × Nat × Nat × Nat :=
  (U2 N s, L1 N s, L2 N s, linS inp N s + restOf s + extraOf s)

theorem mltP_lex {s' s : Sys} (h : MLtP inp N s' s) :
    Prod.Lex (· < ·) (Prod.Lex (· < ·) (Prod.Lex (· < ·) (· < ·))) (muP inp N s') (muP inp N s) := by
  unfold muP
  rcases h with u | ⟨u, a | ⟨a, b | ⟨b, c⟩⟩⟩
  · exact Prod.Lex.left _ _ u
  · rw [u]; exact Prod.Lex.right _ (Prod.Lex.left _ _ a)
  · rw [u, a]; exact Prod.Lex.right _ (Prod.Lex.right _ (Prod.Lex.left _ _ b))
  · rw [u, a, b]; exact Prod.Lex.right _ (Prod.Lex.right _ (Prod.Lex.right _ c))

theorem parallel_terminates (hpar : inp.runner ≠ .serial) (hF : FiniteTable inp N) :
    ¬ ∃ (f : Nat → Sys) (c : Nat → Choice), f 0 = init inp ∧ ∀ i, stepOf inp (f i) (c i) = some (f (i + 1)) := by
  rw [show stepOf inp = pstep inp from if_neg hpar]
  exact no_infinite_run (Prod.lex Nat.lt_wfRel (Prod.lex Nat.lt_wfRel (Prod.lex Nat.lt_wfRel Nat.lt_wfRel))).wf
    (muP inp N) PReach.init fun _ _ _ hr hs => ⟨PReach.next hr hs, mltP_lex (pstep_mltP hF hr hs)⟩

end DoitModel.Run
