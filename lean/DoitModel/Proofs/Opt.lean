import DoitModel.Model.Opt
/-! M4: the fixed `parse` never changes the parser object, so its result is a chain of `Except` steps over the
    parameters alone: one equation per level (`applyOpt`, `applyPair`, `applyPairs`, `parse`) -/
namespace DoitModel.Opt

/-- what one occurrence on the command line does to the value of its option -/
def occStep (o : Opt) (cur : Option Val) (occ : Bool × Str) : Except Err Val :=
  match o.ty with
  | .bool => .ok (.b (!occ.1))
  | .list => match cur with
    | some (.l xs) => .ok (.l (xs ++ [occ.2]))
    | _ => .error .crash
  | .int => str2type o occ.2
  | .str => str2type o occ.2

theorem applyOpt_eq (st : PState) (p : Params) (o : Opt) (inv : Bool) (v : Str) :
    applyOpt false st p o inv v = (st, (occStep o (p.vals o.name) (inv, v)).map (p.set o.name)) := by
  unfold applyOpt occStep
  cases o.ty with
  | bool => rfl
  | int => simp only [scalarStep]; cases str2type o v <;> rfl
  | str => simp only [scalarStep]; cases str2type o v <;> rfl
  | list =>
    simp only [listStep]
    cases p.vals o.name with
    | none => rfl
    | some x => cases x <;> rfl

theorem applyPair_eq (st : PState) (p : Params) (kv : Key × Str) :
    applyPair false st p kv = (st, match getOption st kv.1 with
      | none => .error .crash
      | some (o, inv) => (occStep o (p.vals o.name) (inv, kv.2)).map (p.set o.name)) := by
  unfold applyPair
  cases getOption st kv.1 with
  | none => rfl
  | some r => exact applyOpt_eq st p r.1 r.2 kv.2

theorem applyPairs_cons (kv : Key × Str) (rest : Pairs) (st : PState) (p : Params) :
    applyPairs false (kv :: rest) st p = match (applyPair false st p kv).2 with
      | .error e => (st, .error e)
      | .ok p' => applyPairs false rest st p' := by
  rw [applyPairs, applyPair_eq]
  cases (match getOption st kv.1 with
    | none => Except.error Err.crash
    | some (o, inv) => (occStep o (p.vals o.name) (inv, kv.2)).map (p.set o.name)) <;> rfl

theorem applyPairs_fixed_state (ps : Pairs) (st : PState) (p : Params) :
    (applyPairs false ps st p).1 = st := by
  induction ps generalizing p with
  | nil => rfl
  | cons kv rest ih =>
    rw [applyPairs_cons]
    cases (applyPair false st p kv).2 with
    | error e => rfl
    | ok p' => exact ih p'

theorem parse_eq (st : PState) (env : Str → Option Str) (argv : List Str) :
    parse false st env argv = (st, match applyEnv env st (initParams st Params.empty) with
      | .error e => .error e
      | .ok p0 => match getopt st argv with
        | .error e => .error e
        | .ok (ps, pos) => match (applyPairs false ps st p0).2 with
          | .error e => .error e
          | .ok p => .ok (p, pos)) := by
  unfold parse
  cases applyEnv env st (initParams st Params.empty) with
  | error e => rfl
  | ok p0 =>
    unfold parseOnly
    cases getopt st argv with
    | error e => rfl
    | ok r =>
      obtain ⟨ps, pos⟩ := r
      show withPos pos (applyPairs false ps st p0) = (st, match (applyPairs false ps st p0).2 with
        | .error e => .error e
        | .ok p => .ok (p, pos))
      have hs := applyPairs_fixed_state ps st p0
      generalize applyPairs false ps st p0 = a at hs ⊢
      obtain ⟨st', res⟩ := a
      cases hs
      cases res <;> rfl

end DoitModel.Opt
