import DoitModel.Model.UtdTools
/-! helper lemmas for the uptodate helpers model (`Model/UtdTools.lean`) -/
namespace DoitModel.UtdTools

theorem lookup_single {α : Type} (k : Str) (v : α) : lookup [(k, v)] k = some v := by
  simp [lookup]

theorem ansOfBool_yes (b : Bool) : ansOfBool b = .yes ↔ b = true := by
  cases b <;> simp [ansOfBool]

theorem dictEq_refl (a : List (Str × Option Str)) : dictEq a a = true := by
  simp [dictEq]

theorem valEq_refl (v : Val) : valEq v v = true := by
  cases v <;> simp [valEq, dictEq_refl]

theorem attrName_inj {a b : Attr} (h : attrName a = attrName b) : a = b := by
  -- the three names differ at their fourth character
  have key : ∀ x : Attr, (attrName x)[3]? = some (match x with | .atime => 'a' | .ctime => 'c' | .mtime => 'm') :=
    fun x => by cases x <;> decide +kernel
  have h3 := key a
  rw [h, key b] at h3
  cases a <;> cases b <;> first | rfl | exact absurd h3 (by decide)

theorem runOnce_yes_iff (saved : Saved) :
    (runOnce saved).ans = .yes ↔ ∃ v, lookup saved kRunOnce = some v ∧ v.truthy = true := by
  unfold runOnce
  cases lookup saved kRunOnce with
  | none => exact ⟨nofun, fun ⟨_, h, _⟩ => nomatch h⟩
  | some v =>
    simp only [Option.some.injEq, exists_eq_left']
    cases v with
    | null => exact ⟨nofun, nofun⟩
    | _ => exact ansOfBool_yes _

theorem config_yes_iff (md5 : Str → Str) (saved : Saved) (w : World) :
    (configChanged md5 saved w).ans = .yes ↔
      ∃ d, digest md5 w.cfg = .ok d ∧ lookup saved kConfig = some (.str d) := by
  unfold configChanged
  cases digest md5 w.cfg with
  | error e => exact ⟨nofun, fun ⟨_, h, _⟩ => nomatch h⟩
  | ok d =>
    simp only [Except.ok.injEq, exists_eq_left']
    cases lookup saved kConfig with
    | none => exact ⟨nofun, nofun⟩
    | some v =>
      cases v with
      | null => exact ⟨nofun, nofun⟩
      | _ => exact (ansOfBool_yes _).trans (beq_iff_eq.trans Option.some_inj.symm)

theorem timeout_yes_iff (tps : Nat) (lim : Limit) (saved : Saved) (w : World) :
    (timeout tps lim saved w).ans = .yes ↔
      ∃ last, lookup saved kSuccessTime = some (.num last) ∧ w.clock - last < limitSec lim * tps := by
  simp only [timeout]
  cases h : lookup saved kSuccessTime with
  | none => simp
  | some v => cases v <;> simp [ansOfBool_yes]

theorem stamp_yes_iff (f : Str) (a : Attr) (c : Cmp) (saved : Saved) (w : World) :
    (stamp f a c saved w).ans = .yes ↔
      ∃ prev st, lookup saved (stampKey f a) = some (.num prev) ∧ w.files f = some st ∧
        c.app prev (st.get a) = true := by
  simp only [stamp]
  cases h : lookup saved (stampKey f a) with
  | none => simp
  | some v =>
    cases v <;> simp [getTime]
    cases hf : w.files f <;> simp [ansOfBool_yes]

theorem resultDep_yes_iff (d : Str) (saved : Saved) (w : World) :
    (resultDep d saved w).ans = .yes ↔
      ∃ v, lookup saved (kResult d) = some v ∧ v ≠ .null ∧ valEq v (depResult w d) = true := by
  unfold resultDep
  cases lookup saved (kResult d) with
  | none => exact ⟨nofun, fun ⟨_, h, _⟩ => nomatch h⟩
  | some v =>
    simp only [Option.some.injEq, exists_eq_left']
    cases v with
    | null => exact ⟨nofun, fun h => absurd rfl h.1⟩
    | _ => exact (ansOfBool_yes _).trans ⟨fun h => ⟨nofun, h⟩, fun h => h.2⟩

theorem call_not_yes_of_unrecorded (md5 : Str → Str) (tps : Nat) (it : Item) (saved : Saved) (w : World)
    (h : lookup saved it.key = none) : (it.call md5 tps saved w).ans ≠ .yes := by
  intro hy
  cases it with
  | once => obtain ⟨_, hv, _⟩ := (runOnce_yes_iff saved).mp hy; cases h.symm.trans hv
  | config => obtain ⟨_, _, hv⟩ := (config_yes_iff md5 saved w).mp hy; cases h.symm.trans hv
  | tmo l => obtain ⟨_, hv, _⟩ := (timeout_yes_iff tps l saved w).mp hy; cases h.symm.trans hv
  | stampOf f a c => obtain ⟨_, _, hv, _⟩ := (stamp_yes_iff f a c saved w).mp hy; cases h.symm.trans hv
  | resDep d => obtain ⟨_, hv, _⟩ := (resultDep_yes_iff d saved w).mp hy; cases h.symm.trans hv

theorem Cmp.app_refl {c : Cmp} (h : c.isRefl = true) (x : Int) : c.app x x = true := by
  cases c with
  | const b => cases b <;> simp_all [Cmp.isRefl, Cmp.app]
  | _ => simp_all [Cmp.isRefl, Cmp.app]

theorem call_yes_after_save (md5 : Str → Str) (tps : Nat) (it : Item) (saved kv : Saved) (w : World)
    (hs : (it.call md5 tps saved w).saver w = .ok kv) (hc : it.canRepeat tps w = true) :
    (it.call md5 tps kv w).ans = .yes := by
  cases it with
  | once =>
    simp only [Item.call, runOnce] at hs
    cases hs
    simp only [Item.call]; rw [runOnce_yes_iff]
    exact ⟨.tt, lookup_single _ _, rfl⟩
  | config =>
    obtain ⟨d, hd⟩ : ∃ d, digest md5 w.cfg = .ok d := by
      simp only [Item.canRepeat, bne_iff_ne, ne_eq] at hc
      cases hcfg : w.cfg with
      | str s => exact ⟨_, rfl⟩
      | dict c => exact ⟨_, rfl⟩
      | bad => exact absurd hcfg hc
    simp only [Item.call, configChanged, hd] at hs
    cases hs
    simp only [Item.call]; rw [config_yes_iff]
    exact ⟨d, hd, lookup_single _ _⟩
  | tmo l =>
    simp only [Item.call, timeout] at hs
    cases hs
    simp only [Item.call]; rw [timeout_yes_iff]
    refine ⟨w.clock, lookup_single _ _, ?_⟩
    simp only [Item.canRepeat, decide_eq_true_eq] at hc
    omega
  | stampOf f a c =>
    simp only [Item.call, stamp, stampSaver, getTime] at hs
    cases hf : w.files f with
    | none => simp [hf] at hs
    | some st =>
      simp only [hf] at hs
      cases hs
      simp only [Item.call]; rw [stamp_yes_iff]
      exact ⟨st.get a, st, lookup_single _ _, hf, Cmp.app_refl hc _⟩
  | resDep d =>
    simp only [Item.call, resultDep] at hs
    cases hs
    simp only [Item.call]; rw [resultDep_yes_iff]
    exact ⟨depResult w d, lookup_single _ _, by simpa [Item.canRepeat] using hc, valEq_refl _⟩

theorem step_noSuccess (md5 : Str → Str) (tps : Nat) (it : Item) (s : St) (o : Op) (hs : s.saved = [])
    (ho : o.noSuccess = true) :
    (step md5 tps it s o).1.saved = [] ∧ (step md5 tps it s o).2 ≠ .skipped ∧
      (step md5 tps it s o).2 ≠ .answered .yes := by
  have hn : (it.call md5 tps s.saved s.world).ans ≠ .yes :=
    call_not_yes_of_unrecorded md5 tps it s.saved s.world (by simp [hs, lookup])
  cases o with
  | change c => simp [step, hs]
  | query =>
    simp only [step]
    refine ⟨hs, by simp, ?_⟩
    intro hq
    injection hq with hq
    exact hn hq
  | run ok during =>
    cases ok with
    | true => simp [Op.noSuccess] at ho
    | false =>
      simp only [step]
      cases ha : (it.call md5 tps s.saved s.world).ans with
      | yes => exact absurd ha hn
      | no | ignored => simp [finishRun]
      | raised e => simp [hs]

theorem runOps_noSuccess (md5 : Str → Str) (tps : Nat) (it : Item) (ops : List Op) (s : St) (hs : s.saved = [])
    (h : ops.all Op.noSuccess = true) :
    (runOps md5 tps it s ops).1.saved = [] ∧
      ∀ ob ∈ (runOps md5 tps it s ops).2, ob ≠ .skipped ∧ ob ≠ .answered .yes := by
  induction ops generalizing s with
  | nil => simp [runOps, hs]
  | cons o r ih =>
    simp only [List.all_cons, Bool.and_eq_true] at h
    have h1 := step_noSuccess md5 tps it s o hs h.1
    have h2 := ih (step md5 tps it s o).1 h1.1 h.2
    simp only [runOps]
    refine ⟨h2.1, ?_⟩
    intro ob hob
    simp only [List.mem_cons] at hob
    rcases hob with rfl | hob
    · exact h1.2
    · exact h2.2 ob hob

end DoitModel.UtdTools
