import DoitModel.Proofs.C09Ord
import DoitModel.Proofs.RunLiveP
/-! # C09 — the order of terminal reports, part 2: the system invariant `InvT`

`InvT.g1`: the terminal report of a task comes after the terminal report of every first-stage dependency the run has
determined (`StageG`); `InvT.g2`: if the first `select_task` pass chose the task for execution (`RunFirstG`), also after
the terminal reports of its setup-tasks.  Proved from the shape of one transition (`Proofs/C05Shape.lean`) and the node
invariant `NG`, for the serial and the parallel system. -/
namespace DoitModel.Run

structure InvT (inp : RunInput) (s : Sys) : Prop where
  ng : AllNG inp (stOf s) s
  ev : ∀ n, (Ev.success n ∈ s.events ∨ Ev.skipUtd n ∈ s.events) → (stOf s n).good = true
  g1 : ∀ n a, fstTerm s.events n = some a → ∀ d, StageG inp (stOf s) n d →
    ∃ b, fstTerm s.events d = some b ∧ b < a
  g2 : ∀ n a, fstTerm s.events n = some a → RunFirstG inp (stOf s) n → ∀ d ∈ inp.setup n,
    ∃ b, fstTerm s.events d = some b ∧ b < a

structure Ctx9 (inp : RunInput) (s : Sys) : Prop where
  h2 : Inv2 inp s
  h3 : Inv3 inp s
  hG : InvG inp s
  a4b : ∀ n nd, s.nodes n = some nd → nd.pc = .afterSelf2 → nd.status ≠ .none
  a6 : ∀ n, (stOf s n).finished = true → cTerm s n ≥ 1

variable {inp : RunInput}

theorem quiet_not_terminal {e : Ev} (h : e.quiet = true) (t : Name) : Ev.isTerminalOf t e = false := by
  cases e <;> simp [Ev.quiet, Ev.isTerminalOf] at h ⊢

theorem terminal_mentions {e : Ev} {t : Name} (h : Ev.isTerminalOf t e = true) : Ev.mentions t e = true := by
  cases e <;> simp [Ev.isTerminalOf, Ev.mentions] at h ⊢ <;> exact h

theorem only_not_terminal {l : List Ev} {n m : Name} (h : OnlyMentions l n) (hne : m ≠ n) :
    ∀ e ∈ l, Ev.isTerminalOf m e = false := by
  intro e he
  cases hb : Ev.isTerminalOf m e with
  | false => rfl
  | true => exact absurd (h e he m (terminal_mentions hb)) hne

theorem finBefore_fstTerm {l : List Ev} {d : Name} (h : finBefore l d) : ∃ b, fstTerm l d = some b := by
  rcases h with a | a
  · exact fstTerm_some_of_mem a (by simp [Ev.isTerminalOf])
  · exact fstTerm_some_of_mem a (by simp [Ev.isTerminalOf])

/-- only `n0` is reported in the step: everything related to `n0` is already reported (`Kt`); for a task reported before,
    what is related afterwards (`St'`) was related before (`back`) -/
theorem order_change {s s' : Sys} {n0 : Name} {new : List Ev} {St St' : Name → Name → Prop}
    (h : ∀ n a, fstTerm s.events n = some a → ∀ d, St n d → ∃ b, fstTerm s.events d = some b ∧ b < a)
    (hnone0 : fstTerm s.events n0 = none) (hev : s'.events = new ++ s.events)
    (hother : ∀ m, m ≠ n0 → ∀ e ∈ new, Ev.isTerminalOf m e = false)
    (Kt : (∃ a, fstTerm s'.events n0 = some a) → ∀ x, St' n0 x → ∃ b, fstTerm s.events x = some b)
    (back : ∀ n a, n ≠ n0 → fstTerm s.events n = some a → ∀ d, St' n d → St n d) :
    ∀ n a, fstTerm s'.events n = some a → ∀ d, St' n d → ∃ b, fstTerm s'.events d = some b ∧ b < a := by
  have old : ∀ d b, fstTerm s.events d = some b → fstTerm s'.events d = some b ∧ b < s.events.length :=
    fun d b hb => ⟨by rw [hev]; exact fstTerm_append_old hb, fstTerm_lt hb⟩
  intro n a ha d hd
  by_cases e : n = n0
  · subst e
    obtain ⟨b, hb⟩ := Kt ⟨a, ha⟩ d hd
    obtain ⟨o1, o2⟩ := old d b hb
    have : s.events.length ≤ a := by rw [hev] at ha; exact fstTerm_append_new hnone0 ha
    exact ⟨b, o1, by omega⟩
  · rw [hev, fstTerm_append_quiet (hother n e)] at ha
    obtain ⟨b, hb, hlt⟩ := h n a ha d (back n a e ha d hd)
    exact ⟨b, (old d b hb).1, hlt⟩

theorem invT_change {s s' : Sys} {n0 : Name} {r : RS} {new : List Ev} (h : InvT inp s)
    (hunf : (stOf s n0).finished = false) (hnone0 : fstTerm s.events n0 = none)
    (hst : ∀ x, stOf s' x = if x = n0 then r else stOf s x) (hev : s'.events = new ++ s.events)
    (hother : ∀ m, m ≠ n0 → ∀ e ∈ new, Ev.isTerminalOf m e = false)
    (Kt : ∀ x, StageG inp (stOf s) n0 x → ∃ b, fstTerm s.events x = some b)
    (Ks : (∃ a, fstTerm s'.events n0 = some a) → RunFirstG inp (stOf s') n0 → ∀ d ∈ inp.setup n0,
      ∃ b, fstTerm s.events d = some b)
    (hevn : ∀ m, (Ev.success m ∈ new ∨ Ev.skipUtd m ∈ new) → m = n0 ∧ r.good = true)
    (hng : AllNG inp (stOf s) s') : InvT inp s' := by
  have hfin : ∀ x, (stOf s x).finished = true → stOf s' x = stOf s x := fun x hx => by
    rw [hst, if_neg fun e => by rw [e, hunf] at hx; cases hx]
  have hne : ∀ x, x ≠ n0 → stOf s' x = stOf s x := fun x hx => by rw [hst, if_neg hx]
  have fwd : ∀ n p, CalcG inp (stOf s) n p → CalcG inp (stOf s') n p → (stOf s p).good = true →
      (stOf s' p).good = true := by
    intro n p _ _ hg; rw [hfin p (RS.good_finished hg)]; exact hg
  -- `StageG` under the new statuses is `StageG` under the old ones, for `n0` and for every task reported before:
  -- `n0`, not reported yet, is no dependency of either
  have back : ∀ n, (n = n0 ∨ ∃ a, fstTerm s.events n = some a) → ∀ d, StageG inp (stOf s') n d →
      StageG inp (stOf s) n d := by
    intro n hn d hd
    apply StageG.mono _ hd
    intro p _ hp hg
    by_cases e : p = n0
    · subst e
      have hsg : StageG inp (stOf s) n p := Or.inr (Or.inl hp)
      rcases hn with rfl | ⟨a, ha⟩
      · obtain ⟨b, hb⟩ := Kt _ hsg; rw [hnone0] at hb; cases hb
      · obtain ⟨b, hb, _⟩ := h.g1 n a ha p hsg
        rw [hnone0] at hb; cases hb
    · rw [hne p e] at hg; exact hg
  refine ⟨hng.mono hfin, ?_, ?_, ?_⟩
  · intro m hm
    rw [hev] at hm
    have : (Ev.success m ∈ new ∨ Ev.skipUtd m ∈ new) ∨ (Ev.success m ∈ s.events ∨ Ev.skipUtd m ∈ s.events) := by
      rcases hm with a | a <;> rcases List.mem_append.mp a with b | b
      · exact Or.inl (Or.inl b)
      · exact Or.inr (Or.inl b)
      · exact Or.inl (Or.inr b)
      · exact Or.inr (Or.inr b)
    rcases this with a | a
    · obtain ⟨rfl, hr⟩ := hevn m a
      rw [hst]; simpa using hr
    · have hg := h.ev m a
      rw [hfin m (RS.good_finished hg)]; exact hg
  · exact order_change h.g1 hnone0 hev hother (fun _ x hx => Kt x (back n0 (Or.inl rfl) x hx))
      fun n a _ ha => back n (Or.inr ⟨a, ha⟩)
  · intro n a ha hrf d hd
    refine order_change (St := fun n d => RunFirstG inp (stOf s) n ∧ d ∈ inp.setup n)
      (St' := fun n d => RunFirstG inp (stOf s') n ∧ d ∈ inp.setup n)
      (fun n a ha d hd => h.g2 n a ha hd.1 d hd.2) hnone0 hev hother (fun hx x hd => Ks hx hd.1 x hd.2) ?_ n a ha d
      ⟨hrf, hd⟩
    -- a task reported before that would be chosen now would have been chosen then
    intro n a _ ha d ⟨hrf, hd⟩
    refine ⟨⟨hrf.1, hrf.2.1, hrf.2.2.1, fun x hx => ?_⟩, hd⟩
    have hg := hrf.2.2.2 x (hx.mono (fwd n))
    by_cases ex : x = n0
    · subst ex
      obtain ⟨b, hb, _⟩ := h.g1 n a ha x hx
      rw [hnone0] at hb; cases hb
    · rw [hne x ex] at hg; exact hg

theorem select_frame {s : Sys} {n : Name} {nd : Node} {extra : List Ev} (c : Ctx9 inp s) (hn : s.nodes n = some nd)
    (hd : selDecision inp n nd ≠ .assertFail) (hq : ∀ e ∈ extra, e.quiet = true) :
    (stOf s n).finished = false ∧ fstTerm s.events n = none ∧
      ∀ m, m ≠ n → ∀ e ∈ extra ++ selEvents inp n nd (selDecision inp n nd), Ev.isTerminalOf m e = false := by
  have hunf : (stOf s n).finished = false := by rw [stOf_some hn]; exact selDecision_unfinished hd
  refine ⟨hunf, fstTerm_none_of_cTerm (c.h3.t n hunf), fun m hm e he => ?_⟩
  rcases List.mem_append.mp he with a | a
  · exact quiet_not_terminal (hq e a) m
  · exact only_not_terminal (selEvents_only inp n nd _) hm e a

theorem result_frame {s : Sys} {n : Name} {nd : Node} {mid : List Ev} (c : Ctx9 inp s) (hn : s.nodes n = some nd)
    (hrun : nd.status = .run) (hq : ∀ e ∈ mid, e.quiet = true) :
    (stOf s n).finished = false ∧ fstTerm s.events n = none ∧
      ∀ m, m ≠ n → ∀ e ∈ resEvents n (inp.outcome n) ++ mid, Ev.isTerminalOf m e = false := by
  have hunf : (stOf s n).finished = false := by rw [stOf_some hn, hrun]; rfl
  refine ⟨hunf, fstTerm_none_of_cTerm (c.h3.t n hunf), fun m hm e he => ?_⟩
  rcases List.mem_append.mp he with a | a
  · exact only_not_terminal (resEvents_only n _) hm e a
  · exact quiet_not_terminal (hq e a) m

theorem go_deps {s : Sys} {n : Name} {deps : List Name} (c : Ctx9 inp s) (hg : Ev.go n deps ∈ s.events) :
    (∀ x ∈ deps, finBefore s.events x) ∧ (∀ x, StageG inp (stOf s) n x → x ∈ deps) ∧ ∀ d ∈ inp.setup n, d ∈ deps := by
  obtain ⟨cs, hcl⟩ := c.hG.gd n deps hg
  have calcIn : ∀ x, CalcG inp (stOf s) n x → x ∈ cs := by
    intro x hx
    induction hx with
    | base h => exact hcl.1 _ h
    | res _ _ hc ih => exact (hcl.2.2 _ ih).1 _ hc
  refine ⟨fun x hx => ordOK_go c.h2.ord hg x hx, fun x hx => ?_,
    fun d hd => c.h2.gs n deps hg d (by simp [staticDeps, hd])⟩
  rcases hx with a | a | ⟨p, a, _, c'⟩
  · exact c.h2.gs n deps hg x (by simp [staticDeps, a])
  · exact hcl.2.1 x (calcIn x a)
  · rcases c' with c' | c'
    · exact (hcl.2.2 p (calcIn p a)).2.1 x c'
    · exact (hcl.2.2 p (calcIn p a)).2.2 x c'

/-- the node `select_task` looks at -/
theorem yielded_closed {s : Sys} {n : Name} {nd : Node} (c : Ctx9 inp s) (hsusp : s.susp = some (.node n))
    (hn : s.nodes n = some nd) : nd.waitRun = [] ∧ (∀ d ∈ nd.dynTask, (stOf s d).finished = true) ∧
      (∀ d ∈ nd.dynCalc, (stOf s d).finished = true) ∧ ∀ p, Processed nd p := by
  have hok := c.h2.inv1.node n nd hn
  obtain ⟨nd', hn', hpc⟩ := c.h2.inv1.sp n hsusp
  rw [hn] at hn'; cases hn'
  have hm1 : nd.pendTask = [] ∧ nd.pendCalc = [] ∧ nd.waitRunCalc = [] := by
    rcases hpc with e | e <;> exact hok.m1 (by rw [e]; rfl)
  have hm2 : nd.waitRun = [] := by
    rcases hpc with e | e <;> exact hok.m2 (by rw [e]; rfl)
  have noT : nd.pc.iterT = false := by rcases hpc with e | e <;> (rw [e]; rfl)
  have noC : nd.pc.iterC = false := by rcases hpc with e | e <;> (rw [e]; rfl)
  refine ⟨hm2, fun d hd => ?_, fun d hd => ?_, fun p => ⟨by rw [hm1.2.1]; nofun, fun e => ?_, by rw [hm1.2.2]; nofun⟩⟩
  · rcases hok.kt d hd with a | ⟨a, _⟩ | a | a
    · rw [hm1.1] at a; cases a
    · rw [noT] at a; cases a
    · rw [hm2] at a; cases a
    · exact a.1
  · rcases hok.kc d hd with a | ⟨a, _⟩ | a | a
    · rw [hm1.2.1] at a; cases a
    · rw [noC] at a; cases a
    · rw [hm1.2.2] at a; cases a
    · exact a.1
  · rw [noC] at e; cases e.1

theorem select_stage_finished {s : Sys} {n : Name} {nd : Node} (c : Ctx9 inp s) (hsusp : s.susp = some (.node n))
    (hn : s.nodes n = some nd) : ∀ x, StageG inp (stOf s) n x → (stOf s x).finished = true := by
  have hok := c.h2.inv1.node n nd hn
  obtain ⟨_, clsT, clsC, hpr⟩ := yielded_closed c hsusp hn
  have dlv : ∀ p ∈ nd.dynCalc, (stOf s p).good = true → Delivered inp nd p :=
    fun p hp hg => c.hG.dc n nd hn p hp (hpr p) hg
  have calcIn : ∀ x, CalcG inp (stOf s) n x → x ∈ nd.dynCalc := by
    intro x hx
    induction hx with
    | base h => exact hok.st.2 _ h
    | res _ hg hc ih => exact (dlv _ ih hg).2.2 _ hc
  intro x hx
  rcases hx with a | a | ⟨p, a, b, c'⟩
  · exact clsT x (hok.st.1 x a)
  · exact clsC x (calcIn x a)
  · rcases c' with c' | c'
    · exact clsT x ((dlv p (calcIn p a) b).1 x c')
    · exact clsT x ((dlv p (calcIn p a) b).2.1 x c')

theorem selEvents_fin9 {n m : Name} {nd : Node} {d : Sel}
    (h : Ev.success m ∈ selEvents inp n nd d ∨ Ev.skipUtd m ∈ selEvents inp n nd d) :
    m = n ∧ (selStatus d).good = true := by
  rcases h with h | h <;> rcases mem_selEvents h with e | ⟨e, _⟩ | ⟨e, _⟩ | ⟨e, rfl⟩ | ⟨k, e, _⟩ <;> cases e
  exact ⟨rfl, rfl⟩

theorem resEvents_fin9 {n m : Name} {o : Outcome} (h : Ev.success m ∈ resEvents n o ∨ Ev.skipUtd m ∈ resEvents n o) :
    m = n ∧ (resStatus o).good = true := by
  rcases h with h | h <;> rcases mem_resEvents h with ⟨e, hs⟩ | ⟨k, e, _⟩ <;> cases e
  exact ⟨rfl, by rw [hs]; rfl⟩

theorem quiet_no_fin {new : List Ev} (hq : ∀ e ∈ new, e.quiet = true) (m : Name) :
    Ev.success m ∉ new ∧ Ev.skipUtd m ∉ new :=
  ⟨fun h => by have := hq _ h; simp [Ev.quiet] at this, fun h => by have := hq _ h; simp [Ev.quiet] at this⟩

theorem invT_select {s s' : Sys} {n : Name} {nd : Node} {extra : List Ev} (h : InvT inp s) (c : Ctx9 inp s)
    (haw : awaiting s) (hsusp : s.susp = some (.node n)) (hn : s.nodes n = some nd)
    (hd : selDecision inp n nd ≠ .assertFail)
    (hst : ∀ x, stOf s' x = if x = n then selStatus (selDecision inp n nd) else stOf s x)
    (hev : s'.events = extra ++ (selEvents inp n nd (selDecision inp n nd) ++ s.events))
    (hq : ∀ e ∈ extra, e.quiet = true) (hng : AllNG inp (stOf s) s') : InvT inp s' := by
  obtain ⟨hunf, hnone0, hother⟩ := select_frame c hn hd hq
  have hev' : s'.events = (extra ++ selEvents inp n nd (selDecision inp n nd)) ++ s.events := by
    rw [hev, List.append_assoc]
  have K := select_stage_finished c hsusp hn
  have fin_term : ∀ x, (stOf s x).finished = true → ∃ b, fstTerm s.events x = some b :=
    fun x hx => fstTerm_some_of_cTerm (c.a6 x hx)
  have hok := c.h2.inv1.node n nd hn
  obtain ⟨nd', hn', hpc⟩ := c.h2.inv1.sp n hsusp
  rw [hn] at hn'; cases hn'
  have hm2 : nd.waitRun = [] := (yielded_closed c hsusp hn).1
  have hfin : ∀ x, (stOf s x).finished = true → stOf s' x = stOf s x := fun x hx => by
    rw [hst, if_neg fun e => by rw [e, hunf] at hx; cases hx]
  refine invT_change h hunf hnone0 hst hev' hother (fun x hx => fin_term x (K x hx)) ?_ ?_ hng
  · rintro ⟨a, ha⟩ hrf d hdm
    by_cases h0 : nd.status = .none
    · -- first pass: the decision cannot have been a terminal one
      exfalso
      have hpc1 : nd.pc = .afterSelf1 := by
        rcases hpc with e | e
        · exact e
        · exact absurd h0 (c.a4b n nd hn e)
      have hsetup : inp.setup n ≠ [] := by intro e; rw [e] at hdm; cases hdm
      have hng0 := h.ng n nd hn
      have fwd : ∀ x, StageG inp (stOf s) n x → StageG inp (stOf s') n x := by
        intro x hx; apply hx.mono
        intro p _ _ hg; rw [hfin p (RS.good_finished hg)]; exact hg
      -- a member of `bad_deps` / `ignored_deps` is a determined dependency, or hangs below a failed calc_dep that is
      -- one: either way some determined dependency is not good, against `RunFirstG`
      have notGood : ∀ x r, stOf s x = r → r.finished = true → r.good = false →
          (StageF inp (stOf s) n x ∨ nd.pc.late9 = true) → False := by
        intro x r e1 rf rg e2
        have hsx : StageF inp (stOf s) n x := e2.elim id fun l => by rw [hpc1] at l; cases l
        rcases hsx.cases with y | ⟨q, y, yf⟩
        · have hg := hrf.2.2.2 x (fwd x y)
          rw [hfin x (e1 ▸ rf), e1, rg] at hg; cases hg
        · have hg := hrf.2.2.2 q (fwd q y)
          rw [hfin q (by rw [yf]; rfl), yf] at hg; cases hg
      have quiet : ∀ e ∈ extra ++ selEvents inp n nd .runFirst, Ev.isTerminalOf n e = false := fun e he =>
        (List.mem_append.mp he).elim (fun x => quiet_not_terminal (hq e x) n)
          fun x => by rw [mem_statusEv (show e ∈ statusEv nd n from x)]; rfl
      rw [hev'] at ha
      generalize hD : selDecision inp n nd = dd at ha
      cases selDecision_spec.of_eq hD with
      | ign1 _ c1 =>
        rcases c1 with c1 | c1
        · obtain ⟨x, hx⟩ := List.exists_mem_of_ne_nil _ c1
          obtain ⟨e1, e2⟩ := hng0.ig x hx
          exact notGood x .ign e1 rfl rfl e2
        · have := hrf.1; rw [c1] at this; cases this
      | unmet1 _ _ _ c2 =>
        obtain ⟨x, hx⟩ := List.exists_mem_of_ne_nil _ c2
        obtain ⟨e1, e2⟩ := hng0.bd x hx
        exact notGood x .fail e1 rfl rfl e2
      | depErr _ _ _ _ c3 => exact hrf.2.1 c3
      | utd _ _ _ _ _ c4 => have := hrf.2.2.1; rw [c4] at this; cases this
      | runFirst =>
        -- the answer `runFirst` reports nothing terminal
        rw [fstTerm_append_quiet quiet, hnone0] at ha; cases ha
      | go1 _ _ _ _ _ _ c5 => exact hsetup c5
      | argsErr1 _ _ _ _ _ _ c5 => exact hsetup c5
      | assertFail c0 => exact c0 h0
      | ign2 c0 | unmet2 c0 | go2 c0 | argsErr2 c0 => rw [h0] at c0; cases c0
    · -- second pass: the setup-tasks were absorbed
      have hpc2 : nd.pc = .afterSelf2 := by
        rcases hpc with e | e
        · exact absurd (c.h2.sel1 haw n nd hsusp hn e) h0
        · exact e
      rcases hok.ks (by rw [hpc2]; rfl) d hdm with x | x
      · rw [hm2] at x; cases x
      · exact fin_term d x.1
  · intro m hm
    have : Ev.success m ∈ selEvents inp n nd (selDecision inp n nd) ∨
        Ev.skipUtd m ∈ selEvents inp n nd (selDecision inp n nd) := by
      rcases hm with a | a <;> rcases List.mem_append.mp a with b | b
      · exact absurd b (quiet_no_fin hq m).1
      · exact Or.inl b
      · exact absurd b (quiet_no_fin hq m).2
      · exact Or.inr b
    exact selEvents_fin9 this

theorem invT_result {s s' : Sys} {n : Name} {nd : Node} {mid : List Ev} (h : InvT inp s) (c : Ctx9 inp s)
    (hn : s.nodes n = some nd) (hrun : nd.status = .run) (hgo : ∃ deps, Ev.go n deps ∈ s.events)
    (hst : ∀ x, stOf s' x = if x = n then resStatus (inp.outcome n) else stOf s x)
    (hev : s'.events = resEvents n (inp.outcome n) ++ (mid ++ s.events))
    (hq : ∀ e ∈ mid, e.quiet = true) (hng : AllNG inp (stOf s) s') : InvT inp s' := by
  obtain ⟨hunf, hnone0, hother⟩ := result_frame c hn hrun hq
  have hev' : s'.events = (resEvents n (inp.outcome n) ++ mid) ++ s.events := by
    rw [hev, List.append_assoc]
  obtain ⟨deps, hg⟩ := hgo
  obtain ⟨inFin, stageIn, setupIn⟩ := go_deps c hg
  refine invT_change h hunf hnone0 hst hev' hother (fun x hx => finBefore_fstTerm (inFin x (stageIn x hx)))
    (fun _ _ d hd => finBefore_fstTerm (inFin d (setupIn d hd))) ?_ hng
  · intro m hm
    have : Ev.success m ∈ resEvents n (inp.outcome n) ∨ Ev.skipUtd m ∈ resEvents n (inp.outcome n) := by
      rcases hm with a | a <;> rcases List.mem_append.mp a with b | b
      · exact Or.inl b
      · exact absurd b (quiet_no_fin hq m).1
      · exact Or.inr b
      · exact absurd b (quiet_no_fin hq m).2
    exact resEvents_fin9 this

theorem order_quiet {s s' : Sys} {new : List Ev} {St : Name → Name → Prop}
    (h : ∀ n a, fstTerm s.events n = some a → ∀ d, St n d → ∃ b, fstTerm s.events d = some b ∧ b < a)
    (hev : s'.events = new ++ s.events) (hq : ∀ e ∈ new, e.quiet = true) :
    ∀ n a, fstTerm s'.events n = some a → ∀ d, St n d → ∃ b, fstTerm s'.events d = some b ∧ b < a := by
  have ft : ∀ n, fstTerm s'.events n = fstTerm s.events n := by
    intro n; rw [hev]; exact fstTerm_append_quiet (fun x hx => quiet_not_terminal (hq x hx) n)
  intro n a ha d hd
  rw [ft] at ha
  obtain ⟨b, hb, hlt⟩ := h n a ha d hd
  exact ⟨b, by rw [ft]; exact hb, hlt⟩

theorem invT_quiet {s s' : Sys} {new : List Ev} (h : InvT inp s) (hst : ∀ x, stOf s' x = stOf s x)
    (hev : s'.events = new ++ s.events) (hq : ∀ e ∈ new, e.quiet = true) (hng : AllNG inp (stOf s) s') :
    InvT inp s' := by
  have e : stOf s' = stOf s := funext hst
  refine ⟨by rw [e]; exact hng, ?_, by rw [e]; exact order_quiet h.g1 hev hq, ?_⟩
  · intro m hm
    rw [e]; apply h.ev m
    rw [hev] at hm
    rcases hm with a | a <;> rcases List.mem_append.mp a with b | b
    · exact absurd b (quiet_no_fin hq m).1
    · exact Or.inl b
    · exact absurd b (quiet_no_fin hq m).2
    · exact Or.inr b
  · intro n a ha hrf d hd
    exact order_quiet (St := fun n d => RunFirstG inp (stOf s) n ∧ d ∈ inp.setup n)
      (fun n a ha d hd => h.g2 n a ha hd.1 d hd.2) hev hq n a ha d ⟨e ▸ hrf, hd⟩

theorem invT_step {s s' : Sys} (h : InvT inp s) (c : Ctx9 inp s) (sh : Shape inp s s')
    (hng : AllNG inp (stOf s) s') : InvT inp s' := by
  cases sh with
  | quiet new hst hev hq _ => exact invT_quiet h hst hev hq hng
  | select n nd extra haw hsusp hn hd hst hev hq _ => exact invT_select h c haw hsusp hn hd hst hev hq hng
  | result n nd mid hn hrun hgo hst hev hq _ => exact invT_result h c hn hrun hgo hst hev hq hng

theorem init_invT (inp : RunInput) : InvT inp (init inp) := by
  refine ⟨fun k y hk => by simp [init] at hk, ?_, ?_, ?_⟩
  · intro n hn; simp [init] at hn
  · intro n a ha; simp [init, fstTerm] at ha
  · intro n a ha; simp [init, fstTerm] at ha

theorem reach_ctx9 {s : Sys} (h : Reach inp s) : Ctx9 inp s :=
  ⟨reach_inv2 h, reach_inv3 h, reach_invG h, (reach_invL h).a4b, (reach_invL h).a6⟩

theorem preach_ctx9 {s : Sys} (h : PReach inp s) : Ctx9 inp s :=
  ⟨(preach_inv h).1, (preach_inv h).2, preach_invG h, (preach_invP h).a4b, (preach_invP h).a6⟩

theorem reach_invT {s : Sys} (h : Reach inp s) : InvT inp s := by
  induction h with
  | init => exact init_invT inp
  | @next s0 s1 c hr hs ih =>
    cases c with
    | main perm =>
      exact invT_step ih (reach_ctx9 hr) (serialStep_shape (reach_inv2 hr) (reach_inv3 hr) hs)
        ((serialStep_dispMove hs).ng (fun _ => rfl) ih.ng)
    | take w => cases hs
    | done w => cases hs

theorem preach_invT {s : Sys} (h : PReach inp s) : InvT inp s := by
  induction h with
  | init => exact init_invT inp
  | @next s0 s1 c hr hs ih =>
    have hi := preach_inv hr
    exact invT_step ih (preach_ctx9 hr) (pstep_shape hi.1 hi.2 hs) ((pstep_dispMove hs).ng (fun _ => rfl) ih.ng)

end DoitModel.Run
