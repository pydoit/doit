import DoitModel.Proofs.OptGetopt
import DoitModel.Proofs.Opt
/-! M4: errors propagate — a getopt error, an ill-typed value, a bad environment value make `parse` fail -/
namespace DoitModel.Opt

def IsErr {α : Type} (r : Except Err α) : Prop := ∃ e, r = .error e

theorem parse_getopt_error (st : PState) (env : Str → Option Str) (argv : List Str) (e : Err)
    (h : getopt st argv = .error e) : IsErr (parse false st env argv).2 := by
  rw [parse_eq, h]
  cases applyEnv env st (initParams st Params.empty) <;> exact ⟨_, rfl⟩

theorem applyPairs_bad (st : PState) (ps : Pairs) (kv : Key × Str) (hm : kv ∈ ps)
    (hbad : ∀ p, IsErr (applyPair false st p kv).2) (p : Params) : IsErr (applyPairs false ps st p).2 := by
  induction ps generalizing p with
  | nil => cases hm
  | cons a r ih =>
    rw [applyPairs_cons]
    cases hr : (applyPair false st p a).2 with
    | error e => exact ⟨e, rfl⟩
    | ok p1 =>
      rcases List.mem_cons.mp hm with e | m
      · obtain ⟨e', he'⟩ := hbad p
        rw [e, hr] at he'; cases he'
      · exact ih m p1

theorem applyPair_bad_scalar (st : PState) (k : Key) (v : Str) (o : Opt) (inv : Bool) (e : Err)
    (hg : getOption st k = some (o, inv)) (hty : o.ty = .int ∨ o.ty = .str) (hc : str2type o v = .error e)
    (p : Params) : IsErr (applyPair false st p (k, v)).2 := by
  rw [applyPair_eq, hg]
  show IsErr ((occStep o (p.vals o.name) (inv, v)).map (p.set o.name))
  unfold occStep
  rcases hty with h | h <;> rw [h] <;> exact ⟨e, congrArg _ hc⟩

theorem applyEnv_bad (env : Str → Option Str) (st : List Opt) (o : Opt) (ho : o ∈ st) (s : Str) (e : Err)
    (hs : envOf env o = some s) (hc : str2type o s = .error e) (p : Params) : IsErr (applyEnv env st p) := by
  induction st generalizing p with
  | nil => cases ho
  | cons a r ih =>
    unfold applyEnv
    rcases List.mem_cons.mp ho with h | m
    · subst h
      unfold envOf at hs
      simp only [hs, hc]
      exact ⟨e, rfl⟩
    · split
      · exact ih m _
      · split
        · exact ⟨_, rfl⟩
        · exact ih m _

end DoitModel.Opt
