import DoitModel.Proofs.LoadTotal
/-! what an accepted load implies about every creator result and every task dictionary -/
namespace DoitModel.Load

/-- every field other than `name`/`basename` (and, with `skipActions`, other than `actions`: a `name: None` dict has
    its `actions` replaced unchecked) is a known attribute whose value passes `Task.check_attr` against `Task.valid_attr` -/
def FieldsValid (d : TDict) (skipActions : Bool) : Prop :=
  ∀ p ∈ d, p.1 ≠ .name → p.1 ≠ .basename → (skipActions = true → p.1 ≠ .actions) →
    ∃ s, validAttr p.1 = some s ∧ checkAttr (effective p.1 p.2) s = true

theorem fieldsValid_named (d : TDict) (v : RawVal) (t : Task)
    (h : dictToTask (put (del d .basename) .name v) = .ok t) : FieldsValid d false := by
  intro p hp hn hb _
  apply checkAll_mem _ ((dictToTask_checked _).of_ok h).2.1 p
  rw [mem_put, mem_del]
  exact Or.inl ⟨⟨hp, hb⟩, hn⟩

theorem fieldsValid_group (d : TDict) (v w : RawVal) (t : Task)
    (h : dictToTask (put (put (del d .basename) .name v) .actions w) = .ok t) : FieldsValid d true := by
  intro p hp hn hb ha
  apply checkAll_mem _ ((dictToTask_checked _).of_ok h).2.1 p
  rw [mem_put, mem_put, mem_del]
  exact Or.inl ⟨Or.inl ⟨⟨hp, hb⟩, hn⟩, ha rfl⟩

theorem actions_named (d : TDict) (v : RawVal) (t : Task)
    (h : dictToTask (put (del d .basename) .name v) = .ok t) : (get d .actions).isSome = true := by
  have := ((dictToTask_checked _).of_ok h).1
  rwa [get_put_ne _ _ _ _ (by decide), get_del_ne _ _ _ (by decide)] at this

theorem fromReturn_ok (fn : Name) (d : TDict) (t : Task) (h : fromReturn fn d = .ok t) :
    get d .name = none ∧ (get d .actions).isSome = true ∧ FieldsValid d false ∧
    (∀ v, get d .basename = some v → v = .str t.name) := by
  obtain ⟨hn, hd⟩ := (fromReturn_checked fn d).of_ok h
  have hname := (dictToTask_plain _ t hd).2.2
  rw [get_put_self] at hname
  refine ⟨hn, actions_named d _ t hd, fieldsValid_named d _ t hd, fun v hv => ?_⟩
  rw [hv] at hname
  exact Option.some.inj hname

theorem yieldDict_ok (tasks r : Tasks) (fn : Name) (d : TDict) (nf bf : Name)
    (h : yieldDict tasks fn d nf bf = .ok r) :
    -- has `name` or a (truthy) `basename`
    (get (del d .basename) .name ≠ none ∨ (bnOf d).truthy = true) ∧
    -- has `actions` unless it carries the group's attributes
    ((get d .actions).isSome = true ∨ get (del d .basename) .name = some .none) ∧
    FieldsValid d (get (del d .basename) .name == some .none) ∧ basenameOk d = true := by
  obtain ⟨hb, hcase⟩ := (yieldDict_checked tasks fn d nf bf).of_ok h
  cases hcase with
  | group hn hg =>
    obtain ⟨g, hd, _⟩ := (yieldGroupAttrs_checked _ _ _).of_ok hg
    rw [hn]
    exact ⟨Or.inl nofun, Or.inr rfl, fieldsValid_group d _ _ g hd, hb⟩
  | sub nv b hn hnv _ hs =>
    obtain ⟨_, sub, hd, _⟩ := (yieldSub_checked _ _ _ _ _ _).of_ok hs
    rw [hn, show (some nv == some RawVal.none) = false from beq_false_of_ne fun e => hnv (Option.some.inj e)]
    exact ⟨Or.inl nofun, Or.inl (actions_named d _ sub hd), fieldsValid_named d _ sub hd, hb⟩
  | plain hn hp =>
    obtain ⟨ht, b, t, _, _, hd, _⟩ := (yieldPlain_checked _ _ _ (basenameOk_cases d hb)).of_ok hp
    rw [hn]
    exact ⟨Or.inr ht, Or.inl (actions_named d _ t hd), fieldsValid_named d _ t hd, hb⟩

theorem yieldAll_ok_mem (fn : Name) (ys : List Yielded) (tasks r : Tasks) (h : yieldAll fn tasks ys = .ok r) :
    ∀ y ∈ ys, ∃ tk r', yieldOne fn tk y = .ok r' := by
  induction ys generalizing tasks with
  | nil => nofun
  | cons y rest ih =>
    obtain ⟨tasks', hy, hrest⟩ := (yieldAll_checked fn (y :: rest) tasks).of_ok h
    intro y' hy'
    rcases List.mem_cons.mp hy' with rfl | hm
    · exact ⟨tasks, tasks', hy⟩
    · exact ih tasks' hrest y' hm

/-- what an accepted creator result looks like -/
def ResultValid (fn : Name) : Result → Prop
  | .dict d => get d .name = none ∧ (get d .actions).isSome = true ∧ FieldsValid d false ∧
      (∀ v, get d .basename = some v → ∃ s, v = .str s)
  | .gen items => ∀ y ∈ Gen.flattenList items, y ≠ .other ∧ ∀ d nf bf, y = .dict d nf bf →
      (get (del d .basename) .name ≠ none ∨ (bnOf d).truthy = true) ∧
      ((get d .actions).isSome = true ∨ get (del d .basename) .name = some .none) ∧
      FieldsValid d (get (del d .basename) .name == some .none) ∧ basenameOk d = true
  | .other => False
  | _ => True

theorem generate_ok (fn : Name) (r : Result) (ts : List Task) (h : generate fn r = .ok ts) : ResultValid fn r := by
  have hg := (generate_checked fn r).of_ok h
  cases r with
  | task t => trivial
  | none => trivial
  | other => exact hg
  | dict d =>
    obtain ⟨t, hd, _⟩ := hg
    obtain ⟨h1, h2, h3, h4⟩ := fromReturn_ok fn d t hd
    exact ⟨h1, h2, h3, fun v hv => ⟨t.name, h4 v hv⟩⟩
  | gen items =>
    obtain ⟨tk, hy, _⟩ := hg
    intro y hy'
    obtain ⟨tk0, r', hone⟩ := yieldAll_ok_mem fn _ [] tk hy y hy'
    constructor
    · rintro rfl; cases hone
    · rintro d nf bf rfl
      exact yieldDict_ok tk0 r' fn d nf bf hone

theorem generateAll_ok_mem (cmds : List Name) (cs : List Creator) (ts : List Task)
    (h : generateAll cmds cs = .ok ts) : ∀ c ∈ cs, ∃ r, generate c.name c.result = .ok r := by
  induction cs generalizing ts with
  | nil => nofun
  | cons c rest ih =>
    obtain ⟨seg, more, hg, _, hr, _⟩ := (generateAll_checked cmds (c :: rest)).of_ok h
    intro c' hc'
    rcases List.mem_cons.mp hc' with rfl | hm
    · exact ⟨seg, hg⟩
    · exact ih more hr c' hm

theorem generateAll_no_cmd (cmds : List Name) (cs : List Creator) (ts : List Task)
    (h : generateAll cmds cs = .ok ts) : ∀ t ∈ ts, t.subtaskOf = none → t.name ∉ cmds := by
  induction cs generalizing ts with
  | nil => cases h; nofun
  | cons c rest ih =>
    obtain ⟨seg, more, _, hclash, hr, rfl⟩ := (generateAll_checked cmds (c :: rest)).of_ok h
    intro t ht hsub hin
    rcases List.mem_append.mp ht with h1 | h1
    · have : cmdClash cmds seg = true :=
        List.any_eq_true.mpr ⟨t, h1, by rw [hsub]; exact List.contains_iff_mem.mpr hin⟩
      rw [hclash] at this; cases this
    · exact ih more hr t h1 hsub hin

end DoitModel.Load
