import DoitModel.Model.RunMon
/-! # The fixed-point iterations of the monitors need no more rounds than there are task names

`addNew`; an extensive round function on lists of names below `n` reaches a closed list within `n` rounds (`Round`,
`iterF_closed`); `calcsAt` is such an iteration. -/
namespace DoitModel.Run

theorem mem_addNew {x : Name} (acc xs : List Name) : x ∈ addNew acc xs ↔ x ∈ acc ∨ x ∈ xs := by
  induction xs generalizing acc with
  | nil => simp [addNew]
  | cons b bs ih =>
    rw [show addNew acc (b :: bs) = addNew (if b ∈ acc then acc else acc ++ [b]) bs from rfl, ih]
    by_cases hb : b ∈ acc
    · rw [if_pos hb, List.mem_cons]
      exact ⟨fun h => h.imp_right Or.inr, fun h => h.elim Or.inl fun h => h.elim (fun e => Or.inl (e ▸ hb)) Or.inr⟩
    · rw [if_neg hb, List.mem_append, List.mem_singleton, List.mem_cons, or_assoc]

theorem addNew_eq_self : ∀ (xs acc : List Name), (∀ x ∈ xs, x ∈ acc) → addNew acc xs = acc := by
  intro xs
  induction xs with
  | nil => intro acc _; rfl
  | cons b bs ih =>
    intro acc h
    have e : addNew acc (b :: bs) = addNew (if b ∈ acc then acc else acc ++ [b]) bs := by simp [addNew]
    rw [e, if_pos (h b (by simp))]
    exact ih acc (fun x hx => h x (by simp [hx]))

def iterF (F : List Name → List Name) : Nat → List Name → List Name
  | 0, cl => cl
  | k + 1, cl => iterF F k (F cl)

def missing (n : Nat) (cl : List Name) : Nat := (List.range n).countP fun x => decide (x ∉ cl)

theorem countP_lt {α} {p q : α → Bool} : ∀ {l : List α}, (∀ a ∈ l, p a = true → q a = true) →
    (∃ x ∈ l, q x = true ∧ p x = false) → l.countP p < l.countP q := by
  intro l
  induction l with
  | nil => intro _ ⟨x, hx, _⟩; cases hx
  | cons a t ih =>
    intro himp ⟨x, hx, hq, hp⟩
    have hle : t.countP p ≤ t.countP q :=
      List.countP_mono_left (fun b hb hpb => himp b (List.mem_cons_of_mem _ hb) hpb)
    rw [List.countP_cons, List.countP_cons]
    rcases List.mem_cons.mp hx with e | e
    · subst e; simp only [hq, hp, if_true]; simp; omega
    · have := ih (fun b hb => himp b (List.mem_cons_of_mem _ hb)) ⟨x, e, hq, hp⟩
      by_cases hpa : p a = true
      · simp only [hpa, himp a (by simp) hpa, if_true]; omega
      · have hpa' : p a = false := by simpa using hpa
        simp only [hpa', Bool.false_eq_true, if_false]
        split <;> omega

theorem missing_lt {n : Nat} {a b : List Name} (hsub : ∀ x ∈ a, x ∈ b) {x : Name} (hx : x < n) (hb : x ∈ b)
    (ha : x ∉ a) : missing n b < missing n a := by
  unfold missing
  apply countP_lt
  · intro y _ hy; simp only [decide_eq_true_eq] at hy ⊢; exact fun h => hy (hsub y h)
  · exact ⟨x, List.mem_range.mpr hx, by simpa using ha, by simpa using hb⟩

theorem missing_le (n : Nat) (cl : List Name) : missing n cl ≤ n := by
  unfold missing
  exact Nat.le_trans (List.countP_le_length) (by simp)

theorem missing_zero {n : Nat} {cl : List Name} (h : missing n cl = 0) {x : Name} (hx : x < n) : x ∈ cl := by
  unfold missing at h
  have := List.countP_eq_zero.mp h x (List.mem_range.mpr hx)
  simpa using this

structure Round (n : Nat) (F : List Name → List Name) : Prop where
  ext : ∀ cl x, x ∈ cl → x ∈ F cl
  fix : ∀ cl, (∀ x ∈ F cl, x ∈ cl) → F cl = cl
  bnd : ∀ cl, (∀ x ∈ cl, x < n) → ∀ x ∈ F cl, x < n

theorem iterF_fixed {F : List Name → List Name} {cl : List Name} (h : F cl = cl) : ∀ k, iterF F k cl = cl := by
  intro k; induction k with
  | zero => rfl
  | succ k ih => simp only [iterF, h, ih]

theorem iterF_ext {F : List Name → List Name} (ext : ∀ cl x, x ∈ cl → x ∈ F cl) :
    ∀ k cl x, x ∈ cl → x ∈ iterF F k cl := by
  intro k; induction k with
  | zero => intro cl x h; exact h
  | succ k ih => intro cl x h; exact ih _ x (ext cl x h)

theorem iterF_bnd {n : Nat} {F : List Name → List Name} (bnd : ∀ cl, (∀ x ∈ cl, x < n) → ∀ x ∈ F cl, x < n) :
    ∀ k cl, (∀ x ∈ cl, x < n) → ∀ x ∈ iterF F k cl, x < n := by
  intro k; induction k with
  | zero => intro cl h; exact h
  | succ k ih => intro cl h; exact ih _ (bnd cl h)

/-- after `k` rounds the list is closed, or `k` more of the names below `n` have been added -/
theorem iterF_progress {n : Nat} {F : List Name → List Name} (r : Round n F) : ∀ k cl, (∀ x ∈ cl, x < n) →
    (F (iterF F k cl) = iterF F k cl) ∨ missing n (iterF F k cl) + k ≤ missing n cl := by
  intro k
  induction k with
  | zero => intro cl _; exact Or.inr (by simp [iterF])
  | succ k ih =>
    intro cl hb
    by_cases hc : ∀ x ∈ F cl, x ∈ cl
    · have e := r.fix cl hc
      left; simp only [iterF, e, iterF_fixed e k]
    · simp only [iterF]
      rcases ih (F cl) (r.bnd cl hb) with a | a
      · exact Or.inl a
      · right
        have ⟨x, hx, hxn⟩ : ∃ x, x ∈ F cl ∧ x ∉ cl := by
          false_or_by_contra; rename_i hh
          exact hc (fun x hx => by false_or_by_contra; rename_i h2; exact hh ⟨x, hx, h2⟩)
        have := missing_lt (n := n) (r.ext cl) (r.bnd cl hb x hx) hx hxn
        omega

theorem iterF_closed {n : Nat} {F : List Name → List Name} (r : Round n F) {k : Nat} (hk : n ≤ k) {cl : List Name}
    (hb : ∀ x ∈ cl, x < n) : ∀ x ∈ F (iterF F k cl), x ∈ iterF F k cl := by
  rcases iterF_progress r k cl hb with a | a
  · intro x hx; rw [a] at hx; exact hx
  · have h0 : missing n (iterF F k cl) = 0 := by have := missing_le n cl; omega
    intro x hx
    exact missing_zero h0 (r.bnd _ (iterF_bnd r.bnd k cl hb) x hx)

theorem addNew_round {n : Nat} {F : List Name → List Name}
    (hF : ∀ cl, (∀ x ∈ cl, x < n) → ∀ x ∈ F cl, x < n) : Round n fun cl => addNew cl (F cl) := by
  refine ⟨fun cl x hx => (mem_addNew _ _).mpr (Or.inl hx),
    fun cl h => addNew_eq_self _ _ fun x hx => h x ((mem_addNew _ _).mpr (Or.inr hx)), fun cl h x hx => ?_⟩
  rcases (mem_addNew _ _).mp hx with a | a
  · exact h x a
  · exact hF cl h x a

theorem mem_foldl_addNew {f : Name → List Name} {x : Name} : ∀ (l acc : List Name),
    x ∈ l.foldl (fun a t => addNew a (f t)) acc ↔ x ∈ acc ∨ ∃ t ∈ l, x ∈ f t := by
  intro l
  induction l with
  | nil => intro acc; simp
  | cons b bs ih =>
    intro acc
    rw [List.foldl_cons, ih, mem_addNew]
    constructor
    · rintro ((a | a) | ⟨t, ht, a⟩)
      · exact Or.inl a
      · exact Or.inr ⟨b, by simp, a⟩
      · exact Or.inr ⟨t, by simp [ht], a⟩
    · rintro (a | ⟨t, ht, a⟩)
      · exact Or.inl (Or.inl a)
      · rcases List.mem_cons.mp ht with e | e
        · subst e; exact Or.inl (Or.inr a)
        · exact Or.inr ⟨t, e, a⟩

theorem foldl_addNew_self {f : Name → List Name} : ∀ (l acc : List Name), (∀ t ∈ l, ∀ x ∈ f t, x ∈ acc) →
    l.foldl (fun a t => addNew a (f t)) acc = acc := by
  intro l
  induction l with
  | nil => intro acc _; rfl
  | cons b bs ih =>
    intro acc h
    rw [List.foldl_cons, addNew_eq_self _ _ (h b (by simp))]
    exact ih acc (fun t ht => h t (by simp [ht]))

theorem iterF_addNew_closed {n : Nat} {G : List Name → List Name}
    (hG : ∀ cl, (∀ x ∈ cl, x < n) → ∀ x ∈ G cl, x < n) {cl : List Name} (hcl : ∀ x ∈ cl, x < n) {x : Name}
    (hx : x ∈ G (iterF (fun c => addNew c (G c)) n cl)) : x ∈ iterF (fun c => addNew c (G c)) n cl :=
  iterF_closed (addNew_round hG) (Nat.le_refl n) hcl x ((mem_addNew _ _).mpr (Or.inr hx))

theorem iterF_addNew_ext (G : List Name → List Name) :
    ∀ k cl x, x ∈ cl → x ∈ iterF (fun c => addNew c (G c)) k cl :=
  iterF_ext fun _ _ hx => (mem_addNew _ _).mpr (Or.inl hx)

/-- one round of `calcsAt` -/
def calcRound (inp : RunInput) (tr : List Ev) (cs : List Name) : List Name :=
  addNew cs ((cs.filter (finishedIn tr)).flatMap fun c => (inp.calcRes c).calcs)

theorem calcsAt_succ (inp : RunInput) (tr : List Ev) (k : Nat) (cs : List Name) :
    calcsAt inp tr (k + 1) cs = calcsAt inp tr k (calcRound inp tr cs) := rfl

theorem mem_calcRound {inp : RunInput} {tr : List Ev} {cs : List Name} {x : Name} :
    x ∈ calcRound inp tr cs ↔ x ∈ cs ∨ ∃ c ∈ cs, finishedIn tr c = true ∧ x ∈ (inp.calcRes c).calcs := by
  unfold calcRound
  rw [mem_addNew]
  constructor
  · rintro (a | a)
    · exact Or.inl a
    · obtain ⟨c, hc, hx⟩ := List.mem_flatMap.mp a
      exact Or.inr ⟨c, (List.mem_filter.mp hc).1, (List.mem_filter.mp hc).2, hx⟩
  · rintro (a | ⟨c, hc, hf, hx⟩)
    · exact Or.inl a
    · exact Or.inr (List.mem_flatMap.mpr ⟨c, List.mem_filter.mpr ⟨hc, hf⟩, hx⟩)

theorem calcsAt_iter (inp : RunInput) (pre : List Ev) : ∀ k cs, calcsAt inp pre k cs = iterF (calcRound inp pre) k cs := by
  intro k; induction k with
  | zero => intro cs; rfl
  | succ k ih => intro cs; simp only [calcsAt, iterF, calcRound, ih]

theorem calcsAt_ext (inp : RunInput) (pre : List Ev) (k : Nat) (cs : List Name) (x : Name) (h : x ∈ cs) :
    x ∈ calcsAt inp pre k cs := by
  rw [calcsAt_iter]; exact iterF_addNew_ext _ k cs x h

theorem calcRound_below {inp : RunInput} {n : Nat} (hrc : ∀ t, t < n → ∀ d ∈ (inp.calcRes t).calcs, d < n)
    (pre : List Ev) (cl : List Name) (h : ∀ x ∈ cl, x < n) :
    ∀ x ∈ (cl.filter (finishedIn pre)).flatMap fun c => (inp.calcRes c).calcs, x < n := by
  intro x hx
  obtain ⟨c, hc, hxc⟩ := List.mem_flatMap.mp hx
  exact hrc c (h c (List.mem_filter.mp hc).1) x hxc

theorem calcRound_round_of {inp : RunInput} {n : Nat} (hrc : ∀ t, t < n → ∀ d ∈ (inp.calcRes t).calcs, d < n)
    (pre : List Ev) : Round n (calcRound inp pre) := addNew_round (calcRound_below hrc pre)

theorem calcsAt_closed_of {inp : RunInput} {n : Nat} (hrc : ∀ t, t < n → ∀ d ∈ (inp.calcRes t).calcs, d < n)
    (pre : List Ev) {cs : List Name} (hcs : ∀ x ∈ cs, x < n) {c x : Name} (hc : c ∈ calcsAt inp pre n cs)
    (hf : finishedIn pre c = true) (hx : x ∈ (inp.calcRes c).calcs) : x ∈ calcsAt inp pre n cs := by
  rw [calcsAt_iter] at hc ⊢
  exact iterF_addNew_closed (calcRound_below hrc pre) hcs (List.mem_flatMap.mpr ⟨c, List.mem_filter.mpr ⟨hc, hf⟩, hx⟩)

end DoitModel.Run
