import DoitModel.Proofs.C08DynInvE
import DoitModel.Proofs.C08Inv
import DoitModel.Proofs.RunPar
/-! # C08 (I10) with calc_dep: the confluence invariant `InvDen` holds in every reachable state of the serial and of the
    parallel system (any graph)

First the flag `started s c` (read by `deliverF`) against the denotation, for a failed `c`: it is set iff the derived outcome
is a failure during execution (`SF inp c`).  ⇒ (`startF_of_inv`) follows from the invariants of a state; ⇐ (`StartB`) is an
invariant of its own. -/
namespace DoitModel.Run.Dyn

theorem started_iff_cStart (s : Sys) (c : Name) : started s c = true ↔ cStart s c ≥ 1 := by
  unfold started cStart
  rw [List.any_eq_true, ge_iff_le, Nat.succ_le_iff, List.countP_pos_iff]
  constructor
  · rintro ⟨e, he, hp⟩
    refine ⟨e, he, ?_⟩
    cases e <;> simp [Ev.isStartOf] at hp ⊢
    exact hp
  · rintro ⟨e, he, hp⟩
    refine ⟨e, he, ?_⟩
    cases e <;> simp [Ev.isStartOf] at hp ⊢
    exact hp

theorem startedFail_resDen {inp : RunInput} {c : Name} (ha : inp.argsOk c = true) (hs : inp.statusOf c ≠ .error)
    (hr : (resDen (inp.outcome c)).rs = .fail) : startedFail inp c (resDen (inp.outcome c)) = true := by
  cases ho : inp.outcome c <;> rw [ho] at hr <;> simp [resDen, startedFail, Den.rs, ha, hs] at hr ⊢

theorem startF_of_inv {inp : RunInput} {s : Sys} (h3 : Inv3 inp s) (hE : InvE inp s) : StartF inp s := by
  intro c hf hst
  have hc := (started_iff_cStart s c).mp hst
  have hgo : ∃ deps, Ev.go c deps ∈ s.events := go_of_cGo (by have := h3.j c; omega)
  obtain ⟨deps, hg⟩ := hgo
  have gk := hE.go c deps hg
  obtain ⟨d, hd, hrs⟩ := hE.fin c (by rw [hf]; rfl)
  have e : d = resDen (inp.outcome c) := hd.functional gk.den
  refine ⟨_, gk.den, startedFail_resDen gk.args.1 gk.args.2 ?_⟩
  rw [← e, hrs, hf]

theorem StartB.frame {P : Name → Prop} {s s' : Sys} (h : StartB P s) (hst : ∀ x, stOf s' x = stOf s x)
    (new : List Ev) (hev : s'.events = new ++ s.events) : StartB P s' := by
  intro c hf hsf
  rw [hst] at hf
  have := h c hf hsf
  unfold started at this ⊢
  rw [hev, List.any_append, this, Bool.or_true]

theorem init_startB (inp : RunInput) (P : Name → Prop) : StartB P (init inp) :=
  fun _ hf => nomatch hf

/-- `select_task`: a failure found there is not a failure during execution -/
theorem startB_applySel {inp : RunInput} {s : Sys} {n : Name} {nd : Node} (h : StartB (SF inp) s)
    (hd : selDecision inp n nd ≠ .assertFail)
    (hE' : InvE inp (applySel inp s n nd (selDecision inp n nd))) :
    StartB (SF inp) (applySel inp s n nd (selDecision inp n nd)) := by
  intro c hf hsf
  have hev := applySel_events inp s n nd (selDecision inp n nd)
  rw [stOf_applySel inp s n nd _ hd] at hf
  by_cases e : c = n
  · subst e
    simp only [if_true] at hf
    exfalso
    obtain ⟨d, hdn, hs⟩ := hsf
    have rep : ∀ k, Ev.failure c k ∈ selEvents inp c nd (selDecision inp c nd) → d = .fail k := by
      intro k hk
      exact hdn.functional (hE'.rep _ (by rw [hev]; exact List.mem_append.mpr (Or.inl hk)) c _ (by simp [Ev.den?]))
    cases hdec : selDecision inp c nd <;> rw [hdec] at hf rep <;> simp only [selStatus] at hf <;> try cases hf
    · have := rep .unmet (by simp [selEvents]); subst this; simp [startedFail] at hs
    · have := rep .depErr (by simp [selEvents]); subst this
      simp [startedFail, selDecision_depErr hdec] at hs
    · have := rep .depErr (by simp [selEvents]); subst this
      simp [startedFail, selDecision_argsErr hdec] at hs
  · simp only [e, if_false] at hf
    have := h c hf hsf
    unfold started at this ⊢
    rw [hev, List.any_append, this, Bool.or_true]

theorem startB_result {inp : RunInput} {s : Sys} {n : Name} {nd : Node} (h : StartB (SF inp) s)
    (hst : cStart s n ≥ 1) : StartB (SF inp) (processResult inp s n nd) := by
  intro c hf hsf
  have hev := processResult_events inp s n nd
  rw [stOf_processResult] at hf
  have mono : started s c = true → started (processResult inp s n nd) c = true := by
    intro this
    unfold started at this ⊢
    rw [hev, List.any_append, this, Bool.or_true]
  by_cases e : c = n
  · subst e; exact mono ((started_iff_cStart s c).mpr hst)
  · simp only [e, if_false] at hf; exact mono (h c hf hsf)

/-- node-local soundness of `bad_deps`/`ignored_deps` + agreement of statuses, `go` marks and reports with `DenOf`;
    `dcf`: what a processed calc_dep that failed during its execution returned is in the dynamic dependency lists;
    `sb`: a failed task whose derived outcome is a failure during execution has a start event -/
structure InvDen (inp : RunInput) (s : Sys) : Prop where
  nodeS : InvN inp s
  den : InvE inp s
  dcf : AllDCF inp (SF inp) s
  sb : StartB (SF inp) s

theorem InvDen.started_iff {inp : RunInput} {s : Sys} (h : InvDen inp s) (h3 : Inv3 inp s) (c : Name)
    (hf : stOf s c = .fail) : started s c = true ↔ SF inp c :=
  ⟨startF_of_inv h3 h.den c hf, h.sb c hf⟩

theorem InvDen.fin {inp : RunInput} {s : Sys} (h : InvDen inp s) (n : Name) (hf : (stOf s n).finished = true) :
    ∃ d, DenOf inp n d ∧ d.rs = stOf s n := h.den.fin n hf

theorem InvDen.rep {inp : RunInput} {s : Sys} (h : InvDen inp s) (n : Name) :
    (Ev.success n ∈ s.events → DenOf inp n .ok) ∧ (Ev.skipUtd n ∈ s.events → DenOf inp n .utd) ∧
    (Ev.skipIgn n ∈ s.events → DenOf inp n .ign) ∧ (∀ k, Ev.failure n k ∈ s.events → DenOf inp n (.fail k)) :=
  ⟨fun a => h.den.rep _ a n _ (by simp [Ev.den?]), fun a => h.den.rep _ a n _ (by simp [Ev.den?]),
   fun a => h.den.rep _ a n _ (by simp [Ev.den?]), fun k a => h.den.rep _ a n _ (by simp [Ev.den?])⟩

theorem init_invDen (inp : RunInput) : InvDen inp (init inp) :=
  ⟨fun n nd hn => by simp [init] at hn, init_invE inp, init_allDCF inp _, init_startB inp _⟩

theorem InvDen.outer {inp : RunInput} {s s' : Sys} (h : InvDen inp s) (e1 : s'.nodes = s.nodes) (new : List Ev)
    (hev : s'.events = new ++ s.events) (hp : ∀ e ∈ new, Ev.plainD e) : InvDen inp s' :=
  ⟨invN_congr h.nodeS e1, h.den.frame (stOf_congr e1) new hev hp, allDCF_congr h.dcf e1,
   StartB.frame h.sb (stOf_congr e1) new hev⟩

theorem InvDen.same {inp : RunInput} {s s' : Sys} (h : InvDen inp s) (e1 : s'.nodes = s.nodes)
    (e2 : s'.events = s.events) : InvDen inp s' :=
  h.outer e1 [] (by simpa using e2) (by simp)

theorem dtick_invDen {inp : RunInput} {s s' : Sys} {perm : List Name} (h3 : Inv3 inp s) (h : InvDen inp s)
    (hs : dtick inp s perm = some s') : InvDen inp s' :=
  ⟨dtick_invN (startF_of_inv h3 h.den) h.nodeS hs,
   h.den.frame (dtick_stOf hs) [] (by simpa using (dtick_outer hs).1) (by simp),
   dtick_allDCF h.dcf h.sb hs, StartB.frame h.sb (dtick_stOf hs) [] (by simpa using (dtick_outer hs).1)⟩

theorem send_invDen {inp : RunInput} {s s0 : Sys} {node : Option Name} {perm : List Name} (h2 : Inv2 inp s)
    (h3 : Inv3 inp s)
    (h : InvDen inp s) (hnode : sentBack s = node) (hs : send inp s node perm = some s0) : InvDen inp s0 := by
  obtain ⟨_, hst⟩ := send_inv1 h2.inv1 (fun p hp => h2.sb p (by rw [hnode, hp])) hs
  exact ⟨send_invN (startF_of_inv h3 h.den) h.nodeS hs, h.den.frame hst [] (by simpa using (send_outer hs).1.1) (by simp),
    send_allDCF h.dcf h.sb hs, StartB.frame h.sb hst [] (by simpa using (send_outer hs).1.1)⟩

theorem InvDen.delivF {inp : RunInput} {s : Sys} {n : Name} {nd : Node} (h : InvDen inp s) (h1 : Inv1 inp s)
    (hn : s.nodes n = some nd) (hl : nd.pc.inLoop = false) : DelivF inp s nd :=
  DelivF.ofDCF h.den h1 h.dcf hn hl

theorem select_invDen {inp : RunInput} {s : Sys} {n : Name} {nd : Node} (hG : InvG inp s) (h2 : Inv2 inp s) (h : InvDen inp s)
    (haw : awaiting s) (hsusp : s.susp = some (.node n)) (hn : s.nodes n = some nd)
    (hd : selDecision inp n nd ≠ .assertFail) : InvDen inp (applySel inp s n nd (selDecision inp n nd)) := by
  have hl : nd.pc.inLoop = false := by
    obtain ⟨nd', hn', hpc⟩ := h2.inv1.sp n hsusp
    rw [hn] at hn'; cases hn'
    rcases hpc with e | e <;> (rw [e]; rfl)
  have hE' := invE_select h.den h.nodeS h2 hG.dc haw hsusp hn (h.delivF h2.inv1 hn hl) hd
  refine ⟨?_, hE', ?_, startB_applySel h.sb hd hE'⟩
  · exact invN_congr (invN_status (selStatus (selDecision inp n nd)) h.nodeS hn (selDecision_unfinished hd)
      (selStatus_ne_none hd)) (applySel_nodes inp s n nd _ hd)
  · exact allDCF_status h.dcf h2.inv1 hn (selDecision_unfinished hd) _ (applySel_nodes inp s n nd _ hd)

/-- `process_task_result(n)` after the runner's own bookkeeping (`s0`: the end event written / the result taken off the
    queue), for a task in execution -/
theorem result_invDen {inp : RunInput} {s s0 : Sys} {n : Name} {nd : Node} {new : List Ev} (h : InvDen inp s)
    (h2 : Inv2 inp s) (h3 : Inv3 inp s) (src : s.rpc = .sExec n ∨ n ∈ s.resQ) (hn : s.nodes n = some nd)
    (a : Emits new s s0) (hp : ∀ e ∈ new, Ev.plainD e) : InvDen inp (processResult inp s0 n nd) := by
  obtain ⟨hrun, hgo⟩ := result_run h2 h3 hn src
  obtain ⟨deps, hd⟩ := go_of_cGo hgo
  have hstart : cStart s0 n ≥ 1 := by
    have := (counts_append a.events n).2.1
    have := (h3.p0 n).2
    rcases src with hr | hq
    · have := (h3.x3 n hr).1; omega
    · have := (h3.q1 n hq).1; omega
  have h0 := h.outer a.nodes new a.events hp
  have hfin : nd.status.finished = false := by rw [hrun]; rfl
  refine ⟨?_, invE_result h0.den ⟨deps, by rw [a.events]; exact List.mem_append_right _ hd⟩, ?_,
    startB_result h0.sb hstart⟩
  · exact invN_congr (invN_status (resStatus (inp.outcome n)) h0.nodeS (a.nodes ▸ hn) hfin (resStatus_ne_none _))
      (processResult_nodes inp s0 n nd)
  · refine allDCF_status h.dcf h2.inv1 hn hfin (resStatus (inp.outcome n)) ((processResult_nodes inp s0 n nd).trans ?_)
    show (fun k => if k = n then some _ else s0.nodes k) = fun k => if k = n then some _ else s.nodes k
    rw [a.nodes]

theorem move_invDen {inp : RunInput} {s s' : Sys} (hG : InvG inp s) (h2 : Inv2 inp s) (h3 : Inv3 inp s)
    (h : InvDen inp s) (k : Move inp s s') : InvDen inp s' := by
  cases k with
  | emit new a hx => exact h.outer a.nodes new a.events (work_plainD hx)
  | tick _ _ _ hs => exact dtick_invDen h3 h hs
  | send _ _ _ hnode hsd a => exact (send_invDen h2 h3 h hnode hsd).same a.nodes a.events
  | select _ _ extra haw hsu hn hd a hx =>
    exact (select_invDen hG h2 h haw hsu hn hd).outer a.nodes extra a.events (work_plainD hx)
  | result _ _ _ _ hn src a0 hx a => exact (result_invDen h h2 h3 src hn a0 (work_plainD hx)).same a.nodes a.events
  | finish e =>
    subst e
    exact h.outer rfl (Ev.complete :: s.tdown.map Ev.teardown) (by simp [finishRun]) (teardown_plainD _)

theorem reach_invDen {inp : RunInput} {s : Sys} (h : Reach inp s) : InvDen inp s :=
  Move.reach (fun hr => reach_invG hr) (init_invDen inp) (fun h2 h3 hG ih m => move_invDen hG h2 h3 ih m) h

theorem preach_invDen {inp : RunInput} {s : Sys} (h : PReach inp s) : InvDen inp s :=
  Move.preach (fun hr => preach_invG hr) (init_invDen inp) (fun h2 h3 hG ih m => move_invDen hG h2 h3 ih m) h

end DoitModel.Run.Dyn
