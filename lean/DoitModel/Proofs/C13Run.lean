import DoitModel.Model.Cmds
import DoitModel.Proofs.StatusSteps
/-! # C13 — one run: ignore marks are honoured and propagate; a forgotten task is not skipped -/
namespace DoitModel.Cmds
open DoitModel.Status

theorem any_true_of {α} {l : List α} {f : α → Bool} {x : α} (hx : x ∈ l) (h : f x = true) : l.any f = true :=
  List.any_eq_true.2 ⟨x, hx, h⟩

theorem depIs_modified_empty (c : Checker) (fs : FS) (p : Path) :
    depIs .modified c Rcd.empty fs p = !depMissing fs p := by
  unfold depIs depMissing
  cases fs p <;> rfl

theorem statusOf_empty (fixed : Bool) (c : Checker) (d : TaskDef) (fs : FS) (resOf : Name → Option Res)
    (hd : d.deps ≠ []) :
    statusOf fixed c d Rcd.empty fs resOf = .run ∨
    (statusOf fixed c d Rcd.empty fs resOf = .error ∧ d.deps.any (depMissing fs) = true) := by
  rw [statusOf_eq, any_depIs_crash_empty]
  by_cases h1 : (earlyRun d Rcd.empty.getValues resOf fs || checkerChanged c Rcd.empty) = true
  · rw [if_pos h1]; exact Or.inl rfl
  by_cases h2 : d.deps.any (depMissing fs) = true
  · rw [if_neg h1, if_pos h2]; exact Or.inr ⟨rfl, h2⟩
  obtain ⟨p, rest, hp⟩ := List.exists_cons_of_ne_nil hd
  have hm : d.deps.any (depIs .modified c Rcd.empty fs) = true := by
    rw [hp, List.any_cons, depIs_modified_empty]
    rw [hp, List.any_cons, Bool.or_eq_true, not_or, Bool.not_eq_true] at h2
    rw [h2.1]; rfl
  rw [if_neg h1, if_neg h2, if_neg Bool.false_ne_true, hm, Bool.true_or, if_pos rfl]
  exact Or.inl rfl

/-- `s'` differs from `s` at most in the record of `t` (files, clock, ghost and crash flag aside) -/
structure OnlyTask (t : Name) (s s' : St) : Prop where
  rcd : ∀ k, k ≠ t → s'.rcd k = s.rcd k
  defs : s'.defs = s.defs

theorem OnlyTask.refl (t : Name) (s : St) : OnlyTask t s s := ⟨fun _ _ => rfl, rfl⟩

theorem OnlyTask.trans {t : Name} {a b c : St} (h1 : OnlyTask t a b) (h2 : OnlyTask t b c) : OnlyTask t a c :=
  ⟨fun k hk => (h2.rcd k hk).trans (h1.rcd k hk), h2.defs.trans h1.defs⟩

theorem onlyTask_erase (s : St) (t : Name) : OnlyTask t s (erase s t) := ⟨fun _ hk => if_neg hk, rfl⟩

theorem onlyTask_peek (s : St) (t : Name) : OnlyTask t s (peek s t) := by
  unfold peek
  by_cases h : removesRecord s.checker (s.defs t) (s.rcd t) s.fs s.resOf = true
  · rw [if_pos h]; exact onlyTask_erase s t
  · rw [if_neg h]; exact OnlyTask.refl t s

theorem onlyTask_finish (s : St) (t : Name) (ok : Bool) (res : Option Res) : OnlyTask t s (finish s t ok res) := by
  unfold finish
  cases ok
  · exact onlyTask_erase s t
  · rw [if_pos rfl]
    cases saveSuccess s.checker (s.defs t).deps (s.rcd t) s.fs (newValues (s.defs t) s.resOf) res
    · exact ⟨fun _ hk => if_neg hk, rfl⟩
    · exact onlyTask_erase s t
    · exact onlyTask_erase s t

theorem onlyTask_applyWrites (t : Name) (s : St) (ws : List (Path × Nat × Nat)) : OnlyTask t s (applyWrites s ws) := by
  induction ws generalizing s with
  | nil => exact .refl t s
  | cons w ws ih => exact OnlyTask.trans (b := writeFile s w.1 w.2.1 w.2.2) ⟨fun _ _ => rfl, rfl⟩ (ih _)

/-- the exits of `afterSetup` (second `select_task` pass), `ign` = a setup-task was reported ignored: the report and
    the state left -/
inductive AfterSpec (fixed ign : Bool) (s1 : St) (t : Name) (pl : Plan) : Outcome → St → Prop
  | ignored : AfterSpec fixed ign s1 t pl .ignored s1
  | unmet : AfterSpec fixed ign s1 t pl .unmet (erase s1 t)
  | exec : (fixed = true → ign = false) →
      AfterSpec fixed ign s1 t pl (execOutcome (applyWrites s1 pl.writes) t pl.ok)
        (finish (applyWrites s1 pl.writes) t pl.ok pl.res)

theorem afterSetup_spec (fixed : Bool) (g : Graph) (rs : RunSt) (b : Bool) (s1 : St) (t : Name) (pl : Plan) :
    ∃ o s', AfterSpec fixed (anyOut rs (g.setup t) Outcome.isIgnored) s1 t pl o s' ∧
      afterSetup fixed g { rs with bad := b } s1 t pl = ⟨s', (t, o) :: rs.out, b || missingOut rs (g.setup t)⟩ := by
  unfold afterSetup
  by_cases h1 : (fixed && anyOut rs (g.setup t) Outcome.isIgnored) = true
  · exact ⟨_, _, .ignored, if_pos h1⟩
  by_cases h2 : (fixed && anyOut rs (g.setup t) Outcome.isFailure) = true
  · exact ⟨_, _, .unmet, (if_neg h1).trans (if_pos h2)⟩
  refine ⟨_, _, .exec fun hf => ?_, (if_neg h1).trans (if_neg h2)⟩
  rw [hf, Bool.true_and, Bool.not_eq_true] at h1
  exact h1

/-- the exits of `runOne`: the report, the state left and the order flag (`b0` = the flag after the first pass) -/
inductive RunOneSpec (fixed : Bool) (g : Graph) (plan : Name → Plan) (rs : RunSt) (t : Name) (b0 : Bool) :
    Outcome → St → Bool → Prop
  | ignored : RunOneSpec fixed g plan rs t b0 .ignored rs.s b0
  | unmet : RunOneSpec fixed g plan rs t b0 .unmet (erase rs.s t) b0
  | crash : RunOneSpec fixed g plan rs t b0 .crash { rs.s with crashed := true } b0
  | error : RunOneSpec fixed g plan rs t b0 .error (erase rs.s t) b0
  | upToDate : rs.s.status true t = .upToDate → RunOneSpec fixed g plan rs t b0 .upToDate rs.s b0
  | setup {s1 o s'} : s1 = rs.s ∨ s1 = peek rs.s t →
      AfterSpec fixed (anyOut rs (g.setup t) Outcome.isIgnored) s1 t (plan t) o s' →
      RunOneSpec fixed g plan rs t b0 o s' (b0 || missingOut rs (g.setup t))

theorem outOf_record (rs : RunSt) (t : Name) (o : Outcome) (s' : St) (b : Bool) : outOf (record rs t o s' b) t = some o :=
  if_pos rfl

theorem execOutcome_ne_upToDate (s : St) (t : Name) (ok : Bool) : execOutcome s t ok ≠ .upToDate := by
  unfold execOutcome
  cases ok
  · nofun
  · cases saveSuccess s.checker (s.defs t).deps (s.rcd t) s.fs Values.empty none <;> nofun

theorem outOf_cons_self {rs' rs : RunSt} {t : Name} {o : Outcome} (h : rs'.out = (t, o) :: rs.out) :
    outOf rs' t = some o := by
  unfold outOf; rw [h]; exact if_pos rfl

theorem outOf_cons_ne {rs' rs : RunSt} {t k : Name} {o : Outcome} (h : rs'.out = (t, o) :: rs.out) (hk : k ≠ t) :
    outOf rs' k = outOf rs k := by
  unfold outOf; rw [h]; exact if_neg (Ne.symm hk)

/-- the invariant of a run over a duplicate-free hand-over order; `done` = the tasks processed so far.  Mark and
    missing report are claimed for the others only: a processed task's record may have been erased or rewritten. -/
structure RunInv (g : Graph) (defs : Name → TaskDef) (ign : Name → Bool) (done : List Name) (rs : RunSt) : Prop where
  defs_eq : rs.s.defs = defs
  ign_eq : ∀ t, t ∉ done → (rs.s.rcd t).ign = ign t
  out_none : ∀ t, t ∉ done → outOf rs t = none
  ignored : ∀ t, t ∈ done → IgnReach g defs ign t → outOf rs t = some .ignored

theorem RunInv.anyOut_ignored {g : Graph} {defs : Name → TaskDef} {ign : Name → Bool} {done : List Name} {rs : RunSt}
    (inv : RunInv g defs ign done rs) {ds : List Name} {d : Name} (hd : d ∈ ds) (hr : IgnReach g defs ign d)
    (hm : missingOut rs ds = false) : anyOut rs ds Outcome.isIgnored = true := by
  by_cases hdone : d ∈ done
  · exact any_true_of hd (by rw [inv.ignored d hdone hr]; rfl)
  · have : missingOut rs ds = true := any_true_of hd (by rw [inv.out_none d hdone]; rfl)
    rw [this] at hm; cases hm

section
variable (fixed always : Bool) (g : Graph) (plan : Name → Plan)

theorem runOne_spec (rs : RunSt) (t : Name) :
    ∃ o s' b, RunOneSpec fixed g plan rs t (rs.bad || missingOut rs (hardDeps g rs.s.defs t)) o s' b ∧
      runOne fixed always g plan rs t = ⟨s', (t, o) :: rs.out, b⟩ := by
  unfold runOne
  by_cases h1 : (anyOut rs (hardDeps g rs.s.defs t) Outcome.isIgnored || (rs.s.rcd t).ign) = true
  · rw [if_pos h1]; exact ⟨_, _, _, .ignored, rfl⟩
  by_cases h2 : anyOut rs (hardDeps g rs.s.defs t) Outcome.isFailure = true
  · rw [if_neg h1, if_pos h2]; exact ⟨_, _, _, .unmet, rfl⟩
  rw [if_neg h1, if_neg h2]
  cases hst : rs.s.status true t with
  | crash => exact ⟨_, _, _, .crash, rfl⟩
  | error => exact ⟨_, _, _, .error, rfl⟩
  | upToDate =>
    cases always
    · exact ⟨_, _, _, .upToDate hst, rfl⟩
    · obtain ⟨o, s', ha, he⟩ := afterSetup_spec fixed g rs _ rs.s t (plan t)
      exact ⟨o, s', _, .setup (Or.inl rfl) ha, he⟩
  | run =>
    obtain ⟨o, s', ha, he⟩ := afterSetup_spec fixed g rs _ (peek rs.s t) t (plan t)
    exact ⟨o, s', _, .setup (Or.inr rfl) ha, he⟩

theorem runOne_shape (rs : RunSt) (t : Name) :
    ∃ o, (runOne fixed always g plan rs t).out = (t, o) :: rs.out ∧
      (∀ k, k ≠ t → (runOne fixed always g plan rs t).s.rcd k = rs.s.rcd k) ∧
      (runOne fixed always g plan rs t).s.defs = rs.s.defs ∧
      ((runOne fixed always g plan rs t).bad = false →
        rs.bad = false ∧ missingOut rs (hardDeps g rs.s.defs t) = false) := by
  obtain ⟨o, s', b, hs, he⟩ := runOne_spec fixed always g plan rs t
  rw [he]
  have hb0 : ∀ {x y : Bool}, (x || y) = false → x = false ∧ y = false := Bool.or_eq_false_iff.1
  suffices h : OnlyTask t rs.s s' ∧ (b = false → (rs.bad || missingOut rs (hardDeps g rs.s.defs t)) = false) from
    ⟨o, rfl, h.1.rcd, h.1.defs, fun hb => hb0 (h.2 hb)⟩
  cases hs with
  | ignored | crash | upToDate => exact ⟨⟨fun _ _ => rfl, rfl⟩, id⟩
  | unmet | error => exact ⟨onlyTask_erase _ t, id⟩
  | setup h1 ha =>
    rename_i s1
    have hs1 : OnlyTask t rs.s s1 := by
      rcases h1 with h | h
      · rw [h]; exact .refl t _
      · rw [h]; exact onlyTask_peek _ t
    refine ⟨?_, fun hb => (hb0 hb).1⟩
    cases ha with
    | ignored => exact hs1
    | unmet => exact hs1.trans (onlyTask_erase _ t)
    | exec => exact (hs1.trans (onlyTask_applyWrites t _ _)).trans (onlyTask_finish _ t _ _)

theorem runOne_ignored (rs : RunSt) (t : Name)
    (h : anyOut rs (hardDeps g rs.s.defs t) Outcome.isIgnored = true ∨ (rs.s.rcd t).ign = true) :
    (runOne fixed always g plan rs t).out = (t, .ignored) :: rs.out ∧ (runOne fixed always g plan rs t).s = rs.s := by
  unfold runOne
  rw [if_pos (Bool.or_eq_true _ _ ▸ h)]
  exact ⟨rfl, rfl⟩

theorem runOne_forgotten (rs : RunSt) (t : Name)
    (hr : rs.s.rcd t = Rcd.empty) (hd : (rs.s.defs t).deps ≠ []) :
    (runOne fixed always g plan rs t).out ≠ (t, .upToDate) :: rs.out := by
  obtain ⟨o, s', b, hs, he⟩ := runOne_spec fixed always g plan rs t
  rw [he]
  intro hout
  obtain rfl : o = .upToDate := congrArg Prod.snd (List.cons.inj hout).1
  cases hs with
  | upToDate hst =>
    unfold St.status at hst
    rw [hr] at hst
    rcases statusOf_empty true rs.s.checker (rs.s.defs t) rs.s.fs rs.s.resOf hd with h | ⟨h, _⟩ <;>
      rw [hst] at h <;> cases h
  | setup _ ha =>
    generalize ho : Outcome.upToDate = o at ha
    cases ha with
    | exec => exact execOutcome_ne_upToDate _ _ _ ho.symm
    | _ => cases ho

theorem runOne_inv (defs : Name → TaskDef) (ign : Name → Bool)
    (done : List Name) (rs : RunSt) (t : Name) (ht : t ∉ done) (inv : RunInv g defs ign done rs)
    (hbad : (runOne fixed always g plan rs t).bad = false) :
    RunInv g defs ign (t :: done) (runOne fixed always g plan rs t) := by
  obtain ⟨o, hout, hframe, hdefs, hb⟩ := runOne_shape fixed always g plan rs t
  obtain ⟨_, hmiss⟩ := hb hbad
  have hne : ∀ k, k ∉ t :: done → k ≠ t ∧ k ∉ done := fun k hk =>
    ⟨fun h => hk (h ▸ List.mem_cons_self), fun h => hk (List.mem_cons_of_mem _ h)⟩
  refine ⟨hdefs.trans inv.defs_eq, fun k hk => (hframe k (hne k hk).1) ▸ inv.ign_eq k (hne k hk).2,
    fun k hk => (outOf_cons_ne hout (hne k hk).1).trans (inv.out_none k (hne k hk).2), fun k hk hreach => ?_⟩
  rcases List.mem_cons.1 hk with rfl | hkd
  · -- the task processed now: marked, or a hard dependency (already reported, since the order is good) is ignored
    have hcond : anyOut rs (hardDeps g rs.s.defs k) Outcome.isIgnored = true ∨ (rs.s.rcd k).ign = true := by
      cases hreach with
      | mark hm => exact Or.inr ((inv.ign_eq k ht).trans hm)
      | @dep _ d hd hrd =>
        rw [inv.defs_eq] at hmiss ⊢
        exact Or.inl (inv.anyOut_ignored hd hrd hmiss)
    exact outOf_cons_self (runOne_ignored fixed always g plan rs k hcond).1
  · exact (outOf_cons_ne hout fun h => ht (h ▸ hkd)).trans (inv.ignored k hkd hreach)

theorem runFold_bad_mono (order : List Name) (rs : RunSt)
    (h : (order.foldl (runOne fixed always g plan) rs).bad = false) : rs.bad = false := by
  induction order generalizing rs with
  | nil => exact h
  | cons t ts ih =>
    simp only [List.foldl_cons] at h
    have := ih _ h
    obtain ⟨_, _, _, _, hb⟩ := runOne_shape fixed always g plan rs t
    exact (hb this).1

/-- a property of (tasks processed, run state) kept by every step whose order flag is clean holds after the run of a
    duplicate-free order (`done` is a stack, newest first) -/
theorem runFold_done {P : List Name → RunSt → Prop}
    (step : ∀ done rs t, t ∉ done → (runOne fixed always g plan rs t).bad = false → P done rs →
      P (t :: done) (runOne fixed always g plan rs t))
    (order done : List Name) (rs : RunSt) (hnd : order.Nodup) (hdisj : ∀ t ∈ order, t ∉ done) (h : P done rs)
    (hbad : (order.foldl (runOne fixed always g plan) rs).bad = false) :
    P (order.reverse ++ done) (order.foldl (runOne fixed always g plan) rs) := by
  induction order generalizing done rs with
  | nil => exact h
  | cons t ts ih =>
    rw [List.reverse_cons, List.append_assoc]
    have hnd' := List.nodup_cons.1 hnd
    refine ih (t :: done) _ hnd'.2 (fun k hk hkd => ?_)
      (step done rs t (hdisj t List.mem_cons_self) (runFold_bad_mono fixed always g plan ts _ hbad) h) hbad
    rcases List.mem_cons.1 hkd with h | h
    · exact hnd'.1 (h ▸ hk)
    · exact hdisj k (List.mem_cons_of_mem _ hk) h

theorem runFold_frame (order : List Name) (rs : RunSt) (t : Name)
    (ht : t ∉ order) :
    (order.foldl (runOne fixed always g plan) rs).s.rcd t = rs.s.rcd t ∧
    (order.foldl (runOne fixed always g plan) rs).s.defs = rs.s.defs ∧
    outOf (order.foldl (runOne fixed always g plan) rs) t = outOf rs t :=
  foldl_preserves (P := fun b : RunSt => b.s.rcd t = rs.s.rcd t ∧ b.s.defs = rs.s.defs ∧ outOf b t = outOf rs t)
    (ok := fun k => t ≠ k) (f := runOne fixed always g plan) (hall := fun k hk h => ht (h ▸ hk)) (h := ⟨rfl, rfl, rfl⟩)
    fun b k hkt hb => by
      obtain ⟨o, hout, hframe, hdefs, _⟩ := runOne_shape fixed always g plan b k
      exact ⟨(hframe t hkt).trans hb.1, hdefs.trans hb.2.1, (outOf_cons_ne hout hkt).trans hb.2.2⟩

end

theorem foldl_inv (fixed always : Bool) (g : Graph) (plan : Name → Plan) (defs : Name → TaskDef) (ign : Name → Bool)
    (order : List Name) (done : List Name) (rs : RunSt) (hnd : order.Nodup) (hdisj : ∀ t ∈ order, t ∉ done)
    (inv : RunInv g defs ign done rs) (hbad : (order.foldl (runOne fixed always g plan) rs).bad = false) :
    RunInv g defs ign (order.reverse ++ done) (order.foldl (runOne fixed always g plan) rs) :=
  runFold_done fixed always g plan (fun done rs t ht hb inv => runOne_inv fixed always g plan defs ign done rs t ht inv hb)
    order done rs hnd hdisj inv hbad

theorem foldl_defs (fixed always : Bool) (g : Graph) (plan : Name → Plan) (order : List Name) (rs : RunSt) :
    (order.foldl (runOne fixed always g plan) rs).s.defs = rs.s.defs :=
  foldl_preserves (P := fun b : RunSt => b.s.defs = rs.s.defs) (ok := fun _ => True)
    (fun b k _ hb => by
      obtain ⟨_, _, _, hdefs, _⟩ := runOne_shape fixed always g plan b k
      exact hdefs.trans hb) order (fun _ _ => trivial) rfl

end DoitModel.Cmds
