import DoitModel.Proofs.CleanOrder
import DoitModel.Proofs.CleanFuel
/-! From the traversals to the plan: the tree `_execute` builds has the declarative clean set as its keys, and the
    monitor computes that set. -/
namespace DoitModel.Clean

theorem dedup_of_nodup : ∀ (l seen : List Name), l.Nodup → (∀ x, x ∈ l → x ∉ seen) → dedup seen l = l := by
  intro l
  induction l with
  | nil => intro _ _ _; rfl
  | cons x xs ih =>
    intro seen hn hd
    simp only [List.nodup_cons] at hn
    have hx : x ∉ seen := hd x (by simp)
    simp only [dedup, hx, if_false]
    congr 1
    apply ih _ hn.2
    intro y hy hm
    simp only [List.mem_cons] at hm
    rcases hm with hm | hm
    · exact hn.1 (hm ▸ hy)
    · exact hd y (List.mem_cons_of_mem _ hy) hm

theorem dedup_flat (ns : Nodes) (h : (keys ns).Nodup) : dedup [] (flat ns).out = (flat ns).out :=
  dedup_of_nodup _ _ ((flat_spec ns).2.nodup_iff.2 h) (fun _ _ hm => nomatch hm)

theorem mem_keys_foldl_addRev {name x : Name} : ∀ (ds : List Name) (ms : Nodes),
    x ∈ keys (ds.foldl (fun ns d => addRev d name ns) ms) ↔ x ∈ ds ∨ x ∈ keys ms
  | [], _ => ⟨Or.inr, fun h => h.elim nofun id⟩
  | d :: ds, ms => by
    rw [List.foldl_cons, mem_keys_foldl_addRev ds, mem_keys_addRev, List.mem_cons, or_assoc]
    exact or_left_comm

theorem buildNoDepsStep_keys (subs : Name → List Name) (ns : Nodes) (name x : Name) :
    x ∈ keys (buildNoDepsStep subs ns name) ↔ x ∈ subs name ∨ x = name ∨ x ∈ keys ns := by
  unfold buildNoDepsStep
  rw [mem_keys_foldl_addRev, mem_keys_setdef]

theorem buildNoDepsStep_nodup (subs : Name → List Name) (ns : Nodes) (name : Name) (h : (keys ns).Nodup) :
    (keys (buildNoDepsStep subs ns name)).Nodup :=
  List.foldlRecOn _ _ (motive := fun ms => (keys ms).Nodup) (nodup_keys_setdef h) fun _ hb _ _ => nodup_keys_addRev hb

theorem buildNoDeps_spec (subs : Name → List Name) (cl : List Name) :
    (keys (buildNoDeps subs cl)).Nodup ∧
    ∀ x, x ∈ keys (buildNoDeps subs cl) ↔ x ∈ cl ∨ ∃ n, n ∈ cl ∧ x ∈ subs n := by
  have : ∀ (l : List Name) (ns : Nodes) (x : Name),
      x ∈ keys (l.foldl (buildNoDepsStep subs) ns) ↔ (∃ n, n ∈ l ∧ (x ∈ subs n ∨ x = n)) ∨ x ∈ keys ns := by
    intro l
    induction l with
    | nil => exact fun ns x => ⟨Or.inr, fun h => h.elim (fun ⟨_, hn, _⟩ => nomatch hn) id⟩
    | cons a l ih =>
      intro ns x
      rw [List.foldl_cons, ih, buildNoDepsStep_keys, ← or_assoc, ← or_assoc, or_assoc (c := x = a)]
      refine or_congr_left ⟨?_, fun ⟨n, hn, h⟩ => ?_⟩
      · rintro (⟨n, hn, h⟩ | h)
        · exact ⟨n, List.mem_cons_of_mem _ hn, h⟩
        · exact ⟨a, List.mem_cons_self, h⟩
      · rcases List.mem_cons.1 hn with rfl | hn
        · exact Or.inr h
        · exact Or.inl ⟨n, hn, h⟩
  refine ⟨List.foldlRecOn _ _ (motive := fun ms => (keys ms).Nodup) List.nodup_nil
    fun _ hb a _ => buildNoDepsStep_nodup subs _ a hb, fun x => (this cl [] x).trans ⟨?_, ?_⟩⟩
  · rintro (⟨n, hn, h | rfl⟩ | h)
    · exact Or.inr ⟨n, hn, h⟩
    · exact Or.inl hn
    · exact nomatch h
  · rintro (h | ⟨n, hn, h⟩)
    · exact Or.inl ⟨x, h, Or.inr rfl⟩
    · exact Or.inl ⟨n, hn, Or.inl h⟩
theorem mem_subsRevOf (tbl : Table) (n x : Name) :
    x ∈ subsRevOf tbl n ↔ x ∈ taskDepOf tbl n ∧ isSubOf tbl x n = true := by
  simp [subsRevOf]

theorem acyclicB_sound (tbl : Table) (h : acyclicB tbl = true) :
    ∀ a b, b ∈ depsOf tbl a →
      depth (depsOf tbl) (tbl.length + 1) b < depth (depsOf tbl) (tbl.length + 1) a :=
  allDeps_sound tbl h

theorem reach_in_closed {deps : Name → List Name} {S : Name → Prop}
    (hclosed : ∀ a, S a → ∀ b, b ∈ deps a → S b) {r x : Name} (hr : S r) (h : Reach deps r x) : S x := by
  induction h with
  | refl => exact hr
  | step _ hc ih => exact hclosed _ ih _ hc

theorem buildTree_deps {tbl : Table} {r : Req} (hd : withDeps r = true) (cl : List Name) :
    buildTree tbl r cl = buildAll (depsOf tbl) (tbl.length + 1) cl := by
  unfold buildTree; rw [if_pos hd]

theorem buildTree_nodeps {tbl : Table} {r : Req} (hd : ¬ withDeps r = true) (cl : List Name) :
    buildTree tbl r cl = { nodes := buildNoDeps (subsRevOf tbl) cl, processed := [], oof := false } := by
  unfold buildTree; rw [if_neg hd]

theorem buildFuelOk {tbl : Table} {r : Req} {base : List Name}
    (hwf : wfB tbl = true) (hb : cleanList tbl r = .ok base) : BuildFuelOk tbl r base := by
  unfold BuildFuelOk
  by_cases hd : withDeps r = true
  · rw [buildTree_deps hd]
    exact buildAll_fuel (depsOf tbl) tbl.length (wfB_sound tbl hwf) base (cleanList_lt tbl r base hb)
  · rw [buildTree_nodeps hd]

theorem tree_nodup {tbl : Table} {r : Req} {base : List Name} (hf : BuildFuelOk tbl r base) :
    (keys (buildTree tbl r base).nodes).Nodup := by
  unfold BuildFuelOk at hf
  by_cases hd : withDeps r = true
  · rw [buildTree_deps hd] at hf ⊢; exact (buildAll_spec _ _ _ hf rfl).1
  · rw [buildTree_nodeps hd]; exact (buildNoDeps_spec _ _).1

theorem mem_tree_iff {tbl : Table} {r : Req} {base : List Name} (hf : BuildFuelOk tbl r base) (x : Name) :
    x ∈ keys (buildTree tbl r base).nodes ↔ InCleanSet tbl r base x := by
  unfold BuildFuelOk at hf
  unfold InCleanSet
  by_cases hd : withDeps r = true
  · rw [buildTree_deps hd] at hf ⊢
    rw [if_pos hd]
    obtain ⟨_, _, hroots, hclosed, hreach⟩ := buildAll_spec _ _ _ hf rfl
    exact ⟨hreach x, fun ⟨n, hn, hr⟩ =>
      reach_in_closed (S := fun y => y ∈ keys (buildAll (depsOf tbl) (tbl.length + 1) base).nodes)
        (fun a ha b hb => (hclosed a ha b hb).1) (hroots n hn) hr⟩
  · rw [buildTree_nodeps hd, if_neg hd, (buildNoDeps_spec _ _).2]
    simp only [mem_subsRevOf]

theorem plan_flat {tbl : Table} {r : Req} {base : List Name} {p : Plan}
    (hf : BuildFuelOk tbl r base) (hb : cleanList tbl r = .ok base) (hp : plan tbl r = .ok p) :
    p.order = (flat (buildTree tbl r base).nodes).out := by
  simp only [plan, hb] at hp
  cases hp
  exact dedup_flat _ (tree_nodup hf)

theorem Reach.trans {deps : Name → List Name} {a b c : Name} (h1 : Reach deps a b) (h2 : Reach deps b c) :
    Reach deps a c := by
  induction h2 with
  | refl => exact h1
  | step _ hc ih => exact Reach.step ih hc

theorem closeN_sound (deps : Name → List Name) : ∀ (n : Nat) (s : List Name) (x : Name),
    x ∈ closeN deps n s → ∃ r, r ∈ s ∧ Reach deps r x := by
  intro n
  induction n with
  | zero => intro s x h; exact ⟨x, h, Reach.refl x⟩
  | succ n ih =>
    intro s x h
    obtain ⟨r, hr, hrx⟩ := ih _ x h
    simp only [List.mem_append, List.mem_flatMap] at hr
    rcases hr with hr | ⟨a, ha, hra⟩
    · exact ⟨r, hr, hrx⟩
    · exact ⟨a, ha, (Reach.step (Reach.refl a) hra).trans hrx⟩

theorem closeN_contains (deps : Name → List Name) : ∀ (n : Nat) (s : List Name) (x : Name),
    x ∈ s → x ∈ closeN deps n s := by
  intro n
  induction n with
  | zero => intro s x h; exact h
  | succ n ih => intro s x h; exact ih _ x (List.mem_append_left _ h)

theorem mem_declSet_iff (tbl : Table) (r : Req) (base : List Name) (hc : declClosed tbl r base = true) (x : Name) :
    x ∈ declSet tbl r base ↔ InCleanSet tbl r base x := by
  unfold declClosed at hc
  unfold InCleanSet
  by_cases hd : withDeps r = true
  · have hset : declSet tbl r base = closeN (depsOf tbl) tbl.length base := if_pos hd
    rw [hset] at hc ⊢
    simp only [hd, Bool.not_true, Bool.false_or, List.all_eq_true, decide_eq_true_eq] at hc
    rw [if_pos hd]
    exact ⟨closeN_sound _ _ _ _, fun ⟨n, hn, hr⟩ =>
      reach_in_closed (S := (· ∈ closeN (depsOf tbl) tbl.length base)) hc (closeN_contains _ _ _ n hn) hr⟩
  · simp only [hd, Bool.false_eq_true, if_false]
    simp only [declSet, hd, Bool.false_eq_true, if_false, List.mem_append, List.mem_flatMap, List.mem_filter]

theorem subset_iff (a b : List Name) : subset a b = true ↔ ∀ x, x ∈ a → x ∈ b := by
  simp [subset, List.all_eq_true]

theorem depFirstB_iff (deps : Name → List Name) (o : List Name) :
    depFirstB deps o = true ↔ ∀ a, a ∈ o → ∀ b, b ∈ deps a → b ∈ o → o.idxOf a < o.idxOf b := by
  simp only [depFirstB, beforeB, List.all_eq_true, Bool.or_eq_true, Bool.not_eq_true', decide_eq_false_iff_not,
    decide_eq_true_eq]
  exact forall_congr' fun a => forall_congr' fun _ => forall_congr' fun b => forall_congr' fun _ =>
    Decidable.imp_iff_not_or.symm

end DoitModel.Clean
