import DoitModel.Proofs.C09Dep
/-! # C09 — what a step of the running generator does to `susp` and `dispatched`

`TickOut`: the generator's answer and the new `dispatched`, read off the rows of `dtick`; what `InvC` (`Proofs/C09Disp.lean`)
needs of a step.  Under `AllN` its `ancestor` row is impossible (`dtick_cyclic_shape`). -/
namespace DoitModel.Run

variable {inp : RunInput} {rank : Name → Nat}

/-- the name the `for` loop of `_add_task` hands to `_gen_node` next -/
def PC.next : PC → Option Name
  | .calcIter (d :: _) => some d
  | .taskIter (d :: _) => some d
  | .setupIter (d :: _) => some d
  | _ => none

inductive TickOut (s : Sys) : Option DOut → List Name → Prop
  | quiet : TickOut s none s.dispatched
  | crash : TickOut s (some .crash) s.dispatched
  | ancestor (n : Name) (nd : Node) (d : Name) : s.cur = some n → s.nodes n = some nd → nd.pc.next = some d → d ∈ nd.anc →
      TickOut s (some (.cyclic d)) s.dispatched
  | yield (n : Name) : TickOut s (some (.node n)) (addDispatched s n)
  | deadlock : s.cur = none → s.ready = [] → s.toRun = [] → s.waiting ≠ [] → s.dispatched = [] →
      TickOut s (some (.cyclic (s.waiting.headD 0))) s.dispatched
  | holdOn : s.cur = none → s.ready = [] → s.toRun = [] → s.waiting ≠ [] → s.dispatched ≠ [] →
      TickOut s (some .holdOn) s.dispatched
  | stopIter : TickOut s (some .stopIter) s.dispatched

theorem genStep_out {s : Sys} {n d : Name} {nd : Node} (pc' : PC) (hsu : s.susp = none) (hc : s.cur = some n)
    (hn : s.nodes n = some nd) (hx : nd.pc.next = some d) :
    TickOut s (genStep inp s n nd d pc').susp (genStep inp s n nd d pc').dispatched := by
  generalize hg : genStep inp s n nd d pc' = g
  cases genStep_spec hg with
  | cyclic _ ha => exact .ancestor n nd d hc hn hx ha
  | _ => exact hsu ▸ .quiet

theorem NodeStep.out {s s' : Sys} {n : Name} {nd : Node} {perm : List Name} (hs : NodeStep inp s n nd perm s')
    (hsu : s.susp = none) (hc : s.cur = some n) (hn : s.nodes n = some nd) : TickOut s s'.susp s'.dispatched := by
  cases hs with
  | calcGen hpc | taskGen hpc | setupGen hpc => exact genStep_out _ hsu hc hn (by rw [hpc]; rfl)
  | yield1 | yield2 => exact .yield n
  | _ => exact hsu ▸ .quiet

theorem dtick_out {s s' : Sys} {perm : List Name} (hsu : s.susp = none) (hs : dtick inp s perm = some s') :
    TickOut s s'.susp s'.dispatched := by
  cases dtick_spec hs with
  | lost => exact .crash
  | node hc hn hs' => exact hs'.out hsu hc hn
  | deadlock a b c d e => exact .deadlock a b c d e
  | holdOn a b c d e => exact .holdOn a b c d e
  | stopIter => exact .stopIter
  | _ => exact hsu ▸ .quiet

theorem dtick_dispatched_sub {s s' : Sys} {perm : List Name} (hsu : s.susp = none) (hs : dtick inp s perm = some s')
    {m : Name} (hm : m ∈ s.dispatched) : m ∈ s'.dispatched := by
  have o := dtick_out hsu hs
  generalize s'.susp = u at o
  generalize hd : s'.dispatched = l at o
  cases o with
  | yield n => unfold addDispatched; split
               · exact hm
               · exact List.mem_append_left _ hm
  | _ => exact hm

theorem pcDep_next {n d : Name} {pc : PC} (h : pcDep inp n pc) (e : pc.next = some d) : Dep inp n d := by
  cases pc with
  | calcIter todo => cases todo with
    | nil => cases e
    | cons a t => cases e; exact .ofCalc (h d (List.mem_cons_self ..))
  | taskIter todo => cases todo with
    | nil => cases e
    | cons a t => cases e; exact h d (List.mem_cons_self ..)
  | setupIter todo => cases todo with
    | nil => cases e
    | cons a t => cases e; exact .setup (h d (List.mem_cons_self ..))
  | _ => cases e

/-- under `AllN` a step that ends in the cyclic error is `_check_deadlock`, never the `task_name in parent.ancestors` test -/
theorem dtick_cyclic_shape {s s' : Sys} {perm : List Name} (hr : Ranked inp rank) (h : AllN inp rank s)
    (hsu : s.susp = none) (hs : dtick inp s perm = some s') (d : Name) (hc : s'.susp = some (.cyclic d)) :
    s.cur = none ∧ s.ready = [] ∧ s.toRun = [] ∧ s.waiting ≠ [] ∧ s.dispatched = [] := by
  have o := dtick_out hsu hs
  rw [hc] at o
  generalize s'.dispatched = l at o
  cases o with
  | ancestor n nd _ _ hn hx ha =>
    -- an ancestor is at least as high as the node, a dependency strictly lower
    have h1 := (h n nd hn).anc d ha
    have h2 := hr n d (pcDep_next (h n nd hn).pcl hx)
    omega
  | deadlock a b c e f => exact ⟨a, b, c, e, f⟩

end DoitModel.Run
