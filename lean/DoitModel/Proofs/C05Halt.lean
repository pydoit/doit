import DoitModel.Proofs.C05Complete
/-! # C05 (c): `complete_run` is reported only by `Runner.finish()`, after which the runner is halted

`Ev.complete ∈ s.events → s.rpc = .halted` for every reachable state of either system: with it the guard of
`monC05ContinueComplete` (`exit ≤ 2`, last event `complete`) is false on the trace of every state that is not a normal
end of the run, so the monitor holds on EVERY model trace. -/
namespace DoitModel.Run

theorem Move.complete {inp : RunInput} {s s' : Sys} (m : Move inp s s') (h : Ev.complete ∈ s'.events) :
    Ev.complete ∈ s.events ∨ s'.rpc = .halted := by
  have work : ∀ {new old : List Ev}, (∀ e ∈ new, e.work = true) → Ev.complete ∈ new ++ old → Ev.complete ∈ old :=
    fun hx h => (List.mem_append.mp h).resolve_left (fun a => Ev.work_ne_complete (hx _ a) rfl)
  cases m with
  | emit new a hx => rw [a.events] at h; exact .inl (work hx h)
  | tick perm _ _ hs => rw [(dtick_outer hs).1] at h; exact .inl h
  | send node perm s0 hnode hs a => rw [a.events, (send_outer hs).1.1] at h; exact .inl h
  | select n nd extra haw hsusp hn hd a hx =>
    rw [a.events, applySel_events] at h
    rcases List.mem_append.mp (work hx h) with b | b
    · rcases mem_selEvents b with e | ⟨e, _⟩ | ⟨e, _⟩ | ⟨e, _⟩ | ⟨_, e, _⟩ <;> cases e
    · exact .inl b
  | result n nd mid s0 hn hsrc a0 hx a =>
    rw [a.events, List.nil_append, processResult_events, a0.events] at h
    rcases List.mem_append.mp h with b | b
    · rcases mem_resEvents b with ⟨e, _⟩ | ⟨_, e, _⟩ <;> cases e
    · exact .inl (work hx b)
  | finish hf => subst hf; exact .inr rfl

/-- `complete_run` has been reported only if the runner is halted -/
def InvC (s : Sys) : Prop := Ev.complete ∈ s.events → s.rpc = .halted

theorem InvC.step {inp : RunInput} {s s' : Sys} (hC : InvC s)
    (m : Move inp s s' ∧ (s.rpc = .halted → s'.rpc = .halted)) : InvC s' :=
  fun h => (m.1.complete h).elim (fun a => m.2 (hC a)) id

theorem reach_invC {inp : RunInput} {s : Sys} (h : Reach inp s) : InvC s := by
  induction h with
  | init => exact nofun
  | @next s0 s1 c hr hs ih =>
    cases c with
    | main perm => exact ih.step (serialStep_move hs)
    | take w | done w => cases hs

theorem preach_invC {inp : RunInput} {s : Sys} (h : PReach inp s) : InvC s := by
  induction h with
  | init => exact nofun
  | next _ hs ih => exact ih.step (pstep_move hs)

theorem guard_halted {inp : RunInput} {s : Sys} (hC : InvC s)
    (h : ((trace inp s).getLast? == some Ev.complete) = true) : s.rpc = .halted := by
  have h' : (trace inp s).getLast? = some Ev.complete := by simpa using h
  exact hC (mem_trace.mp (List.mem_of_getLast? h')).1

theorem exit_le_two {s : Sys} (h : exitCode s ≤ 2) : s.halt = .none := by
  unfold exitCode at h
  cases hh : s.halt <;> rw [hh] at h <;> simp at h ⊢

/-- the monitor on the trace of ANY state for which the liveness facts hold whenever it is a normal end -/
theorem monC05ContinueComplete_of_inv {inp : RunInput} {s : Sys} (I : AllInv inp s) (hC : InvC s)
    (hE : s.rpc = .halted → s.halt = .none → s.stop = false → EndFacts inp s) {n : Nat} (hb : Below inp n)
    (exit : Nat) (hx : exit ≤ 2 → s.halt = .none) : monC05ContinueComplete inp n (trace inp s) exit = true := by
  by_cases hc : inp.continue_ = true
  · by_cases hg : (decide (exit ≤ 2) && (trace inp s).getLast? == some Ev.complete) = true
    · simp only [Bool.and_eq_true, decide_eq_true_eq] at hg
      exact monC05ContinueComplete_of_end I (hE (guard_halted hC hg.2) (hx hg.1) (I.hF.st hc)) hb exit
    · unfold monC05ContinueComplete
      have : (decide (exit ≤ 2) && (trace inp s).getLast? == some Ev.complete) = false := by simpa using hg
      rw [this]; simp
  · unfold monC05ContinueComplete; simp [hc]

end DoitModel.Run
