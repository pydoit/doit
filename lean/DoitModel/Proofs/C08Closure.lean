import DoitModel.Proofs.C08Inv
import DoitModel.Proofs.RunAcct
/-! # C08 (I10): the closure `DenCl` of the selection for graphs without calc_dep, `BackG` steps, `Reported`, `EndFacts`.
    That a complete run reports exactly `DenCl`: `DynS.reported_iff_closure`.  `pcC` / `InvC` are definitions only (what is
    proved is `Dyn.InvC`, whose position clause speaks of closure membership instead of the task table). -/
namespace DoitModel.Run

/-- tasks a complete run processes: the selection, closed under task_dep and under the setup-tasks of members whose
    first `select_task` pass says `run` -/
inductive DenCl (inp : RunInput) : Name → Prop
  | ofSel {t} : t ∈ inp.sel → DenCl inp t
  | ofTask {t d} : DenCl inp t → d ∈ inp.taskDep t → DenCl inp d
  | ofSetup {t d} : DenCl inp t → R1 inp t → d ∈ inp.setup t → DenCl inp d

/-- what the `for` loop a generator is in will still visit -/
def pcC (inp : RunInput) (n : Name) : PC → Prop
  | .calcIter todo => todo = []
  | .taskIter todo => ∀ d ∈ todo, d ∈ inp.taskDep n
  | .setupIter todo => (∀ d ∈ todo, d ∈ inp.setup n) ∧ R1 inp n
  | _ => True

structure InvC (inp : RunInput) (s : Sys) : Prop where
  nodes : ∀ n nd, s.nodes n = some nd → DenCl inp n ∧ pcC inp n nd.pc
  toRun : ∀ t ∈ s.toRun, DenCl inp t

/-- no node is created, no generator moves, `tasks_to_run` is untouched (and, if `p`, no status changes) -/
def BackG (p : Prop) (s s' : Sys) : Prop :=
  (∀ k x', s'.nodes k = some x' → ∃ x, s.nodes k = some x ∧ x'.pc = x.pc ∧ (p → x'.status = x.status)) ∧
  s'.toRun = s.toRun

abbrev Back := BackG True
abbrev BackW := BackG False

theorem BackG.refl (p : Prop) (s : Sys) : BackG p s s := ⟨fun _ x' h => ⟨x', h, rfl, fun _ => rfl⟩, rfl⟩
theorem BackG.trans {p : Prop} {a b c : Sys} (h1 : BackG p a b) (h2 : BackG p b c) : BackG p a c := by
  refine ⟨?_, h2.2.trans h1.2⟩
  intro k x' hk
  obtain ⟨x, hx, e, f⟩ := h2.1 k x' hk
  obtain ⟨y, hy, e', f'⟩ := h1.1 k x hx
  exact ⟨y, hy, e.trans e', fun hp => (f hp).trans (f' hp)⟩
theorem BackG.wrap {p : Prop} {s x s' : Sys} (b : BackG p s x) (e1 : s'.nodes = x.nodes) (e2 : s'.toRun = x.toRun) :
    BackG p s s' :=
  ⟨fun k x' hk => b.1 k x' (by rw [← e1]; exact hk), e2.trans b.2⟩
theorem BackG.of_eq {p : Prop} {s s' : Sys} (e1 : s'.nodes = s.nodes) (e2 : s'.toRun = s.toRun) : BackG p s s' :=
  (BackG.refl p s).wrap e1 e2
theorem BackG.imp {p q : Prop} {s s' : Sys} (hqp : q → p) (b : BackG p s s') : BackG q s s' :=
  ⟨fun k x' hk => by obtain ⟨x, a, c, f⟩ := b.1 k x' hk; exact ⟨x, a, c, fun hq => f (hqp hq)⟩, b.2⟩
theorem BackG.weak {p : Prop} {s s' : Sys} (b : BackG p s s') : BackW s s' := b.imp False.elim

theorem back_setNode {p : Prop} {s : Sys} {n : Name} {nd x : Node} (hn : s.nodes n = some nd) (hpc : x.pc = nd.pc)
    (hst : p → x.status = nd.status) : BackG p s (setNode s n x) := by
  refine ⟨?_, rfl⟩
  intro k x' hk
  simp only [setNode_nodes] at hk
  split at hk
  · rename_i e; subst e; cases hk; exact ⟨nd, hn, hpc, hst⟩
  · exact ⟨x', hk, rfl, fun _ => rfl⟩

theorem back_registerWaiting (p : Prop) (s : Sys) (n : Name) (wf : List Name) : BackG p s (registerWaiting s n wf) := by
  refine ⟨?_, rfl⟩
  intro k y hy
  rw [registerWaiting_nodes] at hy
  cases hk : s.nodes k with
  | none => rw [hk] at hy; cases hy
  | some x =>
    rw [hk] at hy
    by_cases hkw : k ∈ wf
    · simp only [hkw, if_true, Option.some.injEq] at hy; subst hy; exact ⟨x, rfl, (addWaiting_fields x n).1, fun _ => (addWaiting_fields x n).2.1⟩
    · simp only [hkw, if_false, Option.some.injEq] at hy; subst hy; exact ⟨x, rfl, rfl, fun _ => rfl⟩

theorem wakeOne_back {q : Prop} {inp : RunInput} {s : Sys} {pst : RS} {p w : Name} {nd : Node}
    (hw : s.nodes w = some nd) : BackG q s (wakeOne inp s pst p w nd) := by
  have base := back_setNode (p := q) (x := wokenF inp s pst p nd) hw (wokenF_upd inp s pst p nd).pc
    (fun _ => (wokenF_upd inp s pst p nd).status)
  unfold wakeOne; split
  · exact base.wrap rfl rfl
  · exact base

theorem updateWaiting_back (q : Prop) (inp : RunInput) (pst : RS) (p : Name) :
    ∀ (perm : List Name) (s s' : Sys), updateWaiting inp pst p s perm = some s' → BackG q s s' := by
  intro perm
  induction perm with
  | nil => intro s s' hs; simp only [updateWaiting] at hs; cases hs; exact BackG.refl _ _
  | cons w ws ih =>
    intro s s' hs
    simp only [updateWaiting] at hs
    cases hw : s.nodes w with
    | none => simp only [hw] at hs; exact ih s s' hs
    | some nd =>
      simp only [hw] at hs
      split at hs
      · cases hs
      · exact (wakeOne_back (inp := inp) hw).trans (ih _ s' hs)

theorem sendHead_back {q : Prop} {s : Sys} {p : Name} {nd : Node} (hn : s.nodes p = some nd) :
    BackG q s (sendHead s p nd) := by
  unfold sendHead; split
  · exact (back_setNode (x := { nd with waitSelect := false }) hn rfl (fun _ => rfl)).wrap rfl rfl
  · exact BackG.of_eq rfl rfl

theorem send_back {q : Prop} {inp : RunInput} {s s' : Sys} {processed : Option Name} {perm : List Name}
    (hs : send inp s processed perm = some s') : BackG q s s' := by
  cases send_spec hs with
  | first | lost | keyError => exact BackG.of_eq rfl rfl
  | running hn | assertion hn => exact (sendHead_back hn).wrap rfl rfl
  | woken hn _ _ _ hu => exact ((sendHead_back hn).trans (updateWaiting_back q inp _ _ perm _ _ hu)).wrap rfl rfl

theorem applySel_back {inp : RunInput} {s : Sys} {n : Name} {nd : Node} (d : Sel) (hn : s.nodes n = some nd) :
    BackW s (applySel inp s n nd d) := by
  by_cases hd : d = .assertFail
  · subst hd; exact BackG.refl _ _
  · exact (back_setNode (x := { nd with status := selStatus d }) hn rfl (fun f => f.elim)).wrap (applySel_nodes inp s n nd d hd)
      (applySel_keeps inp s n nd d).toRun

theorem processResult_back {inp : RunInput} {s : Sys} {n : Name} {nd : Node} (hn : s.nodes n = some nd) :
    BackW s (processResult inp s n nd) :=
  (back_setNode (x := { nd with status := resStatus (inp.outcome n) }) hn rfl (fun f => f.elim)).wrap (processResult_nodes inp s n nd)
    (processResult_keeps inp s n nd).toRun

def Reported (s : Sys) (t : Name) : Prop := ∃ d, ∃ e ∈ s.events, Ev.den? t e = some d

theorem den?_terminal {t : Name} {e : Ev} {d : Den} (h : Ev.den? t e = some d) : Ev.isTerminalOf t e = true := by
  cases e <;> simp only [Ev.den?] at h <;> first
    | cases h
    | (split at h
       · rename_i e'; simp [Ev.isTerminalOf, e']
       · cases h)

theorem terminal_den? {t : Name} {e : Ev} (h : Ev.isTerminalOf t e = true) : ∃ d, Ev.den? t e = some d := by
  cases e <;> simp [Ev.isTerminalOf] at h <;> subst h <;> simp [Ev.den?]

theorem reported_iff_cTerm (s : Sys) (t : Name) : Reported s t ↔ cTerm s t ≥ 1 := by
  unfold Reported cTerm
  rw [ge_iff_le, ← Nat.lt_iff_add_one_le, List.countP_pos_iff]
  constructor
  · rintro ⟨d, e, he, hd⟩; exact ⟨e, he, den?_terminal hd⟩
  · rintro ⟨e, he, ht⟩; obtain ⟨d, hd⟩ := terminal_den? ht; exact ⟨d, e, he, hd⟩

structure EndFacts (inp : RunInput) (s : Sys) : Prop where
  allDone : ∀ k x, s.nodes k = some x → x.pc = .done
  notNone : ∀ k x, s.nodes k = some x → x.status ≠ .none
  rep : ∀ t, created s t → cTerm s t = 1
  sel : ∀ t ∈ inp.sel, created s t
  dep : ∀ t nd, s.nodes t = some nd → ∀ d ∈ nd.dynTask, created s d

/-- the part both liveness invariants (`InvL`, `InvP`) share, once the dispatcher generator is exhausted; `Q n`: the
    runner still has `n` in execution (`hq`: at the end it has not) -/
theorem endFacts_of {inp : RunInput} {s : Sys} {Q : Name → Prop} (hd : InvD inp s) (h2 : Inv2 inp s) (h3 : Inv3 inp s)
    (hsu : s.susp = some .stopIter)
    (a4 : ∀ n nd, s.nodes n = some nd → nd.pc.yielded1 = true → nd.status = .none →
      s.susp = some (.node n) ∧ awaiting s)
    (a5 : ∀ n nd, s.nodes n = some nd → nd.status = .run → Q n ∨ (cGo s n = 0 ∧ inp.setup n ≠ [] ∧
      (nd.pc.inSetup = true ∨ (nd.pc = .afterSelf2 ∧ s.susp = some (.node n) ∧ awaiting s))))
    (hq : ∀ n, ¬ Q n) (a6 : ∀ n, (stOf s n).finished = true → cTerm s n ≥ 1) : EndFacts inp s := by
  obtain ⟨q1, q2, q3, q4⟩ := hd.a7 hsu
  have allDone : ∀ k x, s.nodes k = some x → x.pc = .done := by
    intro k x hx
    refine Decidable.by_contra fun hpc => ?_
    have := hd.a2 k x hx hpc
    rw [q1, q2, q4] at this
    rcases this with a | a | a <;> cases a
  have notNone : ∀ k x, s.nodes k = some x → x.status ≠ .none := by
    intro k x hx e
    have := (a4 k x hx (by rw [allDone k x hx]; rfl) e).1
    rw [hsu] at this; cases this
  refine ⟨allDone, notNone, ?_, ?_, ?_⟩
  · intro t ⟨x, hx⟩
    have hpc := allDone t x hx
    have hnr : x.status ≠ .run := by
      intro e
      rcases a5 t x hx e with a | ⟨_, _, a | ⟨a, _⟩⟩
      · exact hq t a
      · rw [hpc] at a; cases a
      · rw [hpc] at a; cases a
    have hfin : (stOf s t).finished = true := by
      have hne := notNone t x hx
      simp only [stOf, hx]
      cases hs : x.status <;> first | rfl | exact absurd hs hne | exact absurd hs hnr
    have := a6 t hfin
    have := h3.t2 t
    omega
  · intro t hm
    rcases hd.a3 _ hm with a | a
    · rw [q3] at a; cases a
    · exact a
  · intro t nd hn d hd'
    have hpc := allDone t nd hn
    have hm := (h2.inv1.node t nd hn).m1 (by rw [hpc]; rfl)
    rcases (hd.a1 t nd hn).t d hd' with a | ⟨⟨_, a⟩, _⟩ | ⟨_, a, _⟩ | a
    · rw [hm.1] at a; cases a
    · rw [hpc] at a; cases a
    · rw [hpc] at a; cases a
    · exact a

theorem endFacts_serial {inp : RunInput} {s : Sys} (hr : Reach inp s) (hh : s.rpc = .halted)
    (hhalt : s.halt = .none) (hstop : s.stop = false) : EndFacts inp s :=
  have hL := reach_invL hr
  endFacts_of (Q := fun n => s.rpc = .sExec n) hL.d (reach_inv2 hr) (reach_inv3 hr) (hL.a8 (Or.inr hh) hhalt hstop)
    hL.a4 hL.a5 (fun n a => by rw [hh] at a; cases a) hL.a6

theorem endFacts_parallel {inp : RunInput} {s : Sys} (hr : PReach inp s) (hh : s.rpc = .halted)
    (hhalt : s.halt = .none) (hstop : s.stop = false) : EndFacts inp s :=
  have hP := preach_invP hr
  have hq := parallel_end_quiescent hr hh hhalt hstop
  endFacts_of hP.d (preach_inv hr).1 (preach_inv hr).2 hq.1 hP.a4 hP.a5 hq.2 hP.a6

end DoitModel.Run
