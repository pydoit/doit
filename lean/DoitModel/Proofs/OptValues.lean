import DoitModel.Proofs.Opt
/-! M4: the command-line pairs seen from one option: `applyPairs` is the fold of `occStep` over its occurrences -/
namespace DoitModel.Opt

theorem getOption_mem (st : List Opt) (k : Key) (o : Opt) (inv : Bool) (h : getOption st k = some (o, inv)) :
    o ∈ st := by
  induction st with
  | nil => simp [getOption] at h
  | cons a r ih =>
    unfold getOption at h
    split at h
    · injection h with h; injection h with h1 _; subst h1; simp
    · exact List.mem_cons_of_mem _ (ih h)

theorem name_inj {α β : Type _} {f : α → β} (l : List α) (hnd : (l.map f).Nodup) (a b : α) (h1 : a ∈ l) (h2 : b ∈ l)
    (h : f a = f b) : a = b := by
  induction l with
  | nil => cases h1
  | cons x r ih =>
    rw [List.map_cons, List.nodup_cons] at hnd
    rcases List.mem_cons.mp h1 with e1 | m1 <;> rcases List.mem_cons.mp h2 with e2 | m2
    · rw [e1, e2]
    · exfalso; apply hnd.1; rw [← e1, h]; exact List.mem_map_of_mem m2
    · exfalso; apply hnd.1; rw [← e2, ← h]; exact List.mem_map_of_mem m1
    · exact ih hnd.2 m1 m2

/-- the fold of `occStep` over the occurrences of one option; `none` = the key is not in `params` yet -/
def occResult (o : Opt) : Option Val → List (Bool × Str) → Except Err (Option Val)
  | cur, [] => .ok cur
  | cur, x :: xs => match occStep o cur x with
    | .error e => .error e
    | .ok v => occResult o (some v) xs

theorem applyPairs_effect (st : PState) (hnd : (st.map (·.name)).Nodup) (o : Opt) (ho : o ∈ st)
    (ps : Pairs) (p p' : Params) (h : (applyPairs false ps st p).2 = .ok p') :
    occResult o (p.vals o.name) (occurrences st o ps) = .ok (p'.vals o.name) ∧
    p'.nd o.name = (p.nd o.name || !(occurrences st o ps).isEmpty) := by
  induction ps generalizing p with
  | nil => cases h; exact ⟨rfl, (Bool.or_false _).symm⟩
  | cons kv rest ih =>
    rw [applyPairs_cons, applyPair_eq] at h
    unfold occurrences
    rw [List.filterMap_cons]
    cases hg : getOption st kv.1 with
    | none => rw [hg] at h; cases h
    | some r =>
      obtain ⟨o', inv⟩ := r
      cases hx : occStep o' (p.vals o'.name) (inv, kv.2) with
      | error e => rw [hg] at h; simp only [hx] at h; cases h
      | ok x =>
        rw [hg] at h
        simp only [hx] at h
        obtain ⟨h3, h4⟩ := ih (p.set o'.name x) h
        by_cases hn : o'.name = o.name
        · cases name_inj st hnd o' o (getOption_mem st kv.1 o' inv hg) ho hn
          simp only [Params.set, if_pos] at h3 h4
          simp only [if_pos, occResult, hx, List.isEmpty_cons, Bool.not_false, Bool.or_true]
          exact ⟨h3, h4⟩
        · simp only [if_neg hn]
          have hn' : ¬ o.name = o'.name := fun e => hn e.symm
          simp only [Params.set, if_neg hn'] at h3 h4
          exact ⟨h3, h4⟩

end DoitModel.Opt
