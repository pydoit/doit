import DoitModel.Model.OptCfg
/-! M4: association lists under `dict.update`, the plugin name tables, and the config layer that gives one key its value.
    Lookups in merged dicts are stated with `Option.or`, so that stacking layers is `Option.or_assoc`. -/
namespace DoitModel.Opt

theorem alookup_cons {α β : Type _} [DecidableEq α] (k a : α) (b : β) (rest : List (α × β)) :
    alookup k ((a, b) :: rest) = if a = k then some b else alookup k rest := rfl

theorem alookup_isSome_iff {α β : Type _} [DecidableEq α] (l : List (α × β)) (k : α) :
    (alookup k l).isSome = true ↔ k ∈ l.map (·.1) := by
  induction l with
  | nil => exact ⟨fun h => (nomatch h), fun h => (nomatch h)⟩
  | cons x r ih =>
    obtain ⟨a, b⟩ := x
    rw [alookup_cons, List.map_cons, List.mem_cons]
    by_cases ha : a = k
    · rw [if_pos ha]; exact ⟨fun _ => .inl ha.symm, fun _ => rfl⟩
    · rw [if_neg ha, ih]; exact ⟨.inr, fun h => h.resolve_left fun e => ha e.symm⟩

theorem alookup_not_mem {α β : Type _} [DecidableEq α] (k : α) (l : List (α × β)) (h : k ∉ l.map (·.1)) :
    alookup k l = none :=
  Option.not_isSome_iff_eq_none.1 fun hs => h ((alookup_isSome_iff l k).1 hs)

theorem alookup_mem {α β : Type _} [DecidableEq α] (k : α) (v : β) (l : List (α × β)) (h : alookup k l = some v) :
    (k, v) ∈ l := by
  induction l with
  | nil => cases h
  | cons x r ih =>
    obtain ⟨a, b⟩ := x
    rw [alookup_cons] at h
    by_cases ha : a = k
    · rw [if_pos ha] at h; cases h; exact ha ▸ List.mem_cons_self
    · rw [if_neg ha] at h; exact List.mem_cons_of_mem _ (ih h)

theorem alookup_of_mem {α β : Type _} [DecidableEq α] (k : α) (v : β) (l : List (α × β))
    (hnd : (l.map (·.1)).Nodup) (hm : (k, v) ∈ l) : alookup k l = some v := by
  induction l with
  | nil => cases hm
  | cons x r ih =>
    obtain ⟨a, b⟩ := x
    rw [List.map_cons, List.nodup_cons] at hnd
    rw [alookup_cons]
    rcases List.mem_cons.mp hm with e | m
    · cases e; exact if_pos rfl
    · rw [if_neg fun e : a = k => hnd.1 (e ▸ List.mem_map_of_mem (f := (·.1)) m)]; exact ih hnd.2 m

theorem alookup_append {α β : Type _} [DecidableEq α] (k : α) (a b : List (α × β)) :
    alookup k (a ++ b) = (alookup k a).or (alookup k b) := by
  induction a with
  | nil => rfl
  | cons x r ih =>
    obtain ⟨a1, b1⟩ := x
    rw [List.cons_append, alookup_cons, alookup_cons, ih]
    by_cases ha : a1 = k
    · rw [if_pos ha, if_pos ha]; rfl
    · rw [if_neg ha, if_neg ha]

theorem alookup_filter_key {α β : Type _} [DecidableEq α] (k : α) (l : List (α × β)) (q : α → Bool) (hq : q k = true) :
    alookup k (l.filter fun kv => q kv.1) = alookup k l := by
  induction l with
  | nil => rfl
  | cons x r ih =>
    obtain ⟨a, b⟩ := x
    rw [List.filter_cons, alookup_cons]
    by_cases ha : a = k
    · rw [if_pos ha, if_pos (by rw [ha]; exact hq), alookup_cons, if_pos ha]
    · rw [if_neg ha, ← ih]
      cases q a
      · rw [if_neg Bool.false_ne_true]
      · rw [if_pos rfl, alookup_cons, if_neg ha]

theorem alookup_map {α β γ : Type _} [DecidableEq α] (f : α → β → γ) (l : List (α × β)) (k : α) :
    alookup k (l.map fun kv => (kv.1, f kv.1 kv.2)) = (alookup k l).map (f k) := by
  induction l with
  | nil => rfl
  | cons x r ih =>
    obtain ⟨a, b⟩ := x
    rw [List.map_cons, alookup_cons, alookup_cons, ih]
    by_cases ha : a = k
    · rw [if_pos ha, if_pos ha, ha]; rfl
    · rw [if_neg ha, if_neg ha]

theorem dictUpdate_lookup {β : Type} (d u : List (Str × β)) (k : Str) :
    alookup k (dictUpdate d u) = (alookup k u).or (alookup k d) := by
  unfold dictUpdate
  rw [alookup_append, alookup_map fun a v => (alookup a u).getD v]
  cases hd : alookup k d with
  | some v => rw [Option.map_some, Option.some_or, Option.or_some]
  | none =>
    rw [Option.map_none, Option.none_or, Option.or_none]
    exact alookup_filter_key k u (fun a => (alookup a d).isNone) (by rw [hd]; rfl)

/-- `mergeCfg g c` and `dictUpdate g c` have the same body (at `β := CfgVal`), so this is the instance, up to unfolding -/
theorem mergeCfg_lookup (g c : List (Str × CfgVal)) (k : Str) :
    alookup k (mergeCfg g c) = (alookup k c).or (alookup k g) := dictUpdate_lookup g c k

theorem alookup_core (core : List Str) (k : Str) :
    alookup k (core.map fun n => (n, Cls.core n)) = if k ∈ core then some (Cls.core k) else none := by
  induction core with
  | nil => rfl
  | cons a r ih =>
    rw [List.map_cons, alookup_cons, ih]
    by_cases ha : a = k
    · rw [if_pos ha, if_pos (ha ▸ List.mem_cons_self), ha]
    · simp only [if_neg ha, List.mem_cons, show ¬ k = a from fun e => ha e.symm, false_or]

theorem nameTable_lookup (core : List Str) (plugins : List (Str × Str)) (k : Str) :
    alookup k (nameTable core plugins) = match alookup k plugins with
      | some loc => some (Cls.plugin loc)
      | none => if k ∈ core then some (Cls.core k) else none := by
  unfold nameTable
  rw [dictUpdate_lookup, alookup_map (fun _ => Cls.plugin) plugins k, alookup_core]
  cases alookup k plugins <;> rfl

theorem pluginSection3_lookup (api toml ini : List (Str × Str)) (k : Str) :
    alookup k (pluginSection [api, toml, ini]) = (alookup k ini).or ((alookup k toml).or (alookup k api)) := by
  simp only [pluginSection, List.foldl]
  rw [dictUpdate_lookup, dictUpdate_lookup, dictUpdate_lookup]
  exact congrArg _ (congrArg _ Option.or_none)

/-- what the config sections give a key: the strongest layer that sets it -/
def KeyIn.cfg (k : KeyIn) : Option CfgVal :=
  k.secCfg.or (k.secToml.or (k.secApi.or (k.globCfg.or (k.globToml.or k.globApi))))

theorem sixLayers_lookup (gApi gToml gCfg sApi sToml sCfg : List (Str × CfgVal)) (k : Str) :
    alookup k (sixLayers gApi gToml gCfg sApi sToml sCfg) =
      (alookup k sCfg).or ((alookup k sToml).or ((alookup k sApi).or ((alookup k gCfg).or
        ((alookup k gToml).or (alookup k gApi))))) := by
  simp only [sixLayers, mergeLayers, List.foldl]
  rw [mergeCfg_lookup, mergeCfg_lookup, mergeCfg_lookup, mergeCfg_lookup, mergeCfg_lookup, Option.or_assoc, Option.or_assoc]

theorem layerValue_cfgWinner (o : Opt) (k : KeyIn) : layerValue o k (cfgWinner k) = baseValue o none k.cfg := by
  obtain ⟨occ, env, d, a1, a2, a3, a4, a5, a6⟩ := k
  cases a1 with | some => rfl | none =>
  cases a2 with | some => rfl | none =>
  cases a3 with | some => rfl | none =>
  cases a4 with | some => rfl | none =>
  cases a5 with | some => rfl | none =>
  cases a6 <;> rfl

theorem layerValue_cmdline (o : Opt) (k : KeyIn) :
    layerValue o k .cmdline = cmdLineValue o k.occ (baseValue o k.env k.cfg) := by
  obtain ⟨occ, env, d, a1, a2, a3, a4, a5, a6⟩ := k
  cases env with | some => rfl | none =>
  refine congrArg (cmdLineValue o occ) ?_
  cases a1 with | some => rfl | none =>
  cases a2 with | some => rfl | none =>
  cases a3 with | some => rfl | none =>
  cases a4 with | some => rfl | none =>
  cases a5 with | some => rfl | none =>
  cases a6 <;> rfl

theorem specValue_layer (o : Opt) (k : KeyIn) :
    specValue o k.occ k.env k.dodo k.cfg = layerValue o k (winner k) := by
  unfold winner specValue
  cases hl : k.occ.getLast? with
  | some x =>
    rw [if_pos (fun h => by rw [h] at hl; cases hl), layerValue_cmdline]
    simp only [cmdLineValue, hl]
    cases o.ty <;> rfl
  | none =>
    rw [if_neg (not_not_intro (List.getLast?_eq_none_iff.1 hl))]
    cases he : k.env with
    | some s => simp only [Option.isSome_some, if_true, layerValue, he]
    | none =>
      cases hd : k.dodo with
      | some v => simp only [Option.isSome_some, Option.isSome_none, Bool.false_eq_true, if_true, if_false, layerValue, hd]
      | none =>
        simp only [Option.isSome_none, Bool.false_eq_true, if_false]
        exact (layerValue_cfgWinner o k).symm

theorem ite_mem {α : Type _} {l : List α} (c : Prop) [Decidable c] {a b : α} (ha : a ∈ l) (hb : b ∈ l) :
    (if c then a else b) ∈ l := by
  by_cases h : c
  · rwa [if_pos h]
  · rwa [if_neg h]

theorem winner_section_only (k : KeyIn) (hd : k.dodo = none) (h4 : k.globCfg = none) (h5 : k.globToml = none)
    (h6 : k.globApi = none) : winner k ∈ [Layer.cmdline, .environ, .secCfg, .secToml, .secApi, .declared] := by
  unfold winner cfgWinner
  rw [hd, h4, h5, h6]
  simp only [Option.isSome_none, Bool.false_eq_true, if_false]
  exact ite_mem _ (by decide) <| ite_mem _ (by decide) <| ite_mem _ (by decide) <| ite_mem _ (by decide) <|
    ite_mem _ (by decide) (by decide)

end DoitModel.Opt
