import DoitModel.Proofs.RunInv
import DoitModel.Proofs.RunSpec
/-! # `Inv1` is preserved by the dispatcher (`dtick`, `send`) -/
namespace DoitModel.Run

theorem nodeOK_noWaitSelect {inp : RunInput} {s : Sys} {n : Name} {nd : Node} (hok : NodeOK inp s n nd)
    (hpc : nd.pc ≠ .setupDecide) : nd.waitSelect = false := by
  cases h : nd.waitSelect with
  | false => rfl
  | true => exact absurd (hok.ws h) hpc

theorem NodeOK.status_none {inp : RunInput} {s : Sys} {n : Name} {nd : Node} (hok : NodeOK inp s n nd)
    (hpc : nd.pc.yielded1 = false) : nd.status = .none :=
  Decidable.byContradiction fun h => by have := hok.l h; rw [hpc] at this; cases this

theorem nodeOK_loopTop {inp : RunInput} {s : Sys} {n : Name} {nd : Node} {perm : List Name}
    (hok : NodeOK inp s n nd) (hws : nd.waitSelect = false) (hpc : nd.pc = .loopTop) (hp : perm.Perm nd.pendCalc) :
    NodeOK inp s n { nd with snapCalc := perm, pendCalc := [], snapTask := nd.pendTask, pendTask := [],
                             pc := .calcIter perm } := by
  have hst : nd.status = .none := hok.status_none (by rw [hpc]; rfl)
  constructor
  · intro d hd
    rcases hok.kt d hd with h | ⟨h, _⟩ | h | h
    · exact Or.inr (Or.inl ⟨rfl, h⟩)
    · rw [hpc] at h; cases h
    · exact Or.inr (Or.inr (Or.inl h))
    · exact Or.inr (Or.inr (Or.inr h))
  · intro d hd
    rcases hok.kc d hd with h | ⟨h, _⟩ | h | h
    · exact Or.inr (Or.inl ⟨rfl, hp.mem_iff.mpr h⟩)
    · rw [hpc] at h; cases h
    · exact Or.inr (Or.inr (Or.inl h))
    · exact Or.inr (Or.inr (Or.inr h))
  · nofun
  · nofun
  · nofun
  · exact fun h => absurd hst h
  · exact fun h => absurd (hws ▸ h) nofun
  · exact hok.st

/-- moving the program counter from `a` to `b` keeps the obligations of `NodeOK` that read the position; each field is a
    closed boolean equation once `a` and `b` are constructors: every instance is `rfl` -/
structure PC.Covers (a b : PC) : Prop where
  iterT : b.iterT = a.iterT
  iterC : b.iterC = a.iterC
  setup : (b.setupAbsorbed && !a.setupAbsorbed) = false
  yielded : (a.yielded1 && !b.yielded1) = false

theorem of_andNot {x y : Bool} (h : (x && !y) = false) (hx : x = true) : y = true := by
  cases y
  · rw [hx] at h; cases h
  · rfl

theorem NodeOK.setPc' {inp : RunInput} {s : Sys} {n : Name} {nd : Node} {a b : PC} (hok : NodeOK inp s n nd)
    (hpc : nd.pc = a) (hws : nd.waitSelect = false) (hab : PC.Covers a b)
    (m1 : b.inLoop = false → nd.pendTask = [] ∧ nd.pendCalc = [] ∧ nd.waitRunCalc = [])
    (m2 : b.quiet = true → nd.waitRun = []) : NodeOK inp s n { nd with pc := b } := by
  subst hpc
  exact ⟨fun d hd => (hok.kt d hd).imp_right (Or.imp_left fun h => ⟨hab.iterT.trans h.1, h.2⟩),
    fun d hd => (hok.kc d hd).imp_right (Or.imp_left fun h => ⟨hab.iterC.trans h.1, h.2⟩),
    fun h => hok.ks (of_andNot hab.setup h), m1, m2, fun h => of_andNot hab.yielded (hok.l h),
    fun h => absurd (hws ▸ h) nofun, hok.st⟩

theorem NodeOK.setPc {inp : RunInput} {s : Sys} {n : Name} {nd : Node} {a b : PC} (hok : NodeOK inp s n nd)
    (hpc : nd.pc = a) (hws : nd.waitSelect = false) (hab : PC.Covers a b)
    (hl : (a.inLoop && !b.inLoop) = false) (hq : (b.quiet && !a.quiet) = false) :
    NodeOK inp s n { nd with pc := b } :=
  hok.setPc' hpc hws hab
    (fun e => hok.m1 (by
      cases hi : nd.pc.inLoop with
      | false => rfl
      | true => have := of_andNot hl (hpc ▸ hi); rw [e] at this; cases this))
    (fun e => hok.m2 (hpc ▸ of_andNot hq e))

theorem NodeOK.move {inp : RunInput} {s : Sys} {n : Name} {nd x : Node} {perm : List Name} (hok : NodeOK inp s n nd)
    (hws : nd.waitSelect = false) (hm : NodeMove inp n nd perm x) : NodeOK inp s n x := by
  cases hm with
  | loopTop hpc hp => exact nodeOK_loopTop hok hws hpc hp
  | depsDone hpc hC hT hR hRC => exact hok.setPc' hpc hws ⟨rfl, rfl, rfl, rfl⟩ (fun _ => ⟨hT, hC, hRC⟩) (fun _ => hR)
  | again hpc | noSetup hpc | selected hpc | setupGo hpc | setupSkip hpc | setupDone hpc | finish hpc =>
    exact hok.setPc hpc hws ⟨rfl, rfl, rfl, rfl⟩ rfl rfl

theorem NodeOK.park {inp : RunInput} {s : Sys} {n : Name} {nd x : Node} (hok : NodeOK inp s n nd)
    (hws : nd.waitSelect = false) (hp : NodePark inp n nd x) : NodeOK inp s n x := by
  cases hp with
  | deps hpc | setup hpc => exact hok.setPc hpc hws ⟨rfl, rfl, rfl, rfl⟩ rfl rfl
  | select hpc =>
    have := hok.setPc (b := .setupDecide) hpc hws ⟨rfl, rfl, rfl, rfl⟩ rfl rfl
    exact ⟨this.kt, this.kc, this.ks, this.m1, this.m2, this.l, fun _ => rfl, this.st⟩

theorem NodeMove.fields {inp : RunInput} {n : Name} {nd x : Node} {perm : List Name} (h : NodeMove inp n nd perm x) :
    x.waitSelect = nd.waitSelect ∧ (x.pc = .self2 → x.waitRun = []) := by
  cases h with
  | setupDone _ hw => exact ⟨rfl, fun _ => hw⟩
  | _ => exact ⟨rfl, nofun⟩

/-- `hT`, `hC`, `hS`: `ds` is the list the obligations speak of (a snapshot the old position held back, or the
    setup-tasks the new position takes as passed); the rest relates the positions as in `PC.Covers` -/
theorem NodeOK.wait {inp : RunInput} {s : Sys} {n : Name} {nd x : Node} {ds : List Name} {isCalc : Bool} {pc' : PC}
    (hok : NodeOK inp s n nd) (f : WaitFacts s nd x ds isCalc pc') (hws : nd.waitSelect = false)
    (hT : nd.pc.iterT = true → pc'.iterT = true ∨ (isCalc = false ∧ nd.snapTask = ds))
    (hC : nd.pc.iterC = true → isCalc = true ∧ nd.snapCalc = ds)
    (hS : pc'.setupAbsorbed = true → isCalc = false ∧ inp.setup n = ds)
    (hL : pc'.inLoop = false → nd.pc.inLoop = false ∧ isCalc = false) (hQ : pc'.quiet = false)
    (hY : nd.pc.yielded1 = true → pc'.yielded1 = true) : NodeOK inp s n x := by
  have absT : isCalc = false → ∀ d ∈ ds, d ∈ x.waitRun ∨ Cls s x d := fun ec => by subst ec; exact f.absorbed
  have absC : isCalc = true → ∀ d ∈ ds, d ∈ x.waitRunCalc ∨ Cls s x d := fun ec => by subst ec; exact f.absorbed
  constructor
  · intro d hd
    rcases f.newTask d hd with h | h
    · rcases hok.kt d h with h1 | ⟨hi, h1⟩ | h1 | h1
      · exact Or.inl (f.pendTask d h1)
      · rcases hT hi with e | ⟨ec, ed⟩
        · exact Or.inr (Or.inl ⟨f.pc ▸ e, f.snapTask ▸ h1⟩)
        · exact Or.inr (Or.inr (absT ec d (ed ▸ h1)))
      · exact Or.inr (Or.inr (Or.inl (f.wr d h1)))
      · exact Or.inr (Or.inr (Or.inr (f.cls d h1)))
    · exact Or.inl h
  · intro d hd
    rcases f.newCalc d hd with h | h
    · rcases hok.kc d h with h1 | ⟨hi, h1⟩ | h1 | h1
      · exact Or.inl (f.pendCalc d h1)
      · exact Or.inr (Or.inr (absC (hC hi).1 d ((hC hi).2 ▸ h1)))
      · exact Or.inr (Or.inr (Or.inl (f.wc d h1)))
      · exact Or.inr (Or.inr (Or.inr (f.cls d h1)))
    · exact Or.inl h
  · intro hpc d hd
    rw [f.pc] at hpc
    exact absT (hS hpc).1 d ((hS hpc).2 ▸ hd)
  · intro hpc
    rw [f.pc] at hpc
    obtain ⟨⟨_, _, e3, e4⟩, e5⟩ := f.same (hL hpc).2
    rw [e3, e4, e5]; exact hok.m1 (hL hpc).1
  · intro h; rw [f.pc, hQ] at h; cases h
  · intro h; rw [f.pc]; exact hY (hok.l (f.status ▸ h))
  · intro h; rw [f.waitSelect, hws] at h; cases h
  · exact ⟨fun d hd => f.dynTask d (hok.st.1 d hd), fun d hd => f.dynCalc d (hok.st.2 d hd)⟩

theorem NodeStep.inv1 {inp : RunInput} {s s' : Sys} {n : Name} {nd : Node} {perm : List Name} (h : Inv1 inp s)
    (hc : s.cur = some n) (hn : s.nodes n = some nd) (hsusp : s.susp = none)
    (hs : NodeStep inp s n nd perm s') : Inv1 inp s' := by
  have hok := h.node n nd hn
  have q3 := h.q3 n hc
  -- the current node is not in `waiting`, so it is not waiting for `select_task`
  have hws : nd.waitSelect = false := by
    cases hw : nd.waitSelect with
    | false => rfl
    | true => exact absurd (h.wsel n nd hn hw) q3.2
  have nosp {P : Prop} : s.susp = some (.node n) → P := fun e => by rw [hsusp] at e; cases e
  have set : ∀ x : Node, x.status = nd.status → NodeOK inp s n x → (x.pc = .self2 → x.waitRun = []) →
      x.waitSelect = false → Inv1 inp (setNode s n x) := fun x e1 ok e2 e3 =>
    inv1_setNode h hn e1 ok (fun e => Or.inl (e2 e)) nosp (fun e => absurd (e3 ▸ e) nofun)
  have gen : ∀ (d : Name) (pc' : PC), NodeOK inp s n { nd with pc := pc' } → pc' ≠ .self2 →
      Inv1 inp (genStep inp s n nd d pc') := fun d pc' ok hpc' => by
    generalize hg : genStep inp s n nd d pc' = g
    cases genStep_spec hg with
    | cyclic => exact inv1_susp (some (.cyclic d)) h nofun rfl rfl rfl rfl rfl
    | known => exact set _ rfl ok (fun e => absurd e hpc') hws
    | fresh hd =>
      have hdn : d ≠ n := fun e => by rw [e, hn] at hd; cases hd
      have h1 := inv1_create (nd.anc ++ [d]) h hd
      have hn1 : (setNode s d (mkNode inp d (nd.anc ++ [d]))).nodes n = some nd := by
        rw [setNode_nodes, if_neg (Ne.symm hdn)]; exact hn
      have h2 := inv1_setNode (x := { nd with pc := pc' }) h1 hn1 rfl
        (ok.stable (Stable.of_eq (stOf_update (stOf_none hd)))) (fun e => absurd e hpc') nosp
        (fun e => absurd (hws ▸ e) nofun)
      exact inv1_enqueue (d := d) (nd := mkNode inp d (nd.anc ++ [d])) h2 (h.absent hd).1 (h.absent hd).2
        (fun e => hdn (Option.some.inj (hc.symm.trans e)).symm)
        (by rw [setNode_nodes, if_neg hdn, setNode_nodes, if_pos rfl]) nofun (fun _ hx => hx) (fun _ hx => Or.inl hx)
        rfl rfl rfl rfl
  have wait : ∀ (ds : List Name) (c : Bool) (pc' : PC), NodeOK inp s n (waitNode inp s nd ds c pc') → pc' ≠ .self2 →
      Inv1 inp (addWaitRun inp s n nd ds c pc') := fun ds c pc' ok hpc' => by
    have f := waitNode_facts inp s nd ds c pc'
    rw [addWaitRun_eq]
    exact inv1_registerWaiting _ _
      (set _ f.status ok (fun e => absurd (f.pc.symm.trans e) hpc') (f.waitSelect.trans hws))
  cases hs with
  | move hm => exact set _ hm.status (hok.move hws hm) hm.fields.2 (hm.fields.1.trans hws)
  | @park x hp =>
    have h1 := inv1_park (s' := { s with waiting := s.waiting ++ [n], cur := none }) h hc hn rfl rfl rfl rfl rfl
    exact inv1_setNode (s := { s with waiting := s.waiting ++ [n], cur := none }) h1 hn hp.status
      ((hok.park hws hp).congr rfl) (fun _ => Or.inr ⟨q3.1, nofun⟩) nosp
      (fun _ => List.mem_append_right _ (List.mem_singleton.mpr rfl))
  | yield1 hpc =>
    have h1 := set { nd with pc := .afterSelf1 } rfl (hok.setPc hpc hws ⟨rfl, rfl, rfl, rfl⟩ rfl rfl) nofun hws
    exact inv1_susp (s := setNode s n { nd with pc := .afterSelf1 }) (some (.node n)) h1
      (fun m e => by cases e; exact ⟨_, if_pos rfl, Or.inl rfl⟩) rfl rfl rfl rfl rfl
  | yield2 hpc =>
    have hwr := h.r2 n nd hc hn hpc
    have h1 := set { nd with pc := .afterSelf2 } rfl
      (hok.setPc' hpc hws ⟨rfl, rfl, rfl, rfl⟩ (fun _ => hok.m1 (by rw [hpc]; rfl)) (fun _ => hwr)) nofun hws
    exact inv1_susp (s := setNode s n { nd with pc := .afterSelf2 }) (some (.node n)) h1
      (fun m e => by cases e; exact ⟨_, if_pos rfl, Or.inr rfl⟩) rfl rfl rfl rfl rfl
  | calcGen hpc | taskGen hpc | setupGen hpc => exact gen _ _ (hok.setPc hpc hws ⟨rfl, rfl, rfl, rfl⟩ rfl rfl) nofun
  | calcWait hpc =>
    exact wait _ _ _ (hok.wait (waitNode_facts ..) hws (fun _ => Or.inl rfl) (fun _ => ⟨rfl, rfl⟩) Bool.noConfusion
      Bool.noConfusion rfl (by rw [hpc]; exact Bool.noConfusion)) nofun
  | taskWait hpc =>
    exact wait _ _ _ (hok.wait (waitNode_facts ..) hws (fun _ => Or.inr ⟨rfl, rfl⟩)
      (by rw [hpc]; exact Bool.noConfusion) Bool.noConfusion Bool.noConfusion rfl
      (by rw [hpc]; exact Bool.noConfusion)) nofun
  | setupWait hpc =>
    exact wait _ _ _ (hok.wait (waitNode_facts ..) hws (by rw [hpc]; exact Bool.noConfusion)
      (by rw [hpc]; exact Bool.noConfusion) (fun _ => ⟨rfl, rfl⟩) (fun _ => ⟨by rw [hpc]; rfl, rfl⟩) rfl
      (fun _ => rfl)) nofun
  | done => exact inv1_ctl h rfl rfl rfl nofun (fun _ e => Or.inl e)

theorem dtick_inv1 {inp : RunInput} {s s' : Sys} {perm : List Name} (h : Inv1 inp s) (hsusp : s.susp = none)
    (hs : dtick inp s perm = some s') : Inv1 inp s' := by
  cases dtick_spec hs with
  | node hc hn hs => exact hs.inv1 h hc hn hsusp
  | pop _ hr => exact inv1_pop h hr rfl rfl rfl rfl rfl
  | @create t ts _ _ _ hnt =>
    refine inv1_ctl (inv1_create [t] h hnt) rfl rfl rfl (fun _ e => ?_) (fun _ e => Or.inl e)
    cases e
    refine Or.inr ⟨(h.absent hnt).1, (h.absent hnt).2, fun nd hnd => ?_⟩
    rw [setNode_nodes, if_pos rfl] at hnd; cases hnd; nofun
  | skip => exact h.congr rfl rfl rfl rfl rfl
  | lost => exact inv1_susp (some .crash) h nofun rfl rfl rfl rfl rfl
  | deadlock => exact inv1_susp (some (.cyclic _)) h nofun rfl rfl rfl rfl rfl
  | holdOn => exact inv1_susp (some .holdOn) h nofun rfl rfl rfl rfl rfl
  | stopIter => exact inv1_susp (some .stopIter) h nofun rfl rfl rfl rfl rfl

theorem wokenReady_self2 {inp : RunInput} {s : Sys} {w : Name} {nd : Node} (pst : RS) (p : Name)
    (hok : NodeOK inp s w nd) (hr : wokenReady p nd = true) (hpc : nd.pc = .self2) :
    (wokenF inp s pst p nd).waitRun = [] := by
  have hm := hok.m1 (by rw [hpc]; rfl)
  have hnc : p ∉ nd.waitRunCalc := by rw [hm.2.2]; nofun
  rw [wokenF_same hnc]
  simp only [wokenReady, hnc, if_false, Bool.and_eq_true, List.isEmpty_iff] at hr
  simp only [wokenNode, hnc, if_false, parentStatus]
  exact hr.1

theorem wakeOne_inv1 {inp : RunInput} {s : Sys} {pst : RS} {p w : Name} {nd : Node} (h : Inv1 inp s)
    (hw : s.nodes w = some nd) (hp : stOf s p = pst) (hf : pst.finished = true) (hcr : wakeCrash p nd = false) :
    Inv1 inp (wakeOne inp s pst p w nd) ∧ (∀ x, stOf (wakeOne inp s pst p w nd) x = stOf s x) := by
  have hok := h.node w nd hw
  have hu := wokenF_upd inp s pst p nd
  have hst : ∀ x, stOf (setNode s w (wokenF inp s pst p nd)) x = stOf s x :=
    fun x => stOf_update (stOf_some hw) x rfl hu.status
  have hok' : NodeOK inp s w (wokenF inp s pst p nd) := hok.upd hu (Stable.refl s) hp hf
  -- `p` is in one of the wait sets, so the node is not at a quiet position: it is not waiting for select
  have hin : p ∈ nd.waitRun ∨ p ∈ nd.waitRunCalc := by
    simp only [wakeCrash, Bool.and_eq_false_iff, decide_eq_false_iff_not, Decidable.not_not] at hcr
    exact hcr
  have hnq : nd.pc ≠ .setupDecide := by
    intro e
    have a := hok.m2 (by rw [e]; rfl)
    have b := hok.m1 (by rw [e]; rfl)
    rcases hin with x | x
    · rw [a] at x; cases x
    · rw [b.2.2] at x; cases x
  have hws : nd.waitSelect = false := nodeOK_noWaitSelect hok hnq
  have h1 : Inv1 inp (setNode s w (wokenF inp s pst p nd)) := by
    refine inv1_setNode h hw hu.status hok' ?_ ?_ ?_
    · intro e
      rw [hu.pc] at e
      by_cases hwr : nd.waitRun = []
      · left
        cases hb : (wokenF inp s pst p nd).waitRun with
        | nil => rfl
        | cons a t => have := hu.wr' a (by rw [hb]; exact List.mem_cons_self); rw [hwr] at this; cases this
      · right
        exact ⟨fun hr => hwr (h.r1 w hr nd hw e), fun hc => hwr (h.r2 w nd hc hw e)⟩
    · intro e
      obtain ⟨md, h1, h2⟩ := h.sp w e
      rw [hw] at h1; cases h1; rw [hu.pc]; exact h2
    · intro e; rw [hu.waitSelect, hws] at e; cases e
  unfold wakeOne
  by_cases hc : wokenReady p nd = true ∧ w ∈ s.waiting
  · rw [if_pos hc]
    refine ⟨?_, hst⟩
    refine inv1_toReady (w := w) (nd := wokenF inp s pst p nd) h1 hc.2 (by rw [setNode_nodes, if_pos rfl]) ?_ ?_
      rfl rfl rfl rfl rfl
    · intro e; rw [hu.pc] at e; exact wokenReady_self2 pst p hok hc.1 e
    · rw [hu.waitSelect]; exact hws
  · rw [if_neg hc]; exact ⟨h1, hst⟩

theorem sendHead_inv1 {inp : RunInput} {s : Sys} {p : Name} {nd : Node} (h : Inv1 inp s)
    (hn : s.nodes p = some nd) (hk : ¬ (nd.waitSelect = true ∧ p ∉ s.waiting)) :
    Inv1 inp (sendHead s p nd) ∧ (∀ x, stOf (sendHead s p nd) x = stOf s x) := by
  unfold sendHead
  by_cases hws : nd.waitSelect = true
  · rw [if_pos hws]
    have hpw : p ∈ s.waiting := Decidable.byContradiction fun e => hk ⟨hws, e⟩
    have hok := h.node p nd hn
    have hpc := hok.ws hws
    have h1 : Inv1 inp (setNode s p { nd with waitSelect := false }) := by
      refine inv1_setNode h hn rfl ⟨hok.kt, hok.kc, hok.ks, hok.m1, hok.m2, hok.l, nofun, hok.st⟩ ?_ ?_ nofun
      · intro e; rw [hpc] at e; cases e
      · intro e
        obtain ⟨md, a, b⟩ := h.sp p e
        rw [hn] at a; cases a; exact b
    refine ⟨?_, fun x => stOf_update (stOf_some hn) x⟩
    refine inv1_toReady (w := p) (nd := { nd with waitSelect := false }) h1 hpw (if_pos rfl) ?_ rfl
      rfl rfl rfl rfl rfl
    intro e; rw [hpc] at e; cases e
  · rw [if_neg hws]; exact ⟨h.congr rfl rfl rfl rfl rfl, fun _ => rfl⟩

theorem send_inv1 {inp : RunInput} {s s' : Sys} {processed : Option Name} {perm : List Name} (h : Inv1 inp s)
    (hsel : ∀ p, processed = some p → stOf s p ≠ .none)
    (hs : send inp s processed perm = some s') : Inv1 inp s' ∧ (∀ x, stOf s' x = stOf s x) := by
  refine send_ind (P := fun a => Inv1 inp a ∧ ∀ x, stOf a x = stOf s x) ?_ ?_ ?_ ⟨h, fun _ => rfl⟩ hs
  · intro a o ho ⟨i, e⟩
    exact ⟨inv1_susp o i (by rcases ho with rfl | rfl <;> nofun) rfl rfl rfl rfl rfl, e⟩
  · intro p nd _ hn hk ⟨i, _⟩
    exact sendHead_inv1 i hn hk
  · intro a p nd0 w nd hp hn0 hrun hw hcr ⟨i, e⟩
    have hst : stOf s p = nd0.status := stOf_some hn0
    -- a node that was selected and is not running is finished
    have hfin : nd0.status.finished = true := by
      have := hsel p hp
      rw [hst] at this
      cases hx : nd0.status with
      | none => exact absurd hx this
      | run => exact absurd hx hrun
      | _ => rfl
    obtain ⟨i', e'⟩ := wakeOne_inv1 (w := w) i hw ((e p).trans hst) hfin hcr
    exact ⟨i', fun x => (e' x).trans (e x)⟩

end DoitModel.Run
