import DoitModel.Proofs.RunDeliver
/-! # "Everything needed is processed" for the parallel runners, up to the queue accounting (I9) -/
namespace DoitModel.Run

/-- task `n` was chosen for execution and its result has not been processed yet -/
def InFlight (s : Sys) (n : Name) : Prop :=
  Job.task n ∈ s.jobQ ∨ holding s n = 1 ∨ (∃ w, s.workers w = .running n) ∨ n ∈ s.resQ

structure InvP (inp : RunInput) (s : Sys) : Prop where
  d : InvD inp s
  a4 : ∀ n nd, s.nodes n = some nd → nd.pc.yielded1 = true → nd.status = .none →
    s.susp = some (.node n) ∧ awaiting s
  a4b : ∀ n nd, s.nodes n = some nd → nd.pc = .afterSelf2 → nd.status ≠ .none
  a5 : ∀ n nd, s.nodes n = some nd → nd.status = .run → InFlight s n ∨
    (cGo s n = 0 ∧ inp.setup n ≠ [] ∧
      (nd.pc.inSetup = true ∨ (nd.pc = .afterSelf2 ∧ s.susp = some (.node n) ∧ awaiting s)))
  a6 : ∀ n, (stOf s n).finished = true → cTerm s n ≥ 1
  ns : ∀ w, w ≥ s.nStarted → s.workers w = .notStarted

theorem holding_zero {s : Sys} {r : RPC} (hr : s.rpc = r) (h : ∀ j x, r ≠ .gRet j x) (m : Name) : holding s m = 0 := by
  unfold holding; rw [hr]
  cases r <;> first | rfl | exact absurd rfl (h _ _)

theorem inFlight_outer {s s' : Sys} (o : SameOuter s s') (n : Name) (h : InFlight s n) : InFlight s' n := by
  obtain ⟨_, o2, o3, o4, o5, _⟩ := o
  unfold InFlight holding at *
  rw [o2, o3, o4, o5]; exact h

theorem inFlight_rpc {s s' : Sys} (e1 : s'.jobQ = s.jobQ) (e2 : s'.workers = s.workers) (e3 : s'.resQ = s.resQ)
    (h0 : ∀ m, holding s m = 0) (n : Name) (h : InFlight s n) : InFlight s' n := by
  rcases h with a | a | a | a
  · exact Or.inl (by rw [e1]; exact a)
  · rw [h0] at a; cases a
  · exact Or.inr (Or.inr (Or.inl (by rw [e2]; exact a)))
  · exact Or.inr (Or.inr (Or.inr (by rw [e3]; exact a)))

theorem invP_iff {inp : RunInput} {s : Sys} : InvP inp s ↔ Live inp (InFlight s) s ∧
    ∀ w, w ≥ s.nStarted → s.workers w = .notStarted :=
  ⟨fun h => ⟨⟨h.d, h.a4, h.a4b, h.a5, h.a6⟩, h.ns⟩, fun ⟨l, hns⟩ => ⟨l.d, l.a4, l.a4b, l.a5, l.a6, hns⟩⟩

theorem invP_dtick {inp : RunInput} {s s' : Sys} {perm : List Name} (h : InvP inp s) (haw : awaiting s)
    (hsusp : s.susp = none) (hs : dtick inp s perm = some s') : InvP inp s' := by
  obtain ⟨_, o2, _, _, o5, _, _, _, _, _, _, o12⟩ := dtick_outer hs
  refine invP_iff.mpr ⟨(invP_iff.mp h).1.tick ?_ hsusp hs (inFlight_outer (dtick_outer hs)), fun w hw => ?_⟩
  · unfold awaiting at *; rw [o2]; exact haw
  · rw [o5]; rw [o12] at hw; exact h.ns w hw

/-- `hnp`: if the runner leaves the waiting-for-selection mode, no node is left unselected -/
theorem invP_move {inp : RunInput} {s s' : Sys} (h : InvP inp s)
    (e1 : s'.nodes = s.nodes) (e2 : s'.ready = s.ready) (e3 : s'.waiting = s.waiting) (e4 : s'.cur = s.cur)
    (e5 : s'.toRun = s.toRun) (e6 : s'.susp = s.susp)
    (ev : ∃ extra, s'.events = extra ++ s.events ∧ ∀ m, extra.countP (Ev.isGoOf m) = 0)
    (hfl : ∀ k, InFlight s k → InFlight s' k)
    (hnp : ¬ awaiting s' → ∀ k x, s.susp = some (.node k) → awaiting s → s.nodes k = some x →
      x.status ≠ .none ∧ x.status ≠ .run)
    (hns : ∀ w, w ≥ s'.nStarted → s'.workers w = .notStarted) : InvP inp s' := by
  refine invP_iff.mpr ⟨(invP_iff.mp h).1.keep (h.d.outer e1 e2 e3 e4 e5 e6) (fun k y hk => ⟨y, e1 ▸ hk, rfl, rfl⟩) ev hfl
    fun k x a b hx => ?_, hns⟩
  by_cases haw' : awaiting s'
  · exact Or.inr ⟨e6, haw'⟩
  · exact Or.inl (hnp haw' k x a b hx)

theorem invP_send {inp : RunInput} {s s0 : Sys} {node : Option Name} {perm : List Name} {ret : Ret} (h : InvP inp s)
    (h2 : Inv2 inp s) (hr : s.rpc = .gLoop node ret) (hs : send inp s node perm = some s0) :
    InvP inp { s0 with rpc := .gWait ret } := by
  obtain ⟨o1, _, o3, o4, o5, _, _, _, _, _, _, o12⟩ := (send_outer hs).1
  have hnaw : ¬ awaiting s := not_awaiting (by rw [hr]; nofun) (by rw [hr]; nofun)
  refine invP_iff.mpr ⟨(invP_iff.mp h).1.keep ((send_invD h.d hs).outer rfl rfl rfl rfl rfl rfl)
    (send_keeps_nodes (s0 := s0) (node := node) h2 (by simp only [sentBack, hr]) hs) ⟨[], o1, fun _ => rfl⟩
    (inFlight_rpc (s' := { s0 with rpc := .gWait ret }) o3 o5 o4 (holding_zero hr nofun))
    (fun _ _ _ b _ => absurd b hnaw), fun w hw => ?_⟩
  show s0.workers w = _
  rw [o5]; exact h.ns w (by rw [← o12]; exact hw)

theorem invP_status {inp : RunInput} {s s' : Sys} {n : Name} {nd : Node} (st' : RS) (h : InvP inp s)
    (hn : s.nodes n = some nd) (e1 : s'.nodes = (setNode s n { nd with status := st' }).nodes) (e2 : s'.ready = s.ready)
    (e3 : s'.waiting = s.waiting) (e4 : s'.cur = s.cur) (e5 : s'.toRun = s.toRun) (e6 : s'.susp = s.susp)
    (hne : st' ≠ .none) (hsole : ∀ k, k ≠ n → s.susp = some (.node k) → ¬ awaiting s)
    (fl : ∀ k, k ≠ n → InFlight s k → InFlight s' k) (cgo : ∀ k, k ≠ n → cGo s' k = cGo s k)
    (cterm : ∀ m, cTerm s' m ≥ cTerm s m)
    (hrun : st' = .run → InFlight s' n ∨ (cGo s' n = 0 ∧ inp.setup n ≠ [] ∧ nd.pc.inSetup = true))
    (hterm : st'.finished = true → cTerm s' n ≥ 1)
    (hns : ∀ w, w ≥ s'.nStarted → s'.workers w = .notStarted) : InvP inp s' :=
  invP_iff.mpr ⟨(invP_iff.mp h).1.setStatus st' hn e1 e2 e3 e4 e5 e6 hne hsole fl cgo cterm hrun hterm, hns⟩

theorem invP_select {inp : RunInput} {s : Sys} {n : Name} {nd : Node} {ret : Ret} {d : Sel} (rpc' : RPC) (h : InvP inp s)
    (h2 : Inv2 inp s) (h3 : Inv3 inp s) (hr : s.rpc = .gWait ret) (hsusp : s.susp = some (.node n))
    (hn : s.nodes n = some nd) (hsel : selDecision inp n nd = d) (hd : d ≠ .assertFail)
    (hrpc : (d = .go ∧ rpc' = .gRet (.task n) ret) ∨ (d ≠ .go ∧ rpc' = .gLoop (some n) ret)) :
    InvP inp { applySel inp s n nd d with rpc := rpc' } := by
  have haw : awaiting s := Or.inr ⟨ret, hr⟩
  obtain ⟨f1, f2, f3, f4, _, f6, f7, f8⟩ := applySel_frame inp s n nd d
  have hev := applySel_events inp s n nd d
  have sc := selEvents_counts inp n nd d
  have cgo : ∀ m, cGo { applySel inp s n nd d with rpc := rpc' } m = (if n = m then selGo d else 0) + cGo s m := by
    intro m
    show (applySel inp s n nd d).events.countP _ = _
    rw [hev, List.countP_append, (sc m).go]; rfl
  have cterm : ∀ m, cTerm { applySel inp s n nd d with rpc := rpc' } m = (if n = m then selTerm d else 0) + cTerm s m := by
    intro m
    show (applySel inp s n nd d).events.countP _ = _
    rw [hev, List.countP_append, (sc m).term]; rfl
  refine invP_status (s' := { applySel inp s n nd d with rpc := rpc' }) (selStatus d) h hn (applySel_nodes inp s n nd d hd)
    f1 f2 f3 (applySel_keeps inp s n nd d).toRun f4 (selStatus_ne_none hd) (fun k e hk _ => e (by rw [hsusp] at hk; cases hk; rfl))
    (fun k _ => inFlight_rpc (s' := { applySel inp s n nd d with rpc := rpc' }) f6 f8 f7 (awaiting_holding haw) k)
    (fun k e => by rw [cgo k, if_neg (Ne.symm e)]; exact Nat.zero_add _) (fun m => by rw [cterm m]; omega) ?_ ?_ ?_
  · intro hrun
    rcases hrpc with ⟨_, e⟩ | ⟨hng, e⟩
    · exact Or.inl (Or.inr (Or.inl (by rw [e]; exact if_pos rfl)))
    · -- status `run` without `go`: the first pass of a node that has setup-tasks
      have hrf : d = .runFirst := by cases d <;> first | rfl | exact absurd rfl hng | cases hrun
      subst hrf
      cases selDecision_spec.of_eq hsel with
      | runFirst hnone _ _ _ _ _ hsetup =>
        have hpc1 : nd.pc = .afterSelf1 := by
          obtain ⟨x, a, b⟩ := h2.inv1.sp n hsusp
          rw [hn] at a; cases a
          exact b.resolve_right fun e' => h.a4b n nd hn e' hnone
        refine Or.inr ⟨?_, hsetup, by rw [hpc1]; rfl⟩
        rw [cgo n, if_pos rfl, h3.z haw n hsusp]; rfl
  · intro hfin; rw [cterm n, if_pos rfl, selTerm_of_finished hfin]; omega
  · intro w hw
    show (applySel inp s n nd d).workers w = _
    rw [f8]; exact h.ns w ((applySel_keeps inp s n nd d).nStarted ▸ hw)

theorem invP_result {inp : RunInput} {s s1 : Sys} {n : Name} {rest : List Name} {nd : Node} (r : RPC) (fp : Nat)
    (h : InvP inp s) (hr : s.rpc = .pTop) (hq : s.resQ = n :: rest) (hn : s.nodes n = some nd)
    (k : SameButStatus { s with resQ := rest } s1)
    (e1 : s1.nodes = (setNode s n { nd with status := resStatus (inp.outcome n) }).nodes)
    (hev : s1.events = resEvents n (inp.outcome n) ++ s.events) : InvP inp { s1 with rpc := r, freeProc := fp } := by
  have rc := resEvents_counts n (inp.outcome n)
  have cgo : ∀ m, cGo { s1 with rpc := r, freeProc := fp } m = cGo s m := by
    intro m
    show s1.events.countP _ = _
    rw [hev, List.countP_append, (rc m).go]; exact Nat.zero_add _
  have cterm : ∀ m, cTerm { s1 with rpc := r, freeProc := fp } m = (if n = m then 1 else 0) + cTerm s m := by
    intro m
    show s1.events.countP _ = _
    rw [hev, List.countP_append, (rc m).term]; rfl
  have rne : resStatus (inp.outcome n) ≠ .none ∧ resStatus (inp.outcome n) ≠ .run := by
    cases inp.outcome n <;> exact ⟨nofun, nofun⟩
  refine invP_status (resStatus (inp.outcome n)) h hn e1 k.ready k.waiting k.cur k.toRun k.susp rne.1
    (fun _ _ _ => not_awaiting (by rw [hr]; nofun) (by rw [hr]; nofun)) ?_ (fun m _ => cgo m)
    (fun m => by rw [cterm m]; omega) (fun e => absurd e rne.2) (fun _ => by rw [cterm n, if_pos rfl]; omega) ?_
  · intro m hmn hm
    rcases hm with a | a | ⟨w, hw⟩ | a
    · exact Or.inl (by show Job.task m ∈ s1.jobQ; rw [k.jobQ]; exact a)
    · rw [holding_zero hr nofun] at a; cases a
    · exact Or.inr (Or.inr (Or.inl ⟨w, by show s1.workers w = _; rw [k.workers]; exact hw⟩))
    · refine Or.inr (Or.inr (Or.inr ?_))
      show m ∈ s1.resQ
      rw [k.resQ]; rw [hq] at a
      exact (List.mem_cons.mp a).resolve_left hmn
  · intro w hw
    show s1.workers w = _
    rw [k.workers]; exact h.ns w (k.nStarted ▸ hw)

theorem TakeStep.pops {inp : RunInput} {s s' : Sys} {w : Nat} (h : TakeStep inp s w s') :
    s.workers w = .idle ∧ s'.resQ = s.resQ ∧ ∃ j, s.jobQ = j :: s'.jobQ ∧ ∀ n, s'.workers w = .running n ↔ j = .task n := by
  cases h with
  | hold hi hq => exact ⟨hi, rfl, _, hq, fun n => ⟨(fun a => nomatch hi.symm.trans a), nofun⟩⟩
  | stop hi hq => exact ⟨hi, rfl, _, hq, fun n => ⟨(fun a => nomatch (setWorker_self ..).symm.trans a), nofun⟩⟩
  | task hi hq =>
    exact ⟨hi, rfl, _, hq, fun n => ⟨fun a => by cases (setWorker_self ..).symm.trans a; rfl,
      fun e => by cases e; exact setWorker_self ..⟩⟩

theorem TakeStep.inFlight_iff {inp : RunInput} {s s' : Sys} {w : Nat} (h : TakeStep inp s w s') (n : Name) :
    InFlight s' n ↔ InFlight s n := by
  have f := h.workerFrame
  obtain ⟨hi, eq, j, hq, hj⟩ := h.pops
  constructor
  · rintro (y | y | ⟨w', y⟩ | y)
    · exact Or.inl (hq ▸ List.mem_cons_of_mem _ y)
    · exact Or.inr (Or.inl ((f.holding n).symm.trans y))
    · by_cases c : w' = w
      · have e := (hj n).mp (c ▸ y)
        subst e
        exact Or.inl (hq ▸ List.mem_cons_self ..)
      · exact Or.inr (Or.inr (Or.inl ⟨w', (f.others w' c).symm.trans y⟩))
    · exact Or.inr (Or.inr (Or.inr (eq ▸ y)))
  · rintro (y | y | ⟨w', y⟩ | y)
    · rcases List.mem_cons.mp (hq ▸ y) with z | z
      · exact Or.inr (Or.inr (Or.inl ⟨w, (hj n).mpr z.symm⟩))
      · exact Or.inl z
    · exact Or.inr (Or.inl ((f.holding n).trans y))
    · have c : w' ≠ w := fun c => by rw [c, hi] at y; cases y
      exact Or.inr (Or.inr (Or.inl ⟨w', (f.others w' c).trans y⟩))
    · exact Or.inr (Or.inr (Or.inr (eq ▸ y)))

theorem DoneStep.puts {s s' : Sys} {w : Nat} (h : DoneStep s w s') :
    s'.jobQ = s.jobQ ∧ s'.workers w = .idle ∧ ∃ k, s.workers w = .running k ∧ s'.resQ = s.resQ ++ [k] := by
  cases h with
  | done hw => exact ⟨rfl, setWorker_self .., _, hw, rfl⟩

theorem DoneStep.inFlight_iff {s s' : Sys} {w : Nat} (h : DoneStep s w s') (n : Name) : InFlight s' n ↔ InFlight s n := by
  have f := h.workerFrame
  obtain ⟨ej, hi, k, hk, eq⟩ := h.puts
  constructor
  · rintro (y | y | ⟨w', y⟩ | y)
    · exact Or.inl (ej ▸ y)
    · exact Or.inr (Or.inl ((f.holding n).symm.trans y))
    · have c : w' ≠ w := fun c => by rw [c, hi] at y; cases y
      exact Or.inr (Or.inr (Or.inl ⟨w', (f.others w' c).symm.trans y⟩))
    · rcases List.mem_append.mp (eq ▸ y) with z | z
      · exact Or.inr (Or.inr (Or.inr z))
      · rw [List.mem_singleton.mp z]; exact Or.inr (Or.inr (Or.inl ⟨w, hk⟩))
  · rintro (y | y | ⟨w', y⟩ | y)
    · exact Or.inl (ej ▸ y)
    · exact Or.inr (Or.inl ((f.holding n).trans y))
    · by_cases c : w' = w
      · cases hk.symm.trans (c ▸ y)
        exact Or.inr (Or.inr (Or.inr (eq ▸ List.mem_append_right _ (List.mem_singleton_self _))))
      · exact Or.inr (Or.inr (Or.inl ⟨w', (f.others w' c).trans y⟩))
    · exact Or.inr (Or.inr (Or.inr (eq ▸ List.mem_append_left _ y)))

theorem invP_worker {inp : RunInput} {s s' : Sys} {w : Nat} (h : InvP inp s) (hw : s.workers w ≠ .notStarted)
    (f : WorkerFrame s s' w) (ev : ∃ extra, s'.events = extra ++ s.events ∧ ∀ m, extra.countP (Ev.isGoOf m) = 0)
    (hfl : ∀ k, InFlight s k → InFlight s' k) : InvP inp s' := by
  have haw : awaiting s → awaiting s' := by unfold awaiting; rw [f.rpc]; exact id
  refine invP_move h f.nodes f.ready f.waiting f.cur f.toRun f.susp ev hfl
    (fun hna _ _ _ a _ => absurd (haw a) hna) fun v hv => ?_
  rw [f.nStarted] at hv
  exact (f.others v fun e => hw (e ▸ h.ns v hv)).trans (h.ns v hv)

theorem takeStep_invP {inp : RunInput} {s s' : Sys} {w : Nat} (h : InvP inp s)
    (hs : takeStep inp s w = some s') : InvP inp s' := by
  have hsp := takeStep_spec hs
  have hfl := fun k => (hsp.inFlight_iff k).mpr
  have f := hsp.workerFrame
  cases hsp with
  | hold hi _ | stop hi _ => exact invP_worker h (by rw [hi]; nofun) f ⟨[], rfl, fun _ => rfl⟩ hfl
  | @task n _ hi _ =>
    exact invP_worker h (by rw [hi]; nofun) f ⟨_, startTask_events inp s n w, fun m => (startTask_counts inp n w m).go⟩ hfl

theorem doneStep_invP {inp : RunInput} {s s' : Sys} {w : Nat} (h : InvP inp s)
    (hs : doneStep s w = some s') : InvP inp s' := by
  have hfl := fun k => ((doneStep_spec hs).inFlight_iff k).mpr
  have f := (doneStep_spec hs).workerFrame
  rcases doneStep_spec hs with @⟨n, hw⟩
  exact invP_worker h (by rw [hw]; nofun) f ⟨[Ev.fin n w], rfl, fun _ => rfl⟩ hfl

/-- a held task job is now in the job queue (the counters are not looked at) -/
theorem enqueue_invP {inp : RunInput} {s : Sys} {job : Job} {ret : Ret} (h : InvP inp s) (hr : s.rpc = .gRet job ret)
    (q : List Job) (r : RPC) (pc : Int) (hl : Halt) (ns : Nat) (wk : Nat → WState)
    (ej : q = s.jobQ ++ [job] ∨ (job = .stop ∧ q = s.jobQ)) (ew : ∀ k m, s.workers k = .running m → wk k = .running m)
    (hns : ∀ w, w ≥ ns → wk w = .notStarted) :
    InvP inp { s with jobQ := q, rpc := r, procCount := pc, halt := hl, nStarted := ns, workers := wk } := by
  refine invP_move h rfl rfl rfl rfl rfl rfl ⟨[], rfl, fun _ => rfl⟩ ?_
    (fun _ _ _ _ b _ => absurd b (not_awaiting (by rw [hr]; nofun) (by rw [hr]; nofun))) hns
  have queued : ∀ k, Job.task k ∈ s.jobQ ∨ job = .task k → Job.task k ∈ q := by
    intro k hk
    rcases ej with e | ⟨e', e⟩ <;> rw [e]
    · exact hk.elim (List.mem_append_left _) fun x => x ▸ List.mem_append_right _ (List.mem_singleton.mpr rfl)
    · exact hk.elim id fun x => by rw [x] at e'; cases e'
  intro k hk
  rcases hk with a | a | ⟨v, hv⟩ | a
  · exact Or.inl (queued k (Or.inl a))
  · -- the held job of `k` is the one being enqueued
    refine Or.inl (queued k (Or.inr ?_))
    unfold holding at a; rw [hr] at a
    cases job with
    | task m =>
      by_cases x : m = k
      · rw [x]
      · simp [x] at a
    | _ => cases a
  · exact Or.inr (Or.inr (Or.inl ⟨v, ew v k hv⟩))
  · exact Or.inr (Or.inr (Or.inr a))

theorem gReturn_invP {inp : RunInput} {s : Sys} {job : Job} {ret : Ret} (h : InvP inp s)
    (hr : s.rpc = .gRet job ret) : InvP inp (gReturn s job ret) := by
  have h5 : s.workers s.nStarted = .notStarted := h.ns _ (Nat.le_refl _)
  have kw : ∀ k m, s.workers k = .running m → (setWorker s s.nStarted .idle).workers k = .running m := fun k m hk =>
    (setWorker_ne s _ fun e => by rw [e, h5] at hk; cases hk).trans hk
  have nsNew : ∀ w, w ≥ s.nStarted + 1 → (setWorker s s.nStarted .idle).workers w = .notStarted := fun w hw =>
    (setWorker_ne s _ (by omega)).trans (h.ns w (by omega))
  have hg := gReturn_row s job ret
  generalize gReturn s job ret = s' at hg
  cases hg with
  | noWorker _ hj => exact enqueue_invP h hr _ _ _ _ _ _ (Or.inr ⟨hj, rfl⟩) (fun _ _ a => a) h.ns
  | lastWorker | nextWorker => exact enqueue_invP h hr _ _ _ _ _ _ (Or.inl rfl) kw nsNew
  | fed | noProc | feedNext => exact enqueue_invP h hr _ _ _ _ _ _ (Or.inl rfl) (fun _ _ a => a) h.ns

theorem mainStep_invP {inp : RunInput} {s s' : Sys} {perm : List Name} (h : InvP inp s) (h2 : Inv2 inp s)
    (h3 : Inv3 inp s) (hs : mainStep inp s perm = some s') : InvP inp s' := by
  -- `hno`: the runner does not walk away from a node that is waiting to be selected
  have move : ∀ (r : RPC) (fp : Nat) (hl : Halt), (∀ m, holding s m = 0) →
      (¬ awaiting { s with rpc := r, freeProc := fp, halt := hl } → ∀ k x, s.susp = some (.node k) → awaiting s →
        s.nodes k = some x → x.status ≠ .none ∧ x.status ≠ .run) →
      InvP inp { s with rpc := r, freeProc := fp, halt := hl } := fun r fp hl h0 hno =>
    invP_move h rfl rfl rfl rfl rfl rfl ⟨[], rfl, fun _ => rfl⟩ (inFlight_rpc rfl rfl rfl h0) hno h.ns
  cases mainStep_spec hs with
  | entryStop hr _ | entry hr _ | join hr _ | joined hr _ =>
    exact move _ _ _ (holding_zero hr nofun) fun _ _ _ _ haw _ => absurd haw (not_awaiting (by rw [hr]; nofun) (by rw [hr]; nofun))
  | send hr hsd => exact invP_send h h2 hr hsd
  | tick hr hsu hd => exact invP_dtick h (Or.inr ⟨_, hr⟩) hsu hd
  | lost _ hsu hn => obtain ⟨x, a, _⟩ := h2.inv1.sp _ hsu; rw [hn] at a; cases a
  | go hr hsu hn hd => exact invP_select _ h h2 h3 hr hsu hn hd nofun (Or.inl ⟨rfl, rfl⟩)
  | select hr hsu hn hd hg ha => exact invP_select _ h h2 h3 hr hsu hn hd ha (Or.inr ⟨hg, rfl⟩)
  | @assertFail ret n nd hr hsu hn hd =>
    have haw : awaiting s := Or.inr ⟨ret, hr⟩
    refine move _ _ _ (awaiting_holding haw) ?_
    intro _ k x hk _ hx
    rw [hsu] at hk; cases hk
    rw [hn] at hx; cases hx
    cases selDecision_spec.of_eq hd with
    | assertFail hne hor =>
      refine ⟨hne, fun hrun => ?_⟩
      rcases h.a5 n nd hn hrun with a | ⟨_, a2, _⟩
      · -- in flight and yielded at the same time is impossible
        have z := h3.z haw n hsu
        have hj := h3.j n
        rcases a with a | a | ⟨w, a⟩ | a
        · have := count_task_pos.mp a; omega
        · omega
        · have := (h3.w1 w n a).1; omega
        · have := (h3.q1 n a).1; have := (h3.p0 n).2; omega
      · exact hor.elim (fun e => e hrun) a2
  | holdOn hr hsu | stopIter hr hsu | cyclic hr hsu | crash hr hsu =>
    exact move _ _ _ (awaiting_holding (Or.inr ⟨_, hr⟩)) fun _ k _ e _ _ => by rw [hsu] at e; cases e
  | ret hr => exact gReturn_invP h hr
  | resultLost _ _ hq hn => have := (h3.q1 _ (by rw [hq]; exact List.mem_cons_self ..)).2; simp [stOf, hn] at this
  | result hr _ hq hn =>
    exact invP_result _ _ h hr hq hn (processResult_keeps ..) (processResult_nodes ..) (processResult_events ..)
  | finish hr =>
    refine invP_move h rfl rfl rfl rfl rfl rfl
      ⟨Ev.complete :: s.tdown.map Ev.teardown, by simp [finishRun], fun m => (teardown_counts s.tdown m).1⟩
      (inFlight_rpc rfl rfl rfl (holding_zero hr nofun)) (fun _ _ _ _ b _ => absurd b (not_awaiting (by rw [hr]; nofun) (by rw [hr]; nofun))) h.ns

theorem init_invP (inp : RunInput) : InvP inp (init inp) :=
  invP_iff.mpr ⟨init_live inp _, fun _ _ => rfl⟩

theorem preach_invP {inp : RunInput} {s : Sys} (h : PReach inp s) : InvP inp s := by
  induction h with
  | init => exact init_invP inp
  | @next s0 s1 c hr hs ih =>
    have hi := preach_inv hr
    cases c with
    | main perm => exact mainStep_invP ih hi.1 hi.2 hs
    | take w => exact takeStep_invP ih hs
    | done w => exact doneStep_invP ih hs

/-- parallel runners, up to the queue accounting: if the dispatcher generator is exhausted and nothing is left in flight,
    every member of the run's closure has exactly one terminal report -/
theorem all_processed_parallel_partial {inp : RunInput} {s : Sys} (hr : PReach inp s)
    (hsu : s.susp = some .stopIter) (hq : ∀ t, ¬ InFlight s t) :
    ∀ t, RunCl inp s t → cTerm s t = 1 :=
  all_processed_of (invP_iff.mp (preach_invP hr)).1 hq (preach_inv hr).1 (preach_inv hr).2 hsu

end DoitModel.Run
