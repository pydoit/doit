import DoitModel.Model.RunC09
/-! # C09 — the default schedule of the pinned dispatcher is a run of it (for the counterexample theorems) -/
namespace DoitModel.Run

theorem workerMovePinned_step {inp : RunInput} {s s' : Sys} {c : Choice} :
    ∀ k, workerMovePinned inp s k = some (c, s') → stepPinned inp s c = some s' := by
  intro k
  induction k with
  | zero => intro h; simp [workerMovePinned] at h
  | succ k ih =>
    intro h
    simp only [workerMovePinned] at h
    cases h1 : stepPinned inp s (.take k) with
    | some a => simp only [h1] at h; cases h; exact h1
    | none =>
      simp only [h1] at h
      cases h2 : stepPinned inp s (.done k) with
      | some a => simp only [h2] at h; cases h; exact h2
      | none => simp only [h2] at h; exact ih h

theorem runPinned_auto (inp : RunInput) : ∀ (fuel : Nat) (s : Sys),
    runPinned inp s (autoRunPinned inp fuel s).2 = some (autoRunPinned inp fuel s).1 := by
  intro fuel
  induction fuel with
  | zero => intro s; simp [autoRunPinned, runPinned]
  | succ fuel ih =>
    intro s
    simp only [autoRunPinned]
    cases h1 : stepPinned inp s (.main (defaultPerm s)) with
    | some s' => simp only [runPinned, h1]; exact ih s'
    | none =>
      simp only []
      cases h2 : workerMovePinned inp s s.nStarted with
      | none => simp [runPinned]
      | some cs =>
        obtain ⟨c, s'⟩ := cs
        simp only [runPinned, workerMovePinned_step _ h2]
        exact ih s'

end DoitModel.Run
