import DoitModel.Proofs.RunLiveP
/-! # I9 — queue accounting of `MRunner.run_tasks`: every job handed out has a receiver, every worker not yet told to
    exit is counted in `proc_count`; at a normal end of the main loop nothing is left in flight -/
namespace DoitModel.Run

def isRun : WState → Bool
  | .running _ => true
  | _ => false

/-- number of workers among the first `k` that are executing a task -/
def cntRun (f : Nat → WState) : Nat → Nat
  | 0 => 0
  | k + 1 => cntRun f k + (if isRun (f k) then 1 else 0)

def isTaskJob : Job → Bool
  | .task _ => true
  | _ => false

def heldTask (s : Sys) : Nat :=
  match s.rpc with
  | .gRet (.task _) _ => 1
  | _ => 0

/-- outstanding work: task jobs queued or held, tasks being executed, results not yet processed -/
def outst (s : Sys) : Nat := s.jobQ.countP isTaskJob + heldTask s + cntRun s.workers s.nStarted + s.resQ.length

/-- `get_next_job` calls of the current feed round still to be accounted for -/
def kRem (s : Sys) : Nat :=
  match s.rpc with
  | .gEntry _ (.feedLoop k) => k
  | .gLoop _ (.feedLoop k) => k
  | .gWait (.feedLoop k) => k
  | .gRet .stop (.feedLoop k) => k
  | .gRet _ (.feedLoop k) => k - 1
  | _ => 0

def feedK (s : Sys) : Option Nat :=
  match s.rpc with
  | .gEntry _ (.feedLoop k) => some k
  | .gLoop _ (.feedLoop k) => some k
  | .gWait (.feedLoop k) => some k
  | .gRet _ (.feedLoop k) => some k
  | _ => none

def inStart (s : Sys) : Bool :=
  match s.rpc with
  | .gEntry _ (.startLoop _) => true
  | .gLoop _ (.startLoop _) => true
  | .gWait (.startLoop _) => true
  | .gRet _ (.startLoop _) => true
  | _ => false

def pendStart (s : Sys) : Nat :=
  match s.rpc with
  | .gRet .stop (.startLoop _) => 0
  | .gRet _ (.startLoop _) => 1
  | _ => 0

def afterLoop (s : Sys) : Prop := s.rpc = .pJoin ∨ s.rpc = .fin ∨ s.rpc = .halted
def atRest (s : Sys) : Prop := s.rpc = .pTop ∨ afterLoop s

/-- `accS`, start loop: every started worker has one job (queued, taken, or about to be queued: `pendStart`) or is parked (`freeProc`).
    `accM`, afterwards: `proc_count` covers outstanding work, parked workers and the `get_next_job` calls the feed round still owes
    (`kRem`); only `≥` is claimed, which with `pz` (`proc_count = 0` after the loop) is what the end needs.  `gr`, `sx` record the
    generator's last answer only to conclude `susp = stopIter` at a normal end.  `ns` is `InvP.ns`; `preach_inv5` takes it from there. -/
structure Inv5 (s : Sys) : Prop where
  ns : ∀ w, w ≥ s.nStarted → s.workers w = .notStarted
  kp : ∀ k, feedK s = some k → k ≥ 1
  accS : inStart s = true → s.nStarted + pendStart s = outst s + s.freeProc
  accM : inStart s = false → s.halt = .none → s.procCount ≥ ((outst s + s.freeProc + kRem s : Nat) : Int)
  pz : afterLoop s → s.halt = .none → s.procCount = 0
  gr : ∀ job ret, s.rpc = .gRet job ret → s.stop = false →
    (job = .stop → s.susp = some .stopIter) ∧ (∀ n, job = .task n → s.susp = some (.node n)) ∧
    (job = .hold → s.susp = some .holdOn ∧ s.freeProc ≥ 1)
  sx : atRest s → s.stop = false → s.halt = .none →
    s.susp = some .stopIter ∨ (∃ n, s.susp = some (.node n) ∧ InFlight s n) ∨ (s.susp = some .holdOn ∧ s.freeProc ≥ 1)

theorem cntRun_congr {f g : Nat → WState} : ∀ k, (∀ i, i < k → f i = g i) → cntRun f k = cntRun g k := by
  intro k
  induction k with
  | zero => intro _; rfl
  | succ k ih =>
    intro h
    simp only [cntRun]
    rw [ih (fun i hi => h i (by omega)), h k (by omega)]

theorem cntRun_update (f : Nat → WState) (w : Nat) (st : WState) : ∀ k, w < k →
    cntRun (fun i => if i = w then st else f i) k + (if isRun (f w) then 1 else 0) =
      cntRun f k + (if isRun st then 1 else 0) := by
  intro k
  induction k with
  | zero => intro h; omega
  | succ k ih =>
    intro h
    simp only [cntRun]
    by_cases e : k = w
    · subst e
      have : cntRun (fun i => if i = k then st else f i) k = cntRun f k :=
        cntRun_congr k (fun i hi => by simp [Nat.ne_of_lt hi])
      simp only [this, if_true]; omega
    · have := ih (by omega)
      simp only [e, if_false]; omega

theorem cntRun_pos {f : Nat → WState} {w : Nat} : ∀ k, w < k → isRun (f w) = true → cntRun f k ≥ 1 := by
  intro k
  induction k with
  | zero => intro h; omega
  | succ k ih =>
    intro h hr
    simp only [cntRun]
    by_cases e : k = w
    · subst e; simp [hr]
    · have := ih (by omega) hr; omega



/-- the runner is inside `get_next_job`, which will return to `ret` -/
inductive Inside (s : Sys) (ret : Ret) : Prop
  | entry {c} : s.rpc = .gEntry c ret → Inside s ret
  | loop {c} : s.rpc = .gLoop c ret → Inside s ret
  | wait : s.rpc = .gWait ret → Inside s ret

def Ret.isStart : Ret → Bool
  | .startLoop _ => true
  | .feedLoop _ => false

/-- `get_next_job` calls of the feed round not yet returned, the current one included -/
def Ret.owed : Ret → Nat
  | .startLoop _ => 0
  | .feedLoop k => k

theorem Inside.readings {s : Sys} {ret : Ret} (h : Inside s ret) :
    heldTask s = 0 ∧ pendStart s = 0 ∧ inStart s = ret.isStart ∧ kRem s = ret.owed ∧
    feedK s = (if ret.isStart then none else some ret.owed) ∧ ¬ atRest s ∧ ∀ job r, s.rpc ≠ .gRet job r := by
  cases h <;> rename_i e <;> cases ret <;>
    simp [heldTask, pendStart, inStart, kRem, feedK, atRest, afterLoop, e, Ret.isStart, Ret.owed]

theorem readings_gRet {s : Sys} {job : Job} {ret : Ret} (hr : s.rpc = .gRet job ret) :
    heldTask s = (if isTaskJob job then 1 else 0) ∧
    pendStart s = (if ret.isStart then (if job = .stop then 0 else 1) else 0) ∧ inStart s = ret.isStart ∧
    kRem s = ret.owed - (if job = .stop then 0 else 1) ∧ feedK s = (if ret.isStart then none else some ret.owed) ∧
    ¬ atRest s := by
  cases ret <;> cases job <;>
    simp [heldTask, pendStart, inStart, kRem, feedK, atRest, afterLoop, hr, Ret.isStart, Ret.owed, isTaskJob]

theorem atRest.readings {s : Sys} (h : atRest s) :
    heldTask s = 0 ∧ pendStart s = 0 ∧ inStart s = false ∧ kRem s = 0 ∧ feedK s = none ∧ (∀ m, holding s m = 0) ∧
    ∀ job r, s.rpc ≠ .gRet job r := by
  rcases h with e | e | e | e <;> simp [heldTask, pendStart, inStart, kRem, feedK, holding, e]

theorem inv5_worker {s s' : Sys} {w : Nat} (h : Inv5 s) (f : WorkerFrame s s' w) (ho : outst s' = outst s)
    (hns : ∀ w, w ≥ s'.nStarted → s'.workers w = .notStarted) (hfl : ∀ n, InFlight s n → InFlight s' n) : Inv5 s' := by
  have k1 : kRem s' = kRem s := by unfold kRem; rw [f.rpc]
  have k2 : feedK s' = feedK s := by unfold feedK; rw [f.rpc]
  have k3 : inStart s' = inStart s := by unfold inStart; rw [f.rpc]
  have k4 : pendStart s' = pendStart s := by unfold pendStart; rw [f.rpc]
  have k5 : afterLoop s' = afterLoop s := by unfold afterLoop; rw [f.rpc]
  have k6 : atRest s' = atRest s := by unfold atRest; rw [k5, f.rpc]
  refine ⟨hns, by rw [k2]; exact h.kp, ?_, ?_, ?_, ?_, ?_⟩
  · rw [f.nStarted, k4, ho, f.freeProc, k3]; exact h.accS
  · rw [f.procCount, ho, f.freeProc, k1, k3, f.halt]; exact h.accM
  · rw [f.procCount, k5, f.halt]; exact h.pz
  · rw [f.rpc, f.susp, f.stop, f.freeProc]; exact h.gr
  · rw [k6, f.stop, f.halt, f.susp, f.freeProc]
    intro a b c
    rcases h.sx a b c with x | ⟨n, x, y⟩ | x
    · exact Or.inl x
    · exact Or.inr (Or.inl ⟨n, x, hfl n y⟩)
    · exact Or.inr (Or.inr x)

theorem Inv5.started {s : Sys} (h : Inv5 s) {w : Nat} (hw : s.workers w ≠ .notStarted) : w < s.nStarted :=
  Nat.lt_of_not_le fun e => hw (h.ns w e)

theorem takeStep_inv5 {inp : RunInput} {s s' : Sys} {w : Nat} (h : Inv5 s) (hs : takeStep inp s w = some s')
    (hns : ∀ w, w ≥ s'.nStarted → s'.workers w = .notStarted) : Inv5 s' := by
  have hsp := takeStep_spec hs
  have f := hsp.workerFrame
  -- the job leaves the queue; a task job is now counted as being executed
  have conserve : ∀ {j js}, s.jobQ = j :: js → s'.jobQ = js → s'.resQ = s.resQ →
      cntRun s'.workers s.nStarted = cntRun s.workers s.nStarted + (if isTaskJob j then 1 else 0) →
      outst s' = outst s := by
    intro j js hq ej er hc
    have eh : heldTask s' = heldTask s := by unfold heldTask; rw [f.rpc]
    unfold outst; rw [ej, eh, er, f.nStarted, hc, hq, List.countP_cons]; omega
  have hfl := fun k => (hsp.inFlight_iff k).mpr
  cases hsp with
  | hold hi hq => exact inv5_worker h f (conserve hq rfl rfl rfl) hns hfl
  | stop hi hq =>
    have := cntRun_update s.workers w .exited s.nStarted (h.started (by rw [hi]; nofun))
    rw [hi] at this
    exact inv5_worker h f (conserve hq rfl rfl this) hns hfl
  | @task n js hi hq =>
    have := cntRun_update s.workers w (.running n) s.nStarted (h.started (by rw [hi]; nofun))
    rw [hi] at this
    exact inv5_worker h f (conserve hq rfl rfl this) hns hfl

theorem doneStep_inv5 {s s' : Sys} {w : Nat} (h : Inv5 s) (hs : doneStep s w = some s')
    (hns : ∀ w, w ≥ s'.nStarted → s'.workers w = .notStarted) : Inv5 s' := by
  have hfl := fun k => ((doneStep_spec hs).inFlight_iff k).mpr
  have f := (doneStep_spec hs).workerFrame
  rcases doneStep_spec hs with @⟨n, hw⟩
  refine inv5_worker h f ?_ hns hfl
  have := cntRun_update s.workers w .idle s.nStarted (h.started (by rw [hw]; nofun))
  rw [hw] at this
  show s.jobQ.countP isTaskJob + heldTask s + cntRun (fun i => if i = w then WState.idle else s.workers i) s.nStarted +
    (s.resQ ++ [n]).length = outst s
  have e1 : (if isRun (WState.running n) then 1 else 0) = 1 := rfl
  have e0 : (if isRun WState.idle then 1 else 0) = 0 := rfl
  rw [e1, e0] at this
  unfold outst; rw [List.length_append, List.length_singleton]; omega

theorem applySel_frame2 (inp : RunInput) (s : Sys) (n : Name) (nd : Node) (d : Sel) :
    (applySel inp s n nd d).freeProc = s.freeProc ∧ (applySel inp s n nd d).procCount = s.procCount ∧
    (applySel inp s n nd d).nStarted = s.nStarted ∧ (applySel inp s n nd d).halt = s.halt ∧
    ((applySel inp s n nd d).stop = false → s.stop = false) :=
  have k := applySel_keeps inp s n nd d
  ⟨k.freeProc, k.procCount, k.nStarted, k.halt, k.stop⟩

theorem processResult_frame2 (inp : RunInput) (s : Sys) (n : Name) (nd : Node) :
    (processResult inp s n nd).freeProc = s.freeProc ∧ (processResult inp s n nd).procCount = s.procCount ∧
    (processResult inp s n nd).nStarted = s.nStarted ∧ (processResult inp s n nd).halt = s.halt ∧
    ((processResult inp s n nd).stop = false → s.stop = false) :=
  have k := processResult_keeps inp s n nd
  ⟨k.freeProc, k.procCount, k.nStarted, k.halt, k.stop⟩

/-- the main thread stays inside `get_next_job` with the same return address; queues and counters are kept -/
theorem inv5_inner {s s' : Sys} {ret : Ret} (h : Inv5 s) (hin : Inside s ret) (hin' : Inside s' ret)
    (e4 : s'.halt = s.halt) (e5 : s'.procCount = s.procCount) (e6 : s'.freeProc = s.freeProc)
    (e7 : s'.nStarted = s.nStarted) (e8 : s'.jobQ = s.jobQ) (e9 : s'.resQ = s.resQ) (e10 : s'.workers = s.workers) :
    Inv5 s' := by
  obtain ⟨a1, a2, a3, a4, a5, _, _⟩ := hin.readings
  obtain ⟨b1, b2, b3, b4, b5, b6, b7⟩ := hin'.readings
  have ho : outst s' = outst s := by unfold outst; rw [e8, e9, e10, e7, a1, b1]
  refine ⟨by rw [e7, e10]; exact h.ns, by rw [b5, ← a5]; exact h.kp, ?_, ?_, fun a => absurd (Or.inr a) b6,
    fun job r a => absurd a (b7 job r), fun a => absurd a b6⟩
  · rw [e7, b2, ← a2, ho, e6, b3, ← a3]; exact h.accS
  · rw [e5, ho, e6, b4, ← a4, b3, ← a3, e4]; exact h.accM

/-- start loop: a job other than `None` (`p = 1`) is the pending job of the worker about to be started -/
theorem hand_out_start {n o f t hd p : Nat} (h : n = o + f) (hp : p = t + hd) : n + p = o + t + (f + hd) := by
  omega

/-- a job other than `None` (`p = 1`: a task, `t = 1`, or a `hold`, `hd = 1`) uses up one of the `k` calls the feed loop owes -/
theorem hand_out {pc : Int} {o f k t hd p : Nat} (h : pc ≥ ((o + f + k : Nat) : Int)) (hk : k ≥ 1) (hp : p = t + hd)
    (hp1 : p ≤ 1) : pc ≥ ((o + t + (f + hd) + (k - p) : Nat) : Int) := by
  omega

theorem inv5_answer {s s' : Sys} {job : Job} {ret : Ret} (h : Inv5 s) (hin : Inside s ret) (hr' : s'.rpc = .gRet job ret)
    (e4 : s'.halt = s.halt) (e5 : s'.procCount = s.procCount)
    (e6 : s'.freeProc = s.freeProc + (if job = .hold then 1 else 0)) (e7 : s'.nStarted = s.nStarted)
    (e8 : s'.jobQ = s.jobQ) (e9 : s'.resQ = s.resQ) (e10 : s'.workers = s.workers)
    (hgr : s'.stop = false → (job = .stop → s'.susp = some .stopIter) ∧ (∀ n, job = .task n → s'.susp = some (.node n)) ∧
      (job = .hold → s'.susp = some .holdOn)) : Inv5 s' := by
  obtain ⟨a1, a2, a3, a4, a5, _, _⟩ := hin.readings
  obtain ⟨b1, b2, b3, b4, b5, b6⟩ := readings_gRet hr'
  have ho : outst s' = outst s + (if isTaskJob job then 1 else 0) := by
    unfold outst; rw [e8, e9, e10, e7, a1, b1]; omega
  -- every job other than `None` is either a task or a `hold`
  have hj : (if job = .stop then 0 else 1) = (if isTaskJob job then 1 else 0) + (if job = .hold then 1 else 0) ∧
      (if job = .stop then 0 else 1) ≤ 1 := by
    cases job <;> first | exact ⟨rfl, Nat.le.refl⟩ | exact ⟨rfl, Nat.zero_le 1⟩
  refine ⟨by rw [e7, e10]; exact h.ns, by rw [b5, ← a5]; exact h.kp, ?_, ?_, fun a => absurd (Or.inr a) b6, ?_,
    fun a => absurd a b6⟩
  · intro a
    rw [b3] at a
    have := h.accS (a3.trans a)
    rw [e7, ho, e6, b2, if_pos a]; rw [a2, Nat.add_zero] at this
    exact hand_out_start this hj.1
  · intro a b
    rw [b3] at a
    have := h.accM (a3.trans a) (e4 ▸ b)
    have hk : ret.owed ≥ 1 := h.kp _ (by rw [a5, a]; rfl)
    rw [e5, ho, e6, b4]; rw [a4] at this
    exact hand_out this hk hj.1 hj.2
  · intro job' r a b
    rw [hr'] at a; cases a
    obtain ⟨g1, g2, g3⟩ := hgr b
    exact ⟨g1, g2, fun e => ⟨g3 e, by rw [e6, if_pos e]; omega⟩⟩

theorem countP_task_append (q : List Job) (j : Job) :
    (q ++ [j]).countP isTaskJob = q.countP isTaskJob + (if isTaskJob j then 1 else 0) := by
  rw [List.countP_append, List.countP_cons, List.countP_nil, Nat.zero_add]

theorem cntRun_start (f : Nat → WState) (n : Nat) :
    cntRun (fun k => if k = n then WState.idle else f k) (n + 1) = cntRun f n := by
  simp only [cntRun, if_true, isRun, Bool.false_eq_true, if_false, Nat.add_zero]
  exact cntRun_congr n (fun i hi => by simp [Nat.ne_of_lt hi])

theorem inv5_raise {s : Sys} (hns : ∀ w, w ≥ s.nStarted → s.workers w = .notStarted) (hr : s.rpc = .fin)
    (hl : s.halt ≠ .none) : Inv5 s := by
  obtain ⟨_, _, b3, _, b5, _, b7⟩ := atRest.readings (Or.inr (Or.inr (Or.inl hr)))
  exact ⟨hns, (by rw [b5]; intro k e; cases e), (by rw [b3]; intro e; cases e), fun _ b => absurd b hl, fun _ b => absurd b hl,
    fun j r a => absurd a (b7 j r), fun _ _ c => absurd c hl⟩

/-- the caller of `get_next_job` has queued `job` (a `None` in the start loop is not queued) -/
theorem inv5_handed {s s' : Sys} {job : Job} {ret : Ret} (h : Inv5 s) (hr : s.rpc = .gRet job ret)
    (hpos : s'.rpc = .pTop ∨ ∃ ret', s'.rpc = .gEntry none ret')
    (hns : ∀ w, w ≥ s'.nStarted → s'.workers w = .notStarted) (e2 : s'.susp = s.susp) (e3 : s'.stop = s.stop)
    (e4 : s'.halt = s.halt) (e6 : s'.freeProc = s.freeProc)
    (hq : s'.jobQ = s.jobQ ++ [job] ∨ (job = .stop ∧ s'.jobQ = s.jobQ)) (e9 : s'.resQ = s.resQ)
    (hc : cntRun s'.workers s'.nStarted = cntRun s.workers s.nStarted) (hkp : ∀ k, feedK s' = some k → k ≥ 1)
    (haS : inStart s' = true → s'.nStarted + pendStart s' = outst s + s.freeProc)
    (haM : inStart s' = false → s.halt = .none → s'.procCount ≥ ((outst s + s.freeProc + kRem s' : Nat) : Int)) :
    Inv5 s' := by
  obtain ⟨a1, _⟩ := readings_gRet hr
  have b1 : heldTask s' = 0 := by
    unfold heldTask; rcases hpos with e | ⟨_, e⟩ <;> rw [e]
  have ho : outst s' = outst s := by
    unfold outst; rw [b1, a1, e9, hc]
    rcases hq with e | ⟨e, e'⟩
    · rw [e, countP_task_append]; omega
    · rw [e', e]; rfl
  refine ⟨hns, hkp, ?_, ?_, ?_, ?_, ?_⟩
  · rw [ho, e6]; exact haS
  · rw [ho, e6, e4]; exact haM
  · intro a; rcases hpos with e | ⟨_, e⟩ <;> rcases a with a | a | a <;> (rw [e] at a; cases a)
  · intro j r a; rcases hpos with e | ⟨_, e⟩ <;> (rw [e] at a; cases a)
  · intro a b _
    rcases hpos with e | ⟨_, e⟩
    · -- the job, once queued, keeps the node it came with in flight
      obtain ⟨g1, g2, g3⟩ := h.gr job ret hr (e3 ▸ b)
      rw [e2, e6]
      cases job with
      | stop => exact Or.inl (g1 rfl)
      | task n =>
        refine Or.inr (Or.inl ⟨n, g2 n rfl, Or.inl ?_⟩)
        rcases hq with hq | ⟨hq, _⟩
        · rw [hq]; exact List.mem_append_right _ (List.mem_singleton.mpr rfl)
        · cases hq
      | hold => exact Or.inr (Or.inr (g3 rfl))
    · rcases a with a | a | a | a <;> (rw [e] at a; cases a)

/-- the queued job settles one of the `k` owed calls; a `None` also retires the worker that will read it -/
theorem feed_back {pc : Int} {o f k r : Nat} {c : Prop} [Decidable c]
    (h : pc ≥ ((o + f + (k - if c then 0 else 1) : Nat) : Int)) (hr : r = k - 1) (hk : k ≥ 1) :
    (if c then pc - 1 else pc) ≥ ((o + f + r : Nat) : Int) := by
  by_cases e : c
  · rw [if_pos e] at h ⊢; omega
  · rw [if_neg e] at h ⊢; omega

theorem gReturn_inv5 {s : Sys} {job : Job} {ret : Ret} (h : Inv5 s) (hr : s.rpc = .gRet job ret)
    (hns : ∀ w, w ≥ (gReturn s job ret).nStarted → (gReturn s job ret).workers w = .notStarted) :
    Inv5 (gReturn s job ret) := by
  obtain ⟨_, a2, a3, a4, a5, _⟩ := readings_gRet hr
  have hg := gReturn_row s job ret
  generalize gReturn s job ret = s' at hg hns
  cases hg with
  | noWorker _ hj =>
    -- `None`: no more process is started
    have hacc := h.accS a3
    rw [show pendStart s = if job = .stop then 0 else 1 from a2, if_pos hj] at hacc
    refine inv5_handed h hr (Or.inl rfl) hns rfl rfl rfl rfl (Or.inr ⟨hj, rfl⟩) rfl rfl nofun nofun fun _ _ => ?_
    show (s.nStarted : Int) ≥ ((outst s + s.freeProc + 0 : Nat) : Int)
    omega
  | lastWorker _ hj hk =>
    have hacc := h.accS a3
    rw [show pendStart s = if job = .stop then 0 else 1 from a2, if_neg hj] at hacc
    refine inv5_handed h hr (Or.inl rfl) hns rfl rfl rfl rfl (Or.inl rfl) rfl (cntRun_start s.workers s.nStarted)
      nofun nofun fun _ _ => ?_
    show ((s.nStarted + 1 : Nat) : Int) ≥ ((outst s + s.freeProc + 0 : Nat) : Int)
    omega
  | nextWorker _ hj hk =>
    have hacc := h.accS a3
    rw [show pendStart s = if job = .stop then 0 else 1 from a2, if_neg hj] at hacc
    refine inv5_handed h hr (Or.inr ⟨_, rfl⟩) hns rfl rfl rfl rfl (Or.inl rfl) rfl (cntRun_start s.workers s.nStarted)
      nofun (fun _ => ?_) nofun
    show s.nStarted + 1 + 0 = outst s + s.freeProc
    omega
  | fed k hk hf =>
    have hk1 : k ≥ 1 := h.kp k a5
    refine inv5_handed h hr (Or.inl rfl) hns rfl rfl rfl rfl (Or.inl rfl) rfl rfl nofun nofun fun _ b => ?_
    exact feed_back (r := 0) (a4 ▸ h.accM a3 b) (by omega) hk1
  | noProc =>
    -- the assertion `len(proc_list) > free_proc` fails: the run is aborted
    exact inv5_raise hns rfl nofun
  | feedNext k hk =>
    refine inv5_handed h hr (Or.inr ⟨_, rfl⟩) hns rfl rfl rfl rfl (Or.inl rfl) rfl rfl (fun k' e => ?_) nofun fun _ b => ?_
    · cases e; show k - 1 ≥ 1; omega
    · exact feed_back (a4 ▸ h.accM a3 b) rfl (by omega)

/-- between the positions outside `get_next_job`; no work moves -/
theorem inv5_rest {s : Sys} (h : Inv5 s) (hr : atRest s) (r : RPC) (ev : List Ev)
    (hr' : afterLoop { s with rpc := r, events := ev }) (hpz : s.halt = .none → s.procCount = 0) :
    Inv5 { s with rpc := r, events := ev } := by
  obtain ⟨a1, _, a3, a4, _, a6, _⟩ := hr.readings
  obtain ⟨b1, _, b3, b4, b5, _, b7⟩ := atRest.readings (Or.inr hr')
  have ho : outst { s with rpc := r, events := ev } = outst s := by unfold outst; rw [a1, b1]
  refine ⟨h.ns, by rw [b5]; nofun, by rw [b3]; nofun, ?_, fun _ => hpz, fun j r a => absurd a (b7 j r), ?_⟩
  · intro _; rw [ho, b4, ← a4]; exact h.accM a3
  · intro _ b c
    rcases h.sx hr b c with x | ⟨n, x, y⟩ | x
    · exact Or.inl x
    · exact Or.inr (Or.inl ⟨n, x, inFlight_rpc (s := s) (s' := { s with rpc := r, events := ev }) rfl rfl rfl a6 n y⟩)
    · exact Or.inr (Or.inr x)

/-- the feed loop will call `get_next_job` `free_proc + 1` times -/
theorem inv5_result {s s' : Sys} {n : Name} {rest : List Name} {c : Option Name} (h : Inv5 s) (hr : s.rpc = .pTop)
    (hq : s.resQ = n :: rest) (hr' : s'.rpc = .gEntry c (.feedLoop (s.freeProc + 1))) (e4 : s'.halt = s.halt)
    (e5 : s'.procCount = s.procCount) (e6 : s'.freeProc = 0) (e7 : s'.nStarted = s.nStarted) (e8 : s'.jobQ = s.jobQ)
    (e9 : s'.resQ = rest) (e10 : s'.workers = s.workers) : Inv5 s' := by
  obtain ⟨a1, _, a3, a4, _, _, _⟩ := atRest.readings (Or.inl hr)
  obtain ⟨b1, _, b3, b4, b5, b6, b7⟩ := (Inside.entry hr').readings
  have ho : outst s' + 1 = outst s := by
    unfold outst; rw [e8, e9, e10, e7, a1, b1, hq, List.length_cons]; omega
  refine ⟨by rw [e7, e10]; exact h.ns, ?_, (by rw [b3]; intro e; cases e), ?_, fun a => absurd (Or.inr a) b6,
    fun j r a => absurd a (b7 j r), fun a => absurd a b6⟩
  · rw [b5]; intro k e; cases e; show s.freeProc + 1 ≥ 1; omega
  · intro _ b
    have := h.accM a3 (e4 ▸ b)
    rw [e5, e6, b4]; rw [a4] at this
    show s.procCount ≥ ((outst s' + 0 + (s.freeProc + 1) : Nat) : Int)
    omega

theorem mainStep_inv5 {inp : RunInput} {s s' : Sys} {perm : List Name} (h : Inv5 s)
    (hs : mainStep inp s perm = some s') (hns : ∀ w, w ≥ s'.nStarted → s'.workers w = .notStarted) : Inv5 s' := by
  cases mainStep_spec hs with
  | entryStop hr hst =>
    exact inv5_answer h (.entry hr) rfl rfl rfl rfl rfl rfl rfl rfl (fun b => by rw [hst] at b; cases b)
  | entry hr _ => exact inv5_inner h (.entry hr) (.loop rfl) rfl rfl rfl rfl rfl rfl rfl
  | send hr hsd =>
    obtain ⟨_, _, o3, o4, o5, _, _, _, o9, o10, o11, o12⟩ := (send_outer hsd).1
    exact inv5_inner h (.loop hr) (.wait rfl) o9 o11 o10 o12 o3 o4 o5
  | tick hr _ hd =>
    obtain ⟨_, o2, o3, o4, o5, _, _, _, o9, o10, o11, o12⟩ := dtick_outer hd
    exact inv5_inner h (.wait hr) (.wait (o2.trans hr)) o9 o11 o10 o12 o3 o4 o5
  | @go _ n nd hr hsu =>
    obtain ⟨_, _, _, f4, _, f6, f7, f8⟩ := applySel_frame inp s n nd .go
    obtain ⟨g1, g2, g3, g4, _⟩ := applySel_frame2 inp s n nd .go
    exact inv5_answer h (.wait hr) rfl g4 g2 g1 g3 f6 f7 f8
      (fun _ => ⟨nofun, fun m e => by cases e; exact f4.trans hsu, nofun⟩)
  | @select _ n nd d hr =>
    obtain ⟨_, _, _, _, _, f6, f7, f8⟩ := applySel_frame inp s n nd d
    obtain ⟨g1, g2, g3, g4, _⟩ := applySel_frame2 inp s n nd d
    exact inv5_inner h (.wait hr) (.loop rfl) g4 g2 g1 g3 f6 f7 f8
  | holdOn hr hsu =>
    exact inv5_answer h (.wait hr) rfl rfl rfl rfl rfl rfl rfl rfl
      (fun _ => ⟨nofun, nofun, fun _ => hsu⟩)
  | stopIter hr hsu =>
    exact inv5_answer h (.wait hr) rfl rfl rfl rfl rfl rfl rfl rfl
      (fun _ => ⟨fun _ => hsu, nofun, nofun⟩)
  | lost | assertFail | cyclic | crash | resultLost => exact inv5_raise h.ns rfl (fun e => by cases e)
  | ret hr => exact gReturn_inv5 h hr hns
  | join hr hp => exact inv5_rest h (Or.inl hr) _ _ (Or.inl rfl) (fun _ => hp)
  | @result n rest nd hr _ hq =>
    obtain ⟨_, _, _, _, _, f6, f7, f8⟩ := processResult_frame inp { s with resQ := rest } n nd
    obtain ⟨_, g2, g3, g4, _⟩ := processResult_frame2 inp { s with resQ := rest } n nd
    exact inv5_result h hr hq rfl g4 g2 rfl g3 f6 f7 f8
  | joined hr _ => exact inv5_rest h (Or.inr (Or.inl hr)) _ _ (Or.inr (Or.inl rfl)) (h.pz (Or.inl hr))
  | finish hr => exact inv5_rest h (Or.inr (Or.inr (Or.inl hr))) _ _ (Or.inr (Or.inr rfl)) (h.pz (Or.inr (Or.inl hr)))

theorem init_inv5 (inp : RunInput) : Inv5 (init inp) := by
  have ho : outst (init inp) = 0 := by
    simp only [outst, heldTask, init, List.countP_nil, cntRun, List.length_nil]
    by_cases e : inp.runner = .serial <;> simp [e]
  refine ⟨fun _ _ => rfl, ?_, ?_, ?_, ?_, ?_, ?_⟩
  · intro k e; simp only [feedK, init] at e; by_cases x : inp.runner = .serial <;> simp [x] at e
  · intro _; rw [ho]; simp only [pendStart, init]; by_cases x : inp.runner = .serial <;> simp [x]
  · intro _ _; rw [ho]; simp only [kRem, init]; by_cases x : inp.runner = .serial <;> simp [x]
  · intro a; unfold afterLoop init at a; by_cases x : inp.runner = .serial <;> simp [x] at a
  · intro job ret a; simp only [init] at a; by_cases x : inp.runner = .serial <;> simp [x] at a
  · intro a; unfold atRest afterLoop init at a; by_cases x : inp.runner = .serial <;> simp [x] at a

theorem preach_inv5 {inp : RunInput} {s : Sys} (h : PReach inp s) : Inv5 s := by
  induction h with
  | init => exact init_inv5 inp
  | @next s0 s1 c hr hs ih =>
    have hns := (preach_invP (hr.next hs)).ns
    cases c with
    | main perm => exact mainStep_inv5 ih hs hns
    | take w => exact takeStep_inv5 ih hs hns
    | done w => exact doneStep_inv5 ih hs hns

theorem parallel_end_quiescent {inp : RunInput} {s : Sys} (hr : PReach inp s) (hh : s.rpc = .halted)
    (hhalt : s.halt = .none) (hstop : s.stop = false) :
    s.susp = some .stopIter ∧ ∀ t, ¬ InFlight s t := by
  have h5 := preach_inv5 hr
  obtain ⟨_, _, hS, hk, _, h0, _⟩ := atRest.readings (s := s) (Or.inr (Or.inr (Or.inr hh)))
  -- `proc_count = 0` bounds the outstanding work and the parked workers
  have hacc := h5.accM hS hhalt
  rw [h5.pz (Or.inr (Or.inr hh)) hhalt, hk] at hacc
  unfold outst at hacc
  have hz : s.jobQ.countP isTaskJob = 0 ∧ cntRun s.workers s.nStarted = 0 ∧ s.resQ.length = 0 ∧ s.freeProc = 0 := by
    omega
  have hnf : ∀ t, ¬ InFlight s t := by
    rintro t (a | a | ⟨w, a⟩ | a)
    · exact absurd (List.countP_pos_iff.mpr ⟨Job.task t, a, rfl⟩) (by rw [hz.1]; exact Nat.lt_irrefl 0)
    · rw [h0] at a; cases a
    · have e : w < s.nStarted := h5.started (by rw [a]; nofun)
      have := cntRun_pos (f := s.workers) s.nStarted e (by rw [a]; rfl)
      rw [hz.2.1] at this; cases this
    · exact absurd (List.length_pos_of_mem a) (by rw [hz.2.2.1]; exact Nat.lt_irrefl 0)
  refine ⟨?_, hnf⟩
  rcases h5.sx (Or.inr (Or.inr (Or.inr hh))) hstop hhalt with x | ⟨n, _, y⟩ | ⟨_, y⟩
  · exact x
  · exact absurd y (hnf n)
  · rw [hz.2.2.2] at y; cases y

/-- parallel runners: when the run ends because the dispatcher has nothing left, every member of the closure has
    exactly one terminal report -/
theorem all_processed_parallel {inp : RunInput} {s : Sys} (hr : PReach inp s) (hh : s.rpc = .halted)
    (hhalt : s.halt = .none) (hstop : s.stop = false) : ∀ t, RunCl inp s t → cTerm s t = 1 := by
  obtain ⟨a, b⟩ := parallel_end_quiescent hr hh hhalt hstop
  exact all_processed_parallel_partial hr a b

end DoitModel.Run
