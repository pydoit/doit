import DoitModel.Proofs.C08Exit
import DoitModel.Proofs.C08DenF
import DoitModel.Proofs.C08Closure
import DoitModel.Proofs.C08DenClosure
/-! # C08 (I10) confluence, the parts that mention no invariant: exit code from the reported failure kinds, reports on
    the observable trace, `R1` / `DenCl` along `SameTasks`, the executable closure `denClosure`, the example `exC08` -/
namespace DoitModel.Run

theorem SameTasks.noCalc {a b : RunInput} (h : SameTasks a b) (hnc : NoCalc a) : NoCalc b := by
  intro n; rw [← h.calcDep]; exact hnc n

theorem den?_fail {t : Name} {e : Ev} {k : FailKind} (h : Ev.den? t e = some (.fail k)) : e = .failure t k := by
  cases e <;> simp only [Ev.den?] at h <;> first
    | cases h
    | (split at h
       · rename_i e'; subst e'; cases h; try rfl
       · cases h)

/-- hidden events are never failure reports: the observable trace gives the same fold -/
theorem exitOfTrace_trace (inp : RunInput) (s : Sys) : exitOfTrace (trace inp s) = exitOfTrace s.events.reverse := by
  apply exitOfTrace_set
  intro k
  unfold trace
  simp only [List.mem_reverse, List.mem_filter]
  exact ⟨fun ⟨n, a, _⟩ => ⟨n, a⟩, fun ⟨n, a⟩ => ⟨n, a, by simp [hidden]⟩⟩

theorem exit_of_trace {inp : RunInput} {s : Sys} (hr : Reach inp s ∨ PReach inp s) (hh : s.halt = .none) :
    exitCode s = exitOfTrace (trace inp s) := by
  rw [exitOfTrace_trace]; exact exit_of_reports hr hh

theorem R1_same {a b : RunInput} (h : SameTasks a b) {n : Name} (r : R1 a n) : R1 b n := by
  obtain ⟨dd, hT, h1⟩ := r
  refine ⟨dd, ?_, by rw [← stage1_same h]; exact h1⟩
  intro d hd; rw [← h.taskDep] at hd; exact (hT d hd).same h

theorem DenCl_same {a b : RunInput} (h : SameTasks a b) (hsel : ∀ t, t ∈ a.sel → t ∈ b.sel) {t : Name}
    (c : DenCl a t) : DenCl b t := by
  induction c with
  | ofSel hm => exact DenCl.ofSel (hsel _ hm)
  | ofTask _ hd ih => exact DenCl.ofTask ih (by rw [← h.taskDep]; exact hd)
  | ofSetup _ hr hd ih => exact DenCl.ofSetup ih (R1_same h hr) (by rw [← h.setup]; exact hd)

/-- the executable closure `denClosure` of `Model/RunData.lean` enumerates `DenCl` -/
def DenClosureSpec (inp : RunInput) (nTasks : Nat) : Prop := ∀ t, t ∈ denClosure inp nTasks ↔ DenCl inp t

theorem denClosureSpec_of_stable {inp : RunInput} {r : Name → Nat} (hac : Acyclic inp r) (nTasks : Nat)
    (hb : ∀ t, r t ≤ nTasks) (hst : ClosureStable inp nTasks) : DenClosureSpec inp nTasks :=
  fun t => ⟨denClosure_sound hac nTasks hb t, denClosure_complete hac nTasks hb hst t⟩

/-- `nTasks + 1` rounds reach the fixpoint when the closure lives below `nTasks` (`closureStable`: counting over the rounds) -/
theorem denClosure_spec {inp : RunInput} {r : Name → Nat} (hac : Acyclic inp r) (nTasks : Nat)
    (hb : ∀ t, r t ≤ nTasks) (hlt : ∀ t, DenCl inp t → t < nTasks) : DenClosureSpec inp nTasks :=
  denClosureSpec_of_stable hac nTasks hb (closureStable hac nTasks hb hlt)

theorem reportOf_isSome_iff (inp : RunInput) (s : Sys) (t : Name) :
    (reportOf (trace inp s) t).isSome = true ↔ Reported s t := by
  unfold reportOf Reported trace
  rw [List.findSome?_isSome_iff]
  constructor
  · rintro ⟨e, he, hd⟩
    obtain ⟨d, hd'⟩ := Option.isSome_iff_exists.mp hd
    exact ⟨d, e, (List.mem_filter.mp (List.mem_reverse.mp he)).1, hd'⟩
  · rintro ⟨d, e, he, hd⟩
    refine ⟨e, List.mem_reverse.mpr (List.mem_filter.mpr ⟨he, ?_⟩), by rw [hd]; rfl⟩
    cases e <;> simp [Ev.den?] at hd <;> simp [hidden]

/-- `1` (selected) has task_dep `0` and setup-task `2`; `2` fails; `3` (selected) has task_dep `2`; `--continue`;
    two worker threads -/
def exC08 : RunInput :=
  { taskDep := fun n => if n = 1 then [0] else if n = 3 then [2] else []
    calcDep := fun _ => []
    setup := fun n => if n = 1 then [2] else []
    sel := [1, 3], continue_ := true
    outcome := fun n => if n = 2 then .failed else .ok
    runner := .thread, numProc := 2 }

instance : NoFailDeliver exC08 := ⟨fun _ => rfl⟩

theorem exC08_noCalc : NoCalc exC08 := fun _ => rfl

theorem exC08_acyclic : Acyclic exC08 (fun n => if n = 1 ∨ n = 3 then 1 else 0) := by
  intro n
  by_cases h1 : n = 1
  · subst h1; simp [exC08]
  · by_cases h3 : n = 3
    · subst h3; simp [exC08]
    · simp [exC08, h1, h3]

theorem exC08_stable : ClosureStable exC08 4 := by decide +kernel

/-- the hypotheses of the complete-run theorems are met by a run with two worker threads, and the same input under
    the serial runner; `1` is reported `unmet` at its second pass because its setup-task failed -/
example : ∃ s, PReach exC08 s ∧ s.rpc = .halted ∧ s.halt = .none ∧ s.stop = false ∧
    Ev.failure 1 .unmet ∈ s.events ∧ exitCode s = 2 :=
  ⟨_, autoRun_preach (by decide) false true 400 _ PReach.init, by decide +kernel⟩

example : ∃ s, Reach { exC08 with runner := .serial, numProc := 0 } s ∧ s.rpc = .halted ∧ s.halt = .none ∧
    s.stop = false :=
  ⟨_, autoRun_reach (by decide) false false 400 _ Reach.init, by decide +kernel⟩

example : denExit exC08 4 = 2 := by decide +kernel

end DoitModel.Run
