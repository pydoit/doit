import DoitModel.Proofs.C19Walk
/-! # C19: consequences of `Inv19` + the counting invariant `Inv3`: exactly one final report, matching `run_status` -/
namespace DoitModel.Report
open DoitModel.Run

theorem filter_singleton {α : Type} {p : α → Bool} {l : List α} {e : α} (hc : l.countP p ≤ 1) (he : e ∈ l) (hp : p e = true) :
    l.filter p = [e] := by
  induction l with
  | nil => cases he
  | cons a l ih =>
    rw [List.countP_cons] at hc
    by_cases hpa : p a = true
    · simp only [hpa, if_true] at hc
      have h0 : l.countP p = 0 := by omega
      have hf : l.filter p = [] := by
        rw [List.filter_eq_nil_iff]; intro x hx hpx
        have : 0 < l.countP p := List.countP_pos_iff.mpr ⟨x, hx, hpx⟩
        omega
      rcases List.mem_cons.mp he with a1 | a1
      · subst a1; simp [hpa, hf]
      · have : 0 < l.countP p := List.countP_pos_iff.mpr ⟨e, a1, hp⟩
        omega
    · have hpa' : p a = false := by cases h : p a <;> simp_all
      simp only [hpa', Bool.false_eq_true, if_false, Nat.add_zero] at hc
      rcases List.mem_cons.mp he with a1 | a1
      · subst a1; rw [hp] at hpa'; cases hpa'
      · simp [hpa', ih hc a1]

theorem one_final_report_core {inp : RunInput} {s : Sys}
    (hfl : ∀ n, stOf s n = .fail → ∃ k, Ev.failure n k ∈ s.events) (hig : ∀ n, stOf s n = .ign → Ev.skipIgn n ∈ s.events)
    (h2 : Inv2 inp s) (h3 : Inv3 inp s) (n : Name) :
    ((stOf s n).finished = false → s.events.filter (Ev.isTerminalOf n) = []) ∧
    ((stOf s n).finished = true → ∃ e, s.events.filter (Ev.isTerminalOf n) = [e] ∧ reportFor n (stOf s n) e) := by
  constructor
  · intro hf
    have := h3.t n hf
    rw [List.filter_eq_nil_iff]; intro x hx hpx
    have : 0 < s.events.countP (Ev.isTerminalOf n) := List.countP_pos_iff.mpr ⟨x, hx, hpx⟩
    unfold cTerm at *; omega
  · intro hf
    have hc : s.events.countP (Ev.isTerminalOf n) ≤ 1 := h3.t2 n
    cases hst : stOf s n with
    | none => rw [hst] at hf; cases hf
    | run => rw [hst] at hf; cases hf
    | ok => exact ⟨_, filter_singleton hc ((h2.g n).1 hst) (by simp [Ev.isTerminalOf]), rfl⟩
    | utd => exact ⟨_, filter_singleton hc ((h2.g n).2 hst) (by simp [Ev.isTerminalOf]), rfl⟩
    | ign => exact ⟨_, filter_singleton hc (hig n hst) (by simp [Ev.isTerminalOf]), rfl⟩
    | fail =>
      obtain ⟨k, hk⟩ := hfl n hst
      exact ⟨_, filter_singleton hc hk (by simp [Ev.isTerminalOf]), ⟨k, rfl⟩⟩

theorem one_final_report {inp : RunInput} {s : Sys} (h : Inv19 inp s) (h2 : Inv2 inp s) (h3 : Inv3 inp s) (n : Name) :
    ((stOf s n).finished = false → s.events.filter (Ev.isTerminalOf n) = []) ∧
    ((stOf s n).finished = true → ∃ e, s.events.filter (Ev.isTerminalOf n) = [e] ∧ reportFor n (stOf s n) e) :=
  one_final_report_core h.fl h.ig h2 h3 n

theorem all_reported {inp : RunInput} {s : Sys} (h : Inv19 inp s) (hp : inp.runner ≠ .process)
    (hrun : ∀ n, stOf s n ≠ .run) (n : Name) (hx : s.events.any (Ev.isExecOf n) = true) :
    s.events.any (Ev.isTerminalOf n) = true := by
  obtain ⟨e, he, hpe⟩ := List.any_eq_true.mp hx
  have h1 : 0 < s.events.countP (Ev.isExecOf n) := List.countP_pos_iff.mpr ⟨e, he, hpe⟩
  have h2 := h.ex n
  simp only [hp, if_false] at h2
  have h3 : cStart s n ≥ 1 := by unfold cExec at h2; omega
  rcases h.st n h3 with a | a
  · exact absurd a (hrun n)
  · exact any_true_of_countP a

end DoitModel.Report
