import DoitModel.Model.Act
/-! Outcomes of single actions (`cmdExec`, `bodyRun`) and the closed form of the loop of `Task.execute` (`taskRun`). -/
namespace DoitModel.Act

theorem cmdExec_eq (cap : Cap) (saveOut : Option Nat) (rc : Int) (out err : List Char) :
    cmdExec false cap saveOut rc out err =
      ⟨classifyCmd rc, if cap = .yes then .str (out ++ err) else .none,
        if classifyCmd rc = .ok then saveOut.toList.map (fun k => (k, if cap = .yes then Val.text out else Val.none))
        else []⟩ := by
  unfold cmdExec
  cases classifyCmd rc <;> cases saveOut <;> rfl

theorem bodyRun_congr {c1 l1 c2 l2 : Bool} {ops : List StreamOp}
    (h : ∀ op ∈ ops, opEffect c1 l1 op = opEffect c2 l2 op) : bodyRun c1 l1 ops = bodyRun c2 l2 ops := by
  induction ops with
  | nil => rfl
  | cons op rest ih =>
    simp only [bodyRun, h op (List.mem_cons_self ..), ih fun o ho => h o (List.mem_cons_of_mem _ ho)]

theorem bodyRun_raise {c l : Bool} {pre post : List StreamOp} {op : StreamOp}
    (hpre : ∀ o ∈ pre, opEffect c l o ≠ .raises) (hop : opEffect c l op = .raises) :
    (bodyRun c l (pre ++ op :: post)).2 = true ∧ (bodyRun c l (pre ++ op :: post)).1.length = pre.length := by
  induction pre with
  | nil => simp only [List.nil_append, bodyRun, hop, List.length_nil, and_self]
  | cons p pre ih =>
    have ih' := ih fun o ho => hpre o (List.mem_cons_of_mem _ ho)
    cases hpe : opEffect c l p with
    | raises => exact absurd hpe (hpre p (List.mem_cons_self ..))
    | _ => simp only [List.cons_append, bodyRun, hpe, ih'.1, ih'.2, List.length_cons, and_self]

/-- the actions executed successfully before the first unsuccessful one -/
def okPrefix (as : List ARes) : List ARes := as.takeWhile (fun a => a.outcome = .ok)

theorem okPrefix_cons_ok (a : ARes) (as : List ARes) (h : a.outcome = .ok) :
    okPrefix (a :: as) = a :: okPrefix as := by
  simp [okPrefix, List.takeWhile, h]

theorem okPrefix_cons_bad (a : ARes) (as : List ARes) (h : a.outcome ≠ .ok) :
    okPrefix (a :: as) = [] := by
  simp [okPrefix, List.takeWhile, h]

theorem okPrefix_all_ok (as : List ARes) : ∀ a, a ∈ okPrefix as → a.outcome = .ok := by
  induction as with
  | nil => intro a ha; simp [okPrefix] at ha
  | cons b as ih =>
    intro a ha
    by_cases h : b.outcome = .ok
    · rw [okPrefix_cons_ok b as h] at ha
      rcases List.mem_cons.mp ha with e | e
      · rw [e]; exact h
      · exact ih a e
    · rw [okPrefix_cons_bad b as h] at ha; simp at ha

theorem okPrefix_next_bad (as : List ARes) :
    ∀ a, as[(okPrefix as).length]? = some a → a.outcome ≠ .ok := by
  induction as with
  | nil => intro a ha; simp at ha
  | cons b as ih =>
    intro a ha
    by_cases h : b.outcome = .ok
    · rw [okPrefix_cons_ok b as h] at ha
      simp only [List.length_cons, List.getElem?_cons_succ] at ha
      exact ih a ha
    · rw [okPrefix_cons_bad b as h] at ha
      simp at ha
      rw [← ha]; exact h

theorem taskRun_spec (as : List ARes) : ∀ (res : Res) (vals : Vals) (ran : Nat),
    (taskRun res vals ran as).values = (okPrefix as).foldl (fun v a => Vals.update v a.values) vals ∧
    (taskRun res vals ran as).result = (okPrefix as).foldl (fun _ a => a.result) res ∧
    (taskRun res vals ran as).outcome = ((as[(okPrefix as).length]?).map (·.outcome)).getD .ok ∧
    (taskRun res vals ran as).ran =
      ran + (okPrefix as).length + (if (okPrefix as).length < as.length then 1 else 0) := by
  induction as with
  | nil => intro res vals ran; simp [taskRun, okPrefix]
  | cons a as ih =>
    intro res vals ran
    by_cases h : a.outcome = .ok
    · have := ih a.result (vals.update a.values) (ran + 1)
      simp only [taskRun, h, if_true, okPrefix_cons_ok a as h, List.foldl_cons, List.length_cons,
        List.getElem?_cons_succ, Nat.add_lt_add_iff_right]
      refine ⟨this.1, this.2.1, this.2.2.1, ?_⟩
      rw [this.2.2.2]; omega
    · simp [taskRun, h, okPrefix_cons_bad a as h]

theorem teardownRun_spec (as : List ARes) : ∀ (res : Res) (vals : Vals) (ran : Nat),
    teardownRun ran as = ((taskRun res vals ran as).outcome, (taskRun res vals ran as).ran) := by
  induction as with
  | nil => intro res vals ran; rfl
  | cons a as ih =>
    intro res vals ran
    by_cases h : a.outcome = .ok
    · simp only [teardownRun, taskRun, h, if_true]
      exact ih _ _ _
    · simp [teardownRun, taskRun, h]

theorem foldl_last (pre : List ARes) : ∀ res : Res,
    pre.foldl (fun _ a => a.result) res = (pre.getLast?.map (·.result)).getD res := by
  induction pre with
  | nil => intro res; rfl
  | cons a pre ih =>
    intro res
    rw [List.foldl_cons, ih]
    cases pre with
    | nil => rfl
    | cons b pre =>
      rw [List.getLast?_cons_cons]
      cases h : (b :: pre).getLast? with
      | none => simp [List.getLast?_eq_none_iff] at h
      | some x => rfl

theorem alookup_append {β : Type} (k : Nat) (xs ys : List (Nat × β)) :
    alookup k (xs ++ ys) = (alookup k xs).or (alookup k ys) := by
  induction xs with
  | nil => simp [alookup]
  | cons p xs ih =>
    obtain ⟨a, b⟩ := p
    by_cases h : a = k
    · simp [alookup, h]
    · simp [alookup, h, ih]

theorem foldl_update_get (pre : List ARes) (k : Nat) : ∀ vals : Vals,
    Vals.get (pre.foldl (fun v a => Vals.update v a.values) vals) k =
      ((pre.reverse.findSome? (fun a => Vals.get a.values k)).or (Vals.get vals k)) := by
  induction pre with
  | nil => intro vals; simp
  | cons a pre ih =>
    intro vals
    rw [List.foldl_cons, ih]
    simp only [Vals.get, Vals.update, alookup_append, List.reverse_cons, List.findSome?_append,
      List.findSome?_cons, List.findSome?_nil]
    cases List.findSome? (fun a => alookup k a.values) pre.reverse <;> cases alookup k a.values <;> simp

end DoitModel.Act
