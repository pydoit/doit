import DoitModel.Proofs.RunPar
import DoitModel.Proofs.RunnerSpec
import DoitModel.Model.RunTeardown
/-! # C11: the transitions of the base model, by what they do

`RunnerStep` lists the kinds of step the main thread of either runner can take, `WorkerStep` those of a worker; every
C11 invariant is proved by one case analysis on them.  Before that: action starts and teardown reports among newly
emitted events, which is all the teardown bookkeeping reads of `events`. -/
namespace DoitModel.Run

def NoStart (l : List Ev) : Prop := ∀ e ∈ l, ∀ n w, e ≠ Ev.start n w

theorem noStart_nil : NoStart [] := fun _ h => by cases h

theorem tdName_none {inp : RunInput} {e : Ev} (h : ∀ n w, e ≠ Ev.start n w) : tdName inp e = none := by
  cases e with
  | start n w => exact absurd rfl (h n w)
  | _ => rfl

theorem tdNameOf_none {inp : RunInput} {k : Nat} {e : Ev} (h : ∀ n w, e ≠ Ev.start n w) :
    tdNameOf inp k e = none := by
  cases e with
  | start n w => exact absurd rfl (h n w)
  | _ => rfl

theorem startOrder_append (inp : RunInput) (new old : List Ev) :
    startOrder inp (new ++ old) = startOrder inp old ++ (new.filterMap (tdName inp)).reverse := by
  simp only [startOrder, List.filterMap_append, List.reverse_append]

theorem startOrderOf_append (inp : RunInput) (w : Nat) (new old : List Ev) :
    startOrderOf inp w (new ++ old) = startOrderOf inp w old ++ (new.filterMap (tdNameOf inp w)).reverse := by
  simp only [startOrderOf, List.filterMap_append, List.reverse_append]

theorem startOrderOf_start (inp : RunInput) (k n w : Nat) (evs : List Ev) :
    startOrderOf inp k (Ev.start n w :: evs) =
      if w = k ∧ inp.hasTeardown n = true then startOrderOf inp k evs ++ [n] else startOrderOf inp k evs := by
  by_cases c : w = k ∧ inp.hasTeardown n = true
  · simp only [startOrderOf, List.filterMap_cons, tdNameOf, if_pos c, List.reverse_cons]
  · simp only [startOrderOf, List.filterMap_cons, tdNameOf, if_neg c]

theorem startOrder_noStart (inp : RunInput) {new old : List Ev} (h : NoStart new) :
    startOrder inp (new ++ old) = startOrder inp old := by
  rw [startOrder_append, List.filterMap_eq_nil_iff.mpr fun e he => tdName_none (h e he)]
  exact List.append_nil _

theorem startOrderOf_noStart (inp : RunInput) (w : Nat) {new old : List Ev} (h : NoStart new) :
    startOrderOf inp w (new ++ old) = startOrderOf inp w old := by
  rw [startOrderOf_append, List.filterMap_eq_nil_iff.mpr fun e he => tdNameOf_none (h e he)]
  exact List.append_nil _

def NoTd (l : List Ev) : Prop := ∀ d, Ev.teardown d ∉ l

/-- what an `Untouched` step, `select_task`, `process_task_result` and `finish()` have in common -/
structure Plain (s s' : Sys) : Prop where
  ev : ∃ new, s'.events = new ++ s.events ∧ NoStart new
  td : s'.tdown = s.tdown
  tdn : ∀ d, Ev.teardown d ∈ s'.events → Ev.teardown d ∈ s.events ∨ d ∈ s.tdown

theorem Plain.of_new {s s' : Sys} {new : List Ev} (e : s'.events = new ++ s.events) (h1 : NoStart new) (h2 : NoTd new)
    (t : s'.tdown = s.tdown) : Plain s s' := by
  refine ⟨⟨new, e, h1⟩, t, fun d hd => ?_⟩
  rw [e] at hd
  rcases List.mem_append.mp hd with a | a
  · exact absurd a (h2 d)
  · exact Or.inl a

theorem Plain.of_same {s s' : Sys} (e : s'.events = s.events) (t : s'.tdown = s.tdown) : Plain s s' :=
  ⟨⟨[], e, noStart_nil⟩, t, fun _ h => Or.inl (e ▸ h)⟩

theorem Plain.trans {a b c : Sys} (h1 : Plain a b) (h2 : Plain b c) : Plain a c := by
  obtain ⟨⟨n1, e1, p1⟩, t1, d1⟩ := h1
  obtain ⟨⟨n2, e2, p2⟩, t2, d2⟩ := h2
  refine ⟨⟨n2 ++ n1, by rw [e2, e1, List.append_assoc], ?_⟩, t2.trans t1, ?_⟩
  · intro e he
    rcases List.mem_append.mp he with a | a
    · exact p2 e a
    · exact p1 e a
  · intro d hd
    rcases d2 d hd with a | a
    · exact d1 d a
    · exact Or.inr (t1 ▸ a)

/-- the events the teardown bookkeeping ignores (`Ev.quiet` and `Ev.work` both contain `start`) -/
def Ev.other : Ev → Bool
  | .start _ _ | .teardown _ => false
  | _ => true

theorem noStart_of_other {l : List Ev} (h : ∀ e ∈ l, e.other = true) : NoStart l := by
  intro e he n w x; subst x; exact Bool.false_ne_true (h _ he)

theorem noTd_of_other {l : List Ev} (h : ∀ e ∈ l, e.other = true) : NoTd l :=
  fun _ hd => Bool.false_ne_true (h _ hd)

theorem selEvents_other (inp : RunInput) (n : Name) (nd : Node) (d : Sel) : ∀ e ∈ selEvents inp n nd d, e.other = true := by
  have hs : ∀ e ∈ statusEv nd n, e.other = true := by
    intro e he
    unfold statusEv at he
    by_cases c : nd.status = .none
    · rw [if_pos c] at he; cases List.mem_singleton.mp he; rfl
    · rw [if_neg c] at he; cases he
  intro e he
  cases d with
  | runFirst => exact hs e he
  | assertFail => cases he
  | _ =>
    rcases List.mem_cons.mp he with rfl | he
    · rfl
    · exact hs e he

theorem resEvents_other (n : Name) (o : Outcome) : ∀ e ∈ resEvents n o, e.other = true := by
  intro e he
  cases o <;> (cases List.mem_singleton.mp he; rfl)

theorem applySel_plain (inp : RunInput) (s : Sys) (n : Name) (nd : Node) (d : Sel) : Plain s (applySel inp s n nd d) :=
  .of_new (applySel_events inp s n nd d) (noStart_of_other (selEvents_other inp n nd d))
    (noTd_of_other (selEvents_other inp n nd d)) (applySel_keeps inp s n nd d).tdown

theorem processResult_plain (inp : RunInput) (s : Sys) (n : Name) (nd : Node) : Plain s (processResult inp s n nd) :=
  .of_new (processResult_events inp s n nd) (noStart_of_other (resEvents_other n _))
    (noTd_of_other (resEvents_other n _)) (processResult_keeps inp s n nd).tdown

theorem finishRun_plain (s : Sys) : Plain s (finishRun s) := by
  have e : (finishRun s).events = (Ev.complete :: s.tdown.map Ev.teardown) ++ s.events := rfl
  refine ⟨⟨_, e, ?_⟩, rfl, ?_⟩
  · intro x hx n w
    rcases List.mem_cons.mp hx with rfl | hx
    · exact fun h => by cases h
    · obtain ⟨a, _, rfl⟩ := List.mem_map.mp hx; exact fun h => by cases h
  · intro d hd
    rw [e] at hd
    rcases List.mem_append.mp hd with a | a
    · rcases List.mem_cons.mp a with a | a
      · cases a
      · obtain ⟨x, hx, a⟩ := List.mem_map.mp a; cases a; exact Or.inr hx
    · exact Or.inl a

/-- the fields the teardown bookkeeping reads, `rpc` apart -/
structure Untouched (s s' : Sys) : Prop where
  events : s'.events = s.events
  tdown : s'.tdown = s.tdown
  workers : s'.workers = s.workers
  nStarted : s'.nStarted = s.nStarted
  halt : s'.halt = s.halt

theorem Untouched.plain {s s' : Sys} (k : Untouched s s') : Plain s s' := .of_same k.events k.tdown

/-- One step of the main thread: of `serialStep` (`par = false`) or of `mainStep` (`par = true`).  Where an operation of
    the model is applied, `y` is its result and `s'` keeps `y` up to the control state. -/
inductive RunnerStep (inp : RunInput) (par : Bool) (s : Sys) (perm : List Name) : Sys → Prop
  /-- only the runner's bookkeeping moves, and not to the end of the run -/
  | ctl {s'} (k : Untouched s s') (h0 : s.rpc ≠ .fin ∧ s.rpc ≠ .halted) (h1 : s'.rpc ≠ .fin) (h2 : s'.rpc ≠ .halted) : RunnerStep inp par s perm s'
  /-- `run_tasks` returns; the parallel main thread has joined every worker before -/
  | toFin {s'} (k : Untouched s s') (h0 : s.rpc ≠ .fin ∧ s.rpc ≠ .halted) (h1 : s'.rpc = .fin) (hq : par = true → allExited s s.nStarted = true) :
      RunnerStep inp par s perm s'
  | raise (y : Sys) (hl : Halt) (k : Untouched s y) (hne : hl ≠ .none) (h0 : s.rpc ≠ .fin ∧ s.rpc ≠ .halted) : RunnerStep inp par s perm (raise y hl)
  /-- `process.start()` in `_run_start_processes` -/
  | newWorker {s'} (hp : par = true) (k : Untouched { setWorker s s.nStarted .idle with nStarted := s.nStarted + 1 } s')
      (h0 : s.rpc ≠ .fin ∧ s.rpc ≠ .halted) (h1 : s'.rpc ≠ .fin) (h2 : s'.rpc ≠ .halted) : RunnerStep inp par s perm s'
  | send {s'} (node : Option Name) (y : Sys) (hs : send inp s node perm = some y)
      (k : Untouched y s') (h0 : s.rpc ≠ .fin ∧ s.rpc ≠ .halted) (h1 : s'.rpc ≠ .fin) (h2 : s'.rpc ≠ .halted) : RunnerStep inp par s perm s'
  | dtick {s'} (haw : awaiting s) (hsu : s.susp = none) (hs : dtick inp s perm = some s') : RunnerStep inp par s perm s'
  /-- `select_task` answers `d`; the serial runner's `go` is `goSerial` -/
  | select {s'} (n : Name) (nd : Node) (d : Sel) (haw : awaiting s)
      (k : Untouched (applySel inp s n nd d) s') (h1 : s'.rpc ≠ .fin) (h2 : s'.rpc ≠ .halted) : RunnerStep inp par s perm s'
  | goSerial (n : Name) (nd : Node) (hp : par = false) (haw : awaiting s) :
      RunnerStep inp par s perm { startTask inp (applySel inp s n nd .go) n 0 with rpc := .sExec n }
  /-- `process_task_result` of the task the serial runner executed (`x`: after its end mark) or of one taken from the
      result queue (`x`: after the `get`) -/
  | result {s'} (x : Sys) (n : Name) (nd : Node) (xp : Plain s x) (xw : x.workers = s.workers)
      (xs : x.nStarted = s.nStarted) (k : Untouched (processResult inp x n nd) s')
      (h0 : s.rpc ≠ .fin ∧ s.rpc ≠ .halted) (h1 : s'.rpc ≠ .fin) (h2 : s'.rpc ≠ .halted) : RunnerStep inp par s perm s'
  | finish (hr : s.rpc = .fin) : RunnerStep inp par s perm (finishRun s)

theorem RunnerStep.crash {inp : RunInput} {par : Bool} {s : Sys} {perm : List Name} {hl : Halt} (hne : hl ≠ .none)
    (h0 : s.rpc ≠ .fin ∧ s.rpc ≠ .halted) : RunnerStep inp par s perm (Run.raise s hl) :=
  .raise s hl ⟨rfl, rfl, rfl, rfl, rfl⟩ hne h0

theorem fin_plain {s x : Sys} {n w : Nat} (e : x.events = Ev.fin n w :: s.events) (t : x.tdown = s.tdown) : Plain s x :=
  .of_new (new := [Ev.fin n w]) e (noStart_of_other fun e he => by cases List.mem_singleton.mp he; rfl)
    (noTd_of_other fun e he => by cases List.mem_singleton.mp he; rfl) t

theorem SameOuter.untouched {s s' : Sys} (o : SameOuter s s') : Untouched s s' := by
  obtain ⟨ev, _, _, _, wk, _, _, td, hl, _, _, ns⟩ := o
  exact ⟨ev, td, wk, ns, hl⟩

theorem rpc_running {s : Sys} {r : RPC} (h : s.rpc = r) (a : r ≠ .fin) (b : r ≠ .halted) :
    s.rpc ≠ .fin ∧ s.rpc ≠ .halted := h ▸ ⟨a, b⟩

theorem serialStep_runnerStep {inp : RunInput} {s s' : Sys} {perm : List Name} (hs : serialStep inp s perm = some s') :
    RunnerStep inp false s perm s' := by
  have nq : (false = true) → allExited s s.nStarted = true := fun h => by cases h
  cases serialStep_spec hs with
  | stop hr | stopIter hr => exact .toFin ⟨rfl, rfl, rfl, rfl, rfl⟩ (rpc_running hr RPC.noConfusion RPC.noConfusion) rfl nq
  | send hr _ hsd =>
    exact .send _ _ hsd ⟨rfl, rfl, rfl, rfl, rfl⟩ (rpc_running hr RPC.noConfusion RPC.noConfusion)
      RPC.noConfusion RPC.noConfusion
  | tick hr hsu hd => exact .dtick (Or.inl hr) hsu hd
  | go hr => exact .goSerial _ _ rfl (Or.inl hr)
  | select hr hsu hn hd _ hne =>
    exact .select _ _ _ (Or.inl hr) ⟨rfl, rfl, rfl, rfl, rfl⟩ RPC.noConfusion RPC.noConfusion
  | @result n nd hr hn =>
    exact .result { s with events := Ev.fin n 0 :: s.events } n nd (fin_plain rfl rfl) rfl rfl
      ⟨rfl, rfl, rfl, rfl, rfl⟩ (rpc_running hr RPC.noConfusion RPC.noConfusion) RPC.noConfusion RPC.noConfusion
  | finish hr => exact .finish hr
  | lost hr | assertFail hr | cyclic hr | holdOn hr | crash hr | execLost hr =>
    exact .crash Halt.noConfusion (rpc_running hr RPC.noConfusion RPC.noConfusion)

theorem gReturn_runnerStep {inp : RunInput} {s : Sys} {perm : List Name} {job : Job} (ret : Ret)
    (h0 : s.rpc ≠ .fin ∧ s.rpc ≠ .halted) : RunnerStep inp true s perm (gReturn s job ret) := by
  generalize h : gReturn s job ret = g
  cases gReturn_row.of_eq h with
  | noWorker | fed | feedNext => exact .ctl ⟨rfl, rfl, rfl, rfl, rfl⟩ h0 RPC.noConfusion RPC.noConfusion
  | lastWorker | nextWorker =>
    exact .newWorker rfl ⟨rfl, rfl, rfl, rfl, rfl⟩ h0 RPC.noConfusion RPC.noConfusion
  | noProc => exact .raise _ _ ⟨rfl, rfl, rfl, rfl, rfl⟩ Halt.noConfusion h0

theorem mainStep_runnerStep {inp : RunInput} {s s' : Sys} {perm : List Name} (hs : mainStep inp s perm = some s') :
    RunnerStep inp true s perm s' := by
  cases mainStep_spec hs with
  | entryStop hr | entry hr | holdOn hr | stopIter hr | join hr =>
    exact .ctl ⟨rfl, rfl, rfl, rfl, rfl⟩ (rpc_running hr RPC.noConfusion RPC.noConfusion) RPC.noConfusion RPC.noConfusion
  | send hr hsd =>
    exact .send _ _ hsd ⟨rfl, rfl, rfl, rfl, rfl⟩ (rpc_running hr RPC.noConfusion RPC.noConfusion)
      RPC.noConfusion RPC.noConfusion
  | tick hr hsu hd => exact .dtick (Or.inr ⟨_, hr⟩) hsu hd
  | go hr hsu hn hd =>
    exact .select _ _ .go (Or.inr ⟨_, hr⟩) ⟨rfl, rfl, rfl, rfl, rfl⟩ RPC.noConfusion RPC.noConfusion
  | select hr hsu hn hd _ hne =>
    exact .select _ _ _ (Or.inr ⟨_, hr⟩) ⟨rfl, rfl, rfl, rfl, rfl⟩ RPC.noConfusion RPC.noConfusion
  | ret hr => exact gReturn_runnerStep _ (rpc_running hr RPC.noConfusion RPC.noConfusion)
  | @result n rest nd hr _ hq hn =>
    exact .result { s with resQ := rest } n nd (.of_same rfl rfl) rfl rfl
      ⟨rfl, rfl, rfl, rfl, rfl⟩ (rpc_running hr RPC.noConfusion RPC.noConfusion) RPC.noConfusion RPC.noConfusion
  | joined hr ha => exact .toFin ⟨rfl, rfl, rfl, rfl, rfl⟩ (rpc_running hr RPC.noConfusion RPC.noConfusion) rfl fun _ => ha
  | finish hr => exact .finish hr
  | lost hr | assertFail hr | cyclic hr | crash hr | resultLost hr =>
    exact .crash Halt.noConfusion (rpc_running hr RPC.noConfusion RPC.noConfusion)

/-- `TakeStep` and `DoneStep` under the choice that makes the step -/
inductive WorkerStep (inp : RunInput) (s : Sys) (w : Nat) : Choice → Sys → Prop
  | hold (js : List Job) (hi : s.workers w = .idle) (hq : s.jobQ = .hold :: js) :
      WorkerStep inp s w (.take w) { s with jobQ := js }
  | stop (js : List Job) (hi : s.workers w = .idle) (hq : s.jobQ = .stop :: js) :
      WorkerStep inp s w (.take w) { setWorker s w .exited with jobQ := js }
  | task (n : Name) (js : List Job) (hi : s.workers w = .idle) (hq : s.jobQ = .task n :: js) :
      WorkerStep inp s w (.take w) { setWorker (startTask inp s n w) w (.running n) with jobQ := js }
  | done (n : Name) (hw : s.workers w = .running n) :
      WorkerStep inp s w (.done w) { setWorker s w .idle with events := Ev.fin n w :: s.events, resQ := s.resQ ++ [n] }

theorem takeStep_workerStep {inp : RunInput} {s s' : Sys} {w : Nat} (hs : takeStep inp s w = some s') :
    WorkerStep inp s w (.take w) s' := by
  cases takeStep_spec hs with
  | hold hi hq => exact .hold _ hi hq
  | stop hi hq => exact .stop _ hi hq
  | task hi hq => exact .task _ _ hi hq

theorem doneStep_workerStep {inp : RunInput} {s s' : Sys} {w : Nat} (hs : doneStep s w = some s') :
    WorkerStep inp s w (.done w) s' := by
  cases doneStep_spec hs with
  | done hw => exact .done _ hw

theorem WorkerStep.alive {inp : RunInput} {s s' : Sys} {w : Nat} {c : Choice} (h : WorkerStep inp s w c s') :
    s.workers w ≠ .exited ∧ s.workers w ≠ .notStarted := by
  have idle : s.workers w = .idle → s.workers w ≠ .exited ∧ s.workers w ≠ .notStarted := fun hi => by
    rw [hi]; exact ⟨WState.noConfusion, WState.noConfusion⟩
  cases h with
  | hold _ hi => exact idle hi
  | stop _ hi => exact idle hi
  | task _ _ hi => exact idle hi
  | done n hw => rw [hw]; exact ⟨WState.noConfusion, WState.noConfusion⟩

theorem WorkerStep.ctl {inp : RunInput} {s s' : Sys} {w : Nat} {c : Choice} (h : WorkerStep inp s w c s') :
    s'.rpc = s.rpc ∧ s'.halt = s.halt := by
  cases h <;> exact ⟨rfl, rfl⟩

theorem stepOf_spec {inp : RunInput} {s s' : Sys} {c : Choice} (hs : stepOf inp s c = some s') :
    (∃ par perm, c = .main perm ∧ (if par = true then inp.runner ≠ .serial else inp.runner = .serial) ∧
      RunnerStep inp par s perm s') ∨ (inp.runner ≠ .serial ∧ ∃ w, WorkerStep inp s w c s') := by
  unfold stepOf at hs
  by_cases hser : inp.runner = .serial
  · rw [if_pos hser] at hs
    cases c with
    | main perm => exact Or.inl ⟨false, perm, rfl, hser, serialStep_runnerStep hs⟩
    | _ => cases hs
  · rw [if_neg hser] at hs
    cases c with
    | main perm => exact Or.inl ⟨true, perm, rfl, hser, mainStep_runnerStep hs⟩
    | take w => exact Or.inr ⟨hser, w, takeStep_workerStep hs⟩
    | done w => exact Or.inr ⟨hser, w, doneStep_workerStep hs⟩

end DoitModel.Run
