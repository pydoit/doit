import DoitModel.Proofs.RunDeliver
import DoitModel.Proofs.RunMove
/-! # C05 — the shape of one transition: which statuses change and which events are added

Every transition of the serial and of the parallel system is of one of three shapes: `quiet` (no status changes, no
terminal report, no `go`), `select` (`select_task` decided about the yielded node) or `result`
(`process_task_result` of a task that `select_task` had chosen).  `InvF` and `InvE` are kept by every transition of such a shape
(`invF_step`, `invE_step`; the `select` row also needs `Inv2` with `InvG` resp. `InvU`).  The shape is read off `Move` (`Proofs/RunMove.lean`), which also says what
happens to the nodes and to the runner (used for `InvU`, `InvC`). -/
namespace DoitModel.Run

/-- neither a terminal report nor the internal `go`: `Ev.work`, `get_status`, `teardown`, `complete` -/
def Ev.quiet : Ev → Bool
  | .success _ | .failure _ _ | .skipUtd _ | .skipIgn _ | .go _ _ => false
  | _ => true

inductive Shape (inp : RunInput) (s s' : Sys) : Prop
  | quiet (new : List Ev) (hst : ∀ x, stOf s' x = stOf s x) (hev : s'.events = new ++ s.events)
      (hq : ∀ e ∈ new, e.quiet = true) (hstop : s'.stop = s.stop)
  | select (n : Name) (nd : Node) (extra : List Ev) (haw : awaiting s) (hsusp : s.susp = some (.node n))
      (hn : s.nodes n = some nd) (hd : selDecision inp n nd ≠ .assertFail)
      (hst : ∀ x, stOf s' x = if x = n then selStatus (selDecision inp n nd) else stOf s x)
      (hev : s'.events = extra ++ (selEvents inp n nd (selDecision inp n nd) ++ s.events))
      (hq : ∀ e ∈ extra, e.quiet = true) (hstop : inp.continue_ = true → s'.stop = s.stop)
  | result (n : Name) (nd : Node) (mid : List Ev) (hn : s.nodes n = some nd) (hrun : nd.status = .run)
      (hgo : ∃ deps, Ev.go n deps ∈ s.events)
      (hst : ∀ x, stOf s' x = if x = n then resStatus (inp.outcome n) else stOf s x)
      (hev : s'.events = resEvents n (inp.outcome n) ++ (mid ++ s.events))
      (hq : ∀ e ∈ mid, e.quiet = true) (hstop : inp.continue_ = true → s'.stop = s.stop)

theorem Ev.work_quiet {e : Ev} (h : e.work = true) : e.quiet = true := by cases e <;> first | rfl | cases h

theorem Ev.work_ne_complete {e : Ev} (h : e.work = true) : e ≠ .complete := by rintro rfl; cases h

theorem selEvents_failure {inp : RunInput} {n m : Name} {nd : Node} {d : Sel} {k : FailKind}
    (h : Ev.failure m k ∈ selEvents inp n nd d) : m = n ∧ selStatus d = .fail ∧ (k = .unmet → d = .unmet) := by
  rcases mem_selEvents h with e | ⟨e, _⟩ | ⟨e, _⟩ | ⟨e, _⟩ | ⟨_, e, hf, hu⟩ <;> cases e
  exact ⟨rfl, hf, hu⟩

theorem selEvents_skipUtd {inp : RunInput} {n m : Name} {nd : Node} {d : Sel}
    (h : Ev.skipUtd m ∈ selEvents inp n nd d) : m = n ∧ d = .utd := by
  rcases mem_selEvents h with e | ⟨e, _⟩ | ⟨e, _⟩ | ⟨e, hd⟩ | ⟨_, e, _⟩ <;> cases e
  exact ⟨rfl, hd⟩

theorem selEvents_skipIgn {inp : RunInput} {n m : Name} {nd : Node} {d : Sel}
    (h : Ev.skipIgn m ∈ selEvents inp n nd d) : m = n ∧ d = .skipIgn := by
  rcases mem_selEvents h with e | ⟨e, _⟩ | ⟨e, hd⟩ | ⟨e, _⟩ | ⟨_, e, _⟩ <;> cases e
  exact ⟨rfl, hd⟩

theorem selEvents_success {inp : RunInput} {n m : Name} {nd : Node} {d : Sel} : Ev.success m ∉ selEvents inp n nd d := by
  intro h
  rcases mem_selEvents h with e | ⟨e, _⟩ | ⟨e, _⟩ | ⟨e, _⟩ | ⟨_, e, _⟩ <;> cases e

theorem resEvents_failure {n m : Name} {o : Outcome} {k : FailKind} (h : Ev.failure m k ∈ resEvents n o) :
    m = n ∧ resStatus o = .fail ∧ k ≠ .unmet := by
  rcases mem_resEvents h with ⟨e, _⟩ | ⟨_, e, hf, hu⟩ <;> cases e
  exact ⟨rfl, hf, hu⟩

theorem resEvents_success {n m : Name} {o : Outcome} (h : Ev.success m ∈ resEvents n o) :
    m = n ∧ resStatus o = .ok := by
  rcases mem_resEvents h with ⟨e, ho⟩ | ⟨_, e, _⟩ <;> cases e
  exact ⟨rfl, ho⟩

theorem selEvents_of_fail {inp : RunInput} {n : Name} {nd : Node} {d : Sel} (h : selStatus d = .fail) :
    ∃ k, Ev.failure n k ∈ selEvents inp n nd d := by
  cases d <;> first | exact ⟨_, List.mem_cons_self⟩ | cases h

theorem resEvents_of_fail {n : Name} {o : Outcome} (h : resStatus o = .fail) : ∃ k, Ev.failure n k ∈ resEvents n o := by
  cases o <;> first | exact ⟨_, List.mem_cons_self⟩ | cases h

theorem selStatus_utd {d : Sel} (h : selStatus d = .utd) : d = .utd := by cases d <;> first | rfl | cases h

theorem selStatus_ign {d : Sel} (h : selStatus d = .ign) : d = .skipIgn := by cases d <;> first | rfl | cases h

theorem resStatus_cases (o : Outcome) : resStatus o = .ok ∨ resStatus o = .fail := by
  cases o <;> first | exact .inl rfl | exact .inr rfl

theorem teardown_quiet (l : List Name) : ∀ e ∈ Ev.complete :: l.map Ev.teardown, e.quiet = true := by
  intro e he
  simp only [List.mem_cons, List.mem_map] at he
  rcases he with rfl | ⟨a, _, rfl⟩ <;> rfl

theorem applySel_stop (inp : RunInput) (s : Sys) (n : Name) (nd : Node) (d : Sel) (hc : inp.continue_ = true) :
    (applySel inp s n nd d).stop = s.stop := by
  cases d <;> first | rfl | exact if_pos hc

theorem processResult_stop (inp : RunInput) (s : Sys) (n : Name) (nd : Node) (hc : inp.continue_ = true) :
    (processResult inp s n nd).stop = s.stop := by
  unfold processResult; cases inp.outcome n <;> first | rfl | exact if_pos hc

theorem go_of_start {inp : RunInput} {s : Sys} (h2 : Inv2 inp s) {n w : Nat} (he : Ev.start n w ∈ s.events) :
    ∃ deps, Ev.go n deps ∈ s.events := by
  obtain ⟨pre, post, hsplit⟩ := List.append_of_mem he
  have ho : OrdOK (Ev.start n w :: post) := OrdOK_suffix (pre := pre) (by rw [← hsplit]; exact h2.ord)
  obtain ⟨deps, hdm⟩ := ho.1
  exact ⟨deps, by rw [hsplit]; exact List.mem_append_right _ (List.mem_cons_of_mem _ hdm)⟩

theorem start_of_cStart {s : Sys} {n : Name} (hc : cStart s n ≥ 1) : ∃ w, Ev.start n w ∈ s.events := by
  have hpos : 0 < s.events.countP (Ev.isStartOf n) := hc
  obtain ⟨e, he, hp⟩ := List.countP_pos_iff.mp hpos
  cases e with
  | start m wk =>
    have hm : m = n := by simpa [Ev.isStartOf] using hp
    exact ⟨wk, hm ▸ he⟩
  | _ => simp [Ev.isStartOf] at hp

theorem result_running {inp : RunInput} {s : Sys} (h2 : Inv2 inp s) (h3 : Inv3 inp s) {n : Name}
    (hsrc : s.rpc = .sExec n ∨ n ∈ s.resQ) : stOf s n = .run ∧ ∃ deps, Ev.go n deps ∈ s.events := by
  rcases hsrc with hr | hq
  · exact ⟨h2.x n hr, (start_of_cStart (by have := (h3.x3 n hr).1; omega)).elim fun _ => go_of_start h2⟩
  · have hq1 := h3.q1 n hq
    exact ⟨hq1.2, (start_of_cStart (by have := (h3.p0 n).2; have := hq1.1; omega)).elim fun _ => go_of_start h2⟩

theorem Move.shape {inp : RunInput} {s s' : Sys} (h2 : Inv2 inp s) (h3 : Inv3 inp s) (m : Move inp s s') :
    Shape inp s s' := by
  cases m with
  | emit new a hx => exact .quiet new (stOf_congr a.nodes) a.events (fun e he => Ev.work_quiet (hx e he)) a.stop
  | tick perm _ _ hs =>
    exact .quiet [] (dtick_stOf hs) (dtick_outer hs).1 (fun _ h => nomatch h) (dtick_outer hs).2.2.2.2.2.1
  | send node perm s0 hnode hs a =>
    have o := (send_outer hs).1
    obtain ⟨_, hst⟩ := send_inv1 h2.inv1 (fun p hp => h2.sb p (by rw [hnode, hp])) hs
    exact .quiet [] (fun x => (stOf_congr a.nodes x).trans (hst x)) (a.events.trans o.1) (fun _ h => nomatch h)
      (a.stop.trans o.2.2.2.2.2.1)
  | select n nd extra haw hsusp hn hd a hx =>
    refine .select n nd extra haw hsusp hn hd (fun x => ?_) ?_ (fun e he => Ev.work_quiet (hx e he)) (fun hc => ?_)
    · rw [stOf_congr a.nodes, stOf_applySel inp s n nd _ hd]
    · rw [a.events, applySel_events]
    · rw [a.stop, applySel_stop inp s n nd _ hc]
  | result n nd mid s0 hn hsrc a0 hx a =>
    obtain ⟨hrun, hgo⟩ := result_running h2 h3 hsrc
    refine .result n nd mid hn ((stOf_some hn).symm.trans hrun) hgo (fun x => ?_) ?_
      (fun e he => Ev.work_quiet (hx e he)) (fun hc => ?_)
    · rw [stOf_congr a.nodes, stOf_processResult, stOf_congr a0.nodes]
    · rw [a.events, List.nil_append, processResult_events, a0.events]
    · rw [a.stop, processResult_stop inp s0 n nd hc, a0.stop]
  | finish h =>
    subst h
    exact .quiet (Ev.complete :: s.tdown.map Ev.teardown) (fun _ => rfl) rfl (teardown_quiet _) rfl

theorem serialStep_shape {inp : RunInput} {s s' : Sys} {perm : List Name} (h2 : Inv2 inp s) (h3 : Inv3 inp s)
    (hs : serialStep inp s perm = some s') : Shape inp s s' := (serialStep_move hs).1.shape h2 h3

theorem pstep_shape {inp : RunInput} {s s' : Sys} {c : Choice} (h2 : Inv2 inp s) (h3 : Inv3 inp s)
    (hs : pstep inp s c = some s') : Shape inp s s' := (pstep_move hs).1.shape h2 h3

end DoitModel.Run
