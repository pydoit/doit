import DoitModel.Proofs.Sel
/-! # Re-initialisation and `--single`

The filter loop of the code before /repo dcfe778 (`pinned`) agrees with the current one as long as no task is named again
(`pf_pinned_eq`).  `applySingle` leaves every selected task without task_dep, for a group each of its sub-tasks
(`applySingle_ok`): one `singleStep` establishes `SingleOK` for its own task and keeps it for all others. -/
namespace DoitModel.Sel

theorem pf_pinned_eq (ts : List Task) (n : Nat) (ini args : List Tok) (h : reinitB ts n ini args = false) :
    pf ts true n ini args = pf ts false n ini args := by
  -- the rows of `reinitB` are those of `pf`, `pinned` apart: `case5` named again, `case6` option error, `case7` `pos_arg`
  fun_induction reinitB ts n ini args with
  | case1 | case2 => rfl
  | case3 n ini a rest hs ih => simp only [pf, hs, if_true, ih h]
  | case4 n ini a rest hs hf ih => simp only [pf, hs, hf, Bool.false_eq_true, if_false, ih h]
  | case5 => cases h
  | case6 n ini a rest hs t hf hi hd => simp only [pf, hs, hf, hi, hd, Bool.false_eq_true, if_false]
  | case7 n ini a rest hs t hf hi rest' hd hp => simp only [pf, hs, hf, hi, hd, hp, Bool.false_eq_true, if_false, if_true]
  | case8 n ini a rest hs t hf hi rest' hd hp ih => simp only [pf, hs, hf, hi, hd, hp, Bool.false_eq_true, if_false, ih h]

theorem find_name (ts : List Task) (a : Tok) (t : Task) (h : find ts a = some t) : t.name = a := by
  unfold find at h
  have := List.find?_some h
  simpa using this

theorem find_clearDeps (ts : List Task) (V : List Tok) (n : Tok) :
    find (clearDeps ts V) n = (find ts n).map (fun t => if V.contains t.name then { t with taskDep := [] } else t) := by
  unfold find clearDeps
  rw [List.find?_map]
  have : ((fun t : Task => t.name == n) ∘ fun t => if V.contains t.name then { t with taskDep := [] } else t)
      = fun t : Task => t.name == n := by
    funext t
    simp only [Function.comp]
    split <;> rfl
  rw [this]

/-- `n`'s task_dep list is empty (if `n` is a task at all) -/
def Cleared (ts : List Task) (n : Tok) : Prop := ∀ t, find ts n = some t → t.taskDep = []

/-- what `--single` promises about a named task -/
def SingleOK (ts : List Task) (n : Tok) : Prop :=
  ∀ t, find ts n = some t →
    (t.hasSubtask = false → t.taskDep = []) ∧ (t.hasSubtask = true → ∀ d ∈ t.taskDep, Cleared ts d)

theorem step_shape (ts : List Task) (m n : Tok) (t' : Task) (h : find (singleStep ts m) n = some t') :
    ∃ t, find ts n = some t ∧ t'.hasSubtask = t.hasSubtask ∧ (t'.taskDep = t.taskDep ∨ t'.taskDep = []) := by
  have key : ∀ V, find (clearDeps ts V) n = some t' → ∃ t, find ts n = some t ∧ t'.hasSubtask = t.hasSubtask ∧
      (t'.taskDep = t.taskDep ∨ t'.taskDep = []) := by
    intro V hV
    rw [find_clearDeps, Option.map_eq_some_iff] at hV
    obtain ⟨t, ht, rfl⟩ := hV
    refine ⟨t, ht, ?_⟩
    by_cases c : V.contains t.name = true
    · rw [if_pos c]; exact ⟨rfl, .inr rfl⟩
    · rw [if_neg c]; exact ⟨rfl, .inl rfl⟩
  unfold singleStep at h
  cases hm : find ts m with
  | none => rw [hm] at h; exact ⟨t', h, rfl, .inl rfl⟩
  | some tm => simp only [hm] at h; split at h <;> exact key _ h

theorem cleared_step (ts : List Task) (m n : Tok) (h : Cleared ts n) : Cleared (singleStep ts m) n := by
  intro t' ht'
  rcases step_shape ts m n t' ht' with ⟨t, ht, _, hd | hd⟩
  · rw [hd]; exact h t ht
  · exact hd

theorem cleared_of_victim (ts : List Task) (V : List Tok) (d : Tok) (hd : d ∈ V) : Cleared (clearDeps ts V) d := by
  intro t' ht'
  rw [find_clearDeps, Option.map_eq_some_iff] at ht'
  obtain ⟨t, hn, rfl⟩ := ht'
  rw [if_pos (by rw [find_name ts d t hn]; exact List.contains_iff_mem.2 hd)]

theorem singleOK_step_self (ts : List Task) (n : Tok) : SingleOK (singleStep ts n) n := by
  intro t' ht'
  have hshape := step_shape ts n n t' ht'
  rcases hshape with ⟨t, ht, hsub, hdeps⟩
  unfold singleStep at ht' ⊢
  simp only [ht] at ht' ⊢
  by_cases hg : t.hasSubtask = true
  · simp only [hg, if_true] at ht' ⊢
    refine ⟨fun h => ?_, fun _ d hd => ?_⟩
    · rw [hsub, hg] at h; cases h
    apply cleared_of_victim
    rcases hdeps with h | h
    · rw [h] at hd; exact hd
    · rw [h] at hd; cases hd
  · have hg' : t.hasSubtask = false := by simpa using hg
    simp only [hg', Bool.false_eq_true, if_false] at ht' ⊢
    refine ⟨fun _ => ?_, fun h => ?_⟩
    · exact cleared_of_victim ts [n] n (by simp) t' ht'
    · rw [hsub, hg'] at h; cases h

theorem singleOK_step (ts : List Task) (m n : Tok) (h : SingleOK ts n) : SingleOK (singleStep ts m) n := by
  intro t' ht'
  rcases step_shape ts m n t' ht' with ⟨t, ht, hsub, hdeps⟩
  have ⟨h1, h2⟩ := h t ht
  refine ⟨fun hs => ?_, fun hs d hd => ?_⟩
  · rcases hdeps with hd | hd
    · rw [hd]; exact h1 (by rw [← hsub]; exact hs)
    · exact hd
  · rcases hdeps with hd' | hd'
    · rw [hd'] at hd
      exact cleared_step ts m d (h2 (by rw [← hsub]; exact hs) d hd)
    · rw [hd'] at hd; cases hd

theorem singleOK_foldl (ts : List Task) (sel : List Tok) (n : Tok) (h : SingleOK ts n) :
    SingleOK (sel.foldl singleStep ts) n := by
  induction sel generalizing ts with
  | nil => exact h
  | cons m rest ih => exact ih _ (singleOK_step ts m n h)

theorem applySingle_ok (ts : List Task) (sel : List Tok) : ∀ n ∈ sel, SingleOK (applySingle ts sel) n := by
  unfold applySingle
  induction sel generalizing ts with
  | nil => intro n hn; cases hn
  | cons m rest ih =>
    intro n hn
    simp only [List.foldl_cons]
    rcases List.mem_cons.1 hn with rfl | hn
    · exact singleOK_foldl _ rest n (singleOK_step_self ts n)
    · exact ih _ n hn

/-- a plan is the selection `process` makes, the task table after `--single`, and the closure over that table -/
theorem planGen_ok {ts : List Task} {pinned : Bool} {args : List Tok} {dflt : Option (List Tok)} {single : Bool}
    {p : Plan} (h : planGen ts pinned args dflt single = .ok p) :
    processGen (prepare ts) pinned (selArgs args dflt) = .ok p.sel ∧
      p.tasks = (if single then applySingle (prepare ts) p.sel else prepare ts) ∧ p.closure = closureOf p.tasks p.sel := by
  unfold planGen at h
  cases hs : processGen (prepare ts) pinned (selArgs args dflt) with
  | error e => rw [hs] at h; cases h
  | ok sel => rw [hs] at h; cases h; exact ⟨rfl, rfl, rfl⟩

end DoitModel.Sel
