import DoitModel.Proofs.C08Inv
/-! # C08 (I10), exit code: `final_result` is the fold of `_handle_task_error` over the failure reports of the trace,
    and that fold only depends on the *set* of reported failure kinds (no restriction on the graph) -/
namespace DoitModel.Run

def fstep (f : Nat) (e : Ev) : Nat :=
  match e with
  | .failure _ k => finalAfter f k
  | _ => f

def exitR (l : List Ev) : Nat := l.foldr (fun e f => fstep f e) 0

theorem exitOfTrace_reverse (l : List Ev) : exitOfTrace l.reverse = exitR l := by
  unfold exitOfTrace exitR; rw [List.foldl_reverse]; rfl

def InvX (s : Sys) : Prop := s.final = exitR s.events

def Ev.noFail (e : Ev) : Prop := ∀ n k, e ≠ .failure n k

theorem exitR_append_noFail (new l : List Ev) (h : ∀ e ∈ new, Ev.noFail e) : exitR (new ++ l) = exitR l := by
  induction new with
  | nil => rfl
  | cons e t ih =>
    have ih' := ih (fun x hx => h x (by simp [hx]))
    show fstep (exitR (t ++ l)) e = exitR l
    rw [ih']
    have := h e (by simp)
    cases e <;> first | rfl | exact absurd rfl (this _ _)

theorem InvX.outer {s s' : Sys} (h : InvX s) (e1 : s'.final = s.final) (new : List Ev)
    (hev : s'.events = new ++ s.events) (hp : ∀ e ∈ new, Ev.noFail e) : InvX s' := by
  unfold InvX at *; rw [e1, hev, exitR_append_noFail new _ hp]; exact h

theorem InvX.same {s s' : Sys} (h : InvX s) (e1 : s'.final = s.final) (e2 : s'.events = s.events) : InvX s' :=
  h.outer e1 [] (by simpa using e2) (by simp)

theorem statusEv_noFail (nd : Node) (n : Name) : ∀ e ∈ statusEv nd n, Ev.noFail e := by
  intro e he; unfold statusEv at he; split at he
  · simp at he; subst he; intro _ _ x; cases x
  · cases he

theorem invX_failNode {inp : RunInput} {s : Sys} (n : Name) (nd : Node) (k : FailKind) (pre : List Ev) (h : InvX s)
    (hp : ∀ e ∈ pre, Ev.noFail e) : InvX (failNode inp s n nd k pre) := by
  unfold InvX at *
  show finalAfter s.final k = fstep (exitR (pre ++ s.events)) (Ev.failure n k)
  rw [exitR_append_noFail pre _ hp, h]; rfl

theorem invX_applySel {inp : RunInput} {s : Sys} (n : Name) (nd : Node) (dec : Sel) (h : InvX s) :
    InvX (applySel inp s n nd dec) := by
  have sn := statusEv_noFail nd n
  cases dec with
  | skipIgn =>
    refine h.outer rfl (Ev.skipIgn n :: statusEv nd n) rfl ?_
    intro e he; rcases List.mem_cons.mp he with rfl | a
    · intro _ _ x; cases x
    · exact sn e a
  | utd =>
    refine h.outer rfl (Ev.skipUtd n :: statusEv nd n) rfl ?_
    intro e he; rcases List.mem_cons.mp he with rfl | a
    · intro _ _ x; cases x
    · exact sn e a
  | runFirst => exact h.outer rfl (statusEv nd n) rfl sn
  | go =>
    refine h.outer rfl (Ev.go n (allDeps inp n nd) :: statusEv nd n) rfl ?_
    intro e he; rcases List.mem_cons.mp he with rfl | a
    · intro _ _ x; cases x
    · exact sn e a
  | unmet => exact invX_failNode n nd _ _ h sn
  | depErr => exact invX_failNode n nd _ _ h sn
  | argsErr => exact invX_failNode n nd _ _ h sn
  | assertFail => exact h

theorem invX_processResult {inp : RunInput} {s : Sys} (n : Name) (nd : Node) (h : InvX s) :
    InvX (processResult inp s n nd) := by
  unfold processResult
  split
  · refine h.outer rfl [Ev.success n] rfl ?_
    intro e he; simp at he; subst he; intro _ _ x; cases x
  · exact invX_failNode n nd _ _ h (by simp)
  · exact invX_failNode n nd _ _ h (by simp)
  · exact invX_failNode n nd _ _ h (by simp)

theorem Ev.plainD.noFail {e : Ev} (h : Ev.plainD e) : Ev.noFail e := by
  intro n k x; subst x
  have := h.1 n
  simp [Ev.den?] at this

theorem init_invX (inp : RunInput) : InvX (init inp) := rfl

theorem outer_invX {s s' : Sys} (h : InvX s) (o : SameOuter s s') : InvX s' :=
  h.same o.2.2.2.2.2.2.1 o.1

theorem InvX.emits {new : List Ev} {s s' : Sys} (h : InvX s) (a : Emits new s s') (hp : ∀ e ∈ new, Ev.plainD e) :
    InvX s' :=
  h.outer a.final new a.events (fun e he => (hp e he).noFail)

theorem Move.invX {inp : RunInput} {s s' : Sys} (h : InvX s) (k : Move inp s s') : InvX s' := by
  cases k with
  | emit new a hx => exact h.emits a (work_plainD hx)
  | tick _ _ _ hs => exact outer_invX h (dtick_outer hs)
  | send _ _ _ _ hsd a => exact (outer_invX h (send_outer hsd).1).emits a nofun
  | select n nd _ _ _ _ _ a hx => exact (invX_applySel n nd _ h).emits a (work_plainD hx)
  | result n nd _ _ _ _ a0 hx a => exact (invX_processResult n nd (h.emits a0 (work_plainD hx))).emits a nofun
  | finish e =>
    subst e
    exact h.outer rfl (Ev.complete :: s.tdown.map Ev.teardown) (by simp [finishRun]) (fun e he => (teardown_plainD _ e he).noFail)

theorem reach_invX {inp : RunInput} {s : Sys} (h : Reach inp s) : InvX s :=
  Move.reach (fun _ => trivial) (init_invX inp) (fun _ _ _ ih m => m.invX ih) h

theorem preach_invX {inp : RunInput} {s : Sys} (h : PReach inp s) : InvX s :=
  Move.preach (fun _ => trivial) (init_invX inp) (fun _ _ _ ih m => m.invX ih) h

theorem final_of_reports {inp : RunInput} {s : Sys} (hr : Reach inp s ∨ PReach inp s) :
    s.final = exitOfTrace s.events.reverse := by
  rw [exitOfTrace_reverse]
  rcases hr with h | h
  · exact reach_invX h
  · exact preach_invX h

theorem exit_of_reports {inp : RunInput} {s : Sys} (hr : Reach inp s ∨ PReach inp s) (hh : s.halt = .none) :
    exitCode s = exitOfTrace s.events.reverse := by
  unfold exitCode; rw [hh]; exact final_of_reports hr

def Ev.failDen : Ev → Option Den
  | .failure _ k => some (.fail k)
  | _ => none

/-- the goal `simp only [List.any_cons]` leaves in `exitOfDens_cons_fail`, over the two Booleans of the tail -/
theorem exitOfDens_aux (a b : Bool) (k : FailKind) :
    (if (k != FailKind.failed || a) = true then 2
      else if (Den.fail k == Den.fail FailKind.failed || b) = true then 1 else 0) =
    (if k = FailKind.failed ∧ (if a = true then 2 else if b = true then 1 else 0) ≠ 2 then 1 else 2) := by
  cases a <;> cases b <;> cases k <;> decide

theorem exitOfDens_cons_fail (k : FailKind) (ds : List Den) :
    exitOfDens (.fail k :: ds) = finalAfter (exitOfDens ds) k := by
  unfold exitOfDens finalAfter
  simp only [List.any_cons]
  exact exitOfDens_aux _ _ k

theorem exitR_eq_exitOfDens (l : List Ev) : exitR l = exitOfDens (l.filterMap Ev.failDen) := by
  induction l with
  | nil => rfl
  | cons e t ih =>
    show fstep (exitR t) e = _
    cases e <;> simp only [List.filterMap_cons, Ev.failDen, fstep] <;> first | exact ih | skip
    rw [exitOfDens_cons_fail, ih]

theorem exitOfDens_failset {ds ds' : List Den} (h : ∀ k, Den.fail k ∈ ds ↔ Den.fail k ∈ ds') :
    exitOfDens ds = exitOfDens ds' := by
  have key : ∀ f : Den → Bool, (∀ d, f d = true → ∃ k, d = .fail k) → ds.any f = ds'.any f := by
    intro f hf
    rw [Bool.eq_iff_iff, List.any_eq_true, List.any_eq_true]
    constructor
    · rintro ⟨x, a, b⟩; obtain ⟨k, rfl⟩ := hf x b; exact ⟨_, (h k).mp a, b⟩
    · rintro ⟨x, a, b⟩; obtain ⟨k, rfl⟩ := hf x b; exact ⟨_, (h k).mpr a, b⟩
  unfold exitOfDens
  rw [key _ (by intro d hd; cases d <;> simp at hd; exact ⟨_, rfl⟩),
      key _ (by intro d hd; exact ⟨.failed, by simpa using hd⟩)]

theorem exitOfTrace_eq_exitOfDens (tr : List Ev) : exitOfTrace tr = exitOfDens (tr.filterMap Ev.failDen) := by
  have := exitR_eq_exitOfDens tr.reverse
  rw [← exitOfTrace_reverse, List.reverse_reverse] at this
  rw [this]
  apply exitOfDens_failset
  intro k; simp [List.mem_filterMap]

theorem exitOfTrace_set {tr tr' : List Ev}
    (h : ∀ k, (∃ n, Ev.failure n k ∈ tr) ↔ (∃ n, Ev.failure n k ∈ tr')) : exitOfTrace tr = exitOfTrace tr' := by
  rw [exitOfTrace_eq_exitOfDens, exitOfTrace_eq_exitOfDens]
  apply exitOfDens_failset
  intro k
  simp only [List.mem_filterMap]
  constructor
  · rintro ⟨e, he, hd⟩
    cases e <;> simp [Ev.failDen] at hd
    rename_i n k; subst hd
    obtain ⟨n', hn'⟩ := (h k).mp ⟨n, he⟩
    exact ⟨_, hn', rfl⟩
  · rintro ⟨e, he, hd⟩
    cases e <;> simp [Ev.failDen] at hd
    rename_i n k; subst hd
    obtain ⟨n', hn'⟩ := (h k).mpr ⟨n, he⟩
    exact ⟨_, hn', rfl⟩

end DoitModel.Run
