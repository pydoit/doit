import DoitModel.Proofs.OptConfig
import DoitModel.Proofs.OptReject
/-! M4: acceptance — when every text converts and list options hold lists, the resolution succeeds;
    and what `params.update(opt_vals)` does with the loader options written before the command name -/
namespace DoitModel.Opt

theorem findOpt_map (st : PState) (g : Opt → Opt) (hg : ∀ o, (g o).name = o.name) (k : Str) :
    findOpt (st.map g) k = (findOpt st k).map g := by
  unfold findOpt
  rw [List.find?_map]
  congr 1
  congr 1
  funext o
  simp [Function.comp, hg]

theorem overwriteDefaults_ok (ini : List (Str × CfgVal)) (spec : PState)
    (h : ∀ kc ∈ ini, ∀ o, findOpt spec kc.1 = some o → ∃ v, str2typeCfg o kc.2 = .ok v) :
    ∃ st, overwriteDefaults ini spec = .ok st := by
  induction ini generalizing spec with
  | nil => exact ⟨spec, rfl⟩
  | cons x rest ih =>
    obtain ⟨k, c⟩ := x
    unfold overwriteDefaults
    cases hf : findOpt spec k with
    | none =>
      simp only []
      exact ih spec (fun kc hkc => h kc (List.mem_cons_of_mem _ hkc))
    | some o =>
      obtain ⟨v, hv⟩ := h (k, c) (by simp) o hf
      simp only [hv]
      apply ih
      intro kc hkc o' ho'
      have hmap : setDefaultOf spec k v = spec.map (fun o => if o.name = k then { o with default := v } else o) := rfl
      rw [hmap, findOpt_map _ _ (by intro o; split <;> rfl)] at ho'
      cases hf' : findOpt spec kc.1 with
      | none => rw [hf'] at ho'; cases ho'
      | some o2 =>
        rw [hf'] at ho'
        simp only [Option.map_some] at ho'
        injection ho' with ho'
        obtain ⟨v2, hv2⟩ := h kc (List.mem_cons_of_mem _ hkc) o2 hf'
        refine ⟨v2, ?_⟩
        rw [← ho']
        split
        · rw [str2typeCfg_default]; exact hv2
        · exact hv2

theorem applyEnv_ok (env : Str → Option Str) (st : List Opt) (p : Params)
    (h : ∀ o ∈ st, ∀ s, envOf env o = some s → ∃ v, str2type o s = .ok v) : ∃ p', applyEnv env st p = .ok p' := by
  induction st generalizing p with
  | nil => exact ⟨p, rfl⟩
  | cons a r ih =>
    unfold applyEnv
    have hr : ∀ o ∈ r, ∀ s, envOf env o = some s → ∃ v, str2type o s = .ok v :=
      fun o ho => h o (List.mem_cons_of_mem _ ho)
    cases he : a.envVar.bind env with
    | none => simp only []; exact ih _ hr
    | some s =>
      obtain ⟨v, hv⟩ := h a (by simp) s he
      simp only [hv]
      exact ih _ hr

/-- list-typed options hold lists -/
def ListInv (st : PState) (p : Params) : Prop := ∀ o ∈ st, o.ty = .list → ∃ l, p.vals o.name = some (.l l)

def PairOk (st : PState) (kv : Key × Str) : Prop :=
  ∃ o inv, getOption st kv.1 = some (o, inv) ∧ (o.ty = .bool ∨ o.ty = .list ∨ ∃ x, str2type o kv.2 = .ok x)

theorem listInv_set (st : PState) (hnd : (st.map (·.name)).Nodup) (p : Params) (o : Opt) (ho : o ∈ st) (x : Val)
    (hx : o.ty = .list → ∃ l, x = .l l) (hinv : ListInv st p) : ListInv st (p.set o.name x) := by
  intro o2 ho2 hl
  by_cases hn : o2.name = o.name
  · cases name_inj st hnd o2 o ho2 ho hn
    obtain ⟨l, rfl⟩ := hx hl
    exact ⟨l, if_pos rfl⟩
  · obtain ⟨l, hl'⟩ := hinv o2 ho2 hl
    exact ⟨l, (if_neg hn).trans hl'⟩

theorem applyPair_ok (st : PState) (hnd : (st.map (·.name)).Nodup) (p : Params) (kv : Key × Str)
    (hinv : ListInv st p) (hok : PairOk st kv) :
    ∃ p', (applyPair false st p kv).2 = .ok p' ∧ ListInv st p' := by
  obtain ⟨o, inv, hg, hcase⟩ := hok
  have ho := getOption_mem st kv.1 o inv hg
  have hstep : ∃ x, occStep o (p.vals o.name) (inv, kv.2) = .ok x ∧ (o.ty = .list → ∃ l, x = .l l) := by
    unfold occStep
    cases hty : o.ty with
    | bool => exact ⟨_, rfl, fun h => nomatch h⟩
    | list =>
      obtain ⟨l, hl⟩ := hinv o ho hty
      rw [hl]
      exact ⟨_, rfl, fun _ => ⟨_, rfl⟩⟩
    | int =>
      rw [hty] at hcase
      obtain h | h | ⟨x, hx⟩ := hcase
      · cases h
      · cases h
      · exact ⟨x, hx, fun h => nomatch h⟩
    | str =>
      rw [hty] at hcase
      obtain h | h | ⟨x, hx⟩ := hcase
      · cases h
      · cases h
      · exact ⟨x, hx, fun h => nomatch h⟩
  obtain ⟨x, hx, hxl⟩ := hstep
  rw [applyPair_eq, hg]
  exact ⟨p.set o.name x, congrArg (Except.map (p.set o.name)) hx, listInv_set st hnd p o ho x hxl hinv⟩

theorem applyPairs_ok (st : PState) (hnd : (st.map (·.name)).Nodup) (ps : Pairs) (p : Params)
    (hinv : ListInv st p) (hok : ∀ kv ∈ ps, PairOk st kv) : ∃ p', (applyPairs false ps st p).2 = .ok p' := by
  induction ps generalizing p with
  | nil => exact ⟨p, rfl⟩
  | cons kv rest ih =>
    obtain ⟨p1, h1, hinv1⟩ := applyPair_ok st hnd p kv hinv (hok kv List.mem_cons_self)
    rw [applyPairs_cons, h1]
    exact ih p1 hinv1 (fun kv' h' => hok kv' (List.mem_cons_of_mem _ h'))

theorem toBool_ok {ε α : Type} (r : Except ε α) (h : r.toBool = true) : ∃ v, r = .ok v := by
  cases r with
  | ok v => exact ⟨v, rfl⟩
  | error e => cases h

theorem pipeline_accepts (spec : List Opt) (ini : List (Str × CfgVal)) (dodo : List (Str × Val))
    (env : Str → Option Str) (argv : List Str) (ps : Pairs) (pos : List Str)
    (hnd : (spec.map (·.name)).Nodup) (hini : (ini.map (·.1)).Nodup)
    (hg : getopt spec argv = .ok (ps, pos)) (hall : allConvert spec ini env ps = true)
    (hlists : ∀ o ∈ spec, o.ty = .list → ∃ l, baseValue o (envOf env o) (alookup o.name ini) = .ok (.l l)) :
    ∃ p, pipeline spec ini dodo env argv = .ok (p, pos) := by
  simp only [allConvert, Bool.and_eq_true, List.all_eq_true] at hall
  obtain ⟨⟨h1, h2⟩, h3⟩ := hall
  obtain ⟨st, hst⟩ := overwriteDefaults_ok ini spec (by
    intro kc hkc o hf
    have := h1 kc hkc
    rw [hf] at this
    exact toBool_ok _ this)
  obtain ⟨rfl, hconv⟩ := overwriteDefaults_char ini hini spec st hnd hst
  have hnd' : ((spec.map (wd (newDefault ini))).map (·.name)).Nodup := by rw [List.map_map]; exact hnd
  obtain ⟨p0, hp0⟩ := applyEnv_ok env (spec.map (wd (newDefault ini))) (initParams _ Params.empty) (by
    intro o' ho' s hs
    obtain ⟨o, ho, rfl⟩ := List.mem_map.mp ho'
    have := h2 o ho
    rw [show envOf env o = some s from hs] at this
    exact toBool_ok _ this)
  have hinv0 : ListInv (spec.map (wd (newDefault ini))) p0 := by
    intro o' ho' hl
    obtain ⟨bv, hbv, hv0, _⟩ := env_value env _ hnd' o' ho' p0 hp0
    obtain ⟨o, ho, rfl⟩ := List.mem_map.mp ho'
    obtain ⟨l, hb⟩ := hlists o ho hl
    cases hbv.symm.trans ((baseValue_withDefault ini o (envOf env o) (hconv o ho)).trans hb)
    exact ⟨l, hv0⟩
  obtain ⟨p1, hp1⟩ := applyPairs_ok _ hnd' ps p0 hinv0 (by
    intro kv hkv
    have := h3 kv hkv
    unfold PairOk
    rw [getOption_wd]
    cases hgo : getOption spec kv.1 with
    | none => rw [hgo] at this; cases this
    | some r =>
      obtain ⟨o, inv⟩ := r
      simp only [hgo, Bool.or_eq_true, decide_eq_true_eq] at this
      refine ⟨wd (newDefault ini) o, inv, rfl, ?_⟩
      rcases this with (h | h) | h
      · exact Or.inl h
      · exact Or.inr (Or.inl h)
      · exact Or.inr (Or.inr (toBool_ok _ h)))
  refine ⟨updateDefaults dodo p1, ?_⟩
  unfold pipeline
  rw [hst]
  simp only [parse_eq, hp0, getopt_wd, hg, hp1, withDodo]

theorem applyOptVals_nd (ov : List (Str × Val)) (p : Params) : (applyOptVals ov p).nd = p.nd := by
  induction ov generalizing p with
  | nil => rfl
  | cons x r ih => obtain ⟨k, v⟩ := x; simp [applyOptVals, ih, Params.setDefault]

theorem applyOptVals_vals (ov : List (Str × Val)) (hnd : (ov.map (·.1)).Nodup) (p : Params) (n : Str) :
    (applyOptVals ov p).vals n = match alookup n ov with
      | some v => some v
      | none => p.vals n := by
  induction ov generalizing p with
  | nil => simp [applyOptVals, alookup]
  | cons x r ih =>
    obtain ⟨k, v⟩ := x
    simp only [List.map_cons, List.nodup_cons] at hnd
    simp only [applyOptVals]
    rw [ih hnd.2, alookup_cons]
    by_cases hk : k = n
    · subst hk
      simp [alookup_not_mem k r hnd.1, Params.setDefault]
    · have hk' : ¬ n = k := fun e => hk e.symm
      simp [hk, hk', Params.setDefault]

end DoitModel.Opt
