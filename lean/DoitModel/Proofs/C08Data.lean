import DoitModel.Model.RunData
/-! # Helper lemmas for `C08_data_intact`: the `zip` loops of `MRunner._process_result` -/
namespace DoitModel.Run

theorem zipOut_length (as : List ActOut) (os : List Nat) : (zipOut as os).length = as.length := by
  induction as generalizing os with
  | nil => rfl
  | cons a t ih => cases os with
    | nil => rfl
    | cons o os => exact congrArg Nat.succ (ih os)

theorem zipErr_length (as : List ActOut) (os : List Nat) : (zipErr as os).length = as.length := by
  induction as generalizing os with
  | nil => rfl
  | cons a t ih => cases os with
    | nil => rfl
    | cons o os => exact congrArg Nat.succ (ih os)

/-- element-wise: action `i` gets `os[i]` if the result list is long enough, else keeps its `out`; `err` untouched -/
theorem zipOut_get (as : List ActOut) (os : List Nat) (i : Nat) (a : ActOut) (h : as[i]? = some a) :
    (zipOut as os)[i]? = some { a with out := (os[i]?).getD a.out } := by
  induction as generalizing os i with
  | nil => cases h
  | cons x t ih => cases os with
    | nil => exact h
    | cons o os => cases i with
      | zero => cases h; rfl
      | succ i => exact ih os i h

theorem zipErr_get (as : List ActOut) (os : List Nat) (i : Nat) (a : ActOut) (h : as[i]? = some a) :
    (zipErr as os)[i]? = some { a with err := (os[i]?).getD a.err } := by
  induction as generalizing os i with
  | nil => cases h
  | cons x t ih => cases os with
    | nil => exact h
    | cons o os => cases i with
      | zero => cases h; rfl
      | succ i => exact ih os i h

theorem zip_all (ms ws : List ActOut) (h : ms.length = ws.length) :
    zipErr (zipOut ms (ws.map (·.out))) (ws.map (·.err)) = ws := by
  induction ms generalizing ws with
  | nil => cases ws with
    | nil => simp [zipOut, zipErr]
    | cons _ _ => simp at h
  | cons m t ih => cases ws with
    | nil => simp at h
    | cons w ws =>
      simp only [List.length_cons, Nat.add_right_cancel_iff] at h
      simp only [List.map_cons, zipOut, zipErr, ih ws h]

end DoitModel.Run
