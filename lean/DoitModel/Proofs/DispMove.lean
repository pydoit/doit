import DoitModel.Proofs.RunSys
import DoitModel.Proofs.RunnerSpec
/-! # One transition of either system, seen from the dispatcher

`DispMove` says what a transition of the serial or of the parallel system does to `nodes`, `waiting`, `dispatched`,
`susp` and `halt`.  The C09 invariants about the dispatcher's data (`AllN`, `InvE9`, `NG`, "no cyclic error on an acyclic
graph") are each preserved along it by one case analysis, shared by both systems. -/
namespace DoitModel.Run

variable {inp : RunInput}

/-- `frame`: runner or worker bookkeeping.  Second arm of `e5`: an exception leaves `run_tasks`, which goes to `finish()`;
    `halt` is `crash`, or unconstrained when the generator had raised the cyclic error.
    `status`: the runner sets the status of the node it holds (`select_task`, `process_task_result`). -/
inductive DispMove (inp : RunInput) (s : Sys) : Sys → Prop
  | frame {s' : Sys} (e1 : s'.nodes = s.nodes) (e2 : s'.waiting = s.waiting) (e3 : s'.dispatched = s.dispatched)
      (e4 : s'.susp = s.susp)
      (e5 : (s'.halt = s.halt ∧ (s.rpc = .fin ∨ s.rpc = .halted → s'.rpc = .fin ∨ s'.rpc = .halted)) ∨
        (s'.rpc = .fin ∧ (s'.halt = .crash ∨ ∃ d, s.susp = some (.cyclic d)))) : DispMove inp s s'
  | send {node : Option Name} {perm : List Name} {s0 : Sys} (hr : s.rpc = .sTop node ∨ ∃ ret, s.rpc = .gLoop node ret)
      (hs : send inp s node perm = some s0) (r : RPC) : DispMove inp s { s0 with rpc := r }
  | dtick {perm : List Name} {s' : Sys} (haw : awaiting s) (hsu : s.susp = none) (hs : dtick inp s perm = some s') :
      DispMove inp s s'
  | status {s' : Sys} {n : Name} {nd : Node} (st' : RS) (hn : s.nodes n = some nd)
      (hat : (awaiting s ∧ s.susp = some (.node n)) ∨ s.rpc = .sExec n ∨ (s.rpc = .pTop ∧ n ∈ s.resQ))
      (e1 : s'.nodes = (setNode s n { nd with status := st' }).nodes) (e2 : s'.waiting = s.waiting)
      (e3 : s'.dispatched = s.dispatched) (e4 : s'.susp = s.susp) (e5 : s'.halt = s.halt) : DispMove inp s s'

theorem DispMove.same {s s' : Sys} {r : RPC} (e1 : s'.nodes = s.nodes) (e2 : s'.waiting = s.waiting)
    (e3 : s'.dispatched = s.dispatched) (e4 : s'.susp = s.susp) (e5 : s'.halt = s.halt) (hr : s.rpc = r)
    (hf : r ≠ .fin ∧ r ≠ .halted := by exact ⟨nofun, nofun⟩) : DispMove inp s s' :=
  .frame e1 e2 e3 e4 (Or.inl ⟨e5, fun h => (h.elim (hr ▸ hf.1) (hr ▸ hf.2)).elim⟩)

theorem DispMove.crash (s : Sys) : DispMove inp s (raise s .crash) := .frame rfl rfl rfl rfl (Or.inr ⟨rfl, Or.inl rfl⟩)

theorem DispMove.select {s s' : Sys} {n : Name} {nd : Node} (d : Sel) (haw : awaiting s)
    (hsu : s.susp = some (.node n)) (hn : s.nodes n = some nd) (e1 : s'.nodes = (applySel inp s n nd d).nodes)
    (e2 : s'.waiting = (applySel inp s n nd d).waiting) (e3 : s'.dispatched = (applySel inp s n nd d).dispatched)
    (e4 : s'.susp = (applySel inp s n nd d).susp) (e5 : s'.halt = (applySel inp s n nd d).halt)
    (hd : d ≠ .assertFail := by exact nofun) : DispMove inp s s' :=
  have k := applySel_keeps inp s n nd d
  .status (selStatus d) hn (Or.inl ⟨haw, hsu⟩) (e1.trans (applySel_nodes inp s n nd d hd)) (e2.trans k.waiting)
    (e3.trans k.dispatched) (e4.trans k.susp) (e5.trans k.halt)

/-- `s1`: `s` after runner bookkeeping only -/
theorem DispMove.result {s s' s1 : Sys} {n : Name} {nd : Node} (hn : s.nodes n = some nd)
    (hat : s.rpc = .sExec n ∨ (s.rpc = .pTop ∧ n ∈ s.resQ)) (e1 : s'.nodes = (processResult inp s1 n nd).nodes)
    (e2 : s'.waiting = (processResult inp s1 n nd).waiting)
    (e3 : s'.dispatched = (processResult inp s1 n nd).dispatched) (e4 : s'.susp = (processResult inp s1 n nd).susp)
    (e5 : s'.halt = (processResult inp s1 n nd).halt)
    (f : s1.nodes = s.nodes ∧ s1.waiting = s.waiting ∧ s1.dispatched = s.dispatched ∧ s1.susp = s.susp ∧
      s1.halt = s.halt := by exact ⟨rfl, rfl, rfl, rfl, rfl⟩) : DispMove inp s s' :=
  have k := processResult_keeps inp s1 n nd
  .status (resStatus (inp.outcome n)) hn (Or.inr hat)
    ((e1.trans (processResult_nodes inp s1 n nd)).trans (by funext k; simp only [setNode_nodes, f.1]))
    ((e2.trans k.waiting).trans f.2.1) ((e3.trans k.dispatched).trans f.2.2.1) ((e4.trans k.susp).trans f.2.2.2.1)
    ((e5.trans k.halt).trans f.2.2.2.2)

theorem serialStep_dispMove {s s' : Sys} {perm : List Name} (hs : serialStep inp s perm = some s') :
    DispMove inp s s' := by
  cases serialStep_spec hs with
  | stop hr _ => exact .same rfl rfl rfl rfl rfl hr
  | send hr _ hsd => exact .send (Or.inl hr) hsd _
  | tick hr hsu hd => exact .dtick (Or.inl hr) hsu hd
  | go hr hsu hn _ => exact .select .go (Or.inl hr) hsu hn rfl rfl rfl rfl rfl
  | select hr hsu hn _ _ hne => exact .select _ (Or.inl hr) hsu hn rfl rfl rfl rfl rfl hne
  | stopIter hr _ => exact .same rfl rfl rfl rfl rfl hr
  | cyclic _ hsu => exact .frame rfl rfl rfl rfl (Or.inr ⟨rfl, Or.inr ⟨_, hsu⟩⟩)
  | result hr hn => exact .result hn (Or.inl hr) rfl rfl rfl rfl rfl
  | finish _ => exact .frame rfl rfl rfl rfl (Or.inl ⟨rfl, fun _ => Or.inr rfl⟩)
  | _ => exact .crash s

theorem DispMove.worker {s s' : Sys} (e1 : s'.nodes = s.nodes) (e2 : s'.waiting = s.waiting)
    (e3 : s'.dispatched = s.dispatched) (e4 : s'.susp = s.susp) (e5 : s'.halt = s.halt) (e6 : s'.rpc = s.rpc) :
    DispMove inp s s' :=
  .frame e1 e2 e3 e4 (Or.inl ⟨e5, fun h => e6 ▸ h⟩)

theorem pstep_dispMove {s s' : Sys} {c : Choice} (hs : pstep inp s c = some s') : DispMove inp s s' := by
  cases c with
  | take w =>
    cases takeStep_spec hs with
    | task _ _ => simp only [startTask, setWorker]; exact .worker rfl rfl rfl rfl rfl rfl
    | _ => exact .worker rfl rfl rfl rfl rfl rfl
  | done w =>
    cases doneStep_spec hs with
    | done _ => exact .worker rfl rfl rfl rfl rfl rfl
  | main perm =>
    cases mainStep_spec hs with
    | entryStop hr _ => exact .same rfl rfl rfl rfl rfl hr
    | entry hr _ => exact .same rfl rfl rfl rfl rfl hr
    | send hr hsd => exact .send (Or.inr ⟨_, hr⟩) hsd _
    | tick hr hsu hd => exact .dtick (Or.inr ⟨_, hr⟩) hsu hd
    | go hr hsu hn _ => exact .select .go (Or.inr ⟨_, hr⟩) hsu hn rfl rfl rfl rfl rfl
    | select hr hsu hn _ _ hne => exact .select _ (Or.inr ⟨_, hr⟩) hsu hn rfl rfl rfl rfl rfl hne
    | holdOn hr _ => exact .same rfl rfl rfl rfl rfl hr
    | stopIter hr _ => exact .same rfl rfl rfl rfl rfl hr
    | cyclic _ hsu => exact .frame rfl rfl rfl rfl (Or.inr ⟨rfl, Or.inr ⟨_, hsu⟩⟩)
    | @ret job ret hr =>
      generalize hg : gReturn s job ret = g
      cases gReturn_row.of_eq hg with
      | noProc => exact .frame rfl rfl rfl rfl (Or.inr ⟨rfl, Or.inl rfl⟩)
      | _ => exact .same rfl rfl rfl rfl rfl hr
    | join hr _ => exact .same rfl rfl rfl rfl rfl hr
    | result hr _ hq hn =>
      exact .result hn (Or.inr ⟨hr, by rw [hq]; exact List.mem_cons_self⟩) rfl rfl rfl rfl rfl
    | joined hr _ => exact .same rfl rfl rfl rfl rfl hr
    | finish _ => exact .frame rfl rfl rfl rfl (Or.inl ⟨rfl, fun _ => Or.inr rfl⟩)
    | _ => exact .crash s

end DoitModel.Run
