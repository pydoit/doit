import DoitModel.Model.Act
/-! List bookkeeping of the base stream machine.  The model declares events, forests and `WN` once per machine
    (`Act`, `Act.Fwd`, `Act.Mode`), so these facts exist once per machine. -/
namespace DoitModel.Act

theorem run_append (s : St) (xs ys : List Ev) : run s (xs ++ ys) = run (run s xs) ys :=
  List.foldl_append ..

theorem run_cons (s : St) (e : Ev) (xs : List Ev) : run s (e :: xs) = run (step s e) xs := rfl

theorem writesOf_append (a : Act) (xs ys : List Ev) :
    writesOf a (xs ++ ys) = writesOf a xs ++ writesOf a ys := by
  induction xs with
  | nil => rfl
  | cons e xs ih =>
    cases e with
    | write b n =>
      by_cases hb : b = a <;> simp only [List.cons_append, writesOf, hb, if_true, if_false, ih]
    | _ => exact ih

theorem started_append (xs ys : List Ev) : started (xs ++ ys) = started xs ++ started ys := by
  induction xs with
  | nil => rfl
  | cons e xs ih =>
    cases e with
    | save b => exact congrArg (b :: ·) ih
    | _ => exact ih

theorem writesOf_exec (c b : Act) (body rest : List Ev) :
    writesOf c ([.save b, .set b] ++ body ++ [.restore b, .read b] ++ rest) =
      writesOf c body ++ writesOf c rest := by
  simp only [writesOf_append, writesOf, List.append_nil, List.nil_append]

theorem started_exec (b : Act) (body rest : List Ev) :
    started ([.save b, .set b] ++ body ++ [.restore b, .read b] ++ rest) =
      b :: (started body ++ started rest) := by
  simp only [started_append, started, List.append_nil, List.cons_append, List.nil_append]

theorem wn_writes {o : Option Act} {evs : List Ev} (h : WN o evs) :
    ∀ c, o ≠ some c → c ∉ started evs → writesOf c evs = [] := by
  induction h with
  | nil o => intros; rfl
  | write a n rest _ ih =>
    intro c hc hs
    exact (if_neg fun e => hc (congrArg some e)).trans (ih c hc hs)
  | exec o b body rest _ _ ihb ihr =>
    intro c hc hs
    rw [started_exec, List.mem_cons, List.mem_append, not_or, not_or] at hs
    rw [writesOf_exec, ihb c (fun e => hs.1 (Option.some.inj e).symm) hs.2.1, ihr c hc hs.2.2]
    rfl

end DoitModel.Act
