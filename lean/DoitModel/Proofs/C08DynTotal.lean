import DoitModel.Proofs.C08DynDen
/-! # C08 (I10) with calc_dep: the denotation `Dyn.DenOf` is total on finite acyclic graphs

`Ranked`, `Dep`, `CalcAny` are copies of `Ranked`, `Dep`, `CalcOf` of `Proofs/C09Dep.lean` (that file and `Proofs/C08DenF.lean`
both define a `Run.Acyclic` and cannot be imported together; no lemma relates the copies).  `Dep` has every edge that CAN
be delivered; the ones the denotation reads (`Dyn.DepOf`) are among them. -/
namespace DoitModel.Run.Dyn

inductive CalcAny (inp : RunInput) (n : Name) : Name → Prop
  | base {c : Name} : c ∈ inp.calcDep n → CalcAny inp n c
  | res {p c : Name} : CalcAny inp n p → c ∈ (inp.calcRes p).calcs → CalcAny inp n c
  | resFail {p c : Name} : CalcAny inp n p → c ∈ (inp.calcResFail p).calcs → CalcAny inp n c

inductive Dep (inp : RunInput) : Name → Name → Prop
  | task {n d : Name} : d ∈ inp.taskDep n → Dep inp n d
  | ofCalc {n c : Name} : CalcAny inp n c → Dep inp n c
  | setup {n d : Name} : d ∈ inp.setup n → Dep inp n d
  | resT {n p d : Name} : CalcAny inp n p → d ∈ (inp.calcRes p).tasks → Dep inp n d
  | resF {n p d : Name} : CalcAny inp n p → d ∈ (inp.calcRes p).files → Dep inp n d
  | resTFail {n p d : Name} : CalcAny inp n p → d ∈ (inp.calcResFail p).tasks → Dep inp n d
  | resFFail {n p d : Name} : CalcAny inp n p → d ∈ (inp.calcResFail p).files → Dep inp n d

def Ranked (inp : RunInput) (rank : Name → Nat) : Prop := ∀ n d, Dep inp n d → rank d < rank n

theorem CalcOf.toDep {inp : RunInput} {dd : Name → Den} {n c : Name} (h : CalcOf inp dd n c) : CalcAny inp n c := by
  induction h with
  | static hc => exact CalcAny.base hc
  | @deliv c x _ hm ih =>
    rcases delivOf_cases inp c (dd c) with ⟨_, e⟩ | ⟨_, _, e⟩ | e <;> rw [e] at hm
    · exact CalcAny.res ih hm
    · exact CalcAny.resFail ih hm
    · cases hm

theorem DepOf.toDep {inp : RunInput} {dd : Name → Den} {n x : Name} (h : DepOf inp dd n x) : Dep inp n x := by
  rcases h with a | a | ⟨c, hc, m⟩
  · exact Dep.task a
  · exact Dep.ofCalc a.toDep
  · rcases delivOf_cases inp c (dd c) with ⟨_, e⟩ | ⟨_, _, e⟩ | e <;> rw [e] at m
    · rcases m with m | m
      · exact Dep.resT hc.toDep m
      · exact Dep.resF hc.toDep m
    · rcases m with m | m
      · exact Dep.resTFail hc.toDep m
      · exact Dep.resFFail hc.toDep m
    · rcases m with m | m <;> cases m

/-- on an acyclic graph whose dependency edges stay below `N`, every task has a derived outcome (and by
    `DenOf.functional` exactly one) -/
theorem DenOf_total {inp : RunInput} {rank : Name → Nat} (hr : Ranked inp rank) (N : Nat)
    (hN : ∀ n d, Dep inp n d → d < N) : ∀ n, ∃ d, DenOf inp n d := by
  have key : ∀ k n, rank n < k → ∃ d, DenOf inp n d := by
    intro k
    induction k with
    | zero => intro n h; omega
    | succ k ih =>
      intro n hn
      classical
      let dd : Name → Den := fun x => if h : ∃ d, DenOf inp x d then Classical.choose h else .bot
      have hdd : ∀ x, Dep inp n x → DenOf inp x (dd x) := by
        intro x hx
        have hx' : ∃ d, DenOf inp x d := ih x (by have := hr n x hx; omega)
        show DenOf inp x (if h : ∃ d, DenOf inp x d then Classical.choose h else .bot)
        rw [dif_pos hx']; exact Classical.choose_spec hx'
      let L : List Name := (List.range N).filter (fun x => decide (DepOf inp dd n x))
      have hL : ∀ x, x ∈ L ↔ DepOf inp dd n x := by
        intro x
        simp only [L, List.mem_filter, List.mem_range, decide_eq_true_eq]
        exact ⟨fun h => h.2, fun h => ⟨hN n x h.toDep, h⟩⟩
      exact ⟨_, DenOf.mk n dd L hL (fun d hd => hdd d ((hL d).mp hd).toDep) (fun _ d hd => hdd d (Dep.setup hd))⟩
  intro n
  exact key (rank n + 1) n (Nat.lt_succ_self _)

end DoitModel.Run.Dyn
