import DoitModel.Proofs.Act
/-! The frame lemma of the base stream machine, by induction over `WN` (a stack discipline).  It is not obtained from
    `Mode.frame` as the frame of `Fwd` is: the conclusions here are exact (`out = writesOf`, original log unchanged),
    `Mode` only speaks of the own tokens of a buffer. -/
namespace DoitModel.Act

theorem run_exec (s : St) (b : Act) (body rest : List Ev) :
    run s ([.save b, .set b] ++ body ++ [.restore b, .read b] ++ rest) =
      run (step (step (run (step (step s (.save b)) (.set b)) body) (.restore b)) (.read b)) rest := by
  simp only [run_append]; rfl

structure Frame (evs : List Ev) (s s' : St) : Prop where
  cell : s'.cell = s.cell
  unbound : s'.unbound = s.unbound
  orig : s'.origLog = s.origLog
  outs : ∀ b, b ∈ started evs → s'.out b = some (writesOf b evs)
  buf : ∀ c, c ∉ started evs → s'.buf c = s.buf c ++ writesOf c evs
  keepOut : ∀ c, c ∉ started evs → s'.out c = s.out c
  keepSaved : ∀ c, c ∉ started evs → s'.saved c = s.saved c

theorem emit_writer (s : St) (a : Act) (t : Tok) (h : s.cell = .writer a) :
    emit s t = { s with buf := upd s.buf a (s.buf a ++ [t]) } := by
  unfold emit; rw [h]

theorem wn_frame {o : Option Act} {evs : List Ev} (h : WN o evs) :
    ∀ s : St, (started evs).Nodup → (∀ b, b ∈ started evs → s.buf b = []) →
      (∀ a, o = some a → s.cell = .writer a ∧ a ∉ started evs) →
      Frame evs s (run s evs) := by
  induction h with
  | nil o =>
    intro s _ _ _
    exact ⟨rfl, rfl, rfl, fun _ hb => (nomatch hb), fun _ _ => (List.append_nil _).symm, fun _ _ => rfl, fun _ _ => rfl⟩
  | write a n rest _ ih =>
    intro s hn hb ho
    obtain ⟨hcell, hna⟩ := ho a rfl
    have hs1 : step s (.write a n) = { s with buf := upd s.buf a (s.buf a ++ [(a, n)]) } :=
      emit_writer s a _ hcell
    have F := ih (step s (.write a n)) hn
      (fun b hbm => by rw [hs1]; exact (if_neg fun (e : b = a) => hna (e ▸ hbm)).trans (hb b hbm))
      (fun a' ha' => by cases ha'; exact ⟨by rw [hs1]; exact hcell, hna⟩)
    rw [run_cons]
    rw [hs1] at F ⊢
    refine ⟨F.cell, F.unbound, F.orig, fun b hbm => ?_, fun c hc => ?_, F.keepOut, F.keepSaved⟩
    · exact (F.outs b hbm).trans (congrArg some (if_neg fun (e : a = b) => hna (e ▸ hbm)).symm)
    · rw [F.buf c hc]
      by_cases hca : c = a
      · cases hca
        exact (congrArg (· ++ _) (if_pos rfl)).trans
          ((List.append_assoc ..).trans (congrArg (s.buf a ++ ·) (if_pos rfl).symm))
      · exact (congrArg (· ++ _) (if_neg hca)).trans (congrArg (s.buf c ++ ·) (if_neg (Ne.symm hca)).symm)
  | exec o b body rest hbody hrest ihb ihr =>
    intro s hn hbuf ho
    rw [started_exec] at hn hbuf
    obtain ⟨hnb, hnBR⟩ := List.nodup_cons.mp hn
    rw [List.mem_append, not_or] at hnb
    obtain ⟨hnB, hnR, hdisj⟩ := List.nodup_append.mp hnBR
    have howner : ∀ x, o = some x → x ≠ b ∧ x ∉ started body ∧ x ∉ started rest := fun x hx => by
      have := (ho x hx).2
      rwa [started_exec, List.mem_cons, List.mem_append, not_or, not_or] at this
    have hwb : ∀ x, x ≠ b → x ∉ started body → writesOf x body = [] := fun x hx hxB =>
      wn_writes hbody x (fun e => hx (Option.some.inj e).symm) hxB
    have hinB : ∀ x, x ∈ started body → x ≠ b ∧ x ∉ started rest := fun x hx =>
      ⟨fun e => hnb.1 (e ▸ hx), fun hx' => hdisj x hx x hx' rfl⟩
    have hinR : ∀ x, x ∈ started rest → x ≠ b ∧ x ∉ started body := fun x hx =>
      ⟨fun e => hnb.2 (e ▸ hx), fun hx' => hdisj x hx' x hx rfl⟩
    -- after `save b; set b`: the cell holds `b`'s writer, the saved stream is the one found
    have F1 := ihb (step (step s (.save b)) (.set b)) hnB
      (fun x hx => hbuf x (List.mem_cons_of_mem _ (List.mem_append_left _ hx)))
      (fun a' ha' => by cases ha'; exact ⟨rfl, hnb.1⟩)
    generalize hs2 : run (step (step s (.save b)) (.set b)) body = s2 at F1
    have hsaved : s2.saved b = some s.cell := (F1.keepSaved b hnb.1).trans (if_pos rfl)
    -- so `restore b; read b` puts it back and publishes the buffer
    have hs3 : step (step s2 (.restore b)) (.read b) =
        { s2 with cell := s.cell, out := upd s2.out b (some (s2.buf b)) } := by
      simp only [step, hsaved, restoreTo]
    have hbufb : s2.buf b = writesOf b body :=
      (F1.buf b hnb.1).trans (congrArg (· ++ writesOf b body) (hbuf b (List.mem_cons_self ..)))
    have F2 := ihr (step (step s2 (.restore b)) (.read b)) hnR
      (fun x hx => by
        rw [hs3]
        refine (F1.buf x (hinR x hx).2).trans ?_
        rw [hwb x (hinR x hx).1 (hinR x hx).2, List.append_nil]
        exact hbuf x (List.mem_cons_of_mem _ (List.mem_append_right _ hx)))
      (fun a' ha' => ⟨by rw [hs3]; exact (ho a' ha').1, (howner a' ha').2.2⟩)
    rw [run_exec, hs2]
    generalize hs4 : run (step (step s2 (.restore b)) (.read b)) rest = s4 at F2
    rw [hs3] at F2
    refine ⟨F2.cell, F2.unbound.trans F1.unbound, F2.orig.trans F1.orig, fun x hx => ?_, fun c hc => ?_,
      fun c hc => ?_, fun c hc => ?_⟩
    · rw [started_exec] at hx
      rw [writesOf_exec]
      rcases List.mem_cons.mp hx with hxb | hx
      · cases hxb
        rw [F2.keepOut b hnb.2, wn_writes hrest b (fun e => (howner b e).1 rfl) hnb.2, List.append_nil, ← hbufb]
        exact if_pos rfl
      · rcases List.mem_append.mp hx with hxB | hxR
        · rw [F2.keepOut x (hinB x hxB).2, wn_writes hrest x (fun e => (howner x e).2.1 hxB) (hinB x hxB).2,
            List.append_nil]
          exact (if_neg (hinB x hxB).1).trans (F1.outs x hxB)
        · rw [F2.outs x hxR, hwb x (hinR x hxR).1 (hinR x hxR).2, List.nil_append]
    all_goals rw [started_exec, List.mem_cons, List.mem_append, not_or, not_or] at hc
    · rw [writesOf_exec, F2.buf c hc.2.2, ← List.append_assoc]
      exact congrArg (· ++ _) (F1.buf c hc.2.1)
    · exact (F2.keepOut c hc.2.2).trans ((if_neg hc.1).trans (F1.keepOut c hc.2.1))
    · exact (F2.keepSaved c hc.2.2).trans ((F1.keepSaved c hc.2.1).trans (if_neg hc.1))

theorem flatten_wn (f : Forest) : ∀ o, WN o (flatten o f) := by
  induction f with
  | nil => intro o; cases o <;> exact WN.nil _
  | write n rest ih =>
    intro o
    cases o with
    | none => exact ih none
    | some a => exact WN.write a n _ (ih (some a))
  | exec b body rest ihb ihr =>
    intro o
    cases o <;> exact WN.exec _ b _ _ (ihb (some b)) (ihr _)
  | kw b rest ih =>
    intro o
    cases o <;> exact ih _

theorem wn_is_forest {o : Option Act} {evs : List Ev} (h : WN o evs) : ∃ f : Forest, flatten o f = evs := by
  induction h with
  | nil o => exact ⟨.nil, by cases o <;> rfl⟩
  | write a n rest _ ih =>
    obtain ⟨f, rfl⟩ := ih
    exact ⟨.write n f, rfl⟩
  | exec o b body rest _ _ ihb ihr =>
    obtain ⟨fb, rfl⟩ := ihb
    obtain ⟨fr, rfl⟩ := ihr
    exact ⟨.exec b fb fr, by cases o <;> rfl⟩

end DoitModel.Act
