import DoitModel.Model.Report
/-! # C19 helper lemmas: `final_result` as a function of the failure kinds; the FIFO forwarding queue -/
namespace DoitModel.Report
open DoitModel.Run

theorem exitSpec_nil : exitSpec [] = 0 := rfl

theorem exitSpec_cases (ks : List FailKind) :
    (ks = [] ∧ exitSpec ks = 0) ∨ (ks ≠ [] ∧ (∀ k ∈ ks, k = FailKind.failed) ∧ exitSpec ks = 1) ∨
    ((∃ k ∈ ks, k ≠ FailKind.failed) ∧ exitSpec ks = 2) := by
  unfold exitSpec
  by_cases h0 : ks = []
  · exact Or.inl ⟨h0, if_pos h0⟩
  rw [if_neg h0]
  cases hall : ks.all (fun k => k == .failed) with
  | true => exact Or.inr (Or.inl ⟨h0, by simpa using hall, rfl⟩)
  | false =>
    obtain ⟨k, hk, hne⟩ := List.all_eq_false.mp hall
    exact Or.inr (Or.inr ⟨⟨k, hk, by simpa using hne⟩, rfl⟩)

theorem exitSpec_eq_zero {ks : List FailKind} : exitSpec ks = 0 ↔ ks = [] := by
  rcases exitSpec_cases ks with ⟨a, b⟩ | ⟨_, _, b⟩ | ⟨⟨k, hk, _⟩, b⟩
  · exact ⟨fun _ => a, fun _ => b⟩
  · exact ⟨fun h => by omega, fun h => by rw [h] at b; cases b⟩
  · exact ⟨fun h => by omega, fun h => by rw [h] at hk; cases hk⟩

theorem exitSpec_eq_one {ks : List FailKind} : exitSpec ks = 1 ↔ ks ≠ [] ∧ ∀ k ∈ ks, k = .failed := by
  rcases exitSpec_cases ks with ⟨a, b⟩ | ⟨a, a2, b⟩ | ⟨⟨k, hk, hne⟩, b⟩
  · exact ⟨fun h => by omega, fun h => absurd a h.1⟩
  · exact ⟨fun _ => ⟨a, a2⟩, fun _ => b⟩
  · exact ⟨fun h => by omega, fun h => absurd (h.2 k hk) hne⟩

theorem exitSpec_eq_two {ks : List FailKind} : exitSpec ks = 2 ↔ ∃ k ∈ ks, k ≠ .failed := by
  rcases exitSpec_cases ks with ⟨a, b⟩ | ⟨a, a2, b⟩ | ⟨hex, b⟩
  · exact ⟨fun h => by omega, fun ⟨k, hk, _⟩ => by rw [a] at hk; cases hk⟩
  · exact ⟨fun h => by omega, fun ⟨k, hk, hne⟩ => absurd (a2 k hk) hne⟩
  · exact ⟨fun _ => hex, fun _ => b⟩

theorem exitSpec_le_two (ks : List FailKind) : exitSpec ks ≤ 2 := by
  rcases exitSpec_cases ks with ⟨_, b⟩ | ⟨_, _, b⟩ | ⟨_, b⟩ <;> omega

theorem exitSpec_cons (k : FailKind) (ks : List FailKind) :
    exitSpec (k :: ks) = finalAfter (exitSpec ks) k := by
  rcases exitSpec_cases ks with ⟨rfl, _⟩ | ⟨_, a2, b⟩ | ⟨⟨x, hx, hne⟩, b⟩
  · cases k <;> rfl
  · rw [b]
    by_cases hk : k = .failed
    · rw [hk]
      exact exitSpec_eq_one.mpr ⟨nofun, fun y hy => (List.mem_cons.mp hy).elim id (a2 y)⟩
    · rw [exitSpec_eq_two.mpr ⟨k, List.mem_cons_self, hk⟩]
      exact (if_neg fun h => hk h.1).symm
  · rw [b, exitSpec_eq_two.mpr ⟨x, List.mem_cons_of_mem _ hx, hne⟩]
    exact (if_neg fun h => h.2 rfl).symm

/-- the fold performed by `_handle_task_error`, one failure at a time, computes `exitSpec` of the kinds reported -/
theorem finalEv_eq_spec (evs : List Ev) : finalEv evs = exitSpec (failKinds evs) := by
  induction evs with
  | nil => rfl
  | cons e post ih =>
    cases e <;> simp only [finalEv, failKinds, ih]
    rw [exitSpec_cons]

theorem exitSpec_congr {ks ks' : List FailKind} (h : ∀ k, k ∈ ks ↔ k ∈ ks') : exitSpec ks = exitSpec ks' := by
  have h0 : ks = [] → ks' = [] := fun e => List.eq_nil_iff_forall_not_mem.mpr fun k hk => by
    rw [← h, e] at hk; cases hk
  rcases exitSpec_cases ks with ⟨a, b⟩ | ⟨a, a2, b⟩ | ⟨⟨k, hk, hne⟩, b⟩
  · rw [b, exitSpec_eq_zero.mpr (h0 a)]
  · rw [b, exitSpec_eq_one.mpr ⟨fun e => a (List.eq_nil_iff_forall_not_mem.mpr fun k hk => by
      rw [h, e] at hk; cases hk), fun k hk => a2 k ((h k).mpr hk)⟩]
  · rw [b, exitSpec_eq_two.mpr ⟨k, (h k).mp hk, hne⟩]

theorem exitSpec_perm {ks ks' : List FailKind} (h : ks.Perm ks') : exitSpec ks = exitSpec ks' :=
  exitSpec_congr fun _ => h.mem_iff

/-- state of one producer: it still has to put `workerMsgs ns`, possibly after the result of a task whose
    `execute_task` report is already among the delivered messages -/
def ProdOK (delivered : List Msg) (q : List Msg) : Prop :=
  (∃ ns, q = workerMsgs ns) ∨ (∃ n ns, q = .res n :: workerMsgs ns ∧ Msg.rep n ∈ delivered)

theorem merge_rep_before_res {qs : Nat → List Msg} {q : List Msg} (hm : Merge qs q) :
    ∀ delivered, (∀ w, ProdOK delivered (qs w)) →
      ∀ pre post n, q = pre ++ Msg.res n :: post → Msg.rep n ∈ delivered ++ pre := by
  induction hm with
  | nil h => intro d _ pre post n e; cases pre <;> cases e
  | @cons qs m q w rest hw _ ih =>
    intro d hp pre post n e
    have step : ∀ k, ProdOK (d ++ [m]) (if k = w then rest else qs k) := by
      intro k
      by_cases hk : k = w
      · subst hk; simp only [if_true]
        rcases hp k with ⟨ns, e1⟩ | ⟨n1, ns, e1, hin⟩
        · rw [hw] at e1
          cases ns with
          | nil => cases e1
          | cons a ns =>
            simp only [workerMsgs] at e1
            injection e1 with e2 e3
            subst e2; subst e3
            exact Or.inr ⟨a, ns, rfl, by simp⟩
        · rw [hw] at e1; injection e1 with e2 e3
          subst e3; exact Or.inl ⟨ns, rfl⟩
      · simp only [hk, if_false]
        rcases hp k with ⟨ns, e1⟩ | ⟨n1, ns, e1, hin⟩
        · exact Or.inl ⟨ns, e1⟩
        · exact Or.inr ⟨n1, ns, e1, by simp [hin]⟩
    cases pre with
    | nil =>
      simp only [List.nil_append] at e
      injection e with e1 e2
      subst e1
      rcases hp w with ⟨ns, e3⟩ | ⟨n1, ns, e3, hin⟩
      · rw [hw] at e3; cases ns with
        | nil => cases e3
        | cons a ns => simp only [workerMsgs] at e3; injection e3 with e4 _; cases e4
      · rw [hw] at e3; injection e3 with e4 _; injection e4 with e5; subst e5; simpa using hin
    | cons p pre =>
      simp only [List.cons_append] at e
      injection e with e1 e2
      subst e1
      have := ih (d ++ [m]) step pre post n e2
      simpa [List.append_assoc] using this

end DoitModel.Report
