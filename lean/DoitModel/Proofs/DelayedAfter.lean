import DoitModel.Proofs.Delayed
/-! # Delayed creation: the "after its trigger" invariant

`NodeB` (the I2/I4 invariant of the run model restricted to task_dep edges): every dependency of the task a node holds
is pending, awaited or finished; the loader section is reached with nothing pending and nothing awaited.  With "a
finished status has its report in the trace" and "a placeholder depends on its creator's triggers" this gives
`afterOK`.  `AfterInv` also carries `CountOK`: it moves with the same status changes, and `C15Obey*` builds on it. -/
namespace DoitModel.Delayed
open DoitModel.Run (RS Name)

def finOf (s : Sys) (d : Name) : Bool := (stOf s d).finished

def NodeB (fin : Name → Bool) (nd : Node) : Prop :=
  (∀ d ∈ nd.task.deps,
      d ∈ nd.pend ∨ ((∃ ds, nd.pc = .taskIter ds) ∧ d ∈ nd.snap) ∨ d ∈ nd.waitRun ∨ fin d = true) ∧
  (nd.pc = .loaderPc → nd.pend = [] ∧ nd.waitRun = [])

/-- a task that carries a loader object depends on every trigger of that loader's creator -/
def TrigIn (inp : Input) (td : TDef) : Prop :=
  ∀ l, td.loader = some l → ∀ d ∈ trigOf inp (inp.creatorOf l), d ∈ td.deps

/-- once-only bookkeeping over (status map, trace) -/
structure CountOK (st : Name → RS) (ev : List Ev) : Prop where
  fresh : ∀ n, st n = .none → ∀ e ∈ ev, e ≠ Ev.start n
  noRep : ∀ n, (st n).finished = false → ∀ e ∈ ev, e.reports n = false
  cntS : ∀ n, ev.count (Ev.start n) ≤ 1
  cntR : ∀ n, ev.countP (Ev.reports n) ≤ 1

def updSt (st : Name → RS) (n : Name) (x : RS) : Name → RS := fun k => if k = n then x else st k

theorem updSt_cases (st : Name → RS) (n : Name) (x : RS) (m : Name) :
    (m = n ∧ updSt st n x m = x) ∨ (m ≠ n ∧ updSt st n x m = st m) := by
  by_cases e : m = n
  · exact Or.inl ⟨e, if_pos e⟩
  · exact Or.inr ⟨e, if_neg e⟩

theorem CountOK.cons {st st' : Name → RS} {ev : List Ev} (h : CountOK st ev) (e : Ev)
    (h0 : ∀ m, st' m = .none → st m = .none ∧ e ≠ .start m)
    (h1 : ∀ m, (st' m).finished = false → (st m).finished = false ∧ e.reports m = false)
    (hS : ∀ m, e = .start m → st m = .none) (hR : ∀ m, e.reports m = true → (st m).finished = false) :
    CountOK st' (e :: ev) := by
  refine ⟨fun m hm e' he' => ?_, fun m hm e' he' => ?_, fun m => ?_, fun m => ?_⟩
  · rcases List.mem_cons.mp he' with rfl | h2
    · exact (h0 m hm).2
    · exact h.fresh m (h0 m hm).1 e' h2
  · rcases List.mem_cons.mp he' with rfl | h2
    · exact (h1 m hm).2
    · exact h.noRep m (h1 m hm).1 e' h2
  · by_cases he : e = .start m
    · have : ev.count (.start m) = 0 := List.count_eq_zero.mpr fun hmem => h.fresh m (hS m he) _ hmem rfl
      subst he; simp [this]
    · have : (e == Ev.start m) = false := by simpa using he
      rw [List.count_cons, this]; simpa using h.cntS m
  · rw [List.countP_cons]
    by_cases hr : e.reports m = true
    · have : ev.countP (Ev.reports m) = 0 := by
        rw [List.countP_eq_zero]; intro e' he'; simp [h.noRep m (hR m hr) e' he']
      rw [this]; split <;> simp
    · have : e.reports m = false := by simpa using hr
      simp [this]; exact h.cntR m

theorem CountOK.creator {st : Name → RS} {ev : List Ev} (h : CountOK st ev) (c : CId) :
    CountOK st (Ev.creator c :: ev) :=
  h.cons _ (fun _ hm => ⟨hm, nofun⟩) (fun _ hm => ⟨hm, rfl⟩) nofun (fun _ hm => by cases hm)

theorem CountOK.start {st : Name → RS} {ev : List Ev} (h : CountOK st ev) {n : Name} (hn : st n = .none) :
    CountOK (updSt st n .run) (Ev.start n :: ev) := by
  refine h.cons _ (fun m hm => ?_) (fun m hm => ?_) (fun m he => by cases he; exact hn) (fun _ hm => by cases hm)
  · rcases updSt_cases st n .run m with ⟨_, e⟩ | ⟨hmn, e⟩ <;> rw [e] at hm
    · cases hm
    · exact ⟨hm, fun he => hmn (by cases he; rfl)⟩
  · rcases updSt_cases st n .run m with ⟨rfl, e⟩ | ⟨_, e⟩
    · exact ⟨by rw [hn]; rfl, rfl⟩
    · exact ⟨e ▸ hm, rfl⟩

theorem CountOK.report {st : Name → RS} {ev : List Ev} (h : CountOK st ev) {n : Name} {e : Ev} {x : RS}
    (hn : (st n).finished = false) (hfin : x.finished = true) (he : ∀ m, e ≠ Ev.start m)
    (hr : ∀ m, e.reports m = true → m = n) : CountOK (updSt st n x) (e :: ev) := by
  refine h.cons _ (fun m hm => ?_) (fun m hm => ?_) (fun m he' => absurd he' (he m)) (fun m hrm => hr m hrm ▸ hn)
  · rcases updSt_cases st n x m with ⟨_, e1⟩ | ⟨_, e1⟩ <;> rw [e1] at hm
    · rw [hm] at hfin; cases hfin
    · exact ⟨hm, he m⟩
  · rcases updSt_cases st n x m with ⟨_, e1⟩ | ⟨hmn, e1⟩ <;> rw [e1] at hm
    · rw [hfin] at hm; cases hm
    · exact ⟨hm, Bool.eq_false_iff.mpr fun hrm => hmn (hr m hrm)⟩

/-- the status changes of a node and the event each of them writes -/
inductive StatusMove (n : Name) : RS → RS → Ev → Prop
  | unmet : StatusMove n .none .fail (.unmet n)
  | skip : StatusMove n .none .utd (.skipUtd n)
  | start : StatusMove n .none .run (.start n)
  | failure : StatusMove n .run .fail (.failure n)
  | success : StatusMove n .run .ok (.success n)

theorem StatusMove.count {n : Name} {a x : RS} {e : Ev} {st : Name → RS} {ev : List Ev} (hm : StatusMove n a x e)
    (h : CountOK st ev) (hs : st n = a) : CountOK (updSt st n x) (e :: ev) := by
  cases hm
  case start => exact h.start hs
  all_goals exact h.report (by rw [hs]; rfl) rfl nofun fun m hm => by simpa [Ev.reports, eq_comm] using hm

structure AfterInv (inp : Input) (s : Sys) : Prop where
  node : ∀ n nd, s.nodes n = some nd → NodeB (finOf s) nd ∧ TrigIn inp nd.task
  tab : ∀ n td, s.tasks n = some td → TrigIn inp td
  rep : ∀ d, finOf s d = true → s.events.any (Ev.reports d) = true
  aft : afterOK (trigOf inp) s.events = true
  cnt : CountOK (stOf s) s.events

/-- where a dependency of a node's task stands; `NodeB` (`ok` = finished) and `NodeG` (`ok` = good, node not marked
    bad) ask it of every dependency: `nodeB_iff`, `nodeG_iff` -/
def DepAt (ok : Name → Bool) (nd : Node) (d : Name) : Prop :=
  d ∈ nd.pend ∨ ((∃ ds, nd.pc = .taskIter ds) ∧ d ∈ nd.snap) ∨ d ∈ nd.waitRun ∨ ok d = true

variable {ok : Name → Bool} {nd : Node} {d : Name}

theorem DepAt.mono {ok' : Name → Bool} (hm : ∀ d, ok d = true → ok' d = true)
    (h : DepAt ok nd d) : DepAt ok' nd d :=
  Or.imp_right (Or.imp_right (Or.imp_right (hm d))) h

theorem DepAt.pc (pc' : PC) (h1 : ¬ ∃ ds, nd.pc = .taskIter ds)
    (h : DepAt ok nd d) : DepAt ok { nd with pc := pc' } d :=
  Or.imp_right (fun h3 => Or.inr (h3.resolve_left fun h3 => h1 h3.1)) h

theorem DepAt.iter (ds : List Name) (h : DepAt ok nd d) :
    DepAt ok { nd with pc := .taskIter ds } d :=
  Or.imp_right (Or.imp_left fun h1 => ⟨⟨ds, rfl⟩, h1.2⟩) h

/-- the snapshot takes what was pending; nothing was in a snapshot before -/
theorem DepAt.loop (hpc : nd.pc = .loopTop) (h : DepAt ok nd d) :
    DepAt ok { nd with snap := nd.pend, pend := [], pc := .taskIter nd.pend } d := by
  rcases h with h3 | h3 | h3
  · exact Or.inr (Or.inl ⟨⟨_, rfl⟩, h3⟩)
  · rw [hpc] at h3; obtain ⟨⟨_, e⟩, _⟩ := h3; cases e
  · exact Or.inr (Or.inr h3)

/-- `_node_add_wait_run` -/
theorem DepAt.wait (f : Name → Bool) (b : Bool) (pc' : PC)
    (hs : d ∈ nd.snap → f d = false → ok d = true) (h : DepAt ok nd d) :
    DepAt ok { nd with waitRun := nd.snap.filter f ++ nd.waitRun, bad := b, pc := pc' } d := by
  rcases h with h1 | h1 | h1 | h1
  · exact Or.inl h1
  · cases hf : f d with
    | true => exact Or.inr (Or.inr (Or.inl (List.mem_append_left _ (List.mem_filter.mpr ⟨h1.2, hf⟩))))
    | false => exact Or.inr (Or.inr (Or.inr (hs h1.2 hf)))
  · exact Or.inr (Or.inr (Or.inl (List.mem_append_right _ h1)))
  · exact Or.inr (Or.inr (Or.inr h1))

theorem DepAt.woken (pst : RS) (p : Name) (hp : d = p → ok p = true)
    (h : DepAt ok nd d) : DepAt ok (wokenNode pst p nd) d := by
  rcases h with h1 | h1 | h1 | h1
  · exact Or.inl h1
  · exact Or.inr (Or.inl h1)
  · by_cases hdp : d = p
    · exact Or.inr (Or.inr (Or.inr (by rw [hdp]; exact hp hdp)))
    · exact Or.inr (Or.inr (Or.inl (List.mem_filter.mpr ⟨h1, by simpa using hdp⟩)))
  · exact Or.inr (Or.inr (Or.inr h1))

theorem nodeB_iff {fin : Name → Bool} : NodeB fin nd ↔
    (∀ d ∈ nd.task.deps, DepAt fin nd d) ∧ (nd.pc = .loaderPc → nd.pend = [] ∧ nd.waitRun = []) := Iff.rfl

theorem NodeB.mono {fin fin' : Name → Bool} {nd : Node} (h : NodeB fin nd) (hm : ∀ d, fin d = true → fin' d = true) :
    NodeB fin' nd :=
  nodeB_iff.mpr ⟨fun d hd => ((nodeB_iff.mp h).1 d hd).mono hm, h.2⟩

theorem stOf_setNode (s : Sys) (n : Name) (x : Node) (d : Name) :
    stOf (setNode s n x) d = if d = n then x.status else stOf s d := by
  by_cases h : d = n <;> simp [stOf, setNode, h]

theorem stOf_node {s : Sys} {n : Name} {nd : Node} (hn : s.nodes n = some nd) : stOf s n = nd.status := by
  unfold stOf; rw [hn]

theorem stOf_none {s : Sys} {n : Name} (hn : s.nodes n = none) : stOf s n = .none := by
  unfold stOf; rw [hn]

theorem stOf_setNode_eq {s : Sys} {n : Name} {x : Node} (hst : x.status = stOf s n) : stOf (setNode s n x) = stOf s := by
  funext d
  rw [stOf_setNode]
  by_cases e : d = n
  · rw [if_pos e, hst, e]
  · rw [if_neg e]

theorem stOf_registerWaiting (s : Sys) (n : Name) (wf : List Name) (d : Name) :
    stOf (registerWaiting s n wf) d = stOf s d := by
  unfold stOf
  rcases registerWaiting_node s n wf d with ⟨h0, h1⟩ | ⟨x, w, h0, h1⟩ <;> rw [h0, h1]

theorem finOf_of_stOf {s s' : Sys} (h : stOf s' = stOf s) : finOf s' = finOf s := by
  funext d; simp only [finOf, h]

theorem AfterInv.of_nodes {inp : Input} {s s' : Sys} (h : AfterInv inp s) (hst : stOf s' = stOf s)
    (hev : s'.events = s.events) (hnode : ∀ n nd, s'.nodes n = some nd → NodeB (finOf s) nd ∧ TrigIn inp nd.task)
    (htab : ∀ n td, s'.tasks n = some td → TrigIn inp td) : AfterInv inp s' := by
  have hf := finOf_of_stOf hst
  refine ⟨fun n nd hn => ?_, htab, fun d hd => ?_, ?_, ?_⟩
  · rw [hf]; exact hnode n nd hn
  · rw [hf] at hd; rw [hev]; exact h.rep d hd
  · rw [hev]; exact h.aft
  · rw [hst, hev]; exact h.cnt

theorem AfterInv.setTasks {inp : Input} {s s' : Sys} (h : AfterInv inp s) (h3 : s'.events = s.events)
    (h4 : s'.nodes = s.nodes) (ht : ∀ n td, s'.tasks n = some td → TrigIn inp td) : AfterInv inp s' :=
  h.of_nodes (funext fun d => by simp only [stOf, h4]) h3 (fun n nd hn => h.node n nd (h4 ▸ hn)) ht

theorem AfterInv.congr {inp : Input} {s s' : Sys} (h : AfterInv inp s) (h1 : s'.tasks = s.tasks)
    (h3 : s'.events = s.events) (h4 : s'.nodes = s.nodes) : AfterInv inp s' :=
  h.setTasks h3 h4 fun n td ht => h.tab n td (h1 ▸ ht)

theorem after_setNode {inp : Input} {s : Sys} {n : Name} {nd x : Node} (h : AfterInv inp s)
    (hn : s.nodes n = some nd) (hst : x.status = nd.status) (hb : NodeB (finOf s) x) (ht : TrigIn inp x.task) :
    AfterInv inp (setNode s n x) := by
  refine h.of_nodes (stOf_setNode_eq (hst.trans (stOf_node hn).symm)) rfl (fun k nd' hk => ?_) h.tab
  rcases upd_some hk with ⟨_, rfl⟩ | ⟨_, hk⟩
  · exact ⟨hb, ht⟩
  · exact h.node k nd' hk

theorem after_newNode {s₀ : Sys} {d₀ : Name} {inp : Input} {s : Sys} {d : Name} {td : TDef} (anc : List Name) (h : AfterInv inp s)
    (hd : s.nodes d = none) (ht : s.tasks d = some td) : AfterInv inp (setNode s d (mkNodeI s₀ d₀ td anc)) := by
  refine h.of_nodes (stOf_setNode_eq (stOf_none hd).symm) rfl (fun k nd' hk => ?_) h.tab
  rcases upd_some hk with ⟨_, rfl⟩ | ⟨_, hk⟩
  · exact ⟨⟨fun x hx => Or.inl hx, nofun⟩, h.tab d td ht⟩
  · exact h.node k nd' hk

theorem after_registerWaiting {inp : Input} {s : Sys} (n : Name) (wf : List Name) (h : AfterInv inp s) :
    AfterInv inp (registerWaiting s n wf) := by
  refine h.of_nodes (funext (stOf_registerWaiting s n wf)) rfl (fun k nd' hk => ?_) h.tab
  rcases registerWaiting_node s n wf k with ⟨_, h1⟩ | ⟨x, w, hx, h1⟩
  · rw [h1] at hk; cases hk
  · rw [h1] at hk; cases hk; exact h.node k x hx

theorem after_genStep {inp : Input} {s s' : Sys} {n : Name} {nd : Node} {d : Name} {ds : List Name}
    (h : AfterInv inp s) (hn : s.nodes n = some nd) (hs : GenSpec s n nd d (.taskIter ds) s') : AfterInv inp s' := by
  obtain ⟨hb, ht⟩ := h.node n nd hn
  have hx : NodeB (finOf s) { nd with pc := .taskIter ds } :=
    ⟨fun x hx => DepAt.iter ds (hb.1 x hx), nofun⟩
  cases hs with
  | raise e _ => exact h.congr rfl rfl rfl
  | seen => exact after_setNode h hn rfl hx ht
  | new td hd htd =>
    have h1 := after_newNode (s₀ := s) (d₀ := d) (nd.anc ++ [d]) h hd htd
    exact (after_setNode (x := { nd with pc := .taskIter ds }) h1 (setNode_other hn hd) rfl
      (by rw [finOf_of_stOf (stOf_setNode_eq (x := mkNodeI s d td (nd.anc ++ [d])) (stOf_none hd).symm)]; exact hx) ht).congr rfl rfl rfl

theorem after_addWaitRun {inp : Input} {s : Sys} {n : Name} {nd : Node} (h : AfterInv inp s)
    (hn : s.nodes n = some nd) : AfterInv inp (addWaitRun s n nd nd.snap .afterDeps) := by
  unfold addWaitRun
  apply after_registerWaiting
  obtain ⟨hb, ht⟩ := h.node n nd hn
  exact after_setNode h hn rfl
    ⟨fun x hx => DepAt.wait _ _ _ (fun _ hu => by simpa [unfinished, finOf] using hu) (hb.1 x hx), nofun⟩ ht

theorem after_woken {inp : Input} {s : Sys} {w : Name} {nd : Node} (h : AfterInv inp s) (hn : s.nodes w = some nd)
    (pst : RS) (p : Name) (hp : finOf s p = true) : AfterInv inp (setNode s w (wokenNode pst p nd)) := by
  obtain ⟨hb, ht⟩ := h.node w nd hn
  refine after_setNode h hn rfl ⟨fun x hx => ?_, fun hpc => ?_⟩ ht
  · exact DepAt.woken pst p (fun _ => hp) (hb.1 x hx)
  · have := hb.2 hpc
    simp [wokenNode, this.1, this.2]

theorem after_feed {inp : Input} {s s' : Sys} {p : Name} {perm : List Name} (h : AfterInv inp s)
    (hf : feed s p perm = some s') : AfterInv inp s' := by
  cases feed_spec hf with
  | crash => exact h.congr rfl rfl rfl
  | skip => exact h.congr rfl rfl rfl
  | woke nd s1 hp hfin hu =>
    have h1 := updateWaiting_induct (P := fun x => AfterInv inp x ∧ finOf x p = true) nd.status p
      (fun x w wd rd wt hx hw => ⟨(after_woken hx.1 hw _ p hx.2).congr rfl rfl rfl,
        (finOf_of_stOf (stOf_setNode_eq (x := wokenNode nd.status p wd) (stOf_node hw).symm)) ▸ hx.2⟩) perm
      { s with dispatched := s.dispatched.filter (· ≠ p) } s1
      ⟨h.congr rfl rfl rfl, by simp [finOf, stOf, hp, hfin]⟩ hu
    exact h1.1.congr rfl rfl rfl

end DoitModel.Delayed
