import DoitModel.Proofs.C08DynInvDen
import DoitModel.Proofs.C08Closure
/-! # C08 (I10) with calc_dep, closure (⊆): every node a run creates — hence every task it reports — is in the
    denotational closure `Dyn.DenCl` of the selection -/
namespace DoitModel.Run.Dyn

/-- the calc_deps of `n` under derived outcomes -/
inductive CalcR (inp : RunInput) (n : Name) : Name → Prop
  | static {c : Name} : c ∈ inp.calcDep n → CalcR inp n c
  | deliv {c x : Name} {d : Den} : CalcR inp n c → DenOf inp c d → x ∈ (delivOf inp c d).calcs → CalcR inp n x

/-- tasks a complete run processes: the selection, closed under task_dep, under calc_dep (static and delivered),
    under the task_deps / file_dep owners its calc_deps deliver (`delivOf`), and under the setup-tasks of members whose
    first `select_task` pass says `run` -/
inductive DenCl (inp : RunInput) : Name → Prop
  | ofSel {t : Name} : t ∈ inp.sel → DenCl inp t
  | ofTask {t d : Name} : DenCl inp t → d ∈ inp.taskDep t → DenCl inp d
  | ofCalc {t c : Name} : DenCl inp t → CalcR inp t c → DenCl inp c
  | ofDeliv {t c x : Name} {d : Den} : DenCl inp t → CalcR inp t c → DenOf inp c d →
      (x ∈ (delivOf inp c d).tasks ∨ x ∈ (delivOf inp c d).files) → DenCl inp x
  | ofSetup {t d : Name} : DenCl inp t → R1 inp t → d ∈ inp.setup t → DenCl inp d

theorem CalcS.toR {inp : RunInput} {s : Sys} {n c : Name} (hD : InvE inp s) (h : CalcS inp s n c) : CalcR inp n c := by
  induction h with
  | static hc => exact CalcR.static hc
  | deliv _ hg hm ih =>
    obtain ⟨d, hd, hrs⟩ := hD.fin _ (RS.good_finished hg)
    exact CalcR.deliv ih hd (by rw [delivOf_good (by rw [hrs]; exact hg)]; exact hm)
  | delivF _ _ hsf hm ih =>
    obtain ⟨d, hd, hs⟩ := hsf
    exact CalcR.deliv ih hd (by rw [delivOf_startedFail hs]; exact hm)

theorem TaskS.toCl {inp : RunInput} {s : Sys} {n x : Name} (hD : InvE inp s) (hcl : DenCl inp n)
    (h : TaskS inp s n x) : DenCl inp x := by
  rcases h with a | ⟨c, hc, hg, hm⟩ | ⟨c, hc, _, ⟨d, hd, hs⟩, hm⟩
  · exact DenCl.ofTask hcl a
  · obtain ⟨d, hd, hrs⟩ := hD.fin _ (RS.good_finished hg)
    exact DenCl.ofDeliv hcl (hc.toR hD) hd (by rw [delivOf_good (by rw [hrs]; exact hg)]; exact hm)
  · exact DenCl.ofDeliv hcl (hc.toR hD) hd (by rw [delivOf_startedFail hs]; exact hm)

def pcC (inp : RunInput) (n : Name) : PC → Prop
  | .calcIter todo => ∀ d ∈ todo, DenCl inp d
  | .taskIter todo => ∀ d ∈ todo, DenCl inp d
  | .setupIter todo => (∀ d ∈ todo, d ∈ inp.setup n) ∧ R1 inp n
  | _ => True

structure InvC (inp : RunInput) (s : Sys) : Prop where
  nodes : ∀ n nd, s.nodes n = some nd → DenCl inp n ∧ pcC inp n nd.pc
  toRun : ∀ t ∈ s.toRun, DenCl inp t

theorem InvC.back {inp : RunInput} {p : Prop} {s s' : Sys} (h : InvC inp s) (b : BackG p s s') : InvC inp s' := by
  constructor
  · intro n nd hn
    obtain ⟨x, hx, e, _⟩ := b.1 n nd hn
    rw [e]; exact h.nodes n x hx
  · intro t ht; rw [b.2] at ht; exact h.toRun t ht

theorem invC_setNode {inp : RunInput} {s : Sys} {n : Name} {nd : Node} (x : Node) (h : InvC inp s)
    (hn : s.nodes n = some nd) (hx : pcC inp n x.pc) : InvC inp (setNode s n x) := by
  constructor
  · intro k y hk
    simp only [setNode_nodes] at hk
    split at hk
    · rename_i e; subst e; cases hk; exact ⟨(h.nodes k nd hn).1, hx⟩
    · exact h.nodes k y hk
  · exact h.toRun

theorem invC_create {inp : RunInput} {s : Sys} {d : Name} (anc : List Name) (h : InvC inp s) (hd : DenCl inp d) :
    InvC inp (setNode s d (mkNode inp d anc)) := by
  constructor
  · intro k y hk
    simp only [setNode_nodes] at hk
    split at hk
    · rename_i e; subst e; cases hk; exact ⟨hd, trivial⟩
    · exact h.nodes k y hk
  · exact h.toRun

theorem genStep_invC {inp : RunInput} {s : Sys} {n : Name} {nd : Node} (d : Name) (pc' : PC) (h : InvC inp s)
    (hn : s.nodes n = some nd) (hd : DenCl inp d) (hx : pcC inp n pc') : InvC inp (genStep inp s n nd d pc') := by
  generalize hg : genStep inp s n nd d pc' = g
  cases genStep_spec hg with
  | fresh hdn =>
    have hne : d ≠ n := by intro e; subst e; rw [hn] at hdn; cases hdn
    have hn1 : (setNode s d (mkNode inp d (nd.anc ++ [d]))).nodes n = some nd := by
      rw [setNode_nodes, if_neg (Ne.symm hne), hn]
    exact (invC_setNode { nd with pc := pc' } (invC_create (nd.anc ++ [d]) h hd) hn1 hx).back
      (BackG.of_eq (p := False) rfl rfl)
  | cyclic => exact h.back (BackG.of_eq (p := False) rfl rfl)
  | known => exact invC_setNode _ h hn hx

theorem addWaitRun_invC {inp : RunInput} {s : Sys} {n : Name} {nd : Node} (ds : List Name) (isCalc : Bool)
    (pc' : PC) (h : InvC inp s) (hn : s.nodes n = some nd) (hx : pcC inp n pc') :
    InvC inp (addWaitRun inp s n nd ds isCalc pc') := by
  have f := waitNode_facts inp s nd ds isCalc pc'
  unfold addWaitRun
  exact (invC_setNode (waitNode inp s nd ds isCalc pc') h hn (by rw [f.pc]; exact hx)).back
    (back_registerWaiting False _ _ _)

theorem nodeStep_invC {inp : RunInput} {s s' : Sys} {n : Name} {nd : Node} {perm : List Name} (hN : InvN inp s)
    (hE : InvE inp s) (h : InvC inp s) (hn : s.nodes n = some nd) (hs : NodeStep inp s n nd perm s') :
    InvC inp s' := by
  have hS := hN n nd hn
  obtain ⟨hcl, hpcC⟩ := h.nodes n nd hn
  have same : ∀ {a b : Sys}, InvC inp a → b.nodes = a.nodes → b.toRun = a.toRun → InvC inp b :=
    fun ha e1 e2 => ha.back (BackG.of_eq (p := False) e1 e2)
  cases hs with
  | move hm =>
    refine invC_setNode _ h hn ?_
    cases hm with
    | loopTop hpc hp => exact fun d hd => DenCl.ofCalc hcl ((hS.1.dynC d (hS.1.pendC d (hp.mem_iff.mp hd))).toR hE)
    | setupGo hpc hrun => exact ⟨fun d hd => hd, hE.run1 n (by simp only [stOf, hn, hrun])⟩
    | _ => trivial
  | park hp =>
    refine same (invC_setNode _ h hn ?_) rfl rfl
    cases hp <;> trivial
  | yield1 => exact same (invC_setNode { nd with pc := .afterSelf1 } h hn trivial) rfl rfl
  | yield2 => exact same (invC_setNode { nd with pc := .afterSelf2 } h hn trivial) rfl rfl
  | @calcGen d ds hpc | @taskGen d ds hpc =>
    rw [hpc] at hpcC
    exact genStep_invC d _ h hn (hpcC d List.mem_cons_self) (fun x hx => hpcC x (List.mem_cons_of_mem _ hx))
  | @setupGen d ds hpc =>
    rw [hpc] at hpcC
    exact genStep_invC d _ h hn (DenCl.ofSetup hcl hpcC.2 (hpcC.1 d List.mem_cons_self))
      ⟨fun x hx => hpcC.1 x (List.mem_cons_of_mem _ hx), hpcC.2⟩
  | calcWait hpc => exact addWaitRun_invC _ _ _ h hn (fun d hd => (hS.1.dynT d (hS.1.snapT d hd)).toCl hE hcl)
  | taskWait | setupWait => exact addWaitRun_invC _ _ _ h hn trivial
  | done => exact same h rfl rfl

theorem dtick_invC {inp : RunInput} {s s' : Sys} {perm : List Name} (hN : InvN inp s) (hE : InvE inp s)
    (h : InvC inp s) (hs : dtick inp s perm = some s') : InvC inp s' := by
  cases dtick_spec hs with
  | node _ hn hs => exact nodeStep_invC hN hE h hn hs
  | create _ _ ht _ =>
    exact ⟨(invC_create [_] h (h.toRun _ (by rw [ht]; exact List.mem_cons_self))).nodes,
      fun x hx => h.toRun x (by rw [ht]; exact List.mem_cons_of_mem _ hx)⟩
  | skip _ _ ht _ => exact ⟨h.nodes, fun x hx => h.toRun x (by rw [ht]; exact List.mem_cons_of_mem _ hx)⟩
  | lost | pop | deadlock | holdOn | stopIter => exact h.back (BackG.of_eq (p := False) rfl rfl)

theorem init_invC (inp : RunInput) : InvC inp (init inp) :=
  ⟨fun n nd hn => by simp [init] at hn, fun t ht => DenCl.ofSel ht⟩

theorem move_invC {inp : RunInput} {s s' : Sys} (hD : InvDen inp s) (h : InvC inp s) (k : Move inp s s') :
    InvC inp s' := by
  cases k with
  | emit _ a => exact h.back (BackG.of_eq (p := False) a.nodes a.toRun)
  | tick _ _ _ hs => exact dtick_invC hD.nodeS hD.den h hs
  | send _ _ _ _ hs a => exact h.back ((send_back (q := False) hs).wrap a.nodes a.toRun)
  | select _ _ _ _ _ hn _ a => exact h.back ((applySel_back _ hn).wrap a.nodes a.toRun)
  | result _ _ _ _ hn _ a0 _ a =>
    exact h.back (((BackG.of_eq a0.nodes a0.toRun).trans (processResult_back (a0.nodes ▸ hn))).wrap a.nodes a.toRun)
  | finish e => subst e; exact h.back (BackG.of_eq (p := False) rfl rfl)

theorem reach_invC {inp : RunInput} {s : Sys} (h : Reach inp s) : InvC inp s :=
  Move.reach (fun hr => reach_invDen hr) (init_invC inp) (fun _ _ hD ih m => move_invC hD ih m) h

theorem preach_invC {inp : RunInput} {s : Sys} (h : PReach inp s) : InvC inp s :=
  Move.preach (fun hr => preach_invDen hr) (init_invC inp) (fun _ _ hD ih m => move_invC hD ih m) h

theorem reported_in_closure {inp : RunInput} {s : Sys} (hr : Reach inp s ∨ PReach inp s) (t : Name)
    (h : Reported s t) : DenCl inp t := by
  have hC : InvC inp s := by rcases hr with a | a; exact reach_invC a; exact preach_invC a
  have h3 : Inv3 inp s := by rcases hr with a | a; exact reach_inv3 a; exact (preach_inv a).2
  have hpos := (reported_iff_cTerm s t).mp h
  cases hn : s.nodes t with
  | some nd => exact (hC.nodes t nd hn).1
  | none =>
    have := h3.t t (by simp [stOf, hn, RS.finished])
    omega

theorem created_in_closure {inp : RunInput} {s : Sys} (hr : Reach inp s ∨ PReach inp s) (t : Name)
    (nd : Node) (h : s.nodes t = some nd) : DenCl inp t := by
  have hC : InvC inp s := by rcases hr with a | a; exact reach_invC a; exact preach_invC a
  exact (hC.nodes t nd h).1

end DoitModel.Run.Dyn
