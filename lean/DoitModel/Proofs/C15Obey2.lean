import DoitModel.Proofs.C15Obey
/-! # Delayed creation: `ObeyCore` is preserved by every step (C15 `created_obey`, ordering half)

`ObeyInv` = `ObeyCore` + "the node the dispatcher has just yielded has exhausted its generator with nothing pending
and nothing awaited"; it holds in every reachable state. -/
namespace DoitModel.Delayed
open DoitModel.Run (RS Name)

theorem NodeG.mono {good good' : Name → Bool} {nd : Node} (h : NodeG good nd)
    (hm : ∀ d, good d = true → good' d = true) : NodeG good' nd :=
  nodeG_iff.mpr ⟨fun hb d hd => ((nodeG_iff.mp h).1 hb d hd).mono hm, h.2⟩

theorem no_start_of_none {st : Name → RS} {ev : List Ev} (hc : CountOK st ev) {n : Name} (h0 : st n = .none) :
    ev.contains (Ev.start n) = false := by
  cases hx : ev.contains (Ev.start n) with
  | false => rfl
  | true => exact absurd rfl (hc.fresh n h0 _ (by simpa using hx))

theorem no_report_of_unfinished {st : Name → RS} {ev : List Ev} (hc : CountOK st ev) {n : Name}
    (hu : (st n).finished = false) : ev.any (Ev.reports n) = false := by
  rw [List.any_eq_false]
  intro e he
  simp [hc.noRep n hu e he]

theorem core_status {inp : Input} {s : Sys} {n : Name} {nd : Node} (h : ObeyCore inp s) (hn : s.nodes n = some nd)
    (hu : nd.status.finished = false) (hpc : nd.pc = .done) (hld : nd.task.loader = none) (st' : RS) (e : Ev)
    (hok : st' = .ok → e = .success n) (hutd : st' = .utd → e = .skipUtd n) (hrun : st' = .run → e = .start n)
    (hob : obeyOK (nodeDeps s) inp.noAct (e :: s.events) = true) (hut : utdOK inp.utd (e :: s.events) = true)
    {s1 : Sys} (h3 : s1.events = e :: s.events) (h4 : s1.nodes = (setNode s n { nd with status := st' }).nodes) :
    ObeyCore inp s1 := by
  refine ObeyCore.congr (s := { setNode s n { nd with status := st' } with events := e :: s.events }) ?_ h3 h4
  have hsn : stOf s n = nd.status := stOf_node hn
  have hst : ∀ d, stOf { setNode s n { nd with status := st' } with events := e :: s.events } d =
      if d = n then st' else stOf s d := by
    intro d
    show stOf (setNode s n { nd with status := st' }) d = _
    rw [stOf_setNode]
  have hm : ∀ d, goodOf s d = true →
      goodOf { setNode s n { nd with status := st' } with events := e :: s.events } d = true := by
    intro d hd
    unfold goodOf at hd ⊢
    rw [hst]
    by_cases hdn : d = n
    · -- `n` was unfinished, hence not good
      rw [hdn, hsn] at hd
      rw [RS.finished_of_good hd] at hu; cases hu
    · rw [if_neg hdn]; exact hd
  have hd : nodeDeps { setNode s n { nd with status := st' } with events := e :: s.events } = nodeDeps s := by
    funext d
    show nodeDeps (setNode s n { nd with status := st' }) d = _
    rw [nodeDeps_setNode]
    by_cases hdn : d = n
    · rw [if_pos hdn, hdn, nodeDeps_node hn]
    · rw [if_neg hdn]
  -- a status is witnessed by its event: the new one of `n` by `e`, the others as before
  have key : ∀ (x : RS) (ev : Name → Ev), (∀ d, stOf s d = x → ev d ∈ s.events) → (st' = x → e = ev n) →
      ∀ d, stOf { setNode s n { nd with status := st' } with events := e :: s.events } d = x → ev d ∈ e :: s.events := by
    intro x ev hx hxe d hd'
    rw [hst] at hd'
    by_cases hdn : d = n
    · rw [if_pos hdn] at hd'; rw [hdn, hxe hd']; exact List.mem_cons_self
    · rw [if_neg hdn] at hd'; exact List.mem_cons_of_mem _ (hx d hd')
  constructor
  · intro k nd' hk
    rcases upd_some hk with ⟨_, rfl⟩ | ⟨_, hk⟩
    · have hg := h.node n nd hn
      exact NodeG.mono (nd := { nd with status := st' }) ⟨hg.1, hg.2.1, fun _ => ⟨hpc, hld⟩⟩ hm
    · exact (h.node k nd' hk).mono hm
  · exact key .ok .success h.okS hok
  · exact key .utd .skipUtd h.utdS hutd
  · exact key .run .start h.runS hrun
  · rw [hd]; exact hob
  · exact hut

theorem core_regexBlock {inp : Input} {s r : Sys} {l : LId} {g : GId} (h : ObeyCore inp s)
    (hr : RegexSpec inp s l g r) : ObeyCore inp r := by
  obtain ⟨gf, gt, su, rfl, _⟩ := hr.frame
  exact h.congr rfl rfl

/-- `"reset generator"`: the node was not selected yet, all dependencies of the object it is reset to are pending -/
theorem core_finishLoader {inp : Input} {s s' : Sys} {n : Name} {nd : Node} {l : LId} {tk' : TDef}
    (h : ObeyCore inp s) (hc : CountOK (stOf s) s.events) (hn : s.nodes n = some nd) (hpc : nd.pc = .loaderPc)
    (hf : FinLoaderSpec s n nd l tk' s') : ObeyCore inp s' := by
  have hg := h.node n nd hn
  have h0 : nd.status = .none := hg.st_none (by rw [hpc]; intro e; cases e)
  have hreset : ∀ t : TDef, ObeyCore inp (setNode s n { nd with task := t, pend := t.deps, pc := .start }) :=
    fun t => core_retask h hc ((stOf_node hn).trans h0) h0
      ⟨fun _ d hd => Or.inl hd, nofun, fun e => absurd h0 e⟩
  cases hf with
  | crash _ => exact h.congr rfl rfl
  | same cur _ _ => exact (hreset tk').congr rfl rfl
  | other cur _ _ => exact (hreset cur).congr rfl rfl

theorem core_afterCreate {inp : Input} {s s' : Sys} {n : Name} {nd : Node} {l : LId}
    (h : ObeyCore inp s) (hc : CountOK (stOf s) s.events) (hn : s.nodes n = some nd) (hpc : nd.pc = .loaderPc)
    (ha : AfterCreateSpec inp s n nd l s') : ObeyCore inp s' := by
  cases ha with
  | plain _ => exact core_finishLoader h hc hn hpc finishLoader_spec
  | raised g r e _ hr _ => exact core_regexBlock h hr
  | rx g r _ hr _ =>
    have hr' := core_regexBlock h hr
    obtain ⟨gf, gt, su, rfl, _⟩ := hr.frame
    exact core_finishLoader hr' hc hn hpc finishLoader_spec

theorem ObeyCore.creator {inp : Input} {s s' : Sys} (h : ObeyCore inp s) (c : CId)
    (h3 : s'.events = Ev.creator c :: s.events) (h4 : s'.nodes = s.nodes) : ObeyCore inp s' := by
  constructor
  · intro n nd hn; rw [h4] at hn; rw [goodOf_congr h4]; exact h.node n nd hn
  · intro d hd; rw [stOf_congr h4] at hd; rw [h3]; exact List.mem_cons_of_mem _ (h.okS d hd)
  · intro d hd; rw [stOf_congr h4] at hd; rw [h3]; exact List.mem_cons_of_mem _ (h.utdS d hd)
  · intro d hd; rw [stOf_congr h4] at hd; rw [h3]; exact List.mem_cons_of_mem _ (h.runS d hd)
  · rw [nodeDeps_congr h4, h3]; simp only [obeyOK]; exact h.obey
  · rw [h3]; simp only [utdOK]; exact h.utd

variable {inp : Input} {s s' : Sys} {n : Name} {nd : Node} {l : LId} {perm : List Name}

theorem core_evalCreator {b : Bool} (tname : Name) (h : ObeyCore inp s) :
    ObeyCore inp (evalCreator inp s l tname b) := by
  unfold evalCreator
  cases regTargets s.targets (targetPairs (inp.make (inp.creatorOf l) tname)) with
  | none => exact h.creator (inp.creatorOf l) rfl rfl
  | some tg => exact h.creator (inp.creatorOf l) rfl rfl

theorem core_loaderStep (h : ObeyCore inp s)
    (ha : AfterInv inp s) (hn : s.nodes n = some nd) (hpc : nd.pc = .loaderPc) (hl : nd.task.loader = some l)
    (hs : LoaderSpec inp s n nd l s') : ObeyCore inp s' := by
  cases hs with
  | crash => exact h.congr rfl rfl
  | raised tT e _ _ _ => exact core_evalCreator _ h
  | created tT s' _ _ _ hac =>
    obtain ⟨h1, hn1⟩ := after_evalCreator (toLoad inp l n) ha hn hpc hl
    exact core_afterCreate (core_evalCreator _ h) h1.cnt hn1 hpc hac
  | loaded tT s' _ _ hac => exact core_afterCreate h ha.cnt hn hpc hac

theorem core_nodeStep (h : ObeyCore inp s) (ha : AfterInv inp s)
    (hn : s.nodes n = some nd) (hs : NodeStepSpec inp s n nd s') : ObeyCore inp s' := by
  have hg := h.node n nd hn
  cases hs with
  | move pc' w c hdone hit _ hs1 _ =>
    have h0 : nd.status = .none := hg.st_none hdone
    refine (core_setNode (x := { nd with pc := pc' }) h hn rfl rfl
      (nodeG_pc pc' hg (fun ⟨ds, e⟩ => hit ds e) (fun e => ?_) (fun e => absurd h0 e))).congr rfl rfl
    -- `loaderPc` is reached with nothing pending and nothing awaited (`NodeB`)
    obtain ⟨hpc, hl⟩ := hs1 e
    exact ⟨((ha.node n nd hn).1.2 hpc).1, ((ha.node n nd hn).1.2 hpc).2, hl⟩
  | loop hpc =>
    have h0 : nd.status = .none := hg.st_none (by rw [hpc]; intro e; cases e)
    exact core_setNode h hn rfl rfl ⟨fun hb d hd => DepAt.loop hpc (hg.1 hb d hd), nofun, fun e => absurd h0 e⟩
  | gen d ds s' hpc hg' => exact core_genStep h ha.cnt hn ⟨_, hpc⟩ hg'
  | wait hpc => exact core_addWaitRun h hn hpc
  | load l s' hpc hl hs => exact core_loaderStep h ha hn hpc hl hs
  | yield hpc =>
    exact (core_setNode (x := { nd with pc := .done }) h hn rfl rfl
      (nodeG_pc .done hg (fun ⟨_, e⟩ => by rw [hpc] at e; cases e) nofun
        (fun _ => ⟨rfl, (hg.2.1 hpc).2.2⟩))).congr rfl rfl
  | done _ => exact h.congr rfl rfl

theorem core_dtick (h : ObeyCore inp s) (ha : AfterInv inp s) (hs : TickSpec inp s s') :
    ObeyCore inp s' := by
  cases hs with
  | node n nd s' _ hn hs => exact core_nodeStep h ha hn hs
  | root t ts td _ hn _ => exact (core_newNode td [t] h ha.cnt hn).congr rfl rfl
  | sched su cu rd tr _ _ => exact h.congr rfl rfl

theorem core_handBack (h : ObeyCore inp s)
    (hb : handBack inp s n perm = some s') : ObeyCore inp s' := by
  rcases handBack_cases hb with rfl | hf
  · exact h.congr rfl rfl
  · exact core_feed h hf

theorem core_selectStep (h : ObeyCore inp s)
    (ha : AfterInv inp s)
    (hy : ∀ nd, s.nodes n = some nd → nd.pc = .done ∧ nd.pend = [] ∧ nd.waitRun = [] ∧ nd.task.loader = none)
    (hs : SelectSpec inp s n perm s') : ObeyCore inp s' := by
  -- a node that was not selected yet has neither a `start` nor a report in the trace
  have hfresh : ∀ nd, s.nodes n = some nd → nd.status = .none →
      nd.status.finished = false ∧ s.events.contains (Ev.start n) = false ∧ s.events.any (Ev.reports n) = false := by
    intro nd hn hnone
    have hs0 : stOf s n = .none := (stOf_node hn).trans hnone
    exact ⟨by rw [hnone]; rfl, no_start_of_none ha.cnt hs0, no_report_of_unfinished ha.cnt (by rw [hs0]; rfl)⟩
  cases hs with
  | crash => exact h.congr rfl rfl
  | unmet nd s' hn hnone _ hb =>
    obtain ⟨hu, hnoS, hnoR⟩ := hfresh nd hn hnone
    refine core_handBack ?_ hb
    refine core_status h hn hu (hy nd hn).1 (hy nd hn).2.2.2 .fail (.unmet n) nofun nofun nofun ?_
      (by simp only [utdOK]; exact h.utd) rfl rfl
    simp only [obeyOK, hnoS, hnoR, h.obey]; rfl
  | utd nd s' hn hnone _ hutd hb =>
    obtain ⟨hu, hnoS, hnoR⟩ := hfresh nd hn hnone
    refine core_handBack ?_ hb
    refine core_status h hn hu (hy nd hn).1 (hy nd hn).2.2.2 .utd (.skipUtd n) nofun (fun _ => rfl) nofun ?_
      (by simp only [utdOK, hutd, h.utd]; rfl) rfl rfl
    simp only [obeyOK, hnoS, hnoR, h.obey]; rfl
  | start nd hn hnone hb hutd =>
    obtain ⟨hpc, hpend, hwait, hld⟩ := hy nd hn
    obtain ⟨hu, hnoS, hnoR⟩ := hfresh nd hn hnone
    refine core_status h hn hu hpc hld .run (.start n) nofun nofun (fun _ => rfl) ?_
      (by simp only [utdOK, hutd, h.utd]; rfl) rfl rfl
    -- nothing pending, nothing awaited, not bad: every dependency is good, and a good status has its report
    have hdeps : (nodeDeps s n).all
        (fun d => s.events.any (fun e => e = .success d || e = .skipUtd d)) = true := by
      rw [List.all_eq_true]
      intro d hd
      rw [nodeDeps_node hn] at hd
      rw [List.any_eq_true]
      rcases (h.node n nd hn).1 hb d hd with h3 | h3 | h3 | h3
      · rw [hpend] at h3; cases h3
      · rw [hpc] at h3; obtain ⟨⟨_, e⟩, _⟩ := h3; cases e
      · rw [hwait] at h3; cases h3
      · unfold goodOf at h3
        cases hsd : stOf s d with
        | ok => exact ⟨_, h.okS d hsd, by simp⟩
        | utd => exact ⟨_, h.utdS d hsd, by simp⟩
        | _ => rw [hsd] at h3; cases h3
    simp only [obeyOK, hdeps, hnoS, hnoR, h.obey]; rfl

theorem core_finishStep (h : ObeyCore inp s)
    (ha : AfterInv inp s) (hs : finishStep inp s n perm = some s') : ObeyCore inp s' := by
  obtain ⟨nd, b, _, hn, hrun, hb, hs'⟩ := finishStep_cases hs
  have hu : nd.status.finished = false := by rw [hrun]; rfl
  obtain ⟨hpc, hld⟩ := (h.node n nd hn).2.2 (by rw [hrun]; intro e; cases e)
  have hs0 : stOf s n = .run := (stOf_node hn).trans hrun
  have hnoR := no_report_of_unfinished ha.cnt (n := n) (by rw [hs0]; rfl)
  have hS : s.events.contains (Ev.start n) = true := by simpa using h.runS n hs0
  have q : ObeyCore inp b := by
    cases hb with
    | failure =>
      refine core_status h hn hu hpc hld .fail (.failure n) nofun nofun
        nofun ?_ (by simp only [utdOK]; exact h.utd) rfl rfl
      simp only [obeyOK, hnoR, hS, h.obey]; simp
    | success =>
      refine core_status h hn hu hpc hld .ok (.success n) (fun _ => rfl) nofun
        nofun ?_ (by simp only [utdOK]; exact h.utd) rfl rfl
      simp only [obeyOK, hnoR, hS, h.obey]; simp
  rcases hs' with rfl | hf
  · exact q
  · exact core_feed q hf

structure ObeyInv (inp : Input) (s : Sys) : Prop where
  core : ObeyCore inp s
  yld : ∀ n, s.susp = .yielded n → ∀ nd, s.nodes n = some nd →
    nd.pc = .done ∧ nd.pend = [] ∧ nd.waitRun = [] ∧ nd.task.loader = none

theorem obey_init (inp : Input) : ObeyInv inp (init inp) :=
  ⟨⟨fun _ _ h => by simp [init] at h, fun d hd => by simp [stOf, init] at hd, fun d hd => by simp [stOf, init] at hd,
    fun d hd => by simp [stOf, init] at hd, rfl, rfl⟩, fun n h => by simp [init] at h⟩

theorem obey_step {c : Choice} (h : ObeyInv inp s) (ha : AfterInv inp s)
    (hs : step inp s c = some s') : ObeyInv inp s' := by
  cases step_spec hs with
  | tick hsu =>
    refine ⟨core_dtick h.core ha dtick_spec, fun m hm nd' hnd' => ?_⟩
    -- only `yield this_task` (pc `self1`) suspends the generator at a node
    rcases tick_cases (inp := inp) (s := s) dtick_spec with ⟨_, c | ⟨n, nd, _, hn, hpc, heq⟩⟩ | ⟨n, nd, l, _, _, _, _, hl⟩
    · have := c.yielded hm; rw [hsu] at this; cases this
    · rw [heq] at hm hnd'
      have hnm : n = m := Susp.yielded.inj hm
      rw [← hnm] at hnd'
      have hq := (h.core.node n nd hn).2.1 hpc
      rcases upd_some hnd' with ⟨_, rfl⟩ | ⟨e, _⟩
      · exact ⟨rfl, hq.1, hq.2.1, hq.2.2⟩
      · exact absurd rfl e
    · rcases hl.susp with h1 | ⟨e, h1⟩
      · rw [h1, hsu] at hm; cases hm
      · rw [h1] at hm; cases hm
  | select n perm s' hsu hsel =>
    exact ⟨core_selectStep h.core ha (h.yld n hsu) (selectStep_spec hsel),
      fun m hm => absurd hm ((resumed_selectStep (selectStep_spec hsel)).2.2.1 m)⟩
  | resume => exact ⟨h.core.congr rfl rfl, nofun⟩
  | finish n perm s' hf =>
    refine ⟨core_finishStep h.core ha hf, fun m hm => ?_⟩
    have hm' := (calm_finishStep hf).yielded hm
    obtain ⟨_, _, hg, _⟩ := finishStep_cases hf
    rcases hg with h1 | h1 | h1 <;> (rw [h1] at hm'; cases hm')

theorem obey_reach (wf : TrigWF inp) (hr : Reach inp s) : ObeyInv inp s := by
  induction hr with
  | init => exact obey_init inp
  | next hr' hs ih => exact obey_step ih (after_reach wf hr') hs

theorem obeyOK_start_split (deps : Name → List Name) (na : Name → Bool) (t : Name) (pre : List Ev) :
    ∀ post : List Ev, obeyOK deps na (post ++ Ev.start t :: pre) = true →
      ∀ d ∈ deps t, Ev.success d ∈ pre ∨ Ev.skipUtd d ∈ pre := by
  intro post
  induction post with
  | nil =>
    intro ho d hd
    simp only [List.nil_append, obeyOK, Bool.and_eq_true, List.all_eq_true, List.any_eq_true] at ho
    obtain ⟨e, he, h2⟩ := ho.1.1.1 d hd
    simp only [Bool.or_eq_true, decide_eq_true_eq] at h2
    rcases h2 with h2 | h2
    · subst h2; exact Or.inl he
    · subst h2; exact Or.inr he
  | cons e post ih =>
    intro ho
    refine ih ?_
    cases e <;> simp only [List.cons_append, obeyOK, Bool.and_eq_true] at ho <;> first | exact ho | exact ho.2

end DoitModel.Delayed
