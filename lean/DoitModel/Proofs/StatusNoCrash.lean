import DoitModel.Proofs.StatusDecision
/-! # M2 — the absorbing `crash` state needs a switch of the checker

`crash` models the `TypeError` of `MD5Checker` on a state saved by `TimestampChecker`.  Without a
`switchChecker` operation every saved state has the md5 shape and the configured checker stays md5. -/
namespace DoitModel.Status

def Op.isSwitch : Op → Bool
  | .switchChecker _ => true
  | _ => false

def NoSwitch (h : List Op) : Bool := h.all fun o => !o.isSwitch

def Md5Shape (r : Rcd) : Prop := ∀ p st, r.fstate p = some st → ∃ m sz c, st = .md5 m sz c

structure Md5Only (s : St) : Prop where
  ck : s.checker = .md5
  shape : ∀ t, Md5Shape (s.rcd t)
  alive : s.crashed = false

theorem md5shape_empty : Md5Shape Rcd.empty := fun _ _ h => nomatch h

theorem any_depIs_crash_false {r : Rcd} (hr : Md5Shape r) (fs : FS) (deps : List Path) :
    deps.any (depIs .crash .md5 r fs) = false := by
  refine List.any_eq_false.mpr fun p _ h => ?_
  unfold depIs at h
  cases hf : fs p with
  | none => rw [hf] at h; cases h
  | some cur =>
    rw [hf] at h
    obtain ⟨_, m, hm⟩ := depVerdict_crash (beq_iff_eq.mp h)
    obtain ⟨_, _, _, hst⟩ := hr p _ hm
    cases hst

theorem status_ne_crash (fixed : Bool) {s : St} (h : Md5Only s) (t : Name) : s.status fixed t ≠ .crash := by
  intro hc
  unfold St.status at hc
  rw [h.ck] at hc
  cases statusOf_spec.of_eq hc with
  | crash _ _ _ hany => rw [any_depIs_crash_false (h.shape t)] at hany; cases hany

theorem logRcd_shape {r : Rcd} (hr : Md5Shape r) (c : Checker) : Md5Shape (logRcd c r) := by
  unfold logRcd
  cases checkerChanged c r with
  | true => exact md5shape_empty
  | false => exact hr

theorem statusLog_ne_crash {s : St} (h : Md5Only s) (t : Name) : s.statusLog t ≠ .crash := by
  -- the log loop reads a record of the md5 shape and cannot raise; past it the answer is that of `get_log=False`
  have := status_ne_crash true h t
  unfold St.status at this
  unfold St.statusLog
  rw [statusLog_eq, h.ck, any_depIs_crash_false (logRcd_shape (h.shape t) .md5)]
  rw [h.ck] at this
  exact this

theorem saveCrashAt_false {r : Rcd} (hr : Md5Shape r) (fs : FS) (p : Path) : saveCrashAt .md5 r fs p = false := by
  unfold saveCrashAt
  cases fs p with
  | none => rfl
  | some cur =>
    refine beq_eq_false_iff_ne.mpr fun h => ?_
    rcases getState_cases .md5 cur (r.fstate p) with h1 | ⟨_, _, _, _, h1⟩ | ⟨_, _, ho, _⟩
    · rw [h1] at h; cases h
    · rw [h1] at h; cases h
    · obtain ⟨_, _, _, hst⟩ := hr p _ ho
      cases hst

theorem save_ne_crash {r : Rcd} (hr : Md5Shape r) (deps : List Path) (fs : FS) (vals : Values) (res : Option Res) :
    saveSuccess .md5 deps r fs vals res ≠ .crash := by
  intro hc
  have h2 : deps.any (saveCrashAt .md5 r fs) = false :=
    List.any_eq_false.mpr fun p _ => by rw [saveCrashAt_false hr]; exact Bool.false_ne_true
  unfold saveSuccess at hc
  rw [h2] at hc
  cases h1 : deps.any (depMissing fs) with
  | true => rw [h1] at hc; cases hc
  | false => rw [h1] at hc; cases hc

theorem savedState_shape {r : Rcd} (hr : Md5Shape r) (fs : FS) (p : Path) (st : FState)
    (h : savedState .md5 r fs p = some st) : ∃ m sz c, st = .md5 m sz c := by
  unfold savedState at h
  cases hf : fs p with
  | none => rw [hf] at h; exact hr p st h
  | some cur =>
    rw [hf] at h
    dsimp only at h
    rcases getState_cases .md5 cur (r.fstate p) with h1 | ⟨_, _, _, _, h1⟩ | ⟨_, _, _, h1⟩
    · rw [h1] at h; cases h; exact ⟨_, _, _, rfl⟩
    · rw [h1] at h; exact hr p st h
    · rw [h1] at h; exact hr p st h

theorem save_shape {r r' : Rcd} (hr : Md5Shape r) (deps : List Path) (fs : FS) (vals : Values) (res : Option Res)
    (hs : saveSuccess .md5 deps r fs vals res = .ok r') : Md5Shape r' := by
  obtain ⟨_, _, rfl⟩ := saveSuccess_ok hs
  intro p st hp
  dsimp only at hp
  by_cases hd : p ∈ deps
  · rw [if_pos hd] at hp; exact savedState_shape hr fs p st hp
  · rw [if_neg hd] at hp; exact hr p st hp

theorem Md5Only.update {s s' : St} (h : Md5Only s) (hck : s'.checker = s.checker) (hal : s'.crashed = s.crashed)
    (t : Name) (hr : ∀ k, k ≠ t → s'.rcd k = s.rcd k) (ht : Md5Shape (s'.rcd t)) : Md5Only s' := by
  refine ⟨hck.trans h.ck, fun k => ?_, hal.trans h.alive⟩
  by_cases hk : k = t
  · rw [hk]; exact ht
  · rw [hr k hk]; exact h.shape k

theorem not_crashes (fixed : Bool) {s : St} (h : Md5Only s) : ¬ Crashes fixed s := by
  intro hc
  cases hc with
  | status t hst => exact status_ne_crash fixed h t hst
  | log t hst => exact statusLog_ne_crash h t hst
  | save t r0 vals res h0 hs =>
    rw [h.ck] at hs
    refine save_ne_crash ?_ _ _ _ _ hs
    rcases h0 with rfl | rfl
    · exact h.shape t
    · exact md5shape_empty

theorem Prim.md5 {fixed : Bool} {s s' : St} (hp : Prim fixed s s') (h : Md5Only s) : Md5Only s' := by
  cases hp with
  | crash hc => exact absurd hc (not_crashes fixed h)
  | erase t => exact h.update rfl rfl t (fun _ hk => if_neg hk) (erase_rcd_self s t ▸ md5shape_empty)
  | write p sz c => exact ⟨h.ck, h.shape, h.alive⟩
  | markIgn t => exact h.update rfl rfl t (fun _ hk => if_neg hk) (markIgn_rcd_self s t ▸ h.shape t)
  | save t r0 vals res r h0 hs =>
    rw [h.ck] at hs
    have hr : Md5Shape r := by
      refine save_shape ?_ _ _ _ _ hs
      rcases h0 with rfl | rfl
      · exact h.shape t
      · exact md5shape_empty
    exact h.update rfl rfl t (fun _ hk => if_neg hk) ((commit_rcd_self s t r _).symm ▸ hr)

theorem step_md5 (fixed : Bool) {s : St} (op : Op) (hop : op.isSwitch = false) (h : Md5Only s) :
    Md5Only (step fixed s op) := by
  generalize hs : step fixed s op = s'
  cases step_spec.of_eq hs with
  | dead => exact h
  | switchChecker c => cases hop
  | prims _ _ hst => exact hst.preserves (fun _ _ => Prim.md5) h
  | _ => exact ⟨h.ck, h.shape, h.alive⟩

theorem noSwitch_md5 (fixed : Bool) (ops : List Op) (hn : NoSwitch ops = true) : Md5Only (runHist fixed ops) :=
  foldl_preserves (fun _ o ho => step_md5 fixed o (Bool.not_eq_true' _ ▸ ho)) ops (List.all_eq_true.mp hn)
    ⟨rfl, fun _ => md5shape_empty, rfl⟩

end DoitModel.Status
