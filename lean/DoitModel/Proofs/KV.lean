import DoitModel.Model.KV
/-! `DbmDB` and `SqliteDB` are both write-back caches `(store, cache, dirty)` over a store (`_dbm` / the connection's
    view); they share the invariant `Wf` up to what "the cached record agrees with the stored one" means, and every step
    either changes the triple at one task only (`wf_point`) or empties the cache (`wf_reset`). -/
namespace DoitModel.KV

theorem runWith_append {S : Type} (step : S → Op → S × Out) (s : S) (xs ys : List Op) :
    runWith step s (xs ++ ys) =
      ((runWith step (runWith step s xs).1 ys).1, (runWith step s xs).2 ++ (runWith step (runWith step s xs).1 ys).2) := by
  have key : ∀ (ys : List Op) (s : S) (acc : List Out),
      ys.foldl (fun (st : S × List Out) op => let r := step st.1 op; (r.1, st.2 ++ [r.2])) (s, acc) =
        ((runWith step s ys).1, acc ++ (runWith step s ys).2) := by
    intro ys
    induction ys with
    | nil => intro s acc; exact Prod.ext rfl (List.append_nil _).symm
    | cons y ys ih =>
      intro s acc
      simp only [runWith, List.foldl_cons]
      rw [ih, ih _ ([] ++ _), List.nil_append, List.append_assoc]
  rw [runWith, List.foldl_append, ← runWith, key]

theorem runWith_cons {S : Type} (step : S → Op → S × Out) (s : S) (op : Op) (ops : List Op) :
    runWith step s (op :: ops) =
      ((runWith step (step s op).1 ops).1, (step s op).2 :: (runWith step (step s op).1 ops).2) :=
  runWith_append step s [op] ops

theorem runWith_refines {S : Type} (step : S → Op → S × Out) (Wf : S → Prop) (abs : S → Map)
    (hstep : ∀ s op, Wf s → Wf (step s op).1 ∧ abs (step s op).1 = (specStep (abs s) op).1 ∧
                      (step s op).2 = (specStep (abs s) op).2)
    (ops : List Op) (s : S) (h : Wf s) :
    (runWith step s ops).2 = (runWith specStep (abs s) ops).2 ∧
    abs (runWith step s ops).1 = (runWith specStep (abs s) ops).1 ∧ Wf (runWith step s ops).1 := by
  induction ops generalizing s with
  | nil => exact ⟨rfl, rfl, h⟩
  | cons op ops ih =>
    obtain ⟨w, a, o⟩ := hstep s op h
    rw [runWith_cons, runWith_cons, ← o, ← a]
    exact ⟨congrArg _ (ih _ w).1, (ih _ w).2⟩

theorem upd_same (m : Map) (t : T) (r : Option Rcd) : m.upd t r t = r := if_pos rfl

theorem upd_ne (m : Map) (r : Option Rcd) {t x : T} (h : x ≠ t) : m.upd t r x = m x := if_neg h

theorem upd_eq_self {m : Map} {t : T} {r : Option Rcd} (h : m t = r) : m.upd t r = m := by
  funext x
  by_cases hx : x = t
  · rw [hx, upd_same, h]
  · exact upd_ne m r hx

theorem eq_upd {m' m : Map} (t : T) (h : ∀ x, x ≠ t → m' x = m x) : m' = m.upd t (m' t) := by
  funext x
  by_cases hx : x = t
  · rw [hx, upd_same]
  · rw [upd_ne m _ hx, h x hx]

theorem json_step_refines (s : JsonSt) (op : Op) :
    jsonAbs (jsonStep s op).1 = (specStep (jsonAbs s) op).1 ∧ (jsonStep s op).2 = (specStep (jsonAbs s) op).2 := by
  cases op <;> exact ⟨rfl, rfl⟩

/-- cache consistency: a dirty task is cached, and a clean cached record `agree`s with what is stored -/
structure Wf (agree : Rcd → Option Rcd → Prop) (store cache : Map) (dirty : T → Bool) : Prop where
  dirtyCached : ∀ t, dirty t = true → (cache t).isSome
  cleanAgree : ∀ t r, cache t = some r → dirty t = false → agree r (store t)

variable {agree : Rcd → Option Rcd → Prop} {store cache : Map} {dirty : T → Bool}

theorem wf_uncached_clean (h : Wf agree store cache dirty) {t : T} (hc : cache t = none) : dirty t = false := by
  cases hd : dirty t with
  | false => rfl
  | true => have := h.dirtyCached t hd; rw [hc] at this; cases this

theorem wf_point {store' cache' : Map} {dirty' : T → Bool} (h : Wf agree store cache dirty) (t : T)
    (hoff : ∀ x, x ≠ t → store' x = store x ∧ cache' x = cache x ∧ dirty' x = dirty x)
    (h1 : dirty' t = true → (cache' t).isSome)
    (h2 : ∀ r, cache' t = some r → dirty' t = false → agree r (store' t)) :
    Wf agree store' cache' dirty' := by
  refine ⟨fun x hx => ?_, fun x r hc hd => ?_⟩
  · by_cases hxt : x = t
    · rw [hxt] at hx ⊢; exact h1 hx
    · obtain ⟨_, e2, e3⟩ := hoff x hxt
      rw [e2]; exact h.dirtyCached x (e3 ▸ hx)
  · by_cases hxt : x = t
    · rw [hxt] at hc hd ⊢; exact h2 r hc hd
    · obtain ⟨e1, e2, e3⟩ := hoff x hxt
      rw [e1]; exact h.cleanAgree x r (e2 ▸ hc) (e3 ▸ hd)

theorem wf_write (h : Wf agree store cache dirty) (t : T) (r : Rcd) :
    Wf agree store (cache.upd t (some r)) (fun x => if x = t then true else dirty x) :=
  wf_point h t (fun _ hx => ⟨rfl, upd_ne _ _ hx, if_neg hx⟩) (fun _ => congrArg Option.isSome (upd_same ..))
    (fun _ _ hd => absurd ((if_pos rfl).symm.trans hd) (fun e => nomatch e))

theorem wf_remove (h : Wf agree store cache dirty) (t : T) :
    Wf agree (store.upd t none) (cache.upd t none) (fun x => if x = t then false else dirty x) :=
  wf_point h t (fun _ hx => ⟨upd_ne _ _ hx, upd_ne _ _ hx, if_neg hx⟩)
    (fun hd => absurd ((if_pos rfl).symm.trans hd) Bool.false_ne_true)
    (fun _ hc _ => absurd ((upd_same ..).symm.trans hc) (fun e => nomatch e))

theorem wf_reset (agree : Rcd → Option Rcd → Prop) (store : Map) : Wf agree store Map.empty (fun _ => false) :=
  ⟨fun _ h => (nomatch h), fun _ _ h => (nomatch h)⟩

/-- a clean cached record is the stored record -/
abbrev DbmWf (s : Dbm) : Prop := Wf (fun r o => o = some r) s.dbm s.cache s.dirty

theorem dbmLoad_eq (s : Dbm) (t : T) : dbmLoad s t = { s with cache := s.cache.upd t (dbmAbs s t) } := by
  unfold dbmLoad dbmAbs
  cases hc : s.cache t with
  | some r => simp only []; rw [upd_eq_self hc]
  | none =>
    cases hd : s.dbm t with
    | none => simp only []; rw [upd_eq_self hc]
    | some r => rfl

theorem dbmLoad_dbm (s : Dbm) (t : T) : (dbmLoad s t).dbm = s.dbm := by
  rw [dbmLoad_eq]

theorem dbmLoad_dirty (s : Dbm) (t : T) : (dbmLoad s t).dirty = s.dirty := by
  rw [dbmLoad_eq]

theorem dbmLoad_cache (s : Dbm) (t : T) : (dbmLoad s t).cache t = dbmAbs s t := by
  rw [dbmLoad_eq]; exact upd_same ..

theorem dbmLoad_abs (s : Dbm) (t : T) : dbmAbs (dbmLoad s t) = dbmAbs s := by
  rw [dbmLoad_eq]
  funext x
  by_cases hx : x = t
  · subst hx
    simp only [dbmAbs, upd_same]
    cases s.cache x <;> cases s.dbm x <;> rfl
  · simp only [dbmAbs, upd_ne _ _ hx]

theorem dbmLoad_wf (s : Dbm) (t : T) (h : DbmWf s) : DbmWf (dbmLoad s t) := by
  rw [dbmLoad_eq]
  refine wf_point h t (fun x hx => ⟨rfl, upd_ne _ _ hx, rfl⟩) (fun hd => ?_) (fun r hc hd => ?_)
  · have := h.dirtyCached t hd
    simp only [upd_same, dbmAbs]
    cases hc : s.cache t with
    | none => rw [hc] at this; cases this
    | some r => rfl
  · simp only [upd_same, dbmAbs] at hc
    cases hc' : s.cache t with
    | none => rw [hc'] at hc; exact hc
    | some r' => rw [hc'] at hc; exact hc ▸ h.cleanAgree t r' hc' hd

theorem dbmAbs_eq (s : Dbm) (h : DbmWf s) (t : T) : dbmAbs s t = if s.dirty t then s.cache t else s.dbm t := by
  unfold dbmAbs
  cases hc : s.cache t with
  | none => rw [wf_uncached_clean h hc]; rfl
  | some r =>
    cases hd : s.dirty t with
    | true => rfl
    | false => exact (h.cleanAgree t r hc hd).symm

theorem held_iff (h : Wf agree store cache dirty) (t : T) :
    (dirty t || (store t).isSome) = (if dirty t then cache t else store t).isSome := by
  cases hd : dirty t with
  | true => exact (h.dirtyCached t hd).symm
  | false => rfl

theorem dbm_step_refines (s : Dbm) (op : Op) (h : DbmWf s) :
    DbmWf (dbmStep s op).1 ∧ dbmAbs (dbmStep s op).1 = (specStep (dbmAbs s) op).1 ∧
    (dbmStep s op).2 = (specStep (dbmAbs s) op).2 := by
  cases op with
  | set t k v =>
    refine ⟨wf_write (dbmLoad_wf s t h) t _, ?_, rfl⟩
    · refine (eq_upd (m := dbmAbs s) t fun x hx => ?_).trans ?_
      · rw [← dbmLoad_abs s t]
        simp only [dbmStep, dbmAbs, upd_ne _ _ hx]
      · simp only [dbmStep, specStep, dbmAbs, upd_same, dbmLoad_cache]
  | get t k => exact ⟨dbmLoad_wf s t h, dbmLoad_abs s t, by simp only [dbmStep, specStep, dbmLoad_cache]⟩
  | has t => exact ⟨h, rfl, congrArg Out.bool ((Bool.or_comm ..).trans ((held_iff h t).trans (congrArg _ (dbmAbs_eq s h t).symm)))⟩
  | remove t =>
    refine ⟨wf_remove h t, ?_, rfl⟩
    · refine (eq_upd (m := dbmAbs s) t fun x hx => ?_).trans ?_
      · simp only [dbmStep, dbmAbs, upd_ne _ _ hx]
      · simp only [dbmStep, specStep, dbmAbs, upd_same]
  | removeAll => exact ⟨wf_reset _ _, rfl, rfl⟩
  | reopen =>
    exact ⟨wf_reset _ _, funext fun x => (dbmAbs_eq s h x).symm, rfl⟩

theorem dbmOpen_wf (m : Map) : DbmWf (dbmOpen m) := wf_reset _ m

theorem dbmOpen_abs (m : Map) : dbmAbs (dbmOpen m) = m := rfl

/-- a clean cached record is the stored record, or `{}` for a task that is not stored (`_get_task_data`) -/
abbrev SqlWf (s : Sql) : Prop := Wf (fun r o => r = o.getD []) s.txn s.cache s.dirty

theorem sql_base (s : Sql) (h : SqlWf s) (t : T) :
    (match s.cache t with | some r => r | none => sqlData s t) = (sqlAbs s t).getD [] := by
  unfold sqlAbs sqlData
  cases hc : s.cache t with
  | none => rw [wf_uncached_clean h hc]; rfl
  | some r =>
    cases hd : s.dirty t with
    | true => rfl
    | false => exact h.cleanAgree t r hc hd

theorem getD_nil_get (o : Option Rcd) (k : Ky) : (o.getD []).get k = o.bind (·.get k) := by
  cases o <;> rfl

theorem sql_step_refines (s : Sql) (op : Op) (h : SqlWf s) :
    SqlWf (sqlStep s op).1 ∧ sqlAbs (sqlStep s op).1 = (specStep (sqlAbs s) op).1 ∧
    (sqlStep s op).2 = (specStep (sqlAbs s) op).2 := by
  cases op with
  | set t k v =>
    refine ⟨wf_write h t _, ?_, rfl⟩
    · refine (eq_upd (m := sqlAbs s) t fun x hx => ?_).trans ?_
      · simp only [sqlStep, sqlAbs, upd_ne _ _ hx, if_neg hx]
      · simp only [sqlStep, specStep, sqlAbs, upd_same, if_true]
        exact congrArg (fun b => (sqlAbs s).upd t (some (b.set k v))) (sql_base s h t)
  | get t k =>
    have hb := sql_base s h t
    simp only [sqlStep, specStep]
    cases hc : s.cache t with
    | some r =>
      rw [hc] at hb
      exact ⟨h, rfl, congrArg Out.val ((congrArg (·.get k) hb).trans (getD_nil_get ..))⟩
    | none =>
      have hd := wf_uncached_clean h hc
      rw [hc] at hb
      refine ⟨wf_point h t (fun x hx => ⟨rfl, upd_ne _ _ hx, rfl⟩)
        (fun hd' => absurd (hd.symm.trans hd') Bool.false_ne_true)
        (fun r hr _ => (Option.some.inj ((upd_same ..).symm.trans hr)).symm), ?_,
        congrArg Out.val ((congrArg (·.get k) hb).trans (getD_nil_get ..))⟩
      funext x
      by_cases hx : x = t
      · subst hx; simp only [sqlAbs, hd, Bool.false_eq_true, if_false]
      · simp only [sqlAbs, upd_ne _ _ hx]
  | has t => exact ⟨h, rfl, congrArg Out.bool (held_iff h t)⟩
  | remove t =>
    refine ⟨wf_remove h t, ?_, rfl⟩
    · refine (eq_upd (m := sqlAbs s) t fun x hx => ?_).trans ?_
      · simp only [sqlStep, sqlAbs, upd_ne _ _ hx, if_neg hx]
      · simp only [sqlStep, specStep, sqlAbs, upd_same, if_true, Bool.false_eq_true, if_false]
  | removeAll => exact ⟨wf_reset _ _, rfl, rfl⟩
  | reopen => exact ⟨wf_reset _ _, rfl, rfl⟩

theorem sqlOpen_wf (m : Map) : SqlWf (sqlOpen m) := wf_reset _ m

theorem sqlOpen_abs (m : Map) : sqlAbs (sqlOpen m) = m := rfl

theorem spec_absent_preserved (mid : List Op) (t : T) (hmid : ∀ op ∈ mid, ∀ k v, op ≠ Op.set t k v) :
    ∀ (m : Map), m t = none → (runWith specStep m mid).1 t = none := by
  induction mid with
  | nil => intro m h; exact h
  | cons op mid ih =>
    intro m h
    rw [runWith_cons]
    refine ih (fun o ho => hmid o (List.mem_cons_of_mem _ ho)) _ ?_
    have hop := hmid op (List.mem_cons_self ..)
    cases op with
    | set t' k v => exact (upd_ne m _ fun e => hop k v (congrArg (Op.set · k v) e.symm)).trans h
    | remove t' =>
      by_cases ht : t = t'
      · exact ht ▸ upd_same ..
      · exact (upd_ne m _ ht).trans h
    | removeAll => rfl
    | _ => exact h

end DoitModel.KV
