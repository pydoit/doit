import DoitModel.Proofs.C15Obey2
import DoitModel.Proofs.DelayedWF
/-! # Delayed creation: the node of a loaded task holds the table entry (no re-definition)

`RedefWF inp` (decidable: `noRedefB`): a name a creator yields is new or a placeholder of the same creator, the
yields of different creators are disjoint, `to_load` names a placeholder of the same creator, and the dispatcher
keeps `evaluated_creators`.  Then in every reachable state a node whose task carries no loader (in particular every
task that was handed to execution) holds exactly `TaskControl.tasks[name]`: the ordering statement over the
node-held objects (`C15_created_obey`) is the statement over the task table. -/
namespace DoitModel.Delayed
open DoitModel.Run (RS Name)

structure RedefWF (inp : Input) : Prop where
  notPinned : inp.pinnedOnce = false
  n1 : ∀ p l, Holder inp p l → ∀ m ∈ yields inp p l, ∀ td, lookup0 inp.tasks0 m = some td → td.loader ≠ none
  n2 : ∀ p l p' l', Holder inp p l → Holder inp p' l' → inp.creatorOf l ≠ inp.creatorOf l' →
    ∀ m ∈ yields inp p l, m ∉ yields inp p' l'
  n3 : ∀ p l, Holder inp p l → ∀ m ∈ yields inp p l, ∀ l0, Holder inp m l0 → inp.creatorOf l0 = inp.creatorOf l
  r : ∀ p l, Holder inp p l → ∃ l', Holder inp (toLoad inp l p) l' ∧ inp.creatorOf l' = inp.creatorOf l

theorem Holder.fn {inp : Input} {n : Name} {l l' : LId} (h : Holder inp n l) (h' : Holder inp n l') : l = l' := by
  obtain ⟨td, h1, h2⟩ := h
  obtain ⟨td', h1', h2'⟩ := h'
  rw [h1] at h1'; cases h1'; rw [h2] at h2'; cases h2'; rfl

/-- `t` is the statement; the others say which creators are known to be evaluated: `e1` that of a `created` loader
    object, `e2` that of a placeholder whose table entry lost its loader, `hist` the one that yielded a name the
    initial table does not have.  A creator call is the creator's first, so nothing it yields has a loaded node. -/
structure RedefInv (inp : Input) (s : Sys) : Prop where
  t : ∀ n nd, s.nodes n = some nd → nd.task.loader = none → s.tasks n = some nd.task
  orig : ∀ n nd l, s.nodes n = some nd → nd.task.loader = some l → Holder inp n l
  tab : ∀ n td l, s.tasks n = some td → td.loader = some l → Holder inp n l
  e1 : ∀ l, s.created l = true → inp.creatorOf l ∈ s.evaluated
  e2 : ∀ m td l0, s.tasks m = some td → td.loader = none → Holder inp m l0 → inp.creatorOf l0 ∈ s.evaluated
  hist : ∀ m td, s.tasks m = some td → lookup0 inp.tasks0 m = none →
    ∃ p l, Holder inp p l ∧ inp.creatorOf l ∈ s.evaluated ∧ m ∈ yields inp p l

variable {inp : Input} {s s' : Sys} {n : Name} {nd : Node} {l : LId} {perm : List Name}

theorem RedefInv.quiet (h : RedefInv inp s) (q : Quiet s s') : RedefInv inp s' := by
  constructor
  · intro n nd' hn hl
    rw [q.tasks]
    rcases q.nodes n nd' hn with ⟨nd, h1, h2⟩ | h1
    · rw [h2] at hl ⊢; exact h.t n nd h1 hl
    · exact h1
  · intro n nd' l hn hl
    rcases q.nodes n nd' hn with ⟨nd, h1, h2⟩ | h1
    · rw [h2] at hl; exact h.orig n nd l h1 hl
    · exact h.tab n _ l h1 hl
  · intro n td l hn hl; rw [q.tasks] at hn; exact h.tab n td l hn hl
  · intro l hl; rw [q.created] at hl; rw [q.evald]; exact h.e1 l hl
  · intro m td l0 hm hl hh; rw [q.tasks] at hm; rw [q.evald]; exact h.e2 m td l0 hm hl hh
  · intro m td hm h0; rw [q.tasks] at hm; rw [q.evald]; exact h.hist m td hm h0

theorem redef_evalCreator {b : Bool} (wf : RedefWF inp) (h : RedefInv inp s)
    (hh : Holder inp n l) (hfresh : inp.creatorOf l ∉ s.evaluated) :
    RedefInv inp (evalCreator inp s l (toLoad inp l n) b) ∧
      inp.creatorOf l ∈ (evalCreator inp s l (toLoad inp l n) b).evaluated := by
  have hmono : ∀ c, c ∈ s.evaluated → c ∈ s.evaluated ++ [inp.creatorOf l] :=
    fun c hc => List.mem_append_left _ hc
  have hnew : inp.creatorOf l ∈ s.evaluated ++ [inp.creatorOf l] :=
    List.mem_append_right _ (List.mem_singleton.mpr rfl)
  unfold evalCreator
  cases hr : regTargets s.targets (targetPairs (inp.make (inp.creatorOf l) (toLoad inp l n))) with
  | none =>
    refine ⟨⟨h.t, h.orig, h.tab, fun l' hl' => hmono _ (h.e1 l' hl'),
      fun m td l0 hm hl h0 => hmono _ (h.e2 m td l0 hm hl h0), ?_⟩, hnew⟩
    intro m td hm h0
    obtain ⟨p, l', a, b, c⟩ := h.hist m td hm h0
    exact ⟨p, l', a, hmono _ b, c⟩
  | some tg =>
    have hic := insertNew_cases tg (inp.make (inp.creatorOf l) (toLoad inp l n)) s.nextOid s.tasks
    refine ⟨⟨?_, h.orig, ?_, fun l' hl' => hmono _ (h.e1 l' hl'), ?_, ?_⟩, hnew⟩
    · intro m nd hm hl
      have hT := h.t m nd hm hl
      rcases hic m with
        ⟨h1, _⟩ | ⟨td, _, _, _, h3⟩
      · show insertNew _ _ _ _ m = _
        rw [h1]; exact hT
      · exfalso
        have hy : m ∈ yields inp n l := h3
        cases h0 : lookup0 inp.tasks0 m with
        | none =>
          obtain ⟨p, l', a, b, c⟩ := h.hist m _ hT h0
          have hne : inp.creatorOf l ≠ inp.creatorOf l' := fun e => hfresh (e ▸ b)
          exact wf.n2 n l p l' hh a hne m hy c
        | some td0 =>
          cases hl0 : td0.loader with
          | none => exact wf.n1 n l hh m hy td0 h0 hl0
          | some l0 =>
            have hm0 : Holder inp m l0 := ⟨td0, h0, hl0⟩
            have := h.e2 m _ l0 hT hl hm0
            rw [wf.n3 n l hh m hy l0 hm0] at this
            exact hfresh this
    · intro m td l' hm hl'
      exact h.tab m td l' (insertNew_old _ _ _ _ _ _ _ hm hl') hl'
    · intro m td l0 hm hl hm0
      rcases hic m with
        ⟨h1, _⟩ | ⟨_, _, _, _, h3⟩
      · have hm' : s.tasks m = some td := by rw [← h1]; exact hm
        exact hmono _ (h.e2 m td l0 hm' hl hm0)
      · have hy : m ∈ yields inp n l := h3
        rw [wf.n3 n l hh m hy l0 hm0]; exact hnew
    · intro m td hm h0
      rcases hic m with
        ⟨h1, _⟩ | ⟨_, _, _, _, h3⟩
      · have hm' : s.tasks m = some td := by rw [← h1]; exact hm
        obtain ⟨p, l', a, b, c⟩ := h.hist m td hm' h0
        exact ⟨p, l', a, hmono _ b, c⟩
      · exact ⟨n, l, hh, hnew, h3⟩

theorem redef_regexBlock {s r : Sys} {g : GId} (h : RedefInv inp s)
    (hr : RegexSpec inp s l g r) : RedefInv inp r := by
  obtain ⟨gf, gt, su, rfl, _⟩ := hr.frame
  exact h.quiet (.of_eq rfl rfl rfl rfl rfl)

theorem redef_finishLoader {tk' : TDef}
    (h : RedefInv inp s) (hh : Holder inp n l) (hev : inp.creatorOf l ∈ s.evaluated) (hk : tk'.loader = none)
    (hf : FinLoaderSpec s n nd l tk' s') : RedefInv inp s' := by
  have he1 : ∀ l', (if l' = l then true else s.created l') = true → inp.creatorOf l' ∈ s.evaluated := by
    intro l' hl'
    by_cases e : l' = l
    · subst e; exact hev
    · rw [if_neg e] at hl'; exact h.e1 l' hl'
  cases hf with
  | crash _ => exact ⟨h.t, h.orig, h.tab, he1, h.e2, h.hist⟩
  | same cur _ _ =>
    constructor
    · intro m nd' hm hl
      rcases upd_some hm with ⟨e, rfl⟩ | ⟨e, hm⟩
      · exact (if_pos e).trans rfl
      · exact (if_neg e).trans (h.t m nd' hm hl)
    · intro m nd' l' hm hl
      rcases upd_some hm with ⟨_, rfl⟩ | ⟨_, hm⟩
      · rw [hk] at hl; cases hl
      · exact h.orig m nd' l' hm hl
    · intro m td l' hm hl
      rcases upd_some hm with ⟨_, rfl⟩ | ⟨_, hm⟩
      · rw [hk] at hl; cases hl
      · exact h.tab m td l' hm hl
    · exact he1
    · intro m td l0 hm hl hm0
      rcases upd_some hm with ⟨rfl, _⟩ | ⟨_, hm⟩
      · rw [hm0.fn hh]; exact hev
      · exact h.e2 m td l0 hm hl hm0
    · intro m td hm h0
      rcases upd_some hm with ⟨rfl, _⟩ | ⟨_, hm⟩
      · obtain ⟨td0, h1, _⟩ := hh
        rw [h1] at h0; cases h0
      · exact h.hist m td hm h0
  | other cur hc _ =>
    refine ⟨fun m nd' hm hl => ?_, fun m nd' l' hm hl => ?_, h.tab, he1, h.e2, h.hist⟩
    · rcases upd_some hm with ⟨rfl, rfl⟩ | ⟨_, hm⟩
      · exact hc
      · exact h.t m nd' hm hl
    · rcases upd_some hm with ⟨rfl, rfl⟩ | ⟨_, hm⟩
      · exact h.tab _ cur l' hc hl
      · exact h.orig m nd' l' hm hl

theorem redef_afterCreate (h : RedefInv inp s) (hh : Holder inp n l) (hev : inp.creatorOf l ∈ s.evaluated)
    (ha : AfterCreateSpec inp s n nd l s') : RedefInv inp s' := by
  cases ha with
  | plain _ => exact redef_finishLoader h hh hev rfl finishLoader_spec
  | raised g r e _ hr _ => exact redef_regexBlock h hr
  | rx g r _ hr _ =>
    have hr' := redef_regexBlock h hr
    obtain ⟨gf, gt, su, rfl, _⟩ := hr.frame
    exact redef_finishLoader hr' hh hev rfl finishLoader_spec

theorem redef_loaderStep (wf : RedefWF inp)
    (h : RedefInv inp s) (hn : s.nodes n = some nd) (hl : nd.task.loader = some l)
    (hs : LoaderSpec inp s n nd l s') : RedefInv inp s' := by
  have hh : Holder inp n l := h.orig n nd l hn hl
  have hfresh : ∀ tT, mustCreate inp s l tT = true → inp.creatorOf l ∉ s.evaluated := by
    intro tT hm
    exact (mustCreate_iff.mp hm).2.resolve_left (by rw [wf.notPinned]; nofun)
  cases hs with
  | crash => exact h.quiet (.of_eq rfl rfl rfl rfl rfl)
  | raised tT e _ hm _ => exact (redef_evalCreator wf h hh (hfresh tT hm)).1
  | created tT s' _ hm _ ha =>
    obtain ⟨h1, hev1⟩ := redef_evalCreator (b := nd.bad) wf h hh (hfresh tT hm)
    exact redef_afterCreate h1 hh hev1 ha
  | loaded tT s' hT hm ha =>
    refine redef_afterCreate h hh ?_ ha
    -- the creator was evaluated already
    obtain ⟨l', hh', hc'⟩ := wf.r n l hh
    rw [← hc']
    cases hlT : tT.loader with
    | none => exact h.e2 _ tT l' hT hlT hh'
    | some l'' =>
      have hl'' : l'' = l' := (h.tab _ tT l'' hT hlT).fn hh'
      subst hl''
      cases hcr : s.created l'' with
      | true => exact h.e1 l'' hcr
      | false =>
        -- not created and still not to be created: the creator is among `evaluated_creators`
        refine Decidable.byContradiction fun hne => ?_
        rw [hc'] at hne
        rw [mustCreate_iff.mpr ⟨⟨l'', hlT, hcr⟩, Or.inr hne⟩] at hm
        cases hm

theorem redef_init (inp : Input) : RedefInv inp (init inp) := by
  constructor
  · intro _ _ h; simp [init] at h
  · intro _ _ _ h; simp [init] at h
  · intro n td l h hl; exact ⟨td, h, hl⟩
  · intro l h; simp [init] at h
  · intro m td l0 hm hl hh
    obtain ⟨td0, h1, h2⟩ := hh
    have : lookup0 inp.tasks0 m = some td := hm
    rw [this] at h1; cases h1; rw [hl] at h2; cases h2
  · intro m td hm h0
    have : lookup0 inp.tasks0 m = some td := hm
    rw [this] at h0; cases h0

theorem redef_step (wf : RedefWF inp) {c : Choice} (h : RedefInv inp s)
    (hs : step inp s c = some s') : RedefInv inp s' := by
  cases step_spec hs with
  | tick _ =>
    rcases dtick_cases inp s with q | ⟨n, nd, l, hn, hl, heq⟩
    · exact h.quiet q
    · rw [heq]; exact redef_loaderStep wf h hn hl loaderStep_spec
  | select n perm s' _ hsel => exact h.quiet (quiet_selectStep hsel)
  | resume => exact h.quiet (.of_eq rfl rfl rfl rfl rfl)
  | finish n perm s' hf => exact h.quiet (quiet_finishStep hf)

theorem redef_reach (wf : RedefWF inp) (hr : Reach inp s) : RedefInv inp s := by
  induction hr with
  | init => exact redef_init inp
  | next _ hs ih => exact redef_step wf ih hs

theorem started_loaded (hc : CountOK (stOf s) s.events) (h : ObeyInv inp s) (t : Name)
    (ht : Ev.start t ∈ s.events) : ∃ nd, s.nodes t = some nd ∧ nd.task.loader = none := by
  cases hn : s.nodes t with
  | none => exact absurd rfl (hc.fresh t (stOf_none hn) _ ht)
  | some nd =>
    refine ⟨nd, rfl, ?_⟩
    cases hs : nd.status with
    | none => exact absurd rfl (hc.fresh t ((stOf_node hn).trans hs) _ ht)
    | _ => exact ((h.core.node t nd hn).2.2 (by rw [hs]; intro e; cases e)).2

theorem holder_mem {p : Name} (h : Holder inp p l) : (p, l) ∈ holders inp := by
  obtain ⟨td, h1, h2⟩ := h
  unfold holders
  rw [List.mem_filterMap]
  exact ⟨(p, td), lookup0_mem _ _ _ h1, by simp [h2]⟩

theorem redefWF_of_bool (h : noRedefB inp = true) : RedefWF inp := by
  unfold noRedefB at h
  simp only [Bool.and_eq_true, Bool.not_eq_true', List.all_eq_true] at h
  obtain ⟨hp, hall⟩ := h
  refine ⟨hp, ?_, ?_, ?_, ?_⟩
  · intro p l hh m hm td htd hl
    have := (hall _ (holder_mem hh)).1.1 m hm
    simp only [htd, hl] at this
    cases this
  · intro p l p' l' hh hh' hne m hm hm'
    have := (hall _ (holder_mem hh)).1.2 _ (holder_mem hh')
    simp only [Bool.or_eq_true, beq_iff_eq, List.all_eq_true, Bool.not_eq_true', List.contains_eq_mem,
      decide_eq_false_iff_not] at this
    rcases this with h1 | h1
    · exact hne h1
    · exact h1 m hm hm'
  · intro p l hh m hm l0 hh0
    obtain ⟨td0, h1, h2⟩ := hh0
    have := (hall _ (holder_mem hh)).1.1 m hm
    simp only [h1, h2] at this
    simpa using this
  · intro p l hh
    have := (hall _ (holder_mem hh)).2
    cases h1 : lookup0 inp.tasks0 (toLoad inp l p) with
    | none => simp [h1] at this
    | some tb =>
      cases h2 : tb.loader with
      | none => simp [h1, h2] at this
      | some l' =>
        simp only [h1, h2, beq_iff_eq] at this
        exact ⟨l', ⟨tb, h1, h2⟩, this⟩

end DoitModel.Delayed
