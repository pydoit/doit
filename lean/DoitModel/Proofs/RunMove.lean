import DoitModel.Proofs.RunPar
import DoitModel.Proofs.RunnerSpec
/-! # One transition of either runner, coarsely

`SerialStep`, `MainStep`, `TakeStep` and `DoneStep` (`RunnerSpec.lean`) list 36 branches.  As far as the nodes, the event
list, `_stop_running`, `final_result` and `tasks_to_run` go there are six kinds of them (`Move`): an invariant that speaks of
those fields only is proved with one case per kind. -/
namespace DoitModel.Run

/-- reports about the execution of a task's actions (`execute_task`, start and end of the actions): all that a step other
    than `select_task`, `process_task_result` and `finish()` adds to the event list -/
def Ev.work : Ev → Bool
  | .execute _ | .start _ _ | .fin _ _ => true
  | _ => false

theorem startEvents_work (inp : RunInput) (n w : Nat) : ∀ e ∈ startEvents inp n w, e.work = true := by
  intro e he
  rcases mem_startEvents he with rfl | rfl <;> rfl

/-- `b` is `a` with `new` reported, as far as the five fields go -/
structure Emits (new : List Ev) (a b : Sys) : Prop where
  nodes : b.nodes = a.nodes
  events : b.events = new ++ a.events
  stop : b.stop = a.stop
  final : b.final = a.final
  toRun : b.toRun = a.toRun

inductive Move (inp : RunInput) (s s' : Sys) : Prop
  /-- a worker reports about the execution of a task; with `new = []`: bookkeeping of the runner, an exception -/
  | emit (new : List Ev) (a : Emits new s s') (hx : ∀ e ∈ new, e.work = true)
  | tick (perm : List Name) (haw : awaiting s) (hsusp : s.susp = none) (hs : dtick inp s perm = some s')
  | send (node : Option Name) (perm : List Name) (s0 : Sys) (hnode : sentBack s = node)
      (hs : send inp s node perm = some s0) (a : Emits [] s0 s')
  /-- `select_task`; `extra`: the serial runner goes on to `execute_task` in the same transition -/
  | select (n : Name) (nd : Node) (extra : List Ev) (haw : awaiting s) (hsusp : s.susp = some (.node n))
      (hn : s.nodes n = some nd) (hd : selDecision inp n nd ≠ .assertFail)
      (a : Emits extra (applySel inp s n nd (selDecision inp n nd)) s') (hx : ∀ e ∈ extra, e.work = true)
  /-- `process_task_result` of the task the serial runner executes / of the head of the result queue -/
  | result (n : Name) (nd : Node) (mid : List Ev) (s0 : Sys) (hn : s.nodes n = some nd)
      (hsrc : s.rpc = .sExec n ∨ n ∈ s.resQ) (a0 : Emits mid s s0) (hx : ∀ e ∈ mid, e.work = true)
      (a : Emits [] (processResult inp s0 n nd) s')
  | finish (h : s' = finishRun s)

theorem Move.idle {inp : RunInput} {s s' : Sys} (a : Emits [] s s') : Move inp s s' := .emit [] a (fun _ h => nomatch h)

theorem SerialStep.move {inp : RunInput} {s s' : Sys} {perm : List Name} (k : SerialStep inp s perm s') :
    Move inp s s' := by
  cases k with
  | send hr _ hsd => exact .send _ perm _ (by simp only [sentBack, hr]) hsd ⟨rfl, rfl, rfl, rfl, rfl⟩
  | tick hr hsu hs => exact .tick perm (Or.inl hr) hsu hs
  | go hr hsu hn hd =>
    exact .select _ _ _ (Or.inl hr) hsu hn (by rw [hd]; nofun) (by rw [hd]; exact ⟨rfl, startTask_events inp _ _ 0, rfl, rfl, rfl⟩)
      (startEvents_work inp _ 0)
  | select hr hsu hn hd _ hne =>
    subst hd; exact .select _ _ [] (Or.inl hr) hsu hn hne ⟨rfl, rfl, rfl, rfl, rfl⟩ (fun _ h => nomatch h)
  | result hr hn =>
    exact .result _ _ [Ev.fin _ 0] { s with events := Ev.fin _ 0 :: s.events } hn (Or.inl hr) ⟨rfl, rfl, rfl, rfl, rfl⟩
      (fun _ he => by cases List.mem_singleton.mp he; rfl) ⟨rfl, rfl, rfl, rfl, rfl⟩
  | finish => exact .finish rfl
  | _ => exact .idle ⟨rfl, rfl, rfl, rfl, rfl⟩

theorem gReturn_emits (s : Sys) (job : Job) (ret : Ret) : Emits [] s (gReturn s job ret) := by
  generalize h : gReturn s job ret = g
  cases gReturn_row.of_eq h <;> exact ⟨rfl, rfl, rfl, rfl, rfl⟩

theorem MainStep.move {inp : RunInput} {s s' : Sys} {perm : List Name} (k : MainStep inp s perm s') :
    Move inp s s' := by
  cases k with
  | send hr hsd => exact .send _ perm _ (by simp only [sentBack, hr]) hsd ⟨rfl, rfl, rfl, rfl, rfl⟩
  | tick hr hsu hs => exact .tick perm (Or.inr ⟨_, hr⟩) hsu hs
  | go hr hsu hn hd =>
    exact .select _ _ [] (Or.inr ⟨_, hr⟩) hsu hn (by rw [hd]; nofun) (by rw [hd]; exact ⟨rfl, rfl, rfl, rfl, rfl⟩) (fun _ h => nomatch h)
  | select hr hsu hn hd _ hne =>
    subst hd; exact .select _ _ [] (Or.inr ⟨_, hr⟩) hsu hn hne ⟨rfl, rfl, rfl, rfl, rfl⟩ (fun _ h => nomatch h)
  | ret => exact .idle (gReturn_emits s _ _)
  | @result n rest nd _ _ hq hn =>
    exact .result n nd [] { s with resQ := rest } hn (Or.inr (by rw [hq]; exact List.mem_cons_self)) ⟨rfl, rfl, rfl, rfl, rfl⟩
      (fun _ h => nomatch h) ⟨rfl, rfl, rfl, rfl, rfl⟩
  | finish => exact .finish rfl
  | _ => exact .idle ⟨rfl, rfl, rfl, rfl, rfl⟩

theorem serialStep_halted {inp : RunInput} {s : Sys} {perm : List Name} (h : s.rpc = .halted) :
    serialStep inp s perm = none := by
  unfold serialStep; rw [h]

theorem mainStep_halted {inp : RunInput} {s : Sys} {perm : List Name} (h : s.rpc = .halted) :
    mainStep inp s perm = none := by
  unfold mainStep; rw [h]

theorem serialStep_move {inp : RunInput} {s s' : Sys} {perm : List Name} (hs : serialStep inp s perm = some s') :
    Move inp s s' ∧ (s.rpc = .halted → s'.rpc = .halted) :=
  ⟨(serialStep_spec hs).move, fun h => by rw [serialStep_halted h] at hs; cases hs⟩

theorem pstep_move {inp : RunInput} {s s' : Sys} {c : Choice} (hs : pstep inp s c = some s') :
    Move inp s s' ∧ (s.rpc = .halted → s'.rpc = .halted) := by
  cases c with
  | main perm => exact ⟨(mainStep_spec hs).move, fun h => by rw [pstep, mainStep_halted h] at hs; cases hs⟩
  | take w =>
    cases takeStep_spec hs with
    | hold | stop => exact ⟨.idle ⟨rfl, rfl, rfl, rfl, rfl⟩, id⟩
    | task => exact ⟨.emit _ ⟨rfl, startTask_events_eq inp s _ w, rfl, rfl, rfl⟩ (startEvents_work inp _ w), id⟩
  | done w =>
    cases doneStep_spec hs with
    | done => exact ⟨.emit [Ev.fin _ w] ⟨rfl, rfl, rfl, rfl, rfl⟩ (fun _ he => by cases List.mem_singleton.mp he; rfl), id⟩

/-- Induction over the reachable states, one `Move` at a time; `Inv2`, `Inv3` and `Q` (what else is already known of every
    reachable state) are at hand for the state before the move. -/
theorem Move.reach {inp : RunInput} {P Q : Sys → Prop} (hQ : ∀ {s}, Reach inp s → Q s) (h0 : P (init inp))
    (step : ∀ {s s'}, Inv2 inp s → Inv3 inp s → Q s → P s → Move inp s s' → P s') {s : Sys} (h : Reach inp s) : P s := by
  induction h with
  | init => exact h0
  | @next s0 s1 c hr hs ih =>
    cases c with
    | main perm => exact step (reach_inv2 hr) (reach_inv3 hr) (hQ hr) ih (serialStep_move hs).1
    | _ => cases hs

theorem Move.preach {inp : RunInput} {P Q : Sys → Prop} (hQ : ∀ {s}, PReach inp s → Q s) (h0 : P (init inp))
    (step : ∀ {s s'}, Inv2 inp s → Inv3 inp s → Q s → P s → Move inp s s' → P s') {s : Sys} (h : PReach inp s) : P s := by
  induction h with
  | init => exact h0
  | next hr hs ih => exact step (preach_inv hr).1 (preach_inv hr).2 (hQ hr) ih (pstep_move hs).1

end DoitModel.Run
