import DoitModel.Proofs.RunDeliver
import DoitModel.Proofs.C11Fuel
import DoitModel.Proofs.RunMove
/-! # C11, laziness: the node invariant "every list of an `ExecNode` holds what the laziness closure reaches from its
    task" — `Proofs/C09Dep.lean` with the static dependency relation replaced by the run-dependent one of the monitor
    (a calc_dep delivers what it is known to deliver: `D p r` — executed / up-to-date: its values; failed after being
    started: what it returned before failing), and every node's task justified (`J`) -/
namespace DoitModel.Run

/-- `c` is a calc_dep of `n` as far as known: listed, or delivered by a calc_dep that is known to deliver `r` (`D p r`) -/
inductive CRel (inp : RunInput) (D : Name → CalcRes → Prop) (n : Name) : Name → Prop
  | base {c} : c ∈ inp.calcDep n → CRel inp D n c
  | res {p c r} : CRel inp D n p → D p r → c ∈ r.calcs → CRel inp D n c

/-- likewise for task_deps: listed, or a task_dep / file_dep owner in such an `r` -/
inductive TRel (inp : RunInput) (D : Name → CalcRes → Prop) (n : Name) : Name → Prop
  | task {d} : d ∈ inp.taskDep n → TRel inp D n d
  | resT {p d r} : CRel inp D n p → D p r → d ∈ r.tasks → TRel inp D n d
  | resF {p d r} : CRel inp D n p → D p r → d ∈ r.files → TRel inp D n d

def pcJ (inp : RunInput) (D : Name → CalcRes → Prop) (n : Name) : PC → Prop
  | .calcIter todo => ∀ d ∈ todo, CRel inp D n d
  | .taskIter todo => ∀ d ∈ todo, TRel inp D n d
  | .setupIter todo => ∀ d ∈ todo, d ∈ inp.setup n
  | _ => True

/-- node `n` is justified (`self`) and every name in its lists is a dependency of `n` as far as `D` knows: `dt`/`dc`
    `task.task_dep` / `calc_dep`, `pt`/`pcalc` not yet processed, `st`/`sc` the snapshots, `wc` awaited calc_deps, `pcl` the
    rest of the running `for` loop -/
structure NJ (inp : RunInput) (J : Name → Prop) (D : Name → CalcRes → Prop) (n : Name) (nd : Node) : Prop where
  self : J n
  dt : ∀ d ∈ nd.dynTask, TRel inp D n d
  dc : ∀ d ∈ nd.dynCalc, CRel inp D n d
  pt : ∀ d ∈ nd.pendTask, TRel inp D n d
  pcalc : ∀ d ∈ nd.pendCalc, CRel inp D n d
  st : ∀ d ∈ nd.snapTask, TRel inp D n d
  sc : ∀ d ∈ nd.snapCalc, CRel inp D n d
  wc : ∀ d ∈ nd.waitRunCalc, CRel inp D n d
  pcl : pcJ inp D n nd.pc

def AllJ (inp : RunInput) (J : Name → Prop) (D : Name → CalcRes → Prop) (s : Sys) : Prop := ∀ k y, s.nodes k = some y → NJ inp J D k y

variable {inp : RunInput} {J : Name → Prop} {D : Name → CalcRes → Prop}

theorem mkNode_nj {t : Name} {anc : List Name} (ht : J t) : NJ inp J D t (mkNode inp t anc) := by
  refine ⟨ht, fun d hd => TRel.task hd, ?_, fun d hd => TRel.task hd, ?_, ?_, ?_, ?_, trivial⟩
  · intro d hd; exact CRel.base (mem_dedup.mp hd)
  · intro d hd; exact CRel.base (mem_dedup.mp hd)
  · intro d hd; simp [mkNode] at hd
  · intro d hd; simp [mkNode] at hd
  · intro d hd; simp [mkNode] at hd

theorem addDeps_nj {n p : Name} {nd : Node} {r : CalcRes} (h : NJ inp J D n nd) (hp : CRel inp D n p) (hg : D p r) :
    NJ inp J D n (nd.addDeps r) := by
  have nt : ∀ d ∈ newTaskDeps nd r, TRel inp D n d := by
    intro d hd
    simp only [newTaskDeps, List.mem_append] at hd
    rcases hd with a | a
    · exact TRel.resT hp hg a
    · exact TRel.resF hp hg (implicitNew_mem a)
  have nc : ∀ d ∈ newCalcDeps nd r, CRel inp D n d := by
    intro d hd
    simp only [newCalcDeps, List.mem_filter] at hd
    exact CRel.res hp hg (mem_dedup.mp hd.1)
  refine ⟨h.self, ?_, ?_, ?_, ?_, h.st, h.sc, h.wc, h.pcl⟩
  · intro d hd; simp only [Node.addDeps, List.mem_append] at hd
    rcases hd with a | a
    · exact h.dt d a
    · exact nt d a
  · intro d hd; simp only [Node.addDeps, List.mem_append] at hd
    rcases hd with a | a
    · exact h.dc d a
    · exact nc d a
  · intro d hd; simp only [Node.addDeps, List.mem_append] at hd
    rcases hd with a | a
    · exact h.pt d a
    · exact nt d a
  · intro d hd; simp only [Node.addDeps, List.mem_append, List.mem_filter] at hd
    rcases hd with a | a
    · exact h.pcalc d a
    · exact nc d a.1

theorem deliver_nj {n p : Name} {nd : Node} (pst : RS) (h : NJ inp J D n nd) (hp : CRel inp D n p)
    (hg : pst.good = true → D p (inp.calcRes p)) : NJ inp J D n (deliver inp pst p nd) := by
  unfold deliver; split
  · rename_i hgood; exact addDeps_nj h hp (hg hgood)
  · exact h

theorem deliverF_nj {n p : Name} {nd : Node} (ex : Bool) (pst : RS) (h : NJ inp J D n nd) (hp : CRel inp D n p)
    (hf : pst = .fail → ex = true → D p (inp.calcResFail p)) : NJ inp J D n (deliverF inp ex pst p nd) := by
  unfold deliverF; split
  · rename_i hc; exact addDeps_nj h hp (hf hc.1 hc.2)
  · exact h

theorem parentStatus_nj {n : Name} {nd : Node} (pst : RS) (p : Name) (h : NJ inp J D n nd) :
    NJ inp J D n (parentStatus pst p nd) :=
  ⟨h.self, h.dt, h.dc, h.pt, h.pcalc, h.st, h.sc, h.wc, h.pcl⟩

/-- what the statuses and start marks of `s` say about deliveries is known to `D` -/
structure KnowsD (inp : RunInput) (D : Name → CalcRes → Prop) (s : Sys) : Prop where
  g : ∀ d, (stOf s d).good = true → D d (inp.calcRes d)
  f : ∀ d, stOf s d = .fail → started s d = true → D d (inp.calcResFail d)

theorem absorbDone_nj {s : Sys} {n : Name} (hG : KnowsD inp D s)
    (isCalc : Bool) :
    ∀ (ds : List Name) (nd : Node), NJ inp J D n nd → (isCalc = true → ∀ d ∈ ds, CRel inp D n d) →
      NJ inp J D n (absorbDone inp s isCalc ds nd) := by
  intro ds
  induction ds with
  | nil => intro nd h _; exact h
  | cons a t ih =>
    intro nd h hds
    simp only [absorbDone]
    split
    · exact ih nd h (fun e d hd => hds e d (by simp [hd]))
    · apply ih _ _ (fun e d hd => hds e d (by simp [hd]))
      split
      · rename_i hc
        exact deliverF_nj _ _ (deliver_nj _ (parentStatus_nj _ _ h) (hds hc a (by simp)) (hG.g a))
          (hds hc a (by simp)) (hG.f a)
      · exact parentStatus_nj _ _ h

theorem waitNode_nj {s : Sys} {n : Name} {nd : Node} (hG : KnowsD inp D s) (ds : List Name)
    (isCalc : Bool) (pc' : PC)
    (h : NJ inp J D n nd) (hc : isCalc = true → ∀ d ∈ ds, CRel inp D n d) (hpc : pcJ inp D n pc') :
    NJ inp J D n (waitNode inp s nd ds isCalc pc') := by
  have a := absorbDone_nj (s := s) hG isCalc ds nd h hc
  unfold waitNode addWaits
  cases isCalc with
  | true =>
    simp only [if_true]
    refine ⟨a.self, a.dt, a.dc, a.pt, a.pcalc, a.st, a.sc, ?_, hpc⟩
    intro d hd
    simp only [List.mem_append, List.mem_filter] at hd
    rcases hd with x | x
    · exact hc rfl d x.1
    · exact a.wc d x
  | false =>
    simp only [Bool.false_eq_true, if_false]
    exact ⟨a.self, a.dt, a.dc, a.pt, a.pcalc, a.st, a.sc, a.wc, hpc⟩

theorem wokenNode_nj {n : Name} {nd : Node} (pst : RS) (p : Name) (hg : pst.good = true → D p (inp.calcRes p))
    (h : NJ inp J D n nd) : NJ inp J D n (wokenNode inp pst p nd) := by
  unfold wokenNode
  split
  · rename_i hp
    apply deliver_nj _ _ (h.wc p hp) hg
    refine ⟨h.self, h.dt, h.dc, h.pt, h.pcalc, h.st, h.sc, ?_, h.pcl⟩
    intro d hd; exact h.wc d (List.mem_filter.mp hd).1
  · exact ⟨h.self, h.dt, h.dc, h.pt, h.pcalc, h.st, h.sc, h.wc, h.pcl⟩

theorem addWaiting_nj {n : Name} {nd : Node} (m : Name) (h : NJ inp J D n nd) :
    NJ inp J D n (nd.addWaiting m) := by
  unfold Node.addWaiting; split
  · exact h
  · exact ⟨h.self, h.dt, h.dc, h.pt, h.pcalc, h.st, h.sc, h.wc, h.pcl⟩

theorem allJ_setNode {s : Sys} {n : Name} {x : Node} (h : AllJ inp J D s) (hx : NJ inp J D n x) :
    AllJ inp J D (setNode s n x) := by
  intro k y hk
  simp only [setNode_nodes] at hk
  split at hk
  · rename_i e; subst e; cases hk; exact hx
  · exact h k y hk

theorem allJ_congr {s s' : Sys} (h : AllJ inp J D s) (e : s'.nodes = s.nodes) : AllJ inp J D s' := by
  intro k y hk; rw [e] at hk; exact h k y hk

theorem allJ_registerWaiting {s : Sys} (n : Name) (wf : List Name) (h : AllJ inp J D s) :
    AllJ inp J D (registerWaiting s n wf) := by
  intro k y hk
  rw [registerWaiting_nodes] at hk
  cases hx : s.nodes k with
  | none => rw [hx] at hk; cases hk
  | some x =>
    rw [hx] at hk
    by_cases e : k ∈ wf
    · simp only [e, if_true, Option.some.injEq] at hk; subst hk; exact addWaiting_nj n (h k x hx)
    · simp only [e, if_false, Option.some.injEq] at hk; subst hk; exact h k x hx

/-- `_gen_node(node = n, d)`: a new node is made only for a justified task -/
theorem genStep_allJ {s : Sys} {n : Name} {nd : Node} (d : Name) (pc' : PC)
    (h : AllJ inp J D s) (hn : s.nodes n = some nd) (hd : s.nodes d = none → J d) (hpc : pcJ inp D n pc') :
    AllJ inp J D (genStep inp s n nd d pc') := by
  have hnd := h n nd hn
  have hx : NJ inp J D n { nd with pc := pc' } :=
    ⟨hnd.self, hnd.dt, hnd.dc, hnd.pt, hnd.pcalc, hnd.st, hnd.sc, hnd.wc, hpc⟩
  generalize hg : genStep inp s n nd d pc' = g
  cases genStep_spec hg with
  | fresh hdn => exact allJ_congr (allJ_setNode (allJ_setNode h (mkNode_nj (hd hdn))) hx) rfl
  | cyclic => exact allJ_congr h rfl
  | known => exact allJ_setNode h hx

theorem addWaitRun_allJ {s : Sys} {n : Name} {nd : Node} (hG : KnowsD inp D s) (ds : List Name)
    (c : Bool) (pc' : PC)
    (h : AllJ inp J D s) (hn : s.nodes n = some nd) (hc : c = true → ∀ d ∈ ds, CRel inp D n d)
    (hpc : pcJ inp D n pc') :
    AllJ inp J D (addWaitRun inp s n nd ds c pc') := by
  unfold addWaitRun
  exact allJ_registerWaiting n _ (allJ_setNode h (waitNode_nj hG ds c pc' (h n nd hn) hc hpc))

structure JClosed (inp : RunInput) (J : Name → Prop) (D : Name → CalcRes → Prop) : Prop where
  c : ∀ n c, J n → CRel inp D n c → J c
  t : ∀ n d, J n → TRel inp D n d → J d

theorem NodeMove.nj {n : Name} {nd x : Node} {perm : List Name} (hm : NodeMove inp n nd perm x)
    (h : NJ inp J D n nd) : NJ inp J D n x := by
  have setPc : ∀ pc', pcJ inp D n pc' → NJ inp J D n { nd with pc := pc' } := fun pc' hp =>
    ⟨h.self, h.dt, h.dc, h.pt, h.pcalc, h.st, h.sc, h.wc, hp⟩
  cases hm with
  | loopTop hpc hp =>
    have hs : ∀ d ∈ perm, CRel inp D n d := fun d hd => h.pcalc d (hp.mem_iff.mp hd)
    exact ⟨h.self, h.dt, h.dc, (fun _ x => nomatch x), (fun _ x => nomatch x), h.pt, hs, h.wc, hs⟩
  | setupGo => exact setPc _ fun d hd => hd
  | _ => exact setPc _ trivial

theorem NodePark.nj {n : Name} {nd x : Node} (hp : NodePark inp n nd x) (h : NJ inp J D n nd) : NJ inp J D n x := by
  cases hp <;> exact ⟨h.self, h.dt, h.dc, h.pt, h.pcalc, h.st, h.sc, h.wc, trivial⟩

theorem nodeStep_allJ {s s' : Sys} {n : Name} {nd : Node} {perm : List Name}
    (hG : KnowsD inp D s) (hC : JClosed inp J D)
    (hS : ∀ d ds, nd.pc = .setupIter (d :: ds) → s.nodes d = none → J d)
    (h : AllJ inp J D s) (hn : s.nodes n = some nd) (hs : NodeStep inp s n nd perm s') :
    AllJ inp J D s' := by
  have hnd := h n nd hn
  have hp := hnd.pcl
  have setPc : ∀ pc', pcJ inp D n pc' → NJ inp J D n { nd with pc := pc' } := fun pc' hp =>
    ⟨hnd.self, hnd.dt, hnd.dc, hnd.pt, hnd.pcalc, hnd.st, hnd.sc, hnd.wc, hp⟩
  cases hs with
  | move hm => exact allJ_setNode h (hm.nj hnd)
  | park hk => exact allJ_congr (allJ_setNode h (hk.nj hnd)) rfl
  | yield1 => exact allJ_congr (allJ_setNode h (setPc .afterSelf1 trivial)) rfl
  | yield2 => exact allJ_congr (allJ_setNode h (setPc .afterSelf2 trivial)) rfl
  | calcGen hpc =>
    rw [hpc] at hp
    exact genStep_allJ _ _ h hn (fun _ => hC.c n _ hnd.self (hp _ (List.mem_cons_self ..)))
      (fun x hx => hp x (List.mem_cons_of_mem _ hx))
  | taskGen hpc =>
    rw [hpc] at hp
    exact genStep_allJ _ _ h hn (fun _ => hC.t n _ hnd.self (hp _ (List.mem_cons_self ..)))
      (fun x hx => hp x (List.mem_cons_of_mem _ hx))
  | setupGen hpc =>
    rw [hpc] at hp
    exact genStep_allJ _ _ h hn (hS _ _ hpc) (fun x hx => hp x (List.mem_cons_of_mem _ hx))
  | calcWait => exact addWaitRun_allJ hG _ _ _ h hn (fun _ => hnd.sc) hnd.st
  | taskWait => exact addWaitRun_allJ hG _ _ _ h hn (fun e => by cases e) trivial
  | setupWait => exact addWaitRun_allJ hG _ _ _ h hn (fun e => by cases e) trivial
  | done => exact allJ_congr h rfl

theorem dtick_allJ {s s' : Sys} {perm : List Name} (hG : KnowsD inp D s)
    (hC : JClosed inp J D)
    (hS : ∀ n nd d ds, s.cur = some n → s.nodes n = some nd → nd.pc = .setupIter (d :: ds) → s.nodes d = none → J d)
    (hT : ∀ t ∈ s.toRun, J t) (h : AllJ inp J D s)
    (hs : dtick inp s perm = some s') : AllJ inp J D s' := by
  cases dtick_spec hs with
  | node hc hn hst => exact nodeStep_allJ hG hC (fun d ds a b => hS _ _ d ds hc hn a b) h hn hst
  | create hc hr ht hnt =>
    exact allJ_congr (allJ_setNode h (mkNode_nj (hT _ (by rw [ht]; exact List.mem_cons_self ..)))) rfl
  | _ => exact allJ_congr h rfl

theorem wokenF_nj {s : Sys} {n : Name} {nd : Node} (pst : RS) (p : Name)
    (hg : pst.good = true → D p (inp.calcRes p))
    (hf : pst = .fail → started s p = true → D p (inp.calcResFail p)) (h : NJ inp J D n nd) :
    NJ inp J D n (wokenF inp s pst p nd) := by
  unfold wokenF; split
  · rename_i hp
    exact deliverF_nj _ _ (wokenNode_nj pst p hg h) (h.wc p hp) hf
  · exact wokenNode_nj pst p hg h

theorem wakeOne_allJ {s : Sys} {pst : RS} {p w : Name} {nd : Node}
    (hg : pst.good = true → D p (inp.calcRes p))
    (hf : pst = .fail → started s p = true → D p (inp.calcResFail p)) (h : AllJ inp J D s)
    (hw : s.nodes w = some nd) : AllJ inp J D (wakeOne inp s pst p w nd) := by
  have := allJ_setNode h (wokenF_nj pst p hg hf (h w nd hw))
  unfold wakeOne; split
  · exact allJ_congr this rfl
  · exact this

theorem started_congr {s s' : Sys} (e : s'.events = s.events) (p : Name) : started s' p = started s p := by
  unfold started; rw [e]

/-- `E`: the event list, which `wakeOne` leaves alone, so that `started` (which reads it) means the same in every
    state the loop goes through -/
theorem updateWaiting_allJ {pst : RS} {p : Name} (hg : pst.good = true → D p (inp.calcRes p)) (E : List Ev)
    (hf : ∀ s1 : Sys, s1.events = E → pst = .fail → started s1 p = true → D p (inp.calcResFail p)) :
    ∀ (perm : List Name) (s s' : Sys), s.events = E → AllJ inp J D s → updateWaiting inp pst p s perm = some s' →
      AllJ inp J D s' := by
  intro perm
  induction perm with
  | nil => intro s s' _ h hs; simp only [updateWaiting] at hs; cases hs; exact h
  | cons w ws ih =>
    intro s s' he h hs
    simp only [updateWaiting] at hs
    cases hw : s.nodes w with
    | none => simp only [hw] at hs; exact ih s s' he h hs
    | some nd =>
      simp only [hw] at hs
      split at hs
      · cases hs
      · exact ih _ s' ((wakeOne_outer inp s pst p w nd).1.1.trans he) (wakeOne_allJ hg (hf s he) h hw) hs

theorem sendHead_allJ {s : Sys} {p : Name} {nd : Node} (h : AllJ inp J D s) (hn : s.nodes p = some nd) :
    AllJ inp J D (sendHead s p nd) := by
  have hnd := h p nd hn
  unfold sendHead; split
  · exact allJ_congr (allJ_setNode h
      (x := { nd with waitSelect := false })
      ⟨hnd.self, hnd.dt, hnd.dc, hnd.pt, hnd.pcalc, hnd.st, hnd.sc, hnd.wc, hnd.pcl⟩) rfl
  · exact allJ_congr h rfl

theorem send_allJ {s s' : Sys} {processed : Option Name} {perm : List Name}
    (hG : KnowsD inp D s) (h : AllJ inp J D s)
    (hs : send inp s processed perm = some s') : AllJ inp J D s' := by
  cases send_spec hs with
  | running hn => exact allJ_congr (sendHead_allJ h hn) rfl
  | assertion hn => exact allJ_congr (sendHead_allJ h hn) rfl
  | @woken p nd s2 hn _ _ _ hu =>
    have hst : stOf s p = nd.status := by rw [stOf, hn]
    have hev : (sendHead s p nd).events = s.events := by
      unfold sendHead; by_cases c : nd.waitSelect = true <;> simp only [c, if_true, if_false, Bool.false_eq_true] <;> rfl
    exact allJ_congr (updateWaiting_allJ (fun a => hG.g p (by rw [hst]; exact a)) s.events
      (fun s1 e1 a b => hG.f p (by rw [hst]; exact a) (by rw [← started_congr e1 p]; exact b))
      perm _ s2 hev (sendHead_allJ h hn) hu) rfl
  | _ => exact allJ_congr h rfl

theorem allJ_status {s s' : Sys} {n : Name} {nd : Node} (st' : RS) (h : AllJ inp J D s) (hn : s.nodes n = some nd)
    (e : s'.nodes = (setNode s n { nd with status := st' }).nodes) : AllJ inp J D s' := by
  have hnd := h n nd hn
  exact allJ_congr (allJ_setNode h (x := { nd with status := st' })
    ⟨hnd.self, hnd.dt, hnd.dc, hnd.pt, hnd.pcalc, hnd.st, hnd.sc, hnd.wc, hnd.pcl⟩) e

/-- `all`: every node satisfies `NJ`; `tr`: the tasks still to be popped are justified -/
structure SJ (inp : RunInput) (J : Name → Prop) (D : Name → CalcRes → Prop) (s : Sys) : Prop where
  all : AllJ inp J D s
  tr : ∀ t ∈ s.toRun, J t

/-- what the dispatcher needs from outside to keep `SJ`: good statuses are known to `D`, `J` is closed under the known
    dependencies, and a setup-task about to get its node is justified -/
structure Hyp (inp : RunInput) (J : Name → Prop) (D : Name → CalcRes → Prop) (s : Sys) : Prop where
  g : KnowsD inp D s
  c : JClosed inp J D
  s : ∀ n nd d ds, s.cur = some n → s.nodes n = some nd → nd.pc = .setupIter (d :: ds) → s.nodes d = none → J d

theorem SJ.same {s s' : Sys} (h : SJ inp J D s) (e1 : s'.nodes = s.nodes) (e2 : s'.toRun = s.toRun) : SJ inp J D s' :=
  ⟨allJ_congr h.all e1, by rw [e2]; exact h.tr⟩

theorem dtick_toRun {s s' : Sys} {perm : List Name} (hs : dtick inp s perm = some s') :
    ∀ t ∈ s'.toRun, t ∈ s.toRun := by
  cases dtick_spec hs with
  | node hc hn hst => rw [hst.toRun]; exact fun t h => h
  | create hc hr ht hnt => rw [ht]; exact fun t h => List.mem_cons_of_mem _ h
  | skip hc hr ht hnt => rw [ht]; exact fun t h => List.mem_cons_of_mem _ h
  | _ => exact fun t h => h

theorem dtick_sj {s s' : Sys} {perm : List Name} (hy : Hyp inp J D s) (h : SJ inp J D s)
    (hs : dtick inp s perm = some s') : SJ inp J D s' :=
  ⟨dtick_allJ hy.g hy.c hy.s h.tr h.all hs, fun x hx => h.tr x (dtick_toRun hs x hx)⟩

theorem send_sj {s y : Sys} {node : Option Name} {perm : List Name} (hy : Hyp inp J D s) (h : SJ inp J D s)
    (hs : send inp s node perm = some y) : SJ inp J D y :=
  ⟨send_allJ hy.g h.all hs, by rw [send_toRun hs]; exact h.tr⟩

theorem select_sj {s : Sys} {n : Name} {nd : Node} (h : SJ inp J D s) (hn : s.nodes n = some nd)
    (d : Sel) (hd : d ≠ .assertFail) : SJ inp J D (applySel inp s n nd d) :=
  ⟨allJ_status (selStatus d) h.all hn (applySel_nodes inp s n nd d hd), by
    rw [(applySel_keeps inp s n nd d).toRun]; exact h.tr⟩

theorem result_sj {s x : Sys} {n : Name} {nd : Node} (h : SJ inp J D s) (hn : s.nodes n = some nd)
    (e1 : x.nodes = s.nodes) (e2 : x.toRun = s.toRun) : SJ inp J D (processResult inp x n nd) :=
  have hx : SJ inp J D x := h.same e1 e2
  ⟨allJ_status (resStatus (inp.outcome n)) hx.all (by rw [e1]; exact hn) (processResult_nodes inp x n nd), by
    rw [(processResult_keeps inp x n nd).toRun]; exact hx.tr⟩

theorem Move.sj {s s' : Sys} (m : Move inp s s') (hy : Hyp inp J D s) (h : SJ inp J D s) : SJ inp J D s' := by
  cases m with
  | emit new a hx => exact h.same a.nodes a.toRun
  | tick perm haw hsu hs => exact dtick_sj hy h hs
  | send node perm s0 hb hs a => exact (send_sj hy h hs).same a.nodes a.toRun
  | select n nd extra haw hsu hn hd a hx => exact (select_sj h hn _ hd).same a.nodes a.toRun
  | result n nd mid s0 hn hsrc a0 hx a => exact (result_sj h hn a0.nodes a0.toRun).same a.nodes a.toRun
  | finish hf => subst hf; exact h.same rfl rfl

end DoitModel.Run
