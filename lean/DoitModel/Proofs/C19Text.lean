import DoitModel.Model.ReportText
/-! # The text reporters, one call at a time

What `complete_run` writes is never read as a progress line, a failure header or a skip line (`summary_lines`), which
is why a `complete_run` in the middle of a call sequence disturbs none of the decoders. -/
namespace DoitModel.ReportText

/-- what `complete_run` writes is never mistaken for a progress line, a failure header or a skip line -/
def Line.summaryOnly (l : Line) : Prop := l.progress = none ∧ l.hdr = none ∧ l.isSkip = false

theorem block_lines (fv tk p) : ∀ l ∈ block fv tk p, l.summaryOnly := by
  have hsep : Line.sep.summaryOnly := ⟨rfl, rfl, rfl⟩
  have hout : (Line.outSec p.1).summaryOnly := ⟨rfl, rfl, rfl⟩
  have hE : ∀ l ∈ errPart fv p, l.summaryOnly := by
    unfold errPart
    by_cases h : fv = 0
    · rw [if_pos h]; rintro l (_ | ⟨_, _ | ⟨_, ⟨⟩⟩⟩) <;> exact ⟨rfl, rfl, rfl⟩
    · rw [if_neg h]; rintro l (_ | ⟨_, _ | ⟨_, _ | ⟨_, ⟨⟩⟩⟩⟩) <;> exact ⟨rfl, rfl, rfl⟩
  unfold block
  cases (tk p.1).executed
  · simp
  cases showErr fv (tk p.1) <;> cases showOut fv (tk p.1) <;> simp [hsep, hout]
  · exact hE
  · rintro l (h | rfl)
    · exact hE l h
    · exact hout

theorem summary_lines (fv tk s) : ∀ l ∈ summary fv tk s, l.summaryOnly := by
  intro l hl
  rcases List.mem_append.mp hl with h | h
  · obtain ⟨p, _, hp⟩ := List.mem_flatMap.mp h
    exact block_lines fv tk p l hp
  · unfold trailer at h
    by_cases hr : s.rtErrs = [] <;> simp [hr] at h
    rcases h with rfl | rfl | rfl <;> exact ⟨rfl, rfl, rfl⟩

theorem summary_progress (fv tk s) : (summary fv tk s).filterMap Line.progress = [] :=
  List.filterMap_eq_nil_iff.mpr fun l hl => (summary_lines fv tk s l hl).1

theorem summary_hdr (fv tk s) : (summary fv tk s).filterMap Line.hdr = [] :=
  List.filterMap_eq_nil_iff.mpr fun l hl => (summary_lines fv tk s l hl).2.1

theorem step_progress (fv tk) (s : St) (c : RCall) :
    decodeProgress (step .console fv tk s c).out = decodeProgress s.out ++ (c.happened tk).toList := by
  have put : ∀ ls, decodeProgress (s.put ls).out = decodeProgress s.out ++ ls.filterMap Line.progress :=
    fun ls => List.filterMap_append
  cases c with
  | execute t => cases h : (tk t).visibleExec <;> simp [step, isCon, put, RCall.happened, h, Line.progress]
  | skipUtd t => cases h : (tk t).hidden <;> simp [step, put, RCall.happened, h, Line.progress]
  | skipIgn t => simp [step, put, RCall.happened, Line.progress]
  | addFailure t f =>
    cases hr : f.report <;> simp [step, isCon, RCall.happened, hr, decodeProgress, Line.progress]
  | complete => simp [step, isCon, put, RCall.happened, summary_progress]
  | _ => simp [step, isCon, RCall.happened]

theorem run_progress (fv tk) (cs : List RCall) (s : St) :
    decodeProgress (cs.foldl (step .console fv tk) s).out = decodeProgress s.out ++ cs.filterMap (RCall.happened tk) := by
  induction cs generalizing s with
  | nil => simp
  | cons c cs ih =>
    rw [List.foldl_cons, ih, step_progress, List.filterMap_cons]
    cases RCall.happened tk c <;> simp

theorem step_failures (c : Cls) (hc : isCon c = true) (fv tk) (s : St) (r : RCall) :
    (step c fv tk s r).failures = s.failures ++ r.reported.toList ∧
    (step c fv tk s r).out.filterMap Line.hdr = s.out.filterMap Line.hdr ++ r.reported.toList := by
  cases r with
  | addFailure t f => cases hr : f.report <;> simp [step, hc, RCall.reported, hr, Line.hdr]
  | complete => simp [step, hc, St.put, RCall.reported, summary_hdr]
  | execute t => cases hv : (tk t).visibleExec <;> simp [step, hc, St.put, RCall.reported, hv, Line.hdr]
  | skipUtd t | skipIgn t =>
    simp only [step, RCall.reported, Option.toList, List.append_nil]
    split <;> simp [St.put, Line.hdr]
  | _ => simp [step, hc, RCall.reported]

theorem run_failures (c : Cls) (hc : isCon c = true) (fv tk) (cs : List RCall) (s : St) :
    (cs.foldl (step c fv tk) s).failures = s.failures ++ cs.filterMap RCall.reported ∧
    (cs.foldl (step c fv tk) s).out.filterMap Line.hdr = s.out.filterMap Line.hdr ++ cs.filterMap RCall.reported := by
  induction cs generalizing s with
  | nil => simp
  | cons r cs ih =>
    rw [List.foldl_cons, (ih _).1, (ih _).2, (step_failures c hc fv tk s r).1, (step_failures c hc fv tk s r).2,
      List.filterMap_cons]
    cases RCall.reported r <;> simp

theorem decodeBlocks_block (fv tk p) (rest : List Line) :
    decodeBlocks (block fv tk p ++ rest) = (if shown fv tk p then [p.1] else []) ++ decodeBlocks rest := by
  unfold block shown
  cases (tk p.1).executed
  · simp
  cases showOut fv (tk p.1) <;> cases showErr fv (tk p.1)
  · simp
  · unfold errPart; by_cases h : fv = 0 <;> simp [h, decodeBlocks]
  · simp [decodeBlocks]
  · unfold errPart; by_cases h : fv = 0 <;> simp [h, decodeBlocks]

theorem decodeBlocks_blocks (fv tk) (l : List (Nat × Fail)) (rest : List Line) :
    decodeBlocks (l.flatMap (block fv tk) ++ rest) = ((l.filter (shown fv tk)).map (·.1)) ++ decodeBlocks rest := by
  induction l with
  | nil => simp
  | cons p l ih =>
    rw [List.flatMap_cons, List.append_assoc, decodeBlocks_block, ih, List.filter_cons]
    split <;> simp

theorem decodeBlocks_trailer (rt) : decodeBlocks (trailer rt) = [] := by
  unfold trailer; split <;> simp [decodeBlocks]

theorem decodeBlocks_summary (fv tk) (s : St) :
    decodeBlocks (summary fv tk s) = (s.failures.filter (shown fv tk)).map (·.1) := by
  unfold summary
  rw [decodeBlocks_blocks, decodeBlocks_trailer, List.append_nil]

structure EoRel (a b : St) : Prop where
  out : b.out = a.out.filter (fun l => !l.isSkip)
  failures : b.failures = a.failures
  rt : b.rtErrs = a.rtErrs
  err : b.err = a.err

namespace EoRel

theorem put {a b : St} (h : EoRel a b) (ls : List Line) (hls : ∀ l ∈ ls, l.isSkip = false) :
    EoRel (a.put ls) (b.put ls) := by
  refine ⟨?_, h.failures, h.rt, h.err⟩
  show b.out ++ ls = (a.out ++ ls).filter _
  rw [List.filter_append, h.out, (List.filter_eq_self (l := ls)).mpr fun l hl => by rw [hls l hl]; rfl]

theorem skip {a b : St} (h : EoRel a b) (l : Line) (hl : l.isSkip = true) : EoRel (a.put [l]) b := by
  refine ⟨?_, h.failures, h.rt, h.err⟩
  show b.out = (a.out ++ [l]).filter _
  simp [List.filter_append, h.out, hl]

end EoRel

theorem step_eo (fv tk) (a b : St) (h : EoRel a b) (r : RCall) :
    EoRel (step .console fv tk a r) (step .executedOnly fv tk b r) := by
  have c1 : isCon .console = true := rfl
  have c2 : isCon .executedOnly = true := rfl
  cases r with
  | getStatus t | addSuccess t | teardown t => exact h
  | execute t =>
    cases hv : (tk t).visibleExec <;> simp [step, hv, c1, c2]
    · exact h
    · exact h.put _ (by simp [Line.isSkip])
  | skipUtd t =>
    have : (Cls.executedOnly == Cls.console) = false := rfl
    cases hv : (tk t).hidden <;> simp [step, hv, this]
    · exact h.skip _ rfl
    · exact h
  | skipIgn t => exact h.skip _ rfl
  | addFailure t f =>
    cases hr : f.report <;> simp only [step, hr, c1, c2, if_true, if_false, Bool.true_eq_false]
    · exact h
    · have := h.put [.failHdr t f, .failMsg f] (by simp [Line.isSkip])
      exact ⟨this.out, by show _ ++ _ = _ ++ _; rw [h.failures], h.rt, h.err⟩
  | cleanupError m => exact ⟨h.out, h.failures, h.rt, by show _ ++ _ = _ ++ _; rw [h.err]⟩
  | runtimeError m => exact ⟨h.out, h.failures, by show _ ++ _ = _ ++ _; rw [h.rt], h.err⟩
  | complete =>
    have hs : summary fv tk b = summary fv tk a := by unfold summary; rw [h.failures, h.rt]
    simp only [step, c1, c2, if_true, hs]
    exact h.put _ fun l hl => (summary_lines fv tk a l hl).2.2

theorem run_eo (fv tk) (cs : List RCall) (a b : St) (h : EoRel a b) :
    EoRel (cs.foldl (step .console fv tk) a) (cs.foldl (step .executedOnly fv tk) b) := by
  induction cs generalizing a b with
  | nil => exact h
  | cons r cs ih => exact ih _ _ (step_eo fv tk a b h r)

theorem step_zero (c : Cls) (hc : isCon c = false) (fv tk) (s : St) (r : RCall) :
    (step c fv tk s r).err = s.err ++ (r.stderrMsg c).toList ∧
    (step c fv tk s r).out = s.out ++
      (if c = .errorOnly then (match r.reported with | some (t, f) => [Line.eoHdr t f, Line.failMsg f] | none => []) else []) := by
  cases c with
  | console | executedOnly => cases hc
  | zero | errorOnly =>
    cases r with
    | addFailure t f => cases hr : f.report <;> simp [step, isCon, St.put, RCall.stderrMsg, RCall.reported, hr]
    | _ => simp [step, isCon, RCall.stderrMsg, RCall.reported]

theorem run_zero (c : Cls) (hc : isCon c = false) (fv tk) (cs : List RCall) (s : St) :
    (cs.foldl (step c fv tk) s).err = s.err ++ cs.filterMap (RCall.stderrMsg c) ∧
    (cs.foldl (step c fv tk) s).out = s.out ++
      (if c = .errorOnly then (cs.filterMap RCall.reported).flatMap (fun p => [Line.eoHdr p.1 p.2, Line.failMsg p.2])
       else []) := by
  induction cs generalizing s with
  | nil => simp
  | cons r cs ih =>
    have h := step_zero c hc fv tk s r
    rw [List.foldl_cons, (ih _).1, (ih _).2, h.1, h.2, List.filterMap_cons, List.filterMap_cons]
    constructor
    · cases RCall.stderrMsg c r <;> simp
    · by_cases he : c = .errorOnly
      · simp only [he, if_true]
        cases hr : RCall.reported r with
        | none => simp
        | some p => obtain ⟨t, f⟩ := p; simp
      · simp [he]

end DoitModel.ReportText
