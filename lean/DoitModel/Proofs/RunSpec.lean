import DoitModel.Model.Run
/-! # The dispatcher's step functions, branch by branch

For each of the cascades `genStep`, `nodeStep`, `dtick`, `send` an inductive relation lists the branches, every row with the
tests passed on the way to it; `cases nodeStep_spec h` leaves one goal per row, so an invariant is proved per row without
splitting the cascade again.  The rows of `nodeStep` are grouped by what they do to the state around the node (`NodeStep`, eleven rows); what
happens inside the node is a relation between nodes (`NodeMove`, `NodePark`).  Names: relation `F` or `FSpec`, lemma
`f_spec` (taking the equation `f .. = some s'`, or stated on `f ..` with an `.of_eq` form, as for `selDecision_spec`);
`gReturn` has `GReturnRow` / `gReturn_row` (`RunnerSpec.lean`). -/
namespace DoitModel.Run

inductive GenStep (inp : RunInput) (s : Sys) (n : Name) (nd : Node) (d : Name) (pc' : PC) : Sys → Prop
  | fresh : s.nodes d = none → GenStep inp s n nd d pc'
      { setNode (setNode s d (mkNode inp d (nd.anc ++ [d]))) n { nd with pc := pc' } with ready := s.ready ++ [d] }
  | cyclic {x} : s.nodes d = some x → d ∈ nd.anc → GenStep inp s n nd d pc' { s with susp := some (.cyclic d) }
  | known {x} : s.nodes d = some x → d ∉ nd.anc → GenStep inp s n nd d pc' (setNode s n { nd with pc := pc' })

theorem genStep_spec {inp : RunInput} {s g : Sys} {n : Name} {nd : Node} {d : Name} {pc' : PC}
    (h : genStep inp s n nd d pc' = g) : GenStep inp s n nd d pc' g := by
  subst h
  unfold genStep
  cases hd : s.nodes d with
  | none => exact .fresh hd
  | some x =>
    by_cases ha : d ∈ nd.anc
    · simp only [if_pos ha]; exact .cyclic hd ha
    · simp only [if_neg ha]; exact .known hd ha

/-- `_add_task` runs on without yielding: only the node changes -/
inductive NodeMove (inp : RunInput) (n : Name) (nd : Node) (perm : List Name) : Node → Prop
  | loopTop : nd.pc = .loopTop → perm.Perm nd.pendCalc → NodeMove inp n nd perm
      { nd with snapCalc := perm, pendCalc := [], snapTask := nd.pendTask, pendTask := [], pc := .calcIter perm }
  | again : nd.pc = .afterDeps → (nd.pendCalc ≠ [] ∨ nd.pendTask ≠ []) → NodeMove inp n nd perm { nd with pc := .loopTop }
  | depsDone : nd.pc = .afterDeps → nd.pendCalc = [] → nd.pendTask = [] → nd.waitRun = [] → nd.waitRunCalc = [] →
      NodeMove inp n nd perm { nd with pc := .self1 }
  | noSetup : nd.pc = .afterSelf1 → inp.setup n = [] → NodeMove inp n nd perm { nd with pc := .done }
  | selected : nd.pc = .afterSelf1 → inp.setup n ≠ [] → nd.status ≠ .none →
      NodeMove inp n nd perm { nd with pc := .setupDecide }
  | setupGo : nd.pc = .setupDecide → nd.status = .run → NodeMove inp n nd perm { nd with pc := .setupIter (inp.setup n) }
  | setupSkip : nd.pc = .setupDecide → nd.status ≠ .run → NodeMove inp n nd perm { nd with pc := .done }
  | setupDone : nd.pc = .afterSetup → nd.waitRun = [] → NodeMove inp n nd perm { nd with pc := .self2 }
  | finish : nd.pc = .afterSelf2 → NodeMove inp n nd perm { nd with pc := .done }

/-- `_add_task` yields `"wait"`: the node goes to `waiting` -/
inductive NodePark (inp : RunInput) (n : Name) (nd : Node) : Node → Prop
  | deps : nd.pc = .afterDeps → nd.pendCalc = [] → nd.pendTask = [] → (nd.waitRun ≠ [] ∨ nd.waitRunCalc ≠ []) →
      NodePark inp n nd { nd with pc := .loopTop }
  | select : nd.pc = .afterSelf1 → inp.setup n ≠ [] → nd.status = .none →
      NodePark inp n nd { nd with pc := .setupDecide, waitSelect := true }
  | setup : nd.pc = .afterSetup → nd.waitRun ≠ [] → NodePark inp n nd { nd with pc := .self2 }

theorem NodeMove.status {inp : RunInput} {n : Name} {nd x : Node} {perm : List Name} (h : NodeMove inp n nd perm x) :
    x.status = nd.status := by
  cases h <;> rfl

theorem NodePark.status {inp : RunInput} {n : Name} {nd x : Node} (h : NodePark inp n nd x) : x.status = nd.status := by
  cases h <;> rfl

inductive NodeStep (inp : RunInput) (s : Sys) (n : Name) (nd : Node) (perm : List Name) : Sys → Prop
  | move {x} : NodeMove inp n nd perm x → NodeStep inp s n nd perm (setNode s n x)
  | park {x} : NodePark inp n nd x →
      NodeStep inp s n nd perm { setNode s n x with waiting := s.waiting ++ [n], cur := none }
  | yield1 : nd.pc = .self1 → NodeStep inp s n nd perm
      { setNode s n { nd with pc := .afterSelf1 } with dispatched := addDispatched s n, susp := some (.node n) }
  | yield2 : nd.pc = .self2 → NodeStep inp s n nd perm
      { setNode s n { nd with pc := .afterSelf2 } with dispatched := addDispatched s n, susp := some (.node n) }
  | calcGen {d ds} : nd.pc = .calcIter (d :: ds) → NodeStep inp s n nd perm (genStep inp s n nd d (.calcIter ds))
  | taskGen {d ds} : nd.pc = .taskIter (d :: ds) → NodeStep inp s n nd perm (genStep inp s n nd d (.taskIter ds))
  | setupGen {d ds} : nd.pc = .setupIter (d :: ds) → NodeStep inp s n nd perm (genStep inp s n nd d (.setupIter ds))
  | calcWait : nd.pc = .calcIter [] →
      NodeStep inp s n nd perm (addWaitRun inp s n nd nd.snapCalc true (.taskIter nd.snapTask))
  | taskWait : nd.pc = .taskIter [] → NodeStep inp s n nd perm (addWaitRun inp s n nd nd.snapTask false .afterDeps)
  | setupWait : nd.pc = .setupIter [] →
      NodeStep inp s n nd perm (addWaitRun inp s n nd (inp.setup n) false .afterSetup)
  | done : nd.pc = .done → NodeStep inp s n nd perm { s with cur := none }

theorem nodeStep_spec {inp : RunInput} {s s' : Sys} {n : Name} {nd : Node} {perm : List Name}
    (h : nodeStep inp s n nd perm = some s') : NodeStep inp s n nd perm s' := by
  unfold nodeStep at h
  -- one goal per position, in the order of the `match`, each with the equation for `nd.pc`
  split at h
  · rename_i hpc
    by_cases hp : perm.Perm nd.pendCalc
    · rw [if_pos hp] at h; cases h; exact .move (.loopTop hpc hp)
    · rw [if_neg hp] at h; cases h
  · rename_i hpc; cases h; exact .calcGen hpc
  · rename_i hpc; cases h; exact .calcWait hpc
  · rename_i hpc; cases h; exact .taskGen hpc
  · rename_i hpc; cases h; exact .taskWait hpc
  · rename_i hpc
    by_cases c1 : nd.pendCalc ≠ [] ∨ nd.pendTask ≠ []
    · rw [if_pos c1] at h; cases h; exact .move (.again hpc c1)
    rw [if_neg c1] at h
    simp only [not_or, ne_eq, Decidable.not_not] at c1
    by_cases c2 : nd.waitRun ≠ [] ∨ nd.waitRunCalc ≠ []
    · rw [if_pos c2] at h; cases h; exact .park (.deps hpc c1.1 c1.2 c2)
    rw [if_neg c2] at h; cases h
    simp only [not_or, ne_eq, Decidable.not_not] at c2
    exact .move (.depsDone hpc c1.1 c1.2 c2.1 c2.2)
  · rename_i hpc; cases h; exact .yield1 hpc
  · rename_i hpc
    by_cases c1 : inp.setup n = []
    · rw [if_pos c1] at h; cases h; exact .move (.noSetup hpc c1)
    rw [if_neg c1] at h
    by_cases c2 : nd.status = .none
    · rw [if_pos c2] at h; cases h; exact .park (.select hpc c1 c2)
    · rw [if_neg c2] at h; cases h; exact .move (.selected hpc c1 c2)
  · rename_i hpc
    by_cases c1 : nd.status = .run
    · rw [if_pos c1] at h; cases h; exact .move (.setupGo hpc c1)
    · rw [if_neg c1] at h; cases h; exact .move (.setupSkip hpc c1)
  · rename_i hpc; cases h; exact .setupGen hpc
  · rename_i hpc; cases h; exact .setupWait hpc
  · rename_i hpc
    by_cases c1 : nd.waitRun ≠ []
    · rw [if_pos c1] at h; cases h; exact .park (.setup hpc c1)
    · rw [if_neg c1] at h; cases h; exact .move (.setupDone hpc (Decidable.not_not.mp c1))
  · rename_i hpc; cases h; exact .yield2 hpc
  · rename_i hpc; cases h; exact .move (.finish hpc)
  · rename_i hpc; cases h; exact .done hpc

inductive Dtick (inp : RunInput) (s : Sys) (perm : List Name) : Sys → Prop
  | lost {n} : s.cur = some n → s.nodes n = none → Dtick inp s perm { s with susp := some .crash }
  | node {n nd s'} : s.cur = some n → s.nodes n = some nd → NodeStep inp s n nd perm s' → Dtick inp s perm s'
  | pop {r rs} : s.cur = none → s.ready = r :: rs → Dtick inp s perm { s with cur := some r, ready := rs }
  | create {t ts} : s.cur = none → s.ready = [] → s.toRun = t :: ts → s.nodes t = none →
      Dtick inp s perm { setNode s t (mkNode inp t [t]) with cur := some t, toRun := ts }
  | skip {t ts x} : s.cur = none → s.ready = [] → s.toRun = t :: ts → s.nodes t = some x →
      Dtick inp s perm { s with toRun := ts }
  | deadlock : s.cur = none → s.ready = [] → s.toRun = [] → s.waiting ≠ [] → s.dispatched = [] →
      Dtick inp s perm { s with susp := some (.cyclic (s.waiting.headD 0)) }
  | holdOn : s.cur = none → s.ready = [] → s.toRun = [] → s.waiting ≠ [] → s.dispatched ≠ [] →
      Dtick inp s perm { s with susp := some .holdOn }
  | stopIter : s.cur = none → s.ready = [] → s.toRun = [] → s.waiting = [] →
      Dtick inp s perm { s with susp := some .stopIter }

theorem dtick_spec {inp : RunInput} {s s' : Sys} {perm : List Name} (h : dtick inp s perm = some s') :
    Dtick inp s perm s' := by
  -- the rows keep `s.cur`, `s.ready`, `s.toRun` inside `{ s with .. }`, so the case analysis is done on the fields of `s`
  obtain ⟨nodes, ready, waiting, toRun, dispatched, cur, susp, rpc, stop, final, tdown, halt, events, freeProc,
    procCount, nStarted, jobQ, resQ, workers⟩ := s
  unfold dtick at h
  cases cur with
  | some n =>
    simp only [] at h
    cases hn : nodes n with
    | none => simp only [hn] at h; cases h; exact .lost rfl hn
    | some nd => simp only [hn] at h; exact .node rfl hn (nodeStep_spec h)
  | none =>
    cases ready with
    | cons r rs => cases h; exact .pop rfl rfl
    | nil =>
      cases toRun with
      | cons t ts =>
        simp only [] at h
        cases hnt : nodes t with
        | none => simp only [hnt] at h; cases h; exact .create rfl rfl rfl hnt
        | some x => simp only [hnt] at h; cases h; exact .skip rfl rfl rfl hnt
      | nil =>
        simp only [] at h
        by_cases hw : waiting ≠ []
        · rw [if_pos hw] at h
          by_cases hd : dispatched = []
          · rw [if_pos hd] at h; cases h; exact .deadlock rfl rfl rfl hw hd
          · rw [if_neg hd] at h; cases h; exact .holdOn rfl rfl rfl hw hd
        · rw [if_neg hw] at h; cases h; exact .stopIter rfl rfl rfl (Decidable.not_not.mp hw)

inductive SendSpec (inp : RunInput) (s : Sys) (perm : List Name) : Option Name → Sys → Prop
  | first : SendSpec inp s perm none { s with susp := none }
  | lost {p} : s.nodes p = none → SendSpec inp s perm (some p) { s with susp := some .crash }
  | keyError {p nd} : s.nodes p = some nd → nd.waitSelect = true → p ∉ s.waiting →
      SendSpec inp s perm (some p) { s with susp := some .crash }
  | running {p nd} : s.nodes p = some nd → ¬ (nd.waitSelect = true ∧ p ∉ s.waiting) → nd.status = .run →
      SendSpec inp s perm (some p) { sendHead s p nd with susp := none }
  | woken {p nd s2} : s.nodes p = some nd → ¬ (nd.waitSelect = true ∧ p ∉ s.waiting) → nd.status ≠ .run →
      perm.Perm nd.waitingMe → updateWaiting inp nd.status p (sendHead s p nd) perm = some s2 →
      SendSpec inp s perm (some p) { s2 with susp := none }
  | assertion {p nd} : s.nodes p = some nd → ¬ (nd.waitSelect = true ∧ p ∉ s.waiting) → nd.status ≠ .run →
      perm.Perm nd.waitingMe → updateWaiting inp nd.status p (sendHead s p nd) perm = none →
      SendSpec inp s perm (some p) { sendHead s p nd with susp := some .crash }

theorem send_spec {inp : RunInput} {s s' : Sys} {processed : Option Name} {perm : List Name}
    (h : send inp s processed perm = some s') : SendSpec inp s perm processed s' := by
  unfold send at h
  cases processed with
  | none => cases h; exact .first
  | some p =>
    simp only [] at h
    cases hn : s.nodes p with
    | none => simp only [hn] at h; cases h; exact .lost hn
    | some nd =>
      simp only [hn] at h
      by_cases hk : nd.waitSelect = true ∧ p ∉ s.waiting
      · rw [if_pos hk] at h; cases h; exact .keyError hn hk.1 hk.2
      rw [if_neg hk] at h
      by_cases hrun : nd.status = .run
      · rw [if_pos hrun] at h; cases h; exact .running hn hk hrun
      rw [if_neg hrun] at h
      by_cases hp : perm.Perm nd.waitingMe
      · rw [if_pos hp] at h
        cases hu : updateWaiting inp nd.status p (sendHead s p nd) perm with
        | none => simp only [hu] at h; cases h; exact .assertion hn hk hrun hp hu
        | some s2 => simp only [hu] at h; cases h; exact .woken hn hk hrun hp hu
      · rw [if_neg hp] at h; cases h

/-- `send(p)` is `sendHead`, then `wakeOne` for the members of `perm` that have a node and pass the assertion, then
    `susp := none` (or `crash` on the way): what these three keep, `send` keeps -/
theorem send_ind {inp : RunInput} {P : Sys → Prop} {s s' : Sys} {processed : Option Name} {perm : List Name}
    (hsusp : ∀ a o, o = none ∨ o = some .crash → P a → P { a with susp := o })
    (hhead : ∀ p nd, processed = some p → s.nodes p = some nd → ¬ (nd.waitSelect = true ∧ p ∉ s.waiting) → P s →
      P (sendHead s p nd))
    (hwake : ∀ a p nd0 w nd, processed = some p → s.nodes p = some nd0 → nd0.status ≠ .run → a.nodes w = some nd →
      wakeCrash p nd = false → P a → P (wakeOne inp a nd0.status p w nd))
    (h : P s) (hs : send inp s processed perm = some s') : P s' := by
  have uw : ∀ (pst : RS) (p : Name) (perm : List Name) (a b : Sys),
      (∀ a w nd, a.nodes w = some nd → wakeCrash p nd = false → P a → P (wakeOne inp a pst p w nd)) →
      P a → updateWaiting inp pst p a perm = some b → P b := by
    intro pst p perm
    induction perm with
    | nil => intro a b _ ha hab; cases hab; exact ha
    | cons w ws ih =>
      intro a b hk ha hab
      rw [updateWaiting] at hab
      cases hw : a.nodes w with
      | none => simp only [hw] at hab; exact ih a b hk ha hab
      | some nd =>
        simp only [hw] at hab
        by_cases c : wakeCrash p nd = true
        · rw [if_pos c] at hab; cases hab
        · rw [if_neg c] at hab; exact ih _ b hk (hk a w nd hw ((Bool.not_eq_true _).mp c) ha) hab
  cases send_spec hs with
  | first => exact hsusp s _ (Or.inl rfl) h
  | lost | keyError => exact hsusp s _ (Or.inr rfl) h
  | running hn hk => exact hsusp _ _ (Or.inl rfl) (hhead _ _ rfl hn hk h)
  | assertion hn hk => exact hsusp _ _ (Or.inr rfl) (hhead _ _ rfl hn hk h)
  | woken hn hk hrun _ hu =>
    exact hsusp _ _ (Or.inl rfl)
      (uw _ _ _ _ _ (fun a w nd => hwake a _ _ w nd rfl hn hrun) (hhead _ _ rfl hn hk h) hu)

end DoitModel.Run
