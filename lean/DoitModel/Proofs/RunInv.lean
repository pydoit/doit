import DoitModel.Proofs.Run
/-! # The dispatcher invariant `Inv1` and its preservation by every operation of the model -/
namespace DoitModel.Run

/-- `node`: DESIGN.md I2, I4; `r1`, `r2`: a ready / current node before its second `yield` awaits nothing (I4 for the
    setup stage); `sp`: the yielded node is suspended right after a `yield this_task`; `q1`–`q4`: the dispatcher's share
    of I6; `wsel`: a node with `wait_select` is in `waiting`. -/
structure Inv1 (inp : RunInput) (s : Sys) : Prop where
  node : ∀ n nd, s.nodes n = some nd → NodeOK inp s n nd
  r1 : ∀ r ∈ s.ready, ∀ nd, s.nodes r = some nd → nd.pc = .self2 → nd.waitRun = []
  r2 : ∀ n nd, s.cur = some n → s.nodes n = some nd → nd.pc = .self2 → nd.waitRun = []
  sp : ∀ n, s.susp = some (.node n) → ∃ nd, s.nodes n = some nd ∧ (nd.pc = .afterSelf1 ∨ nd.pc = .afterSelf2)
  q1 : s.ready.Nodup
  q2 : ∀ r ∈ s.ready, r ∉ s.waiting
  q3 : ∀ n, s.cur = some n → n ∉ s.ready ∧ n ∉ s.waiting
  q4 : ∀ r, (r ∈ s.ready ∨ r ∈ s.waiting) → ∃ nd, s.nodes r = some nd
  wsel : ∀ n nd, s.nodes n = some nd → nd.waitSelect = true → n ∈ s.waiting

theorem Inv1.absent {inp : RunInput} {s : Sys} {t : Name} (h : Inv1 inp s) (ht : s.nodes t = none) :
    t ∉ s.ready ∧ t ∉ s.waiting :=
  have k : (∃ x, s.nodes t = some x) → False := fun ⟨x, hx⟩ => by rw [ht] at hx; cases hx
  ⟨fun e => k (h.q4 t (Or.inl e)), fun e => k (h.q4 t (Or.inr e))⟩

theorem NodeOK.congr {inp : RunInput} {s s' : Sys} {n : Name} {a : Node} (hok : NodeOK inp s n a)
    (h : s'.nodes = s.nodes) : NodeOK inp s' n a :=
  hok.stable (Stable.of_eq (stOf_congr h))

/-- only `cur` and `susp` change -/
theorem inv1_ctl {inp : RunInput} {s s' : Sys} (h : Inv1 inp s) (e1 : s'.nodes = s.nodes) (e2 : s'.ready = s.ready)
    (e3 : s'.waiting = s.waiting)
    (hc : ∀ t, s'.cur = some t → s.cur = some t ∨
      (t ∉ s.ready ∧ t ∉ s.waiting ∧ ∀ nd, s.nodes t = some nd → nd.pc ≠ .self2))
    (hs : ∀ n, s'.susp = some (.node n) → s.susp = some (.node n) ∨
      ∃ nd, s.nodes n = some nd ∧ (nd.pc = .afterSelf1 ∨ nd.pc = .afterSelf2)) : Inv1 inp s' := by
  constructor
  · intro m md hm; rw [e1] at hm; exact (h.node m md hm).congr e1
  · intro x hx md hm; rw [e2] at hx; rw [e1] at hm; exact h.r1 x hx md hm
  · intro m md hc' hm hp; rw [e1] at hm
    exact (hc m hc').elim (fun c => h.r2 m md c hm hp) fun c => absurd hp (c.2.2 md hm)
  · intro m hm; rw [e1]; exact (hs m hm).elim (h.sp m) id
  · rw [e2]; exact h.q1
  · intro x hx; rw [e2] at hx; rw [e3]; exact h.q2 x hx
  · intro m hc'; rw [e2, e3]; exact (hc m hc').elim (h.q3 m) fun c => ⟨c.1, c.2.1⟩
  · intro x hx; rw [e2, e3] at hx; rw [e1]; exact h.q4 x hx
  · intro m md hm hw; rw [e1] at hm; rw [e3]; exact h.wsel m md hm hw

theorem Inv1.congr {inp : RunInput} {s s' : Sys} (h : Inv1 inp s) (hn : s'.nodes = s.nodes)
    (hr : s'.ready = s.ready) (hw : s'.waiting = s.waiting) (hc : s'.cur = s.cur) (hs : s'.susp = s.susp) :
    Inv1 inp s' :=
  inv1_ctl h hn hr hw (fun _ e => Or.inl (hc ▸ e)) (fun _ e => Or.inl (hs ▸ e))

theorem setNode_nodes_some {s : Sys} {n m : Name} {x md : Node} (h : (setNode s n x).nodes m = some md) :
    (m = n ∧ x = md) ∨ (m ≠ n ∧ s.nodes m = some md) := by
  rw [setNode_nodes] at h
  by_cases e : m = n
  · rw [if_pos e] at h; exact Or.inl ⟨e, Option.some.inj h⟩
  · rw [if_neg e] at h; exact Or.inr ⟨e, h⟩

/-- node `n` becomes `x` (replaced or created), the queues stay -/
theorem inv1_update {inp : RunInput} {s : Sys} {n : Name} {x : Node} (h : Inv1 inp s)
    (hstb : Stable s (setNode s n x)) (hok : NodeOK inp s n x)
    (hr : x.pc = .self2 → x.waitRun = [] ∨ (n ∉ s.ready ∧ s.cur ≠ some n))
    (hsp : s.susp = some (.node n) → x.pc = .afterSelf1 ∨ x.pc = .afterSelf2)
    (hws : x.waitSelect = true → n ∈ s.waiting) :
    Inv1 inp (setNode s n x) := by
  have ex : ∀ m, (∃ md, s.nodes m = some md) → ∃ md, (setNode s n x).nodes m = some md := fun m ⟨md, hm⟩ => by
    rw [setNode_nodes]
    by_cases e : m = n
    · exact ⟨x, if_pos e⟩
    · exact ⟨md, (if_neg e).trans hm⟩
  constructor
  · intro m md hm
    rcases setNode_nodes_some hm with ⟨rfl, rfl⟩ | ⟨_, hm⟩
    · exact hok.stable hstb
    · exact (h.node m md hm).stable hstb
  · intro r hr1 md hm hpc
    rcases setNode_nodes_some hm with ⟨rfl, rfl⟩ | ⟨_, hm⟩
    · exact (hr hpc).resolve_right fun h1 => h1.1 hr1
    · exact h.r1 r hr1 md hm hpc
  · intro m md hc hm hpc
    rcases setNode_nodes_some hm with ⟨rfl, rfl⟩ | ⟨_, hm⟩
    · exact (hr hpc).resolve_right fun h1 => h1.2 hc
    · exact h.r2 m md hc hm hpc
  · intro m hm
    rw [setNode_nodes]
    by_cases e : m = n
    · exact ⟨x, if_pos e, hsp (e ▸ hm)⟩
    · rw [if_neg e]; exact h.sp m hm
  · exact h.q1
  · exact h.q2
  · exact h.q3
  · exact fun r hr1 => ex r (h.q4 r hr1)
  · intro m md hm hw
    rcases setNode_nodes_some hm with ⟨rfl, rfl⟩ | ⟨_, hm⟩
    · exact hws hw
    · exact h.wsel m md hm hw

theorem inv1_setNode {inp : RunInput} {s : Sys} {n : Name} {nd x : Node} (h : Inv1 inp s)
    (hn : s.nodes n = some nd) (hst : x.status = nd.status) (hok : NodeOK inp s n x)
    (hr : x.pc = .self2 → x.waitRun = [] ∨ (n ∉ s.ready ∧ s.cur ≠ some n))
    (hsp : s.susp = some (.node n) → x.pc = .afterSelf1 ∨ x.pc = .afterSelf2)
    (hws : x.waitSelect = true → n ∈ s.waiting) :
    Inv1 inp (setNode s n x) :=
  inv1_update h (Stable.of_eq (stOf_setNode_same hn hst)) hok hr hsp hws

theorem mkNode_ok (inp : RunInput) (s : Sys) (t : Name) (anc : List Name) : NodeOK inp s t (mkNode inp t anc) :=
  ⟨fun _ hd => Or.inl hd, fun _ hd => Or.inl hd, nofun, nofun, nofun, fun h => absurd rfl h, nofun,
   fun _ hd => hd, fun _ hd => mem_dedup.mpr hd⟩

theorem inv1_create {inp : RunInput} {s : Sys} {t : Name} (anc : List Name) (h : Inv1 inp s)
    (ht : s.nodes t = none) : Inv1 inp (setNode s t (mkNode inp t anc)) :=
  inv1_update h (Stable.of_eq (stOf_update (stOf_none ht))) (mkNode_ok inp s t anc) nofun
    (fun e => by obtain ⟨md, h1, _⟩ := h.sp t e; rw [ht] at h1; cases h1) nofun

theorem inv1_status {inp : RunInput} {s : Sys} {n : Name} {nd : Node} (st' : RS) (h : Inv1 inp s)
    (hn : s.nodes n = some nd) (hu : nd.status.finished = false)
    (hy : nd.pc.yielded1 = true) : Inv1 inp (setNode s n { nd with status := st' }) := by
  have hok := h.node n nd hn
  refine inv1_update h ?_ ⟨hok.kt, hok.kc, hok.ks, hok.m1, hok.m2, fun _ => hy, hok.ws, hok.st⟩ ?_ ?_
    (h.wsel n nd hn)
  · intro d hd
    rw [stOf_setNode]
    by_cases e : d = n
    · rw [e, stOf_some hn, hu] at hd; cases hd
    · rw [if_neg e]
  · intro hpc
    by_cases hr : n ∈ s.ready
    · exact Or.inl (h.r1 n hr nd hn hpc)
    · by_cases hc : s.cur = some n
      · exact Or.inl (h.r2 n nd hc hn hpc)
      · exact Or.inr ⟨hr, hc⟩
  · intro e
    obtain ⟨md, h1, h2⟩ := h.sp n e
    rw [hn] at h1; cases h1; exact h2

/-- `addWaiting` writes `waiting_me` only, a field that no invariant of the dispatcher reads -/
theorem addWaiting_eq (x : Node) (m : Name) : ∃ l, x.addWaiting m = { x with waitingMe := l } := by
  unfold Node.addWaiting
  by_cases h : m ∈ x.waitingMe
  · rw [if_pos h]; exact ⟨x.waitingMe, rfl⟩
  · rw [if_neg h]; exact ⟨_, rfl⟩

theorem addWaiting_fields (x : Node) (m : Name) :
    (x.addWaiting m).pc = x.pc ∧ (x.addWaiting m).status = x.status ∧ (x.addWaiting m).waitRun = x.waitRun ∧
    (x.addWaiting m).waitSelect = x.waitSelect := by
  unfold Node.addWaiting; split <;> exact ⟨rfl, rfl, rfl, rfl⟩

theorem registerWaiting_nodes (s : Sys) (n : Name) (wf : List Name) (k : Name) :
    (registerWaiting s n wf).nodes k =
      match s.nodes k with
      | some x => if k ∈ wf then some (x.addWaiting n) else some x
      | none => none := rfl

theorem stOf_registerWaiting (s : Sys) (n : Name) (wf : List Name) (d : Name) :
    stOf (registerWaiting s n wf) d = stOf s d := by
  simp only [stOf, registerWaiting_nodes]
  cases h : s.nodes d with
  | none => rfl
  | some x =>
    show (match (if d ∈ wf then some (x.addWaiting n) else some x) with | some x => x.status | none => RS.none) = x.status
    by_cases hd : d ∈ wf
    · simp only [hd, if_true]; exact (addWaiting_fields x n).2.1
    · simp only [hd, if_false]

theorem inv1_registerWaiting {inp : RunInput} {s : Sys} (n : Name) (wf : List Name) (h : Inv1 inp s) :
    Inv1 inp (registerWaiting s n wf) := by
  have hstb : Stable s (registerWaiting s n wf) := Stable.of_eq (stOf_registerWaiting s n wf)
  have fwd : ∀ k x, s.nodes k = some x → ∃ l, (registerWaiting s n wf).nodes k = some { x with waitingMe := l } := by
    intro k x hx
    rw [registerWaiting_nodes, hx]
    by_cases hkw : k ∈ wf
    · obtain ⟨l, e⟩ := addWaiting_eq x n
      exact ⟨l, by rw [← e]; exact if_pos hkw⟩
    · exact ⟨x.waitingMe, if_neg hkw⟩
  have back : ∀ k y, (registerWaiting s n wf).nodes k = some y →
      ∃ x l, s.nodes k = some x ∧ y = { x with waitingMe := l } := by
    intro k y hy
    cases hk : s.nodes k with
    | none => rw [registerWaiting_nodes, hk] at hy; cases hy
    | some x =>
      obtain ⟨l, hl⟩ := fwd k x hk
      exact ⟨x, l, rfl, Option.some.inj (hy.symm.trans hl)⟩
  constructor
  · intro m md hm
    obtain ⟨x, l, hx, rfl⟩ := back m md hm
    have ok := (h.node m x hx).stable hstb
    exact ⟨ok.kt, ok.kc, ok.ks, ok.m1, ok.m2, ok.l, ok.ws, ok.st⟩
  · intro r hr1 md hm hpc
    obtain ⟨x, l, hx, rfl⟩ := back r md hm
    exact h.r1 r hr1 x hx hpc
  · intro m md hc hm hpc
    obtain ⟨x, l, hx, rfl⟩ := back m md hm
    exact h.r2 m x hc hx hpc
  · intro m hm
    obtain ⟨x, hx, hp⟩ := h.sp m hm
    obtain ⟨l, hl⟩ := fwd m x hx
    exact ⟨_, hl, hp⟩
  · exact h.q1
  · exact h.q2
  · exact h.q3
  · intro r hr1
    obtain ⟨x, hx⟩ := h.q4 r hr1
    obtain ⟨l, hl⟩ := fwd r x hx
    exact ⟨_, hl⟩
  · intro m md hm hw
    obtain ⟨x, l, hx, rfl⟩ := back m md hm
    exact h.wsel m x hx hw

theorem inv1_park {inp : RunInput} {s s' : Sys} {n : Name} {nd : Node} (h : Inv1 inp s) (hc : s.cur = some n)
    (hn : s.nodes n = some nd)
    (e1 : s'.nodes = s.nodes) (e2 : s'.ready = s.ready) (e3 : s'.waiting = s.waiting ++ [n]) (e4 : s'.cur = none)
    (e5 : s'.susp = s.susp) : Inv1 inp s' := by
  have q3 := h.q3 n hc
  constructor
  · intro m md hm; rw [e1] at hm; exact (h.node m md hm).congr e1
  · intro r hr1 md hm; rw [e2] at hr1; rw [e1] at hm; exact h.r1 r hr1 md hm
  · intro m md hc'; rw [e4] at hc'; cases hc'
  · intro m hm; rw [e5] at hm; rw [e1]; exact h.sp m hm
  · rw [e2]; exact h.q1
  · intro r hr1; rw [e2] at hr1; rw [e3]
    simp only [List.mem_append, List.mem_singleton, not_or]
    exact ⟨h.q2 r hr1, fun e => q3.1 (e ▸ hr1)⟩
  · intro m hc'; rw [e4] at hc'; cases hc'
  · intro r hr1; rw [e2, e3] at hr1; rw [e1]
    simp only [List.mem_append, List.mem_singleton] at hr1
    rcases hr1 with h1 | h1 | h1
    · exact h.q4 r (Or.inl h1)
    · exact h.q4 r (Or.inr h1)
    · subst h1; exact ⟨nd, hn⟩
  · intro m md hm hw; rw [e1] at hm; rw [e3]; simp [h.wsel m md hm hw]

theorem inv1_pop {inp : RunInput} {s s' : Sys} {r : Name} {rs : List Name} (h : Inv1 inp s)
    (hr : s.ready = r :: rs)
    (e1 : s'.nodes = s.nodes) (e2 : s'.ready = rs) (e3 : s'.waiting = s.waiting) (e4 : s'.cur = some r)
    (e5 : s'.susp = s.susp) : Inv1 inp s' := by
  have nd := h.q1; rw [hr] at nd
  have ⟨hnot, hnd⟩ := List.nodup_cons.mp nd
  constructor
  · intro m md hm; rw [e1] at hm; exact (h.node m md hm).congr e1
  · intro x hx md hm; rw [e2] at hx; rw [e1] at hm; exact h.r1 x (by rw [hr]; simp [hx]) md hm
  · intro m md hc' hm; rw [e4] at hc'; cases hc'; rw [e1] at hm; exact h.r1 r (by rw [hr]; simp) md hm
  · intro m hm; rw [e5] at hm; rw [e1]; exact h.sp m hm
  · rw [e2]; exact hnd
  · intro x hx; rw [e2] at hx; rw [e3]; exact h.q2 x (by rw [hr]; simp [hx])
  · intro m hc'; rw [e4] at hc'; cases hc'; rw [e2, e3]; exact ⟨hnot, h.q2 r (by rw [hr]; simp)⟩
  · intro x hx; rw [e2, e3] at hx; rw [e1]
    rcases hx with h1 | h1
    · exact h.q4 x (Or.inl (by rw [hr]; simp [h1]))
    · exact h.q4 x (Or.inr h1)
  · intro m md hm hw; rw [e1] at hm; rw [e3]; exact h.wsel m md hm hw

/-- `d` is appended to `ready`; `waiting` keeps its members except possibly `d` -/
theorem inv1_enqueue {inp : RunInput} {s s' : Sys} {d : Name} {nd : Node} (h : Inv1 inp s)
    (hd1 : d ∉ s.ready) (hd2 : d ∉ s'.waiting) (hd3 : s.cur ≠ some d) (hn : s.nodes d = some nd)
    (hpc : nd.pc = .self2 → nd.waitRun = [])
    (hw1 : ∀ x, x ∈ s'.waiting → x ∈ s.waiting)
    (hw2 : ∀ x, x ∈ s.waiting → x ∈ s'.waiting ∨ (x = d ∧ nd.waitSelect = false))
    (e1 : s'.nodes = s.nodes) (e2 : s'.ready = s.ready ++ [d]) (e4 : s'.cur = s.cur) (e5 : s'.susp = s.susp) :
    Inv1 inp s' := by
  have mem : ∀ x, x ∈ s'.ready → x ∈ s.ready ∨ x = d := fun x hx => by
    rw [e2] at hx; exact (List.mem_append.mp hx).imp_right List.mem_singleton.mp
  constructor
  · intro m md hm; rw [e1] at hm; exact (h.node m md hm).congr e1
  · intro x hx md hm hp; rw [e1] at hm
    rcases mem x hx with h1 | h1
    · exact h.r1 x h1 md hm hp
    · subst h1; rw [hn] at hm; cases hm; exact hpc hp
  · intro m md hc' hm; rw [e4] at hc'; rw [e1] at hm; exact h.r2 m md hc' hm
  · intro m hm; rw [e5] at hm; rw [e1]; exact h.sp m hm
  · rw [e2]
    exact List.nodup_append.mpr ⟨h.q1, List.nodup_cons.mpr ⟨List.not_mem_nil, List.nodup_nil⟩,
      fun a ha b hb e => hd1 (List.mem_singleton.mp hb ▸ e ▸ ha)⟩
  · intro x hx hxw
    rcases mem x hx with h1 | h1
    · exact h.q2 x h1 (hw1 x hxw)
    · exact hd2 (h1 ▸ hxw)
  · intro m hc'; rw [e4] at hc'
    have := h.q3 m hc'
    exact ⟨fun hm => (mem m hm).elim this.1 fun e => hd3 (e ▸ hc'), fun hm => this.2 (hw1 m hm)⟩
  · intro x hx; rw [e1]
    rcases hx with hx | hx
    · rcases mem x hx with h1 | h1
      · exact h.q4 x (Or.inl h1)
      · exact ⟨nd, h1 ▸ hn⟩
    · exact h.q4 x (Or.inr (hw1 x hx))
  · intro m md hm hw'; rw [e1] at hm
    rcases hw2 m (h.wsel m md hm hw') with h1 | ⟨h1, h2⟩
    · exact h1
    · subst h1; rw [hn] at hm; cases hm; rw [h2] at hw'; cases hw'

theorem inv1_toReady {inp : RunInput} {s s' : Sys} {w : Name} {nd : Node} (h : Inv1 inp s)
    (hw : w ∈ s.waiting) (hn : s.nodes w = some nd) (hpc : nd.pc = .self2 → nd.waitRun = [])
    (hws : nd.waitSelect = false)
    (e1 : s'.nodes = s.nodes) (e2 : s'.ready = s.ready ++ [w]) (e3 : s'.waiting = s.waiting.filter (· ≠ w))
    (e4 : s'.cur = s.cur) (e5 : s'.susp = s.susp) : Inv1 inp s' := by
  refine inv1_enqueue h (fun hr => h.q2 w hr hw) ?_ (fun hc => (h.q3 w hc).2 hw) hn hpc ?_ ?_ e1 e2 e4 e5
  · rw [e3]; exact fun hm => of_decide_eq_true (List.mem_filter.mp hm).2 rfl
  · intro x hx; rw [e3] at hx; exact (List.mem_filter.mp hx).1
  · intro x hx; rw [e3]; exact (mem_filter_ne hx).imp_right fun e => ⟨e, hws⟩

theorem inv1_susp {inp : RunInput} {s s' : Sys} (o : Option DOut) (h : Inv1 inp s)
    (ho : ∀ n, o = some (.node n) → ∃ nd, s.nodes n = some nd ∧ (nd.pc = .afterSelf1 ∨ nd.pc = .afterSelf2))
    (e1 : s'.nodes = s.nodes) (e2 : s'.ready = s.ready) (e3 : s'.waiting = s.waiting) (e4 : s'.cur = s.cur)
    (e5 : s'.susp = o) : Inv1 inp s' :=
  inv1_ctl h e1 e2 e3 (fun _ e => Or.inl (e4 ▸ e)) (fun n e => Or.inr (ho n (e5 ▸ e)))

end DoitModel.Run
