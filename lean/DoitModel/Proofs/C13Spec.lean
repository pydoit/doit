import DoitModel.Proofs.C13Forget
/-! # C13 — the executable specification sets used by the monitor are the declarative ones of the theorems -/
namespace DoitModel.Cmds
open DoitModel.Status

theorem addNew_mem (xs S : List Name) (x : Name) : x ∈ addNew S xs ↔ x ∈ S ∨ x ∈ xs := by
  fun_induction addNew S xs with
  | case1 => simp
  | case2 S a as h ih =>
    rw [ih, List.mem_cons]
    exact ⟨Or.imp_right Or.inr, fun h' => h'.elim Or.inl fun h' => h'.elim (fun e => Or.inl (e ▸ h)) Or.inr⟩
  | case3 S a as h ih => rw [ih, List.mem_append, List.mem_singleton, List.mem_cons, or_assoc]

theorem expand_mem (g : Graph) (S : List Name) (x : Name) : x ∈ expand g S ↔ x ∈ S ∨ ∃ y, y ∈ S ∧ x ∈ g.succs y := by
  unfold expand
  rw [addNew_mem]
  simp [List.mem_flatMap]

theorem saturate_sound (g : Graph) (base : List Name) (n : Nat) (S : List Name) (h : ∀ x, x ∈ S → Reach g base x) :
    ∀ x, x ∈ saturate g n S → Reach g base x := by
  induction n generalizing S with
  | zero => exact h
  | succ n ih =>
    simp only [saturate]
    apply ih
    intro x hx
    rcases (expand_mem g S x).1 hx with h1 | ⟨y, hy, hxy⟩
    · exact h x h1
    · exact Reach.step (h y hy) hxy

theorem saturate_mono (g : Graph) (n : Nat) (S : List Name) (x : Name) (h : x ∈ S) : x ∈ saturate g n S := by
  induction n generalizing S with
  | zero => exact h
  | succ n ih => simp only [saturate]; exact ih _ ((expand_mem g S x).2 (Or.inl h))

theorem closed_complete (g : Graph) (base S : List Name) (hc : closedB g S = true) (hb : ∀ x, x ∈ base → x ∈ S) :
    ∀ x, Reach g base x → x ∈ S := by
  intro x hr
  induction hr with
  | base hx => exact hb _ hx
  | step _ hxy ih =>
    unfold closedB at hc
    have := List.all_eq_true.1 hc _ ih
    have := List.all_eq_true.1 this _ hxy
    simpa using this

theorem saturate_iff_reach (g : Graph) (base : List Name) (n : Nat)
    (hc : closedB g (saturate g n (addNew [] base)) = true) (x : Name) :
    x ∈ saturate g n (addNew [] base) ↔ Reach g base x := by
  constructor
  · apply saturate_sound
    intro y hy
    exact Reach.base (by simpa [addNew_mem] using hy)
  · apply closed_complete g base _ hc
    intro y hy
    exact saturate_mono g n _ y (by simp [addNew_mem, hy])

theorem ignGrow_mem (g : Graph) (defs : Name → TaskDef) (S : List Name) (x : Name) :
    x ∈ ignGrow g defs S → x ∈ S ∨ ∃ d, d ∈ hardDeps g defs x ∧ d ∈ S := by
  unfold ignGrow
  simp only [List.mem_append, List.mem_filter, Bool.and_eq_true, List.any_eq_true, List.contains_eq_mem, decide_eq_true_eq]
  rintro (h | ⟨_, _, d, hd, hds⟩)
  · exact Or.inl h
  · exact Or.inr ⟨d, hd, hds⟩

theorem ignIter_sound (g : Graph) (defs : Name → TaskDef) (ign : Name → Bool) (n : Nat) (S : List Name)
    (h : ∀ x, x ∈ S → IgnReach g defs ign x) : ∀ x, x ∈ ignIter g defs n S → IgnReach g defs ign x := by
  induction n generalizing S with
  | zero => exact h
  | succ n ih =>
    simp only [ignIter]
    apply ih
    intro x hx
    rcases ignGrow_mem g defs S x hx with h1 | ⟨d, hd, hds⟩
    · exact h x h1
    · exact IgnReach.dep hd (h d hds)

theorem ignIter_mono (g : Graph) (defs : Name → TaskDef) (n : Nat) (S : List Name) (x : Name) (h : x ∈ S) :
    x ∈ ignIter g defs n S := by
  induction n generalizing S with
  | zero => exact h
  | succ n ih => simp only [ignIter]; exact ih _ (by unfold ignGrow; exact List.mem_append_left _ h)

end DoitModel.Cmds
