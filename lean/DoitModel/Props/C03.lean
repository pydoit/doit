import DoitModel.Proofs.StatusDecision
import DoitModel.Proofs.StatusNoCrash
/-! # C03 — a stale task is never skipped (up-to-date soundness over histories)

Property theorems only (model: `Model/Status.lean`, helpers: `Proofs/Status*.lean`).
Quantification: every finite history over edit / touch / delete of any file, task redefinition, runs of any task
(successful, failing, with `--always-execute`, with any writes by the action, failing while saving), failures
before execution, forget, ignore, reset-dep, status-only commands and switches of the configured checker;
any number of tasks and files; every prefix of the history; the repaired `deps:` test of the present tree.
`Faithful` is the checker's documented premise (a content change comes with an mtime change).
Backends: by C07 every backend is the map `task → key → value` this model works on. -/
namespace DoitModel.C03
open DoitModel.Status

theorem faithful_take (h : List Op) (k : Nat) (hf : Faithful h = true) : Faithful (h.take k) = true :=
  all_take hf k

/-- **C03.**  After every prefix of every history, a task whose status is `up-to-date` (the only status on which the
    runner skips) satisfies the specification relative to its last recorded successful execution: same set of file
    dependencies, every dependency present and unmodified by the rule of the configured checker relative to what
    that execution saw, same checker, every target present, every uptodate item true, at least one file dependency
    or evaluated uptodate item; with no recorded execution, no file dependency at all. -/
theorem C03_sound (h : List Op) (hf : Faithful h = true) (k : Nat) (t : Name) :
    (runHist true (h.take k)).status true t = .upToDate → (runHist true (h.take k)).spec t = true :=
  (decision_eq_spec (hist_inv _ (faithful_take h k hf)) t).mp

/-- the runner's skip itself: `runTask` leaves the state untouched without `--always-execute` only when the task
    is ignored or the specification holds -/
theorem C03_skip_is_justified (h : List Op) (hf : Faithful h = true) (t : Name) (ok : Bool)
    (ws : List (Path × Nat × Nat)) (res : Option Res) :
    let σ := runHist true h
    (σ.rcd t).ign = false → σ.status true t = .upToDate → σ.spec t = true ∧ runTask true σ t ok false ws res = σ := by
  intro σ hign hst
  refine ⟨(decision_eq_spec (hist_inv _ hf) t).mp hst, ?_⟩
  simp only [runTask, hign, Bool.false_eq_true, if_false]
  rw [hst]

/-- under md5 the skipped task's dependencies have exactly the size and content the last recorded successful
    execution saw (not merely "unmodified by the checker's shortcut") -/
theorem C03_md5_content (h : List Op) (hf : Faithful h = true) (t : Name) :
    let σ := runHist true h
    σ.checker = .md5 → σ.status true t = .upToDate →
    ∀ e, σ.shadow t = some e → ∀ p, p ∈ (σ.defs t).deps →
      ∃ now sm, σ.fs p = some now ∧ e.saw p = some sm ∧ now.size = sm.size ∧ now.cid = sm.cid := by
  intro σ hc hst e he p hp
  exact md5_content (hist_inv _ hf) hc hst he hp

/-! ## the absorbing `crash` state

`St.crashed` models an unhandled `TypeError` of doit (`MD5Checker` meeting a state saved by `TimestampChecker`);
after it the model state is frozen at the last state before the exception, so the theorems above say nothing about
what doit left in the DB.  It needs a switch of the checker: -/

/-- a history without `switchChecker` never reaches the crash state (and the md5 checker stays configured) -/
theorem C03_no_crash_without_checker_switch (h : List Op) (hn : NoSwitch h = true) (k : Nat) :
    (runHist true (h.take k)).crashed = false :=
  (noSwitch_md5 true _ (all_take hn k)).alive

/-- the crash is reachable: `get_status` leaves through "missing target" before it would drop the record of the
    other checker, then `save_success` (called by `reset-dep`, which has no handler) hands the float state to
    `MD5Checker.get_state` -/
theorem C03_crash_reachable :
    (runHist true [.switchChecker .ts, .edit 0 4 1, .redefine 0 ⟨[0], [1], []⟩, .run 0 true false [(1, 4, 9)] none,
      .delete 1, .switchChecker .md5, .resetDep 0]).crashed = true := by decide +kernel

/-- the same situation met by `run`: since the fix commit 8fa62ea the `TypeError` of `save_success` is a task failure;
    the record is erased (no crash, and the task is not up-to-date afterwards) -/
example :
    let σ := runHist true [.switchChecker .ts, .edit 0 4 1, .redefine 0 ⟨[0], [1], []⟩, .run 0 true false [(1, 4, 9)] none,
      .delete 1, .switchChecker .md5, .run 0 true false [(1, 4, 9)] none]
    σ.crashed = false ∧ (σ.shadow 0).isNone = true ∧ σ.status true 0 = .run := by decide +kernel

/-! ## non-vacuity: a history on which a task with a file dependency and a target really ends up-to-date, after a
    failed run, a forget, a checker switch and a dep-set change -/

def demoDef (deps : List Path) : TaskDef := ⟨deps, [2], [.const true, .noneItem]⟩

def demoHist : List Op :=
  [.edit 0 4 1, .edit 1 4 2, .redefine 0 (demoDef [0]), .run 0 false false [(2, 4, 7)] none, .run 0 true false [(2, 4, 8)] none,
   .touch 0, .forget 0, .run 0 true false [] (some 5), .switchChecker .ts, .run 0 true false [] none,
   .redefine 0 (demoDef [0, 1]), .run 0 true false [] none, .touch 1, .resetDep 0]

example : Faithful demoHist = true ∧ (runHist true demoHist).crashed = false ∧
    (runHist true demoHist).status true 0 = .upToDate ∧ (runHist true demoHist).spec 0 = true := by decide +kernel

/-! ## the pinned tree (`previous_set and previous_set != task.file_dep`): F-C03 -/

def pinnedHist : List Op :=
  [.edit 0 4 1, .redefine 0 ⟨[0], [], []⟩, .run 0 true false [] none,
   .redefine 0 ⟨[], [], [.const true]⟩, .run 0 true false [] none,
   .redefine 0 ⟨[0], [], [.const true]⟩]

/-- with the pinned truthiness test the statement is false: the dependency set differs from the one of the last
    successful execution (which had none), yet the task is skipped -/
theorem C03_pinned_counterexample :
    let σ := runHist false pinnedHist
    Faithful pinnedHist = true ∧ pinnedUpToDate σ.checker (σ.defs 0) (σ.rcd 0) σ.fs σ.resOf = true ∧
    σ.spec 0 = false := by decide +kernel

/-- the same history on the repaired test -/
example : (runHist true pinnedHist).status true 0 = .run := by decide +kernel

/-! ## outside the checker's premise: an edit that keeps the mtime -/

def mtimePreservingHist : List Op :=
  [.edit 0 4 1, .redefine 0 ⟨[0], [1], []⟩, .run 0 true false [(1, 4, 9)] none,
   .editKeep 0 4 2, .delete 1, .run 0 true false [(1, 4, 9)] none, .edit 0 4 1]

/-- `Faithful` cannot be dropped: when a file's content changes under an unchanged mtime, `MD5Checker.get_state`
    keeps the state of the older content; going back to that content is then judged unmodified although the last
    successful execution saw something else.  (Informational stream of the harness, never a violation.) -/
theorem C03_mtime_preserving_counterexample :
    Faithful mtimePreservingHist = false ∧ (runHist true mtimePreservingHist).status true 0 = .upToDate ∧
    (runHist true mtimePreservingHist).spec 0 = false := by decide +kernel

end DoitModel.C03
