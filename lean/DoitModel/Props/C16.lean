import DoitModel.Proofs.Opt
import DoitModel.Proofs.OptGetopt
import DoitModel.Proofs.OptConfig
import DoitModel.Proofs.OptReject
import DoitModel.Proofs.OptAccept
import DoitModel.Proofs.OptDemo
import DoitModel.Proofs.OptCfg
/-! # C16 — option parsing is exact, pure and respects source precedence

Property theorems only (model: `Model/Opt.lean`, helpers: `Proofs/Opt*.lean`).
Quantification: every option table (hypothesis: option names are distinct — implied by `WF`), every list of
assignments in every rendering form, every positional list, every environment, every config section and DOIT_CONFIG
(dict keys distinct), every argv for the rejection / purity theorems.

`pipeline spec ini dodo env argv` is the whole resolution as the code performs it
(`overwrite_defaults(section)`; `parse(argv)` with the environment; `update_defaults(DOIT_CONFIG)`);
`specOf … o` is the value the *property* gives option `o` (command line > environment > DOIT_CONFIG > section >
declared default; last occurrence wins, flags give True / inverse flags False, lists accumulate after their base value). -/
namespace DoitModel.C16
open DoitModel.Opt

/-- **roundtrip (getopt layer)**: for every list of assignments naming options of the table, rendered in any mix of
    `-abc`, `-abcXv`, `-abcX v`, `--flag`, `--inverse`, `--long=v`, `--long v`, followed by positionals whose first
    element does not look like an option: exactly the written (option, text) pairs, in order, and the positionals
    unchanged. -/
theorem roundtrip_getopt (spec : List Opt) (xs : List Asg) (pos : List Str)
    (hx : xs.all (Asg.ok (shortTable spec) (longTable spec)) = true) (hp : PosOk pos = true) :
    getopt spec (renderAll xs ++ pos) = .ok (pairsAll xs, pos) :=
  getopt_rendered spec xs pos false hx (.inr hp)

/-- same with the `--` separator: then *any* positional list comes back unchanged -/
theorem roundtrip_getopt_sep (spec : List Opt) (xs : List Asg) (pos : List Str)
    (hx : xs.all (Asg.ok (shortTable spec) (longTable spec)) = true) :
    getopt spec (renderAll xs ++ ['-', '-'] :: pos) = .ok (pairsAll xs, pos) :=
  getopt_rendered spec xs pos true hx (.inl rfl)

/-- **precedence** for an arbitrary argv: the value of every option after the whole resolution is the
    specification's value for the pairs getopt read — command line > environment > DOIT_CONFIG > section > default. -/
theorem precedence (spec : List Opt) (ini : List (Str × CfgVal)) (dodo : List (Str × Val)) (env : Str → Option Str)
    (argv : List Str) (p : Params) (pos : List Str)
    (hwf : (spec.map (·.name)).Nodup) (hini : (ini.map (·.1)).Nodup) (hdodo : (dodo.map (·.1)).Nodup)
    (h : pipeline spec ini dodo env argv = .ok (p, pos)) :
    ∃ ps, getopt spec argv = .ok (ps, pos) ∧
      ∀ o ∈ spec, ∃ v, specOf spec ini dodo env ps o = .ok v ∧ p.vals o.name = some v := by
  unfold pipeline at h
  cases hov : overwriteDefaults ini spec with
  | error e => rw [hov] at h; cases h
  | ok st =>
    obtain ⟨rfl, hconv⟩ := overwriteDefaults_char ini hini spec st hwf hov
    cases hp : (parse false (spec.map (wd (newDefault ini))) env argv).2 with
    | error e => simp only [hov, hp, withDodo] at h; cases h
    | ok r =>
      obtain ⟨p0, pos0⟩ := r
      simp only [hov, hp, withDodo] at h
      cases h
      obtain ⟨ps, hg, hpv⟩ := parse_value _ (by rw [List.map_map]; exact hwf) env argv p0 pos hp
      rw [getopt_wd] at hg
      refine ⟨ps, hg, fun o ho => ?_⟩
      obtain ⟨v0, hv0, hval0, hnd0⟩ := hpv _ (List.mem_map_of_mem ho)
      rw [occurrences_wd] at hv0 hnd0
      have hsv : specValue o (occurrences spec o ps) (envOf env o) none (alookup o.name ini) = .ok v0 :=
        (specValue_withDefault ini o _ _ (hconv o ho)).symm.trans hv0
      have hval : p0.vals o.name = some v0 := hval0
      have hndo : p0.nd o.name = ((envOf env o).isSome || !(occurrences spec o ps).isEmpty) := hnd0
      unfold specOf
      rw [updateDefaults_vals dodo hdodo p0 o.name, specValue_dodo, hsv, hndo, hval]
      -- both sides branch on the same test: set by environment or command line, else DOIT_CONFIG
      cases ((envOf env o).isSome || !(occurrences spec o ps).isEmpty) with
      | true => exact ⟨v0, rfl, rfl⟩
      | false =>
        cases alookup o.name dodo with
        | none => exact ⟨v0, rfl, rfl⟩
        | some dv => exact ⟨dv, rfl, rfl⟩

/-- **roundtrip + precedence (full resolution)**: whenever the resolution of a rendered command line succeeds, the
    positionals are the written ones and every option has exactly the value the property states
    (`specOf`: last occurrence wins, lists accumulate after the base value, flags / inverse flags set True / False,
    command line > environment > DOIT_CONFIG > config section > declared default). -/
theorem roundtrip (spec : List Opt) (ini : List (Str × CfgVal)) (dodo : List (Str × Val)) (env : Str → Option Str)
    (xs : List Asg) (pos : List Str) (sep : Bool) (p : Params) (pos' : List Str)
    (hwf : (spec.map (·.name)).Nodup) (hini : (ini.map (·.1)).Nodup) (hdodo : (dodo.map (·.1)).Nodup)
    (hx : xs.all (Asg.ok (shortTable spec) (longTable spec)) = true) (hp : sep = true ∨ PosOk pos = true)
    (h : pipeline spec ini dodo env (renderAll xs ++ (if sep then ['-', '-'] :: pos else pos)) = .ok (p, pos')) :
    pos' = pos ∧ ∀ o ∈ spec, ∃ v, specOf spec ini dodo env (pairsAll xs) o = .ok v ∧ p.vals o.name = some v := by
  obtain ⟨ps, hg, hv⟩ := precedence spec ini dodo env _ p pos' hwf hini hdodo h
  rw [getopt_rendered spec xs pos sep hx hp] at hg
  cases hg
  exact ⟨rfl, hv⟩

/-- **precedence, loader options written before the sub-command name** (`doit -f x.py -k list …`, handed to the
    command as `opt_vals`): at the point where the loader receives its options, an option written there has exactly
    the written value — whatever the environment, the config sections or the rest of the command line say — and every
    other option has the value of `precedence` (without DOIT_CONFIG, which is not loaded yet). -/
theorem precedence_precommand (spec : List Opt) (ov : List (Str × Val)) (ini : List (Str × CfgVal))
    (dodo : List (Str × Val)) (env : Str → Option Str) (argv : List Str) (ps pf : Params) (pos : List Str)
    (hov : (ov.map (·.1)).Nodup) (h : pipelinePre spec ov ini dodo env argv = .ok (ps, pf, pos)) :
    (∀ k v, (k, v) ∈ ov → ps.vals k = some v) ∧
    ∃ p, pipeline spec ini [] env argv = .ok (p, pos) ∧ ∀ k, k ∉ ov.map (·.1) → ps.vals k = p.vals k := by
  unfold pipelinePre at h
  cases hp : pipeline spec ini [] env argv with
  | error e => simp [hp] at h
  | ok r =>
    obtain ⟨p, pos'⟩ := r
    simp only [hp] at h
    injection h with h; injection h with h1 h2; injection h2 with h2 h3
    subst h1; subst h3
    refine ⟨?_, p, rfl, ?_⟩
    · intro k v hm
      rw [applyOptVals_vals ov hov p k, alookup_of_mem k v ov hov hm]
    · intro k hk
      rw [applyOptVals_vals ov hov p k, alookup_not_mem k ov hk]

/-- **config layers** (`extra_config`, then `pyproject.toml`, then `doit.cfg`; GLOBAL then the command's section): the
    later layer wins for every KEY it sets and every key that only an earlier layer sets is kept -/
theorem config_layers_per_key (g c : List (Str × CfgVal)) (k : Str) :
    alookup k (mergeCfg g c) = match alookup k c with
      | some v => some v
      | none => alookup k g := by
  rw [mergeCfg_lookup]
  cases alookup k c <;> rfl

/-- `WF` gives the hypothesis the theorems above use -/
theorem wf_names (spec : List Opt) (h : WF spec = true) : (spec.map (·.name)).Nodup := by
  simp only [WF, Bool.and_eq_true, decide_eq_true_eq] at h
  exact h.1.1.1

/-- **accept**: a rendered command line is never refused without a reason — if every text that has to be converted
    converts (`allConvert`: config values of known options, environment values, scalar occurrences) and list-typed
    options hold lists in their sources, the resolution succeeds and returns the written positionals. -/
theorem accept (spec : List Opt) (ini : List (Str × CfgVal)) (dodo : List (Str × Val)) (env : Str → Option Str)
    (xs : List Asg) (pos : List Str) (sep : Bool)
    (hwf : (spec.map (·.name)).Nodup) (hini : (ini.map (·.1)).Nodup)
    (hx : xs.all (Asg.ok (shortTable spec) (longTable spec)) = true) (hp : sep = true ∨ PosOk pos = true)
    (hall : allConvert spec ini env (pairsAll xs) = true)
    (hlists : ∀ o ∈ spec, o.ty = .list → ∃ l, baseValue o (envOf env o) (alookup o.name ini) = .ok (.l l)) :
    ∃ p, pipeline spec ini dodo env (renderAll xs ++ (if sep then ['-', '-'] :: pos else pos)) = .ok (p, pos) := by
  exact pipeline_accepts spec ini dodo env _ (pairsAll xs) pos hwf hini (getopt_rendered spec xs pos sep hx hp) hall hlists

/-- **roundtrip, total form**: accepted *and* exact — the conjunction of `accept` and `roundtrip` -/
theorem roundtrip_total (spec : List Opt) (ini : List (Str × CfgVal)) (dodo : List (Str × Val))
    (env : Str → Option Str) (xs : List Asg) (pos : List Str) (sep : Bool)
    (hwf : (spec.map (·.name)).Nodup) (hini : (ini.map (·.1)).Nodup) (hdodo : (dodo.map (·.1)).Nodup)
    (hx : xs.all (Asg.ok (shortTable spec) (longTable spec)) = true) (hp : sep = true ∨ PosOk pos = true)
    (hall : allConvert spec ini env (pairsAll xs) = true)
    (hlists : ∀ o ∈ spec, o.ty = .list → ∃ l, baseValue o (envOf env o) (alookup o.name ini) = .ok (.l l)) :
    ∃ p, pipeline spec ini dodo env (renderAll xs ++ (if sep then ['-', '-'] :: pos else pos)) = .ok (p, pos) ∧
      ∀ o ∈ spec, ∃ v, specOf spec ini dodo env (pairsAll xs) o = .ok v ∧ p.vals o.name = some v := by
  obtain ⟨p, hpipe⟩ := accept spec ini dodo env xs pos sep hwf hini hx hp hall hlists
  exact ⟨p, hpipe, (roundtrip spec ini dodo env xs pos sep p pos hwf hini hdodo hx hp hpipe).2⟩

/-- an option letter that is not in the table (after any well-formed prefix, whatever follows) -/
theorem reject_unknown_short (st : PState) (env : Str → Option Str) (xs : List Asg) (c : Char) (r : Str)
    (more : List Str) (hx : xs.all (Asg.ok (shortTable st) (longTable st)) = true) (hc : c ≠ '-')
    (hun : lookupShort (shortTable st) c = none) :
    IsErr (parse false st env (renderAll xs ++ ('-' :: c :: r) :: more)).2 := by
  refine parse_getopt_error st env _ .unknownShort (getopt_fail_after _ _ xs _ more _ hx ?_)
  rw [scanTok_short _ _ _ c r hc, doShorts, hun]

/-- a long name that no option's long / inverse name starts with -/
theorem reject_unknown_long (st : PState) (env : Str → Option Str) (xs : List Asg) (body : Str) (more : List Str)
    (hx : xs.all (Asg.ok (shortTable st) (longTable st)) = true) (hb : body ≠ [])
    (hun : possibilities (longTable st) (splitEq body).1 = []) :
    IsErr (parse false st env (renderAll xs ++ ('-' :: '-' :: body) :: more)).2 := by
  refine parse_getopt_error st env _ .unknownLong (getopt_fail_after _ _ xs _ more _ hx ?_)
  rw [scanTok_long _ _ _ body hb, doLong, longHasArgs_unknown _ _ hun]
  rfl

/-- an abbreviation that several long names extend (none of them exactly) -/
theorem reject_ambiguous (st : PState) (env : Str → Option Str) (xs : List Asg) (body : Str) (more : List Str)
    (x y : Str × Bool) (rest : List (Str × Bool))
    (hx : xs.all (Asg.ok (shortTable st) (longTable st)) = true) (hb : body ≠ [])
    (hamb : possibilities (longTable st) (splitEq body).1 = x :: y :: rest)
    (h1 : ((splitEq body).1, false) ∉ longTable st) (h2 : ((splitEq body).1, true) ∉ longTable st) :
    IsErr (parse false st env (renderAll xs ++ ('-' :: '-' :: body) :: more)).2 := by
  refine parse_getopt_error st env _ .ambiguous (getopt_fail_after _ _ xs _ more _ hx ?_)
  rw [scanTok_long _ _ _ body hb, doLong, longHasArgs_ambiguous _ _ x y rest hamb h1 h2]
  rfl

/-- a value given to a flag: `--flag=v` -/
theorem reject_flag_value (st : PState) (env : Str → Option Str) (xs : List Asg) (n v : Str) (more : List Str)
    (hx : xs.all (Asg.ok (shortTable st) (longTable st)) = true) (hn : longOk (longTable st) n false = true) :
    IsErr (parse false st env (renderAll xs ++ ('-' :: '-' :: (n ++ '=' :: v)) :: more)).2 := by
  exact parse_getopt_error st env _ .noArg
    (getopt_fail_after _ _ xs _ more _ hx (scanTok_name_eq _ _ _ n v false hn))

/-- a truncated command line: the last token is an option that takes a value (`-abcX` or `--long`) -/
theorem reject_missing_value (st : PState) (env : Str → Option Str) (xs : List Asg) :
    (∀ (cs : List Char) (c : Char), xs.all (Asg.ok (shortTable st) (longTable st)) = true →
      Asg.ok (shortTable st) (longTable st) (.sDet cs c []) = true →
      IsErr (parse false st env (renderAll xs ++ ['-' :: (cs ++ [c])])).2) ∧
    (∀ (n : Str), xs.all (Asg.ok (shortTable st) (longTable st)) = true →
      Asg.ok (shortTable st) (longTable st) (.lDet n []) = true →
      IsErr (parse false st env (renderAll xs ++ ['-' :: '-' :: n])).2) := by
  constructor
  · intro cs c hx ha
    simp only [Asg.ok, Bool.and_eq_true, decide_eq_true_eq] at ha
    apply parse_getopt_error st env _ .needsArg
    unfold getopt
    rw [getoptT_prefix _ _ xs _ hx, List.foldl_cons, gstep, scanTok_cluster _ _ _ cs c [] ha.1.1 ha.1.2, doShorts, ha.2]
    rfl
  · intro n hx ha
    apply parse_getopt_error st env _ .needsArg
    unfold getopt
    rw [getoptT_prefix _ _ xs _ hx, List.foldl_cons, gstep, scanTok_name _ _ _ n true ha]
    rfl

/-- an ill-typed value or a value outside `choices` for an int / str option anywhere on the command line -/
theorem reject_bad_value (st : PState) (env : Str → Option Str) (argv : List Str) (ps : Pairs) (pos : List Str)
    (k : Key) (v : Str) (o : Opt) (inv : Bool) (hgo : getopt st argv = .ok (ps, pos)) (hm : (k, v) ∈ ps)
    (hg : getOption st k = some (o, inv)) (hty : o.ty = .int ∨ o.ty = .str) (hc : IsErr (str2type o v)) :
    IsErr (parse false st env argv).2 := by
  obtain ⟨e, he⟩ := hc
  rw [parse_eq, hgo]
  cases applyEnv env st (initParams st Params.empty) with
  | error e => exact ⟨_, rfl⟩
  | ok p0 =>
    obtain ⟨e', he'⟩ := applyPairs_bad st ps (k, v) hm (applyPair_bad_scalar st k v o inv e hg hty he) p0
    exact ⟨e', by simp only [he']⟩

/-- an ill-typed / invalid-choice value in the environment variable of an option -/
theorem reject_bad_env (st : PState) (env : Str → Option Str) (argv : List Str) (o : Opt) (ho : o ∈ st) (s : Str)
    (hs : envOf env o = some s) (hc : IsErr (str2type o s)) : IsErr (parse false st env argv).2 := by
  obtain ⟨e, he⟩ := hc
  obtain ⟨e', he'⟩ := applyEnv_bad env st o ho s e hs he (initParams st Params.empty)
  rw [parse_eq, he']
  exact ⟨e', rfl⟩

/-- an ill-typed / invalid-choice value in a config section (INI / TOML / API / per-task) for an option of the table -/
theorem reject_bad_config (spec : List Opt) (ini : List (Str × CfgVal)) (dodo : List (Str × Val))
    (env : Str → Option Str) (argv : List Str) (hwf : (spec.map (·.name)).Nodup) (hini : (ini.map (·.1)).Nodup)
    (k : Str) (c : CfgVal) (o : Opt) (hm : (k, c) ∈ ini) (hf : findOpt spec k = some o)
    (hbad : IsErr (str2typeCfg o c)) : IsErr (pipeline spec ini dodo env argv) := by
  unfold pipeline
  cases hov : overwriteDefaults ini spec with
  | error e => exact ⟨e, rfl⟩
  | ok st =>
    exfalso
    obtain ⟨ho, hn⟩ := findOpt_some spec k o hf
    obtain ⟨v, hv⟩ := (overwriteDefaults_char ini hini spec st hwf hov).2 o ho c
      (by rw [hn]; exact alookup_of_mem k c ini hini hm)
    obtain ⟨e, he⟩ := hbad
    rw [hv] at he; cases he

/-- through `DoitMain.run`: every failure of the resolution — a bad value in a config section included — ends as
    `ERROR: …` with exit code 3, never as an uncaught exception; success is the command's own return -/
theorem main_reports_exit3 (spec : List Opt) (ini : List (Str × CfgVal)) (dodo : List (Str × Val))
    (env : Str → Option Str) (argv : List Str) :
    runMain false spec ini dodo env argv = afterParse (pipeline spec ini dodo env argv) := by
  unfold runMain pipeline
  cases overwriteDefaults ini spec <;> simp [afterParse]

/-- **reject_bad_config through DoitMain**: an ill-typed / invalid-choice value in a config section gives exit code 3 -/
theorem reject_bad_config_exit3 (spec : List Opt) (ini : List (Str × CfgVal)) (dodo : List (Str × Val))
    (env : Str → Option Str) (argv : List Str) (hwf : (spec.map (·.name)).Nodup) (hini : (ini.map (·.1)).Nodup)
    (k : Str) (c : CfgVal) (o : Opt) (hm : (k, c) ∈ ini) (hf : findOpt spec k = some o)
    (hbad : IsErr (str2typeCfg o c)) : (runMain false spec ini dodo env argv).kind = 3 := by
  rw [main_reports_exit3]
  obtain ⟨e, he⟩ := reject_bad_config spec ini dodo env argv hwf hini k c o hm hf hbad
  rw [he]; rfl

/-- **through DoitMain, the guard**: `process_args` hands the words to the parsers unchanged exactly when none of them
    is a `name=value` word; under that guard `roundtrip_total` / `precedence` / `reject_*` speak about what
    `DoitMain.run` parses -/
theorem main_words_unchanged (argv : List Str) (h : NoVarWords argv = true) : stripVars argv = .ok argv := by
  induction argv with
  | nil => rfl
  | cons a r ih =>
    simp only [NoVarWords, List.all_cons, Bool.and_eq_true, Bool.not_eq_true'] at h
    have ih' : stripVarsP false r = .ok r := ih h.2
    by_cases ha : a = []
    · simp only [stripVars, stripVarsP, ih', ha, if_true, Bool.false_eq_true, if_false]
    · simp only [stripVars, stripVarsP, ih', ha, h.1, if_false, Bool.false_eq_true]

/-- F-C16c (open): outside the guard a well-formed command line loses an option value.  `--long a=b` for a string
    option: alone the parser reads `a=b`; through `process_args` the value is taken for a command-line variable, the
    option is left without its value (parse error) — or silently takes the next word: `-l a=b x` gives `x` -/
theorem var_word_steals_option_value :
    observe [['l']] (pipeline demoSpec [] [] (fun _ => none) [['-','l'], ['a','=','b']])
      = some ([some (.l [['d'], ['a','=','b']])], []) ∧
    (stripVars [['-','l'], ['a','=','b']]).toOption = some [['-','l']] ∧
    observe [['l']] (pipeline demoSpec [] [] (fun _ => none) [['-','l']]) = none ∧
    (stripVars [['-','l'], ['a','=','b'], ['x']]).toOption = some [['-','l'], ['x']] ∧
    observe [['l']] (pipeline demoSpec [] [] (fun _ => none) [['-','l'], ['x']]) = some ([some (.l [['d'], ['x']])], []) ∧
    (stripVars [['-','l'], []]).toOption = some [['-','l'], []] := by decide +kernel

/-- F-C16d (fixed in /repo, 0ab6253): an empty word was `arg[0]` on `''` in `process_args`: IndexError traceback -/
theorem pinned_empty_word_crashes :
    (stripVarsP true [['-','l'], []]).toBool = false ∧ (stripVarsP false [['-','l'], []]).toBool = true := by decide +kernel

/-- late choices (`backend`): a name outside the choices is an invalid-choice error from the config section, from
    DOIT_CONFIG and from the command line alike; a known name from a section is accepted -/
example :
    errOf (pipelineLate false demoBackend [['b']] [(['b'], .raw ['n','o'])] [] (fun _ => none) []) = some .badChoice ∧
    errOf (pipelineLate false demoBackend [['b']] [] [(['b'], .s ['n','o'])] (fun _ => none) []) = some .badChoice ∧
    errOf (pipelineLate false demoBackend [['b']] [] [] (fun _ => none) [['-','-','b','a','c','k','e','n','d','=','n','o']])
      = some .badChoice ∧
    observe [['b']] (pipelineLate false demoBackend [['b']] [(['b'], .raw ['j','s','o','n'])] [] (fun _ => none) [])
      = some ([some (.s ['j','s','o','n'])], []) := by decide +kernel

/-- F-C16e (fixed in /repo): the choices of `backend` were attached after `overwrite_defaults` and DOIT_CONFIG was never
    validated — an unknown name from a config section or DOIT_CONFIG was accepted by the parsers and ended as a
    `TypeError` traceback -/
theorem pinned_backend_choice_unchecked :
    errOf (pipelineLate true demoBackend [['b']] [(['b'], .raw ['n','o'])] [] (fun _ => none) []) = some .crash ∧
    errOf (pipelineLate true demoBackend [['b']] [] [(['b'], .s ['n','o'])] (fun _ => none) []) = some .crash := by decide +kernel

/-- F-C16b (fixed in /repo, e98fc2c): with the command constructed outside the `try`, `num = abc` in the command's
    config section ended as an uncaught exception (exit status 1), not as exit code 3 -/
theorem pinned_config_error_escapes :
    (runMain true demoSpec [(['n'], .raw ['a','b','c'])] [] (fun _ => none) []).kind = 1 ∧
    (runMain false demoSpec [(['n'], .raw ['a','b','c'])] [] (fun _ => none) []).kind = 3 := by decide +kernel

/-- what "ill-typed" and "invalid choice" mean for `str2type` -/
theorem bad_int_is_error (o : Opt) (s : Str) (hty : o.ty = .int) (hbad : parseInt s = none) : IsErr (str2type o s) :=
  ⟨.badInt, by rw [str2type, hty, convert, hbad]⟩

theorem bad_choice_is_error (o : Opt) (s : Str) (v : Val) (hconv : convert o.ty s = .ok v) (hch : o.choices ≠ [])
    (hnot : v ∉ o.choices) : IsErr (str2type o s) := by
  unfold str2type
  rw [hconv]
  show IsErr (checkChoice o v)
  unfold checkChoice
  rw [if_neg hch]
  cases v with
  | l xs => exact ⟨_, rfl⟩
  | _ => exact ⟨_, if_neg hnot⟩

/-- an abbreviation that exactly one long name extends is read as that option (`--p=v` form) -/
theorem unique_prefix (spec : List Opt) (xs : List Asg) (p n v : Str) (pos : List Str)
    (hx : xs.all (Asg.ok (shortTable spec) (longTable spec)) = true) (hp : PosOk pos = true)
    (heq : '=' ∉ p) (hu : possibilities (longTable spec) p = [(n, true)]) :
    getopt spec (renderAll xs ++ ('-' :: '-' :: (p ++ '=' :: v)) :: pos) = .ok (pairsAll xs ++ [(.long n, v)], pos) := by
  unfold getopt
  rw [getoptT_prefix _ _ xs _ hx, List.foldl_cons, gstep,
    scanTok_long _ _ _ _ (by cases p <;> exact List.cons_ne_nil _ _), doLong, splitEq_eq p v heq,
    longHasArgs_unique _ p n true hu]
  exact finish_pos _ _ _ pos hp

/-- **pure**: `CmdParse.parse` leaves the parser object (every option's `default` included) as it found it —
    for every option table, environment and argv, also when parsing fails. -/
theorem pure (st : PState) (env : Str → Option Str) (argv : List Str) :
    (parse false st env argv).1 = st := by rw [parse_eq]

/-- parsing the same input twice with the same parser object gives the same result -/
theorem parse_twice (st : PState) (env : Str → Option Str) (argv : List Str) :
    parse false (parse false st env argv).1 env argv = parse false st env argv := by
  rw [pure]

/-! ## the hypotheses above are met by a concrete table (`demoSpec`); the defects that the fixes in /repo removed are
    theorems about `pinned := true` -/

example : WF demoSpec = true := by decide +kernel
example : demoAsgs.all (Asg.ok (shortTable demoSpec) (longTable demoSpec)) = true := by decide +kernel
example : renderAll demoAsgs ++ [['t'], ['-','x']] =
    [['-','f','n','3'], ['-','-','l','s','t','=','a'], ['-','l'], ['b'], ['-','-','n','o','-','f','l','a','g'],
     ['t'], ['-','x']] := by decide +kernel

/-- the resolution of that command line succeeds and gives: flag False (inverse last), n = 3 (command line over the
    environment's 5 and DOIT_CONFIG's 9), l = default ++ [a, b] (DOIT_CONFIG ignored), positionals unchanged -/
example :
    observe [['f'], ['n'], ['l']]
      (pipeline demoSpec [] [(['n'], .i 9), (['l'], .l [['z']])] demoEnv (renderAll demoAsgs ++ [['t'], ['-','x']]))
    = some ([some (.b false), some (.i 3), some (.l [['d'], ['a'], ['b']])], [['t'], ['-','x']]) := by decide +kernel

/-- without the command line: environment (5) over DOIT_CONFIG (9) over section (7) over default for `n`;
    DOIT_CONFIG over default for `l`; section over default for `f` -/
example :
    observe [['f'], ['n'], ['l']]
      (pipeline demoSpec [(['n'], .raw ['7']), (['f'], .raw ['o','n'])] [(['n'], .i 9), (['l'], .l [['z']])] demoEnv [])
    = some ([some (.b true), some (.i 5), some (.l [['z']])], []) := by decide +kernel

/-- rejection really happens: `-n abc`, `--nu` is fine (unique prefix) but `--zzz` is not, `--flag=1` is not -/
example : (parse false demoSpec demoEnv [['-','n'], ['a','b','c']]).2.toBool = false := by decide +kernel
example : (parse false demoSpec demoEnv [['-','-','n','u'], ['4']]).2.toBool = true := by decide +kernel
example : (parse false demoSpec demoEnv [['-','-','z','z','z']]).2.toBool = false := by decide +kernel
example : (parse false demoSpec demoEnv [['-','-','f','l','a','g','=','1']]).2.toBool = false := by decide +kernel

/-- F-C16 (fixed in /repo): with the pinned `params[name].append(val)` parsing mutated the option's default … -/
theorem pinned_parse_mutates_default :
    ((parse true demoSpec (fun _ => none) [['-','l'], ['x']]).1.map (·.default)) ≠ demoSpec.map (·.default) := by
  decide +kernel

/-- … so the second parse of the same argv with the same parser object accumulated … -/
theorem pinned_second_parse_differs :
    (match (parse true (parse true demoSpec (fun _ => none) [['-','l'], ['x']]).1 (fun _ => none) [['-','l'], ['x']]).2 with
     | .ok (p, _) => p.vals ['l']
     | .error _ => none) = some (.l [['d'], ['x'], ['x']]) := by decide +kernel

/-- … and the key was not marked as set on the command line, so DOIT_CONFIG overrode the command line -/
theorem pinned_config_overrides_cmdline :
    (match (parse true demoSpec (fun _ => none) [['-','l'], ['x']]).2 with
     | .ok (p, _) => (updateDefaults [(['l'], .l [['z']])] p).vals ['l']
     | .error _ => none) = some (.l [['z']]) ∧
    (match (parse false demoSpec (fun _ => none) [['-','l'], ['x']]).2 with
     | .ok (p, _) => (updateDefaults [(['l'], .l [['z']])] p).vals ['l']
     | .error _ => none) = some (.l [['d'], ['x']]) := by decide +kernel

/-- **precedence order, per key, for every combination of present / absent layers**: the value the specification
    (and by `precedence` the resolution `pipeline`) gives an option whose command's `config_vals` were merged from
    `[GLOBAL]` and the command's section of `extra_config`, `pyproject.toml` and `doit.cfg` is the value of exactly
    one layer — `winner`: command line > environment > DOIT_CONFIG > section(doit.cfg > pyproject.toml > API) >
    GLOBAL(doit.cfg > pyproject.toml > API) > declared default — converted the way that layer converts
    (`layerValue`: DOIT_CONFIG unconverted; a list option on the command line extends the environment / config /
    declared value and never the DOIT_CONFIG one). -/
theorem precedence_order (o : Opt) (occ : List (Bool × Str)) (env : Option Str) (dodo : List (Str × Val))
    (gApi gToml gCfg sApi sToml sCfg : List (Str × CfgVal)) :
    specValue o occ env (alookup o.name dodo) (alookup o.name (sixLayers gApi gToml gCfg sApi sToml sCfg)) =
      layerValue o (keyIn o.name occ env dodo gApi gToml gCfg sApi sToml sCfg)
        (winner (keyIn o.name occ env dodo gApi gToml gCfg sApi sToml sCfg)) := by
  rw [sixLayers_lookup]
  exact specValue_layer o (keyIn o.name occ env dodo gApi gToml gCfg sApi sToml sCfg)

/-- the order at work: six inputs, each without the stronger layers of the one before, decided by the strongest
    layer that is left -/
example : winner ⟨[(false, ['x'])], some ['e'], some (.s ['d']), some (.raw ['a']), some (.raw ['b']), some (.raw ['c']),
                  some (.raw ['f']), some (.raw ['g']), some (.raw ['h'])⟩ = .cmdline ∧
          winner ⟨[], some ['e'], some (.s ['d']), some (.raw ['a']), none, none, none, none, none⟩ = .environ ∧
          winner ⟨[], none, some (.s ['d']), some (.raw ['a']), none, none, none, none, none⟩ = .dodoCfg ∧
          winner ⟨[], none, none, none, some (.raw ['b']), some (.raw ['c']), some (.raw ['f']), none, none⟩ = .secToml ∧
          winner ⟨[], none, none, none, none, none, none, some (.raw ['g']), some (.raw ['h'])⟩ = .globToml ∧
          winner ⟨[], none, none, none, none, none, none, none, none⟩ = .declared := by decide +kernel

/-- **plugin sections, per name**: a name defined in `[CAT]` of doit.cfg, in `tool.doit.plugins.cat` of
    pyproject.toml and in `extra_config[CAT]` stands for the location doit.cfg gives, else pyproject.toml's, else the
    API dict's; setuptools entry points beat all three. -/
theorem plugin_layers_per_name (api toml ini eps : List (Str × Str)) (n : Str) :
    alookup n (addPlugins (pluginSection [api, toml, ini]) eps) =
      match alookup n eps with
      | some l => some l
      | none => match alookup n ini with
        | some l => some l
        | none => match alookup n toml with
          | some l => some l
          | none => alookup n api := by
  unfold addPlugins
  rw [dictUpdate_lookup, pluginSection3_lookup]
  cases alookup n eps <;> cases alookup n ini <;> cases alookup n toml <;> rfl

example : alookup ['r'] (addPlugins (pluginSection [[(['r'], ['a'])], [(['r'], ['t'])], [(['q'], ['i'])]]) []) = some ['t'] := by
  decide +kernel

/-- **`-r NAME` / `--backend NAME` accept exactly the core names and the plugin names**, and a plugin named like a
    core class replaces it -/
theorem names_accepted_exactly (core : List Str) (plugins : List (Str × Str)) (n : Str) :
    (acceptsName core plugins n = true ↔ (n ∈ core ∨ n ∈ plugins.map (·.1))) ∧
    (∀ loc, alookup n plugins = some loc → alookup n (nameTable core plugins) = some (Cls.plugin loc)) := by
  refine ⟨?_, ?_⟩
  · unfold acceptsName
    rw [nameTable_lookup]
    cases h : alookup n plugins with
    | some loc =>
      have : n ∈ plugins.map (·.1) := (alookup_isSome_iff plugins n).1 (by simp [h])
      simp [this]
    | none =>
      have : n ∉ plugins.map (·.1) := fun hm => by
        have := (alookup_isSome_iff plugins n).2 hm
        simp [h] at this
      by_cases hc : n ∈ core <;> simp [hc, this]
  · intro loc h
    rw [nameTable_lookup, h]

example : acceptsName [['d','b','m']] [(['v'], ['m',':','C'])] ['v'] = true ∧
          acceptsName [['d','b','m']] [(['v'], ['m',':','C'])] ['x'] = false := by decide +kernel

/-- **choosing by name**: a name of the table gives its class wherever it was written; an unknown reporter / backend /
    loader name is reported as `ERROR: …` (exit code 3) wherever it was written — command line, config section of any
    source, DOIT_CONFIG. -/
theorem pick_by_name (cat : Category) (w : Where) (core : List Str) (plugins : List (Str × Str)) (n : Str) :
    (∀ loc, alookup n plugins = some loc → pick cat w (nameTable core plugins) n = .cls (.plugin loc)) ∧
    (alookup n plugins = none → n ∈ core → pick cat w (nameTable core plugins) n = .cls (.core n)) ∧
    (n ∉ core → n ∉ plugins.map (·.1) → pick cat w (nameTable core plugins) n = .errorMsg) := by
  refine ⟨?_, ?_, ?_⟩
  · intro loc h; simp [pick, nameTable_lookup, h]
  · intro h hc; simp [pick, nameTable_lookup, h, hc]
  · intro hc hp
    have : alookup n plugins = none := alookup_not_mem n plugins hp
    simp [pick, nameTable_lookup, this, hc, unknownName]

example : pick .reporter .config (nameTable [['z']] []) ['q'] = .errorMsg ∧
          pick .reporter .cmdline (nameTable [['z']] []) ['q'] = .errorMsg ∧
          pick .loader .config (nameTable [] []) ['q'] = .errorMsg ∧
          pick .backend .dodo (nameTable [['z']] [(['z'], ['m',':','C'])]) ['z'] = .cls (.plugin ['m',':','C']) := by decide +kernel

/-- **a text in a config file is converted like the same text on the command line** for int / str options
    (including the `choices` check) and like the same text in the environment for every type; the precise
    differences: a bool option reads the words of `_boolean_states` from a config file / the environment while the
    command line has only the flag; a list option splits the config text at commas and strips the pieces, the command
    line appends the text as it is to the declared list. -/
theorem config_text_conversion (o : Opt) (s : Str) :
    (o.ty = .int ∨ o.ty = .str → cfgText o s = cmdText o s) ∧
    (cfgText o s = str2type o s) ∧
    (o.ty = .bool → cmdText o s = .error .noArg ∧
        cfgText o s = match str2bool s with | some b => checkChoice o (.b b) | none => .error .badBool) ∧
    (o.ty = .list → o.choices = [] → cfgText o s = .ok (.l (splitList s)) ∧ cmdText o s = listAfter o.default [s]) := by
  refine ⟨?_, rfl, ?_, ?_⟩
  · rintro (h | h) <;> simp [cfgText, cmdText, str2typeCfg, h]
  · intro h
    refine ⟨by simp [cmdText, h], ?_⟩
    simp only [cfgText, str2typeCfg, str2type, convert, h]
    cases str2bool s <;> rfl
  · intro h hc
    refine ⟨?_, by simp [cmdText, h]⟩
    simp [cfgText, str2typeCfg, str2type, convert, h, checkChoice, hc]

example : cfgText ⟨['l'], .list, .l [['d']], none, ['l'], [], [], none⟩ ['a', ',', ' ', 'b'] = .ok (.l [['a'], ['b']]) ∧
          cmdText ⟨['l'], .list, .l [['d']], none, ['l'], [], [], none⟩ ['a', ',', ' ', 'b'] = .ok (.l [['d'], ['a', ',', ' ', 'b']]) :=
  ⟨by rfl, by rfl⟩

/-- `cmdText` IS what the resolution does with `--long=s` (scalar options): the command-line step of `parse` -/
theorem cmdText_is_parse_step (st : PState) (p : Params) (o : Opt) (s : Str) (h : o.ty = .int ∨ o.ty = .str) :
    (applyOpt false st p o false s).2 = (cmdText o s).map (p.set o.name) := by
  rcases h with h | h <;> simp only [applyOpt, scalarStep, cmdText, h] <;> cases str2type o s <;> rfl

example : (applyOpt false [] Params.empty ⟨['n'], .int, .i 0, none, ['n'], [], [], none⟩ false ['x']).2.toBool = false := by
  decide +kernel

/-- before the fix of F-C16f an unknown reporter name from a config section / DOIT_CONFIG ended in a KeyError traceback
    and an unknown loader name left `DoitMain.run` as an uncaught KeyError; only the command line was checked -/
theorem pinned_unknown_reporter_name_unchecked :
    unknownNamePinned .reporter .config = .traceback3 ∧ unknownNamePinned .reporter .dodo = .traceback3 ∧
    unknownNamePinned .reporter .cmdline = .errorMsg ∧ unknownNamePinned .loader .config = .escapes ∧
    (∀ c w, unknownName c w = .errorMsg) := by
  refine ⟨rfl, rfl, rfl, rfl, ?_⟩
  intro c w; rfl

/-- **plugin entries that do not load** (`name = module:attr` with no or two colons, a module that does not import, an
    attribute the module does not have): for reporters and backends ONE such entry anywhere in the section ends the
    command in a traceback (exit code 3) whatever name is chosen, wherever, also a core name (every entry is imported
    when the command object is created); for loaders only the entry of the chosen name is imported (an exception
    leaves `DoitMain.run`), the other entries do not matter; when every entry loads, loading changes nothing. -/
theorem plugin_loading (cat : Category) (w : Where) (core : List Str) (sect : List (Str × Str))
    (mods : List (Str × List Str)) (n : Str) :
    (cat ≠ .loader → allLoad mods sect = false → pickLoaded cat w core sect mods n = .traceback3) ∧
    (∀ sect', alookup n sect' = alookup n sect → (alookup n sect).isSome →
        pickLoaded .loader w core sect' mods n = pickLoaded .loader w core sect mods n) ∧
    (allLoad mods sect = true → pickLoaded cat w core sect mods n = pick cat w (nameTable core sect) n) := by
  refine ⟨?_, ?_, ?_⟩
  · intro hc h
    cases cat with
    | loader => exact absurd rfl hc
    | reporter => simp only [pickLoaded, h, Bool.false_eq_true, if_false]
    | backend => simp only [pickLoaded, h, Bool.false_eq_true, if_false]
  · intro sect' he hs
    cases h : alookup n sect with
    | none => simp [h] at hs
    | some loc => simp [pickLoaded, he, h]
  · intro h
    cases cat
    · simp [pickLoaded, h]
    · simp [pickLoaded, h]
    · cases hl : alookup n sect with
      | none => simp [pickLoaded, hl]
      | some loc =>
        have hm : (n, loc) ∈ sect := alookup_mem n loc sect hl
        have hload : (loadPlugin mods loc).toBool = true := by
          have := List.all_eq_true.1 h (n, loc) hm
          simpa using this
        simp [pickLoaded, hl, hload, pick, nameTable_lookup]

example : pickLoaded .reporter .cmdline [['z']] [(['q'], ['n','o',':','X'])] [(['m'], [['C']])] ['z'] = .traceback3 ∧
          pickLoaded .loader .config [] [(['q'], ['n','o',':','X']), (['p'], ['m',':','C'])] [(['m'], [['C']])] ['p']
            = .cls (.plugin ['m',':','C']) ∧
          pickLoaded .loader .config [] [(['q'], ['m'])] [(['m'], [['C']])] ['q'] = .escapes ∧
          pickLoaded .loader .config [] [(['q'], ['m'])] [(['m'], [['C']])] ['x'] = .errorMsg := by decide +kernel

/-- **the sub-command by name**: a `COMMAND` plugin named like a core command REPLACES it (also `run`, also when `run`
    is only implied); a first word that is no command name leaves the command `run` with every word as argument; only
    the entry of the command that is used has to load. -/
theorem command_by_name (core : List Str) (sect : List (Str × Str)) (mods : List (Str × List Str))
    (a : Str) (rest : List Str) :
    (∀ loc, alookup a sect = some loc → (loadPlugin mods loc).toBool = true →
        commandPick core sect mods (a :: rest) = .cls (.plugin loc)) ∧
    (alookup a sect = none → a ∈ core → commandPick core sect mods (a :: rest) = .cls (.core a)) ∧
    (a ∉ core → a ∉ sect.map (·.1) →
        subCommand (nameTable core sect) (a :: rest) = (runName, a :: rest) ∧
        commandPick core sect mods (a :: rest) = commandPick core sect mods []) := by
  refine ⟨?_, ?_, ?_⟩
  · intro loc h hl
    simp [commandPick, subCommand, nameTable_lookup, h, hl]
  · intro h hc
    simp [commandPick, subCommand, nameTable_lookup, h, hc]
  · intro hc hs
    have : alookup a sect = none := alookup_not_mem a sect hs
    simp [commandPick, subCommand, nameTable_lookup, this, hc]

example : commandPick [runName, ['l']] [(runName, ['m',':','C']), (['q'], ['b','a','d'])] [(['m'], [['C']])] [['t']]
            = .cls (.plugin ['m',':','C']) ∧
          commandPick [runName, ['l']] [(['q'], ['b','a','d'])] [(['m'], [['C']])] [['l'], ['t']] = .cls (.core ['l']) ∧
          commandPick [runName, ['l']] [(['q'], ['b','a','d'])] [(['m'], [['C']])] [['q']] = .traceback3 := by decide +kernel

/-- **precedence order for a task's option** (`Task.init_options`: `cfg_values` = the `[task:NAME]` /
    `tool.doit.tasks.NAME` / `extra_config['task:NAME']` section merged per key; neither `[GLOBAL]` nor DOIT_CONFIG is
    read): command line after the task name > environment > doit.cfg > pyproject.toml > API dict > declared default. -/
theorem precedence_order_task (o : Opt) (occ : List (Bool × Str)) (env : Option Str)
    (sApi sToml sCfg : List (Str × CfgVal)) :
    specValue o occ env none (alookup o.name (mergeLayers [sApi, sToml, sCfg])) =
      layerValue o (keyIn o.name occ env [] [] [] [] sApi sToml sCfg)
        (winner (keyIn o.name occ env [] [] [] [] sApi sToml sCfg)) ∧
    winner (keyIn o.name occ env [] [] [] [] sApi sToml sCfg) ∈
      [Layer.cmdline, .environ, .secCfg, .secToml, .secApi, .declared] := by
  refine ⟨?_, winner_section_only _ rfl rfl rfl rfl⟩
  have hc : alookup o.name (mergeLayers [sApi, sToml, sCfg]) = (keyIn o.name occ env [] [] [] [] sApi sToml sCfg).cfg := by
    simp only [mergeLayers, List.foldl]
    rw [mergeCfg_lookup, mergeCfg_lookup]
    exact congrArg _ (congrArg _ Option.or_none.symm)
  rw [hc]
  exact specValue_layer o (keyIn o.name occ env [] [] [] [] sApi sToml sCfg)

example : winner (keyIn ['p'] [] none [] [] [] [] [(['p'], .raw ['a'])] [(['p'], .raw ['t'])] []) = .secToml := by decide +kernel

end DoitModel.C16
