import DoitModel.Proofs.C10
import DoitModel.Proofs.C10NoState
/-! # C10 — actions receive faithful inputs: getargs values, `changed`, `dependencies`, `targets`, calc_dep results

Property theorems only (models: `Model/Inputs.lean` over `Model/Status.lean`; helpers: `Proofs/C10.lean`, `Proofs/C10NoState.lean`).

Quantification: every finite history over the operations of the status model (edits, touches, deletions, task
redefinition, atomic runs, failures before execution, forget, ignore, reset-dep, status-only commands, checker
switches) *and* the split steps `select t` / `complete t …` (the status check of a task and, after its setup-tasks
were processed, its execution and recording); every prefix; any number of tasks and files; both checkers.
`IFaithful` is the checker's documented premise (a content change comes with an mtime change), as in C03.
"Differs from what the last successful execution saw" is judged by the rule of the configured checker. -/
namespace DoitModel.C10
open DoitModel.Status DoitModel.Inputs

/-- the statement of the `changed` / `dependencies` / `targets` clause at full strength: whenever the status check
    lets a task execute, the kwargs derived from the task object satisfy `changedOk` (every file dependency with no
    recorded execution, not among the dependencies of the last recorded execution, or modified by the checker's rule
    is in `changed`; `dependencies` = file_dep; `targets` = targets).  **False of the code** on one path, the early
    return on a false uptodate item: `C10_false_uptodate_counterexample` (finding F-C10).  Of the file loop before the
    fix commit faa294a (`Status.depIsPinned`) it was false on a second one, `C10_readded_dep_counterexample`.  The
    monitor (P) evaluates exactly this predicate on the implementation's behaviour. -/
def C10_changed_full : Prop :=
  ∀ (h : List IOp), IFaithful h = true → ∀ (k : Nat) (t : Name) (always : Bool),
    executes (runI (h.take k)) t always = true →
    changedOk (runI (h.take k)) t (kwargsOf (runI (h.take k)) t) = true

/-- **C10, `changed` (partial).**  After every prefix of every history, when the status check lets `t` execute and
    no uptodate item of `t` evaluates to false, then
    * every file dependency that the last recorded successful execution had and that the configured checker judges
      modified relative to what that execution saw is in `changed`; with no recorded execution (first run, after a
      failure, after `forget`) *every* file dependency is in `changed`;
    * every file dependency for which the record holds no per-file state is in `changed`
      (see `C10_never_dep_has_no_state`: a file that never was a dependency of the task);
    * `dependencies` is the task's file_dep and `targets` its targets.
    Missing relative to `C10_changed_full`: the early return on a false uptodate item (F-C10), which the code does
    take; and, in this statement only, a dependency that was dropped and taken up again while the record kept its state
    from an older execution: the loop lists it (`changed_of_new_dep`, used for `C10_changed_repaired`). -/
theorem C10_changed_partial (h : List IOp) (hf : IFaithful h = true) (k : Nat) (t : Name) (always : Bool) :
    let σ := runI (h.take k)
    executes σ t always = true → falseItemAt σ t = false →
    (∀ p, p ∈ (σ.defs t).deps → needsSeenAt σ t p = true → p ∈ (kwargsOf σ t).changed) ∧
    (∀ p, p ∈ (σ.defs t).deps → (σ.rcd t).fstate p = none → p ∈ (kwargsOf σ t).changed) ∧
    (kwargsOf σ t).dependencies = (σ.defs t).deps ∧ (kwargsOf σ t).targets = (σ.defs t).targets := by
  intro σ hex hF
  have hinv : Inv σ := runI_inv _ (all_take hf k)
  exact ⟨fun p hp hn => changed_of_needsSeen hinv t p hF (executes_cases hex) hp hn,
         fun p hp hn => changed_of_no_state hinv t p hF (executes_cases hex) hp hn, rfl, rfl⟩

/-- with no recorded successful execution (first run, after a failed run, after `forget`) and no false uptodate
    item, `changed` is the whole file_dep -/
theorem C10_changed_all_when_nothing_recorded (h : List IOp) (hf : IFaithful h = true) (t : Name) (always : Bool) :
    let σ := runI h
    σ.shadow t = none → executes σ t always = true → falseItemAt σ t = false →
    ∀ p, p ∈ (σ.defs t).deps → p ∈ (kwargsOf σ t).changed := by
  intro σ hs hex hF p hp
  refine changed_of_needsSeen (runI_inv _ hf) t p hF (executes_cases hex) hp ?_
  unfold needsSeenAt needsSeen
  rw [hs]

/-- the record of a task holds per-file state only for files that some definition of the task in the history named
    as file_dep -/
theorem C10_never_dep_has_no_state (h : List IOp) (t : Name) (p : Path) :
    everDep h t p = false → ((runI h).rcd t).fstate p = none :=
  no_state_of_never_dep h t p

/-- **C10, `changed`, new dependencies.**  A file that is a file_dep of `t` for the first time in the history (no
    earlier definition of `t` named it) is in `changed` whenever `t` executes and no uptodate item is false. -/
theorem C10_changed_new_dep (h₀ : List IOp) (hf : IFaithful h₀ = true) (t : Name) (d : TaskDef) (always : Bool) (p : Path) :
    let σ := runI (h₀ ++ [.base (.redefine t d)])
    everDep h₀ t p = false → p ∈ (σ.defs t).deps → executes σ t always = true → falseItemAt σ t = false →
    p ∈ (kwargsOf σ t).changed := by
  intro σ hn hp hex hF
  have hrcd : (σ.rcd t).fstate p = none := by
    show ((runI (h₀ ++ [.base (.redefine t d)])).rcd t).fstate p = none
    rw [runI_snoc, redefine_rcd]
    exact no_state_of_never_dep h₀ t p hn
  exact changed_of_no_state (runI_inv _ (ifaithful_snoc hf rfl)) t p hF (executes_cases hex) hp hrcd

/-- the full statement holds on every path except the false-uptodate exit of F-C10.  It is stated for
    `depChangedRepaired`, which spells out the test `dep not in previous_set` of the fix commit faa294a
    (findings/resolved/C10-readded-dep-stale-state.md) beside the verdict of the loop; the present loop
    (`depChangedOf` over `Status.depVerdict`, which makes that test itself) already lists every such dependency, and
    the proof goes through it. -/
theorem C10_changed_repaired (h : List IOp) (hf : IFaithful h = true) (k : Nat) (t : Name) (always : Bool) :
    let σ := runI (h.take k)
    executes σ t always = true → falseItemAt σ t = false → changedOk σ t (kwargsRepaired σ t) = true := by
  intro σ hex hF
  have hinv : Inv σ := runI_inv _ (all_take hf k)
  unfold changedOk
  rw [Bool.and_eq_true, Bool.and_eq_true]
  refine ⟨⟨List.all_eq_true.mpr fun p hp => ?_, sameSet_refl _⟩, decide_eq_true rfl⟩
  cases hn : needsAt σ t p with
  | false => rfl
  | true =>
    refine decide_eq_true ?_
    rcases needs_cases hn with hn | ⟨e, hs, hmem⟩
    · exact repaired_superset _ _ _ _ _ _ (changed_of_needsSeen hinv t p hF (executes_cases hex) hp hn)
    · exact repaired_superset _ _ _ _ _ _ (changed_of_new_dep hinv t p e hF (executes_cases hex) hp hs hmem)

/-- a modified or new file dependency is never hidden behind a skip: the task is not up-to-date
    (so under every runner its action is executed and receives kwargs at all) -/
theorem C10_needed_dep_forces_execution (h : List IOp) (hf : IFaithful h = true) (k : Nat) (t : Name) (p : Path) :
    let σ := runI (h.take k)
    p ∈ (σ.defs t).deps → needsAt σ t p = true → σ.status true t ≠ .upToDate := by
  intro σ hp hn
  exact needed_not_uptodate (runI_inv _ (all_take hf k)) t p hp hn

/-- F-C10 (open finding, pinned by six tests of doit's suite): the run is caused by a false `uptodate` item,
    `get_status` returns before looking at the files and the action sees `changed == []` although the file
    dependency was modified. -/
def falseUptodateHist : List IOp :=
  [.base (.edit 0 4 1), .base (.redefine 0 ⟨[0], [], [.const true]⟩), .select 0, .complete 0 true [] none,
   .base (.edit 0 5 2), .base (.redefine 0 ⟨[0], [], [.const false]⟩)]

theorem C10_false_uptodate_counterexample :
    IFaithful falseUptodateHist = true ∧ executes (runI falseUptodateHist) 0 false = true ∧
    needsAt (runI falseUptodateHist) 0 0 = true ∧ falseItemAt (runI falseUptodateHist) 0 = true ∧
    (kwargsOf (runI falseUptodateHist) 0).changed = [] ∧
    changedOk (runI falseUptodateHist) 0 (kwargsOf (runI falseUptodateHist) 0) = false := by decide +kernel

/-- a dependency dropped from file_dep and taken up again: `save_success` keeps the per-file state of the older
    execution.  On the tree before the fix commit faa294a (`Status.depIsPinned`: the loop without the
    `dep not in previous_set` test) the file was compared with what an execution *before the last one* saw and was
    left out of `changed` although the last successful execution did not see it at all; the present tree lists it. -/
def readdedDepHist : List IOp :=
  [.base (.edit 0 4 1), .base (.edit 1 4 2), .base (.redefine 0 ⟨[0, 1], [], []⟩), .select 0, .complete 0 true [] none,
   .base (.redefine 0 ⟨[1], [], []⟩), .select 0, .complete 0 true [] none,
   .base (.redefine 0 ⟨[0, 1], [], []⟩)]

/-- a counterexample for the loop before faa294a only (fifth conjunct: `depIsPinned` lists nothing); the last conjunct
    is the present tree, which lists the re-added dependency -/
theorem C10_readded_dep_counterexample :
    IFaithful readdedDepHist = true ∧ executes (runI readdedDepHist) 0 false = true ∧
    needsAt (runI readdedDepHist) 0 0 = true ∧ falseItemAt (runI readdedDepHist) 0 = false ∧
    ((runI readdedDepHist).defs 0).deps.filter
      (depIsPinned .modified (runI readdedDepHist).checker ((runI readdedDepHist).rcd 0) (runI readdedDepHist).fs) = [] ∧
    (kwargsOf (runI readdedDepHist) 0).changed = [0] := by decide +kernel

theorem C10_changed_full_is_false : ¬ C10_changed_full := by
  intro hfull
  have := hfull falseUptodateHist (by decide) falseUptodateHist.length 0 false
  simp only [List.take_length] at this
  have h2 := this C10_false_uptodate_counterexample.2.1
  rw [C10_false_uptodate_counterexample.2.2.2.2.2] at h2
  exact absurd h2 (by decide)

/-- **C10, getargs.**  After any sequence of DB effects (successful executions saving their values, failures and
    `forget` removing the record, anything else), the value `_get_task_args` computes for a getargs entry — single
    source or group source (dict over the sub-tasks), whole dict or one key, errors included — is the one computed
    from the values of each source's most recent successful execution that is still recorded (`latest` reads the
    history backwards and never a DB): the execution of this run if there was one, else what an earlier run saved. -/
theorem C10_getargs (ops : List VOp) (subs : Option (List Name)) (src : Name) (key : Option Key) :
    getArg (vrun ops) subs src key = getArg (latest ops.reverse) subs src key := by
  rw [vrun_eq_latest]

/-- spelled out for a single source read right after it saved: the consumer gets exactly the saved dict / value -/
theorem C10_getargs_after_save (ops : List VOp) (src : Name) (v : UV) :
    getArg (vrun (ops ++ [.save src v])) none src none = .ok (.single (.whole v)) := by
  rw [C10_getargs]
  simp [getArg, getValue, latest]

/-- … and after a failure or `forget` of the source a keyed getargs is an error, never a stale value -/
theorem C10_getargs_after_remove (ops : List VOp) (src : Name) (k : Key) :
    getArg (vrun (ops ++ [.remove src])) none src (some k) = .error .noRecord := by
  rw [C10_getargs]
  simp [getArg, getValue, latest]

/-- group source: the result has exactly one entry per sub-task, in the order of the group's sub-task list, each
    holding that sub-task's own value -/
theorem C10_getargs_group (db : VDB) (key : Option Key) (subs : List Name) (m : List (Name × Leaf)) :
    getGroup db key subs = .ok m →
    m.map Prod.fst = subs ∧ ∀ s l, (s, l) ∈ m → getValue db s key = .ok l := by
  induction subs generalizing m with
  | nil => intro h; simp only [getGroup, Except.ok.injEq] at h; subst h; simp
  | cons a rest ih =>
    intro h
    simp only [getGroup] at h
    cases hv : getValue db a key with
    | error e => simp [hv] at h
    | ok l =>
      cases hg : getGroup db key rest with
      | error e => simp [hv, hg] at h
      | ok m' =>
        simp only [hv, hg, Except.ok.injEq] at h
        subst h
        obtain ⟨h1, h2⟩ := ih m' hg
        refine ⟨by simp [h1], ?_⟩
        intro s l' hm
        simp only [List.mem_cons, Prod.mk.injEq] at hm
        rcases hm with ⟨rfl, rfl⟩ | hm
        · exact hv
        · exact h2 s l' hm

/-- the dict built for a group source is keyed by the sub-task's own name — what follows `<group>:` in the full task
    name — whatever characters that name contains (':' included) -/
theorem C10_group_key_strips_prefix (group name : List Char) : subKey group (group ++ ':' :: name) = name := by
  simp [subKey, List.drop_append]

/-- … so distinct sub-tasks of one group never collapse into one entry -/
theorem C10_group_keys_injective (group n₁ n₂ : List Char)
    (h : subKey group (group ++ ':' :: n₁) = subKey group (group ++ ':' :: n₂)) : n₁ = n₂ := by
  simpa [C10_group_key_strips_prefix] using h

/-- taking the last ':'-separated segment instead (seeded change `C10-r4-group-getargs-key-rsplit`) is not the same
    function: `build:linux:x86` and `build:mac:x86` would both be delivered under `x86` -/
theorem C10_group_key_rsplit_counterexample :
    subKeyLastSegment "build:linux:x86".toList = subKeyLastSegment "build:mac:x86".toList ∧
    subKey "build".toList "build:linux:x86".toList = "linux:x86".toList ∧
    subKey "build".toList "build:mac:x86".toList = "mac:x86".toList := by decide +kernel

/-- an execution whose values can not be saved (`completeOk actionsOk false = false`) leaves no record and no value:
    the next status check of the task has nothing recorded (it runs again), and a keyed getargs on it is an error,
    never the value the actions computed -/
theorem C10_unsaveable_execution_leaves_nothing (h : List IOp) (t : Name) (actionsOk : Bool)
    (ws : List (Path × Nat × Nat)) (res : Option Res) (hal : (runI h).crashed = false) :
    (runI (h ++ [.complete t (completeOk actionsOk false) ws res])).shadow t = none ∧
    ∀ (ops : List VOp) (k : Key), getArg (vrun (ops ++ [.remove t])) none t (some k) = .error .noRecord := by
  constructor
  · have hal' : (List.foldl istep St.init h).crashed = false := hal
    simp [runI, List.foldl_append, istep, completeOk, hal', finish, erase]
  · intro ops k
    exact C10_getargs_after_remove ops t k

/-- **C10, calc_dep.**  `update_deps` with the file_dep delivered by a calc_dep task is a redefinition of the
    consumer (`withCalc`); in the state right after it — the one its status check of the same run sees —
    every delivered dependency is among `dependencies`, a delivered dependency that is new or modified makes the
    consumer not up-to-date, and (no false uptodate item) it is in `changed` when the last recorded execution had it
    and it is modified, or when the record holds no state for it. -/
theorem C10_calc_same_run (h : List IOp) (hf : IFaithful h = true) (t : Name) (delivered : List Path) (always : Bool) :
    let σ := runI (h ++ [.base (.redefine t (withCalc ((runI h).defs t) delivered))])
    ((runI h).crashed = false → ∀ p, p ∈ delivered → p ∈ (kwargsOf σ t).dependencies) ∧
    (∀ p, p ∈ (σ.defs t).deps → needsAt σ t p = true → σ.status true t ≠ .upToDate) ∧
    (executes σ t always = true → falseItemAt σ t = false →
      ∀ p, p ∈ (σ.defs t).deps → (needsSeenAt σ t p = true ∨ (σ.rcd t).fstate p = none) → p ∈ (kwargsOf σ t).changed) := by
  intro σ
  have hinv : Inv σ := runI_inv _ (ifaithful_snoc hf rfl)
  refine ⟨fun hal p hp => ?_, fun p hp hn => needed_not_uptodate hinv t p hp hn, fun hex hF p hp hn => ?_⟩
  · show p ∈ ((runI (h ++ [.base (.redefine t (withCalc ((runI h).defs t) delivered))])).defs t).deps
    rw [runI_snoc, redefine_defs hal]
    exact (mem_addDeps _ _ _).mpr (Or.inr hp)
  · rcases hn with hn | hn
    · exact changed_of_needsSeen hinv t p hF (executes_cases hex) hp hn
    · exact changed_of_no_state hinv t p hF (executes_cases hex) hp hn

/-- a calc_dep result may also carry `uptodate` items (`Task.update_deps` → `_extend_uptodate`): a delivered `False`
    makes the consumer execute in the same run — on the false-uptodate path of F-C10, i.e. with `changed == []` -/
theorem C10_calc_delivered_uptodate_false (h : List IOp) (t : Name) (delivered : List Path) (utd : List Utd)
    (hal : (runI h).crashed = false) (hu : Utd.const false ∈ utd) :
    let σ := runI (h ++ [.base (.redefine t (withCalcU ((runI h).defs t) delivered utd))])
    σ.status true t = .run ∧ (kwargsOf σ t).changed = [] := by
  intro σ
  have hdef : σ.defs t = withCalcU ((runI h).defs t) delivered utd := by
    show (runI (h ++ [.base (.redefine t (withCalcU ((runI h).defs t) delivered utd))])).defs t = _
    rw [runI_snoc, redefine_defs hal]
  have hF : ∀ vals resOf, utdFalse vals resOf (σ.defs t).uptodate = true := by
    intro vals resOf
    rw [hdef]
    simp only [utdFalse, withCalcU, List.any_append, List.any_eq_true, Bool.or_eq_true]
    exact Or.inr ⟨_, hu, by simp [evalUtd]⟩
  constructor
  · simp [St.status, statusOf, earlyRun, hF]
  · simp [kwargsOf, depChangedOf, hF]

/-- a history on which a consumer with two dependencies and a target really executes a second time, with one
    dependency modified, one untouched: `changed` is exactly the modified one -/
def demoHist : List IOp :=
  [.base (.edit 0 4 1), .base (.edit 1 4 2), .base (.redefine 0 ⟨[0, 1], [2], [.const true]⟩),
   .select 0, .complete 0 true [(2, 4, 9)] (some 3), .base (.edit 1 5 7), .base (.touch 0)]

example : IFaithful demoHist = true ∧ executes (runI demoHist) 0 false = true ∧ falseItemAt (runI demoHist) 0 = false ∧
    needsSeenAt (runI demoHist) 0 1 = true ∧ needsAt (runI demoHist) 0 0 = false ∧
    kwargsOf (runI demoHist) 0 = ⟨[1], [0, 1], [2]⟩ ∧
    changedOk (runI demoHist) 0 (kwargsOf (runI demoHist) 0) = true := by decide +kernel

/-- getargs through a producer that executed in an earlier run, was forgotten, executed again, and a group -/
example :
    getArg (vrun [.save 1 [(0, 5)], .other, .remove 1, .save 1 [(0, 6), (1, 7)], .save 2 [(0, 8)], .other]) none 1 (some 0)
      = .ok (.single (.one 6)) ∧
    getArg (vrun [.save 1 [(0, 5)], .other, .remove 1, .save 1 [(0, 6), (1, 7)], .save 2 [(0, 8)], .other]) (some [1, 2]) 9 (some 0)
      = .ok (.group [(1, .one 6), (2, .one 8)]) ∧
    getArg (vrun [.save 1 [(0, 5)], .remove 1]) none 1 (some 0) = .error .noRecord := ⟨rfl, rfl, rfl⟩

/-- calc_dep: a delivered dependency that the last execution did not have *and* that the record never saw -/
example :
    let h : List IOp := [.base (.edit 0 4 1), .base (.edit 1 4 2), .base (.redefine 0 ⟨[0], [], []⟩), .select 0,
                         .complete 0 true [] none]
    let σ := runI (h ++ [.base (.redefine 0 (withCalc ((runI h).defs 0) [1]))])
    executes σ 0 false = true ∧ (kwargsOf σ 0).dependencies = [0, 1] ∧ (kwargsOf σ 0).changed = [1] := by decide +kernel

end DoitModel.C10
