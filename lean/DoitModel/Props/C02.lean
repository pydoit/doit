import DoitModel.Proofs.RunAcct
/-! # C02 — each needed task is processed exactly once; nothing else runs

`Cl inp` is the static closure of the selection, `RunCl inp s` the one this run determined; `runCl_cl` (`Proofs/RunLive2.lean`): `RunCl ⊆ Cl`.
Quantification as for C01: every task table, selection, oracle, flag, set-iteration order and every reachable state
(every prefix of every run). -/
namespace DoitModel.C02
open DoitModel.Run

/-- at most one action start and at most one terminal report (`add_success` / `add_failure` / `skip_uptodate` /
    `skip_ignore`) per task, in every reachable state of the given transition system -/
def AtMostOnce (reach : Sys → Prop) : Prop :=
  ∀ s, reach s → ∀ t : Name,
    s.events.countP (Ev.isStartOf t) ≤ 1 ∧ s.events.countP (Ev.isTerminalOf t) ≤ 1

/-- C02 (safety part) for the serial runner: however many tasks depend on `t` and however often it is selected,
    its actions start at most once and it is reported at most once -/
theorem C02_at_most_once_serial (inp : RunInput) : AtMostOnce (Reach inp) := by
  intro s hr t
  have h3 := reach_inv3 hr
  have hj := h3.j t
  have hp := h3.p0 t
  refine ⟨?_, h3.t2 t⟩
  show cStart s t ≤ 1
  omega

/-- a task is started only after `select_task` chose it, and it is chosen at most once -/
theorem C02_selected_once_serial (inp : RunInput) (s : Sys) (hr : Reach inp s) (t : Name) :
    s.events.countP (Ev.isGoOf t) ≤ 1 ∧ s.events.countP (Ev.isStartOf t) ≤ s.events.countP (Ev.isGoOf t) := by
  have h3 := reach_inv3 hr
  have hj := h3.j t
  refine ⟨(h3.p0 t).1, ?_⟩
  show cStart s t ≤ cGo s t
  omega

/-- the monitor evaluated by the driver on implementation traces is implied for the model's observable trace -/
theorem C02_monitor_serial (inp : RunInput) (s : Sys) (hr : Reach inp s) (nTasks : Nat) :
    monC02AtMostOnce nTasks (trace inp s) = true := by
  have h := C02_at_most_once_serial inp s hr
  unfold monC02AtMostOnce
  simp only [List.all_eq_true, List.mem_range, Bool.and_eq_true, decide_eq_true_eq]
  intro t _
  have key : ∀ p : Ev → Bool, ((trace inp s).filter p).length ≤ s.events.countP p := by
    intro p
    unfold trace
    rw [← List.countP_eq_length_filter, List.countP_reverse, List.countP_filter]
    apply List.countP_mono_left
    intro x _ hx; simp only [Bool.and_eq_true] at hx; exact hx.1
  exact ⟨Nat.le_trans (key _) (h t).1, Nat.le_trans (key _) (h t).2⟩

/-- C02 (safety part) for the parallel runners, every worker interleaving and every `numProc` (`num_process`) -/
theorem C02_at_most_once_parallel (inp : RunInput) : AtMostOnce (PReach inp) := by
  intro s hr t
  have h3 := (preach_inv hr).2
  have hj := h3.j t
  have hp := h3.p0 t
  refine ⟨?_, h3.t2 t⟩
  show cStart s t ≤ 1
  omega

/-- hand-out accounting of the parallel main loop: a task chosen by `select_task` is in exactly one place — held by
    `get_next_job`, in the job queue, or already started — so no job is handed out twice and none is lost before it
    starts; a started task is executed by at most one worker -/
theorem C02_job_accounting (inp : RunInput) (s : Sys) (hr : PReach inp s) (t : Name) :
    s.jobQ.count (.task t) + holding s t + s.events.countP (Ev.isStartOf t) = s.events.countP (Ev.isGoOf t) ∧
    (∀ w w', s.workers w = .running t → s.workers w' = .running t → w = w') ∧
    (t ∈ s.resQ → ∀ w, s.workers w ≠ .running t) := by
  have h3 := (preach_inv hr).2
  refine ⟨h3.j t, fun w w' a b => h3.w2 w w' t a b, ?_⟩
  intro hq w hw
  have := (h3.q1 t hq).1
  have := (h3.w1 w t hw).2.1
  omega

/-- nothing outside the closure of the selection is ever touched: every event of a run — `get_status`, the skip /
    failure / success reports, `execute_task`, action start and end, teardown — names a member of `Cl inp`, the least
    set containing the selection and closed under task_dep, calc_dep, what a member delivers as calc result (also what
    it returned before its execution failed: `_process_calc_dep_results` does not look at `run_status`), and the
    setup-tasks of members that are neither ignored nor up-to-date (`MayRun`).  (`Cl` is static; the monitor
    `monC02InsideClosure` computes a run-dependent closure from a trace, which is meant to lie inside `Cl`: no lemma
    relates the two.) -/
def InsideClosure (inp : RunInput) (reach : Sys → Prop) : Prop :=
  ∀ s, reach s → ∀ e ∈ s.events, ∀ t : Name, Ev.mentions t e = true → Cl inp t

theorem C02_inside_closure_serial (inp : RunInput) : InsideClosure inp (Reach inp) :=
  fun _ hr e he t ht => (reach_minv hr).ev e he t ht

theorem C02_inside_closure_parallel (inp : RunInput) : InsideClosure inp (PReach inp) :=
  fun _ hr e he t ht => (preach_minv hr).ev e he t ht

/-- also no node is created, no job queued and no worker occupied for a task outside the closure -/
theorem C02_no_outside_work (inp : RunInput) (s : Sys) (hr : PReach inp s) :
    (∀ t nd, s.nodes t = some nd → Cl inp t) ∧ (∀ t, Job.task t ∈ s.jobQ → Cl inp t) ∧
    (∀ w t, s.workers w = .running t → Cl inp t) :=
  ⟨fun t nd h => ((preach_minv hr).nodes t nd h).self, (preach_minv hr).jobs, (preach_minv hr).wk⟩

/-- task `0` is selected, up-to-date, and has the setup-task `1` -/
def exUtd : RunInput :=
  { taskDep := fun _ => [], calcDep := fun _ => [], setup := fun n => if n = 0 then [1] else [],
    sel := [0], statusOf := fun _ => .utd }

/-- the setup-tasks of a task that is up-to-date (or ignored) are not in the closure on its account, so by
    `C02_inside_closure_serial` / `_parallel` they are never started: the closure is not trivially everything -/
theorem C02_closure_excludes_lazy_setup : ¬ Cl exUtd 1 := by
  intro h
  have key : ∀ t, Cl exUtd t → t = 0 := by
    intro t ht
    induction ht with
    | ofSel h => simpa [exUtd] using h
    | ofTask _ h => simp [exUtd] at h
    | ofCalc _ h => simp [exUtd] at h
    | ofSetup _ hm _ => simp [MayRun, effStatus, exUtd] at hm
    | ofRes _ h => simp [exUtd] at h
    | ofResFail _ h => simp [exUtd] at h
  have := key 1 h; cases this

/-- C02 (completeness part) for the serial runner: if the run ends because the dispatcher has nothing left — it was
    not cut short by a failure without `--continue` (`stop = false`) nor by an internal error / a cyclic-dependency
    error (`halt = none`) — then every task in the closure of the selection (`RunCl`: the selection, closed under
    task_dep and calc_dep as extended by calc results, and under the setup-tasks of tasks chosen for execution) has
    exactly one terminal report: it was executed, skipped as up-to-date, skipped as ignored, or reported failed/unmet,
    once.  No acyclicity hypothesis is needed: a cyclic closure makes the run end with `halt = cyclic`. -/
theorem C02_all_processed_serial (inp : RunInput) (s : Sys) (hr : Reach inp s) (hend : s.rpc = .halted)
    (hhalt : s.halt = .none) (hstop : s.stop = false) (t : Name) (ht : RunCl inp s t) :
    s.events.countP (Ev.isTerminalOf t) = 1 :=
  all_processed_serial hr hend hhalt hstop t ht

/-- C02 (completeness part) for the parallel runners (`MRunner` / `MThreadRunner`), every worker interleaving and
    every `numProc`: at a normal end of the main loop every member of the closure has exactly one terminal report -/
theorem C02_all_processed_parallel (inp : RunInput) (s : Sys) (hr : PReach inp s) (hend : s.rpc = .halted)
    (hhalt : s.halt = .none) (hstop : s.stop = false) (t : Name) (ht : RunCl inp s t) :
    s.events.countP (Ev.isTerminalOf t) = 1 :=
  all_processed_parallel hr hend hhalt hstop t ht

/-- I9, the `free_proc` / `proc_count` accounting of `MRunner.run_tasks`: outside the start loop `proc_count` covers
    the outstanding work (task jobs queued or held, tasks being executed, unprocessed results), the workers parked on a
    `JobHold` and the `get_next_job` calls still owed in the current round; in the start loop every started worker has
    exactly one job.  Hence the loop never ends (`proc_count = 0`) with work left, and no started worker is left without
    its `None`. -/
theorem C02_queue_accounting (inp : RunInput) (s : Sys) (hr : PReach inp s) :
    (inStart s = true → s.nStarted + pendStart s = outst s + s.freeProc) ∧
    (inStart s = false → s.halt = .none → s.procCount ≥ ((outst s + s.freeProc + kRem s : Nat) : Int)) :=
  ⟨(preach_inv5 hr).accS, (preach_inv5 hr).accM⟩

/-- at a normal end nothing is in flight and the dispatcher generator is exhausted -/
theorem C02_end_quiescent (inp : RunInput) (s : Sys) (hr : PReach inp s) (hend : s.rpc = .halted)
    (hhalt : s.halt = .none) (hstop : s.stop = false) :
    s.susp = some .stopIter ∧ s.resQ = [] ∧ (∀ t, Job.task t ∉ s.jobQ) ∧ (∀ w t, s.workers w ≠ .running t) := by
  obtain ⟨a, b⟩ := parallel_end_quiescent hr hend hhalt hstop
  refine ⟨a, ?_, fun t h => b t (Or.inl h), fun w t h => b t (Or.inr (Or.inr (Or.inl ⟨w, h⟩)))⟩
  cases hq : s.resQ with
  | nil => rfl
  | cons x xs => exact absurd (Or.inr (Or.inr (Or.inr (by rw [hq]; simp)))) (b x)

/-- a shared dependency (`0` below `1`, `2`, `3`), a shared setup-task (`4` of `1` and `2`), `0` selected twice more;
    three worker threads -/
def exShared : RunInput :=
  { taskDep := fun n => if n = 1 ∨ n = 2 ∨ n = 3 then [0] else []
    calcDep := fun _ => []
    setup := fun n => if n = 1 ∨ n = 2 then [4] else []
    sel := [1, 0, 2, 3, 0], runner := .thread, numProc := 3 }

/-- every task of the closure is started and reported (so "at most once" is about events that do occur), under a
    schedule that keeps several workers busy -/
example : ∃ s, PReach exShared s ∧ s.events.contains Ev.complete = true ∧
    ((List.range 5).all fun t => s.events.countP (Ev.isStartOf t) == 1 && s.events.countP (Ev.isTerminalOf t) == 1) = true :=
  ⟨_, autoRun_preach (by decide) false true 600 _ PReach.init, by decide +kernel⟩

/-- the hypotheses of `C02_all_processed_serial` are met by a real run: the shared-dependency graph above under the
    serial runner ends normally, and the shared dependency `0` (selected itself) is in the run's closure -/
example : ∃ s, Reach { exShared with runner := .serial, numProc := 0 } s ∧ s.rpc = .halted ∧ s.halt = .none ∧
    s.stop = false ∧ RunCl { exShared with runner := .serial, numProc := 0 } s 0 :=
  ⟨_, autoRun_reach (by decide) false false 600 _ Reach.init, by decide +kernel, by decide +kernel,
    by decide +kernel, RunCl.ofSel (by decide)⟩

/-- ... and by a run with three worker threads -/
example : ∃ s, PReach exShared s ∧ s.rpc = .halted ∧ s.halt = .none ∧ s.stop = false ∧ RunCl exShared s 4 :=
  ⟨_, autoRun_preach (by decide) false true 600 _ PReach.init, by decide +kernel, by decide +kernel,
    by decide +kernel,
    RunCl.ofSetup (t := 1) (deps := [0, 4]) (RunCl.ofSel (by decide)) (by decide +kernel) (by decide)⟩

/-- task `0` (selected) has the calc_dep `1`; `1` returns `{'task_dep': [2]}` from its first action and fails in a later
    one; `--continue` -/
def exFailDeliver : RunInput :=
  { taskDep := fun _ => [], calcDep := fun n => if n = 0 then [1] else [], setup := fun _ => [],
    sel := [0], continue_ := true, outcome := fun n => if n = 1 then .failed else .ok,
    calcResFail := fun n => if n = 1 then { tasks := [2] } else {} }

/-- the delivery of a FAILED calc task's values is part of the model (`deliverF`): `2` is created and executed on
    account of what the failed `1` returned, `0` is reported unmet and never starts -/
example : ∃ s, Reach exFailDeliver s ∧ s.events.contains Ev.complete = true ∧
    s.events.countP (Ev.isStartOf 2) = 1 ∧ s.events.countP (Ev.isStartOf 0) = 0 ∧
    s.events.contains (Ev.failure 0 .unmet) = true ∧ s.events.contains (Ev.failure 1 .failed) = true :=
  ⟨_, autoRun_reach (by decide) false false 600 _ Reach.init, by decide +kernel, by decide +kernel,
    by decide +kernel, by decide +kernel, by decide +kernel⟩

end DoitModel.C02
