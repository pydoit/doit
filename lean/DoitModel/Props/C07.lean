import DoitModel.Proofs.KV
/-! # C07 — all DB backends behave as the same persistent key-value map

Property theorems only (helpers: `Proofs/KV.lean`, model: `Model/KV.lean`).
Quantification: every backend, every finite sequence of `set/get/in_/remove/remove_all/reopen`
(any number of sessions), every starting file content. -/
namespace DoitModel.C07
open DoitModel.KV

/-- the full statement: a backend opened on any persisted content answers every operation sequence
    exactly as the specification map holding that content, and ends holding what the map holds -/
def Refines {S : Type} (step : S → Op → S × Out) (opn : Map → S) (abs : S → Map) : Prop :=
  ∀ (file : Map) (ops : List Op),
    (runWith step (opn file) ops).2 = (runWith specStep file ops).2 ∧
    abs (runWith step (opn file) ops).1 = (runWith specStep file ops).1

theorem refines_json : Refines jsonStep jsonOpen jsonAbs := by
  intro file ops
  have := runWith_refines jsonStep (fun _ => True) jsonAbs
    (fun s op _ => ⟨trivial, json_step_refines s op⟩) ops (jsonOpen file) trivial
  exact ⟨this.1, this.2.1⟩

theorem refines_dbm : Refines dbmStep dbmOpen dbmAbs := by
  intro file ops
  have := runWith_refines dbmStep DbmWf dbmAbs dbm_step_refines ops (dbmOpen file) (dbmOpen_wf file)
  rw [dbmOpen_abs] at this
  exact ⟨this.1, this.2.1⟩

theorem refines_sqlite : Refines sqlStep sqlOpen sqlAbs := by
  intro file ops
  have := runWith_refines sqlStep SqlWf sqlAbs sql_step_refines ops (sqlOpen file) (sqlOpen_wf file)
  rw [sqlOpen_abs] at this
  exact ⟨this.1, this.2.1⟩

/-- the three backends are observationally indistinguishable (from an empty file, any op sequence) -/
theorem indistinguishable (b1 b2 : Backend) (ops : List Op) : outputs b1 ops = outputs b2 ops := by
  have h : ∀ b, outputs b ops = specOutputs ops := fun b => by
    cases b
    · exact (refines_json Map.empty ops).1
    · exact (refines_dbm Map.empty ops).1
    · exact (refines_sqlite Map.empty ops).1
  exact (h b1).trans (h b2).symm

/-- what a session stored is what the next session reads: `reopen` is invisible -/
theorem reopen_invisible (b : Backend) (pre post : List Op) :
    outputs b (pre ++ [Op.reopen] ++ post) = (specOutputs pre) ++ [Out.unit] ++
      ((runWith specStep (runWith specStep Map.empty pre).1 post).2) := by
  rw [(indistinguishable b .json _).trans (refines_json Map.empty _).1, specOutputs, runWith_append, runWith_append]
  rfl

/-- removed tasks never reappear: after `remove t` (and anything that does not `set t`), `in_ t` is false -/
theorem removed_stays_removed (b : Backend) (pre mid : List Op) (t : T)
    (hmid : ∀ op ∈ mid, ∀ k v, op ≠ Op.set t k v) :
    (outputs b (pre ++ [Op.remove t] ++ mid ++ [Op.has t])).getLast? = some (Out.bool false) := by
  have hM := spec_absent_preserved mid t hmid _ (upd_same (runWith specStep Map.empty pre).1 t none)
  rw [(indistinguishable b .json _).trans (refines_json Map.empty _).1, runWith_append, runWith_append,
    runWith_append]
  exact (List.getLast?_concat ..).trans (congrArg (fun o : Option Rcd => some (Out.bool o.isSome)) hM)

/-- a non-trivial sequence really exercises set-after-reopen on every backend -/
example : outputs .dbm [.set 0 1 10, .reopen, .set 0 2 20, .get 0 1, .has 0, .remove 0, .reopen, .has 0]
    = [.unit, .unit, .unit, .val (some 10), .bool true, .unit, .unit, .bool false] := by decide

example : outputs .sqlite [.get 7 1, .has 7, .set 7 1 5, .reopen, .get 7 1]
    = [.val none, .bool false, .unit, .unit, .val (some 5)] := by decide

/-- F-C07a (fixed in /repo): the pinned `DbmDB.set` on a stored-but-unread task hid its other keys -/
theorem pinned_dbm_counterexample :
    (runWith dbmStepPinned (dbmOpen Map.empty) [.set 0 1 10, .reopen, .set 0 2 20, .reopen, .get 0 1]).2
      ≠ specOutputs [.set 0 1 10, .reopen, .set 0 2 20, .reopen, .get 0 1] := by decide

/-- F-C07a/b (fixed in /repo): same for the pinned SqliteDB, and `get` of a missing task made `in_` true -/
theorem pinned_sqlite_counterexample :
    (runWith sqlStepPinned (sqlOpen Map.empty) [.get 0 1, .has 0]).2 ≠ specOutputs [.get 0 1, .has 0] ∧
    (runWith sqlStepPinned (sqlOpen Map.empty) [.set 0 1 10, .reopen, .set 0 2 20, .get 0 1]).2
      ≠ specOutputs [.set 0 1 10, .reopen, .set 0 2 20, .get 0 1] := by decide

end DoitModel.C07
