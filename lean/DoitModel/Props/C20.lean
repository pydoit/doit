import DoitModel.Proofs.C20
import DoitModel.Proofs.C20Spec
import DoitModel.Proofs.StatusNoCrash
/-! # C20 — introspection commands are read-only and agree with run

Property theorems only (models: `Model/Status.lean`, `Model/Intro.lean`; helpers: `Proofs/C20.lean`, `Proofs/C20Spec.lean`, `Proofs/Status*.lean`).
Quantification: every state `s` of the status model -- in particular every state reachable by a history
(`runHist true h`, any number of tasks and files, both checkers) --, every read-only command with every option that
matters for the DB (`list` with/without `--status` over any print list, `info` with/without `--no-status`,
`clean --dry-run` with/without `--forget` over any clean list, `help`, `dumpdb`, `tabcompletion`).
Backends: by C07 every backend is the map `task → key → value` this model works on; *persistence* of the documented
removal (only a write-through `remove`, i.e. dbm, keeps it: none of these commands but `clean` calls `close()`) is
observed by the correspondence, not modelled. -/
namespace DoitModel.C20
open DoitModel.Status DoitModel.Intro

/-- **C20 frame.**  A read-only command changes neither the file system, nor the task definitions, nor the configured
    checker; every task's record is left exactly as it was, or -- only when it names another checker than the
    configured one (the documented invalidation) -- is removed as a whole. -/
theorem C20_frame (cmd : Cmd) (hro : cmd.readOnly = true) (s : St) :
    (cmd.exec s).fs = s.fs ∧ (cmd.exec s).defs = s.defs ∧ (cmd.exec s).checker = s.checker ∧
    ∀ t, (cmd.exec s).rcd t = s.rcd t ∨
         (checkerChanged s.checker (s.rcd t) = true ∧ (cmd.exec s).rcd t = Rcd.empty) :=
  have h := frame_exec cmd hro s
  ⟨h.fs, h.defs, h.checker, h.rcd⟩

/-- the same over histories, every prefix: wherever the command is issued -/
theorem C20_frame_history (h : List Op) (k : Nat) (cmd : Cmd) (hro : cmd.readOnly = true) (t : Name) :
    let s := runHist true (h.take k)
    (cmd.exec s).fs = s.fs ∧
    ((cmd.exec s).rcd t = s.rcd t ∨ (checkerChanged s.checker (s.rcd t) = true ∧ (cmd.exec s).rcd t = Rcd.empty)) :=
  have h := frame_exec cmd hro (runHist true (h.take k))
  ⟨h.fs, h.rcd t⟩

/-- when no record names another checker, the DB is untouched and no DB write operation is issued at all -/
theorem C20_frame_identity (cmd : Cmd) (hro : cmd.readOnly = true) (s : St)
    (hcc : ∀ t, checkerChanged s.checker (s.rcd t) = false) :
    (cmd.exec s).rcd = s.rcd ∧ cmd.removes s = [] := by
  refine ⟨((frame_exec cmd hro s).same hcc).1, ?_⟩
  cases hr : cmd.removes s with
  | nil => rfl
  | cons a rest =>
    have := removes_cc cmd hro s a (by simp [hr])
    rw [hcc a] at this; cases this

/-- the DB write operations of a read-only command are removals of records that name another checker, nothing else
    (`Cmd.removes` is the whole write trace: no `set`, no `remove_all`) -/
theorem C20_only_documented_removal (cmd : Cmd) (hro : cmd.readOnly = true) (s : St) (t : Name)
    (ht : t ∈ cmd.removes s) : checkerChanged s.checker (s.rcd t) = true :=
  removes_cc cmd hro s t ht

/-- `help`, `dumpdb`, `tabcompletion` (and `list` without `--status`, `info --no-status`) never touch the DB -/
theorem C20_no_db_access (cmd : Cmd) (h : cmd.opensDb = false) (s : St) :
    cmd.exec s = s ∧ cmd.removes s = [] := by
  cases cmd with
  | list status ts => cases status <;> simp_all [Cmd.opensDb, Cmd.exec, Cmd.removes]
  | info t hide => cases hide <;> simp_all [Cmd.opensDb, Cmd.exec, Cmd.removes]
  | clean dry forget ts => simp [Cmd.opensDb] at h
  | _ => exact ⟨rfl, rfl⟩

/-- `clean --dry-run` forgets nothing, with or without `--forget` -/
theorem C20_clean_dry_run (forget : Bool) (ts : List Name) (s : St) :
    (Cmd.clean true forget ts).exec s = s ∧ (Cmd.clean true forget ts).removes s = [] := by
  simp [Cmd.exec, Cmd.removes]

/-! non-vacuity: a reachable state in which `list -s` really removes a record (checker switched after a run), one in
    which it removes nothing, and the contrast with a real `clean --forget` -/

def demoHist : List Op :=
  [.edit 0 4 1, .redefine 0 ⟨[0], [], []⟩, .redefine 1 ⟨[0], [], []⟩, .run 0 true false [] none,
   .run 1 true false [] none, .ignore 1, .switchChecker .ts]

example : (Cmd.list true [0, 1]).removes (runHist true demoHist) = [0] := by decide
example : listRun (runHist true demoHist) [0, 1] = [.run, .ignore] := by decide
example : (Cmd.info 0 false).removes (runHist true demoHist) = [0] := by decide
/-- task 1 is ignored: `info` does not even call `get_status` -/
example : (Cmd.info 1 false).removes (runHist true demoHist) = [] := by decide
example : (Cmd.list true [0, 1]).removes (runHist true (demoHist.take 6)) = [] := by decide
example : (Cmd.clean false true [0]).removes (runHist true demoHist) = [0] ∧
    (Cmd.clean true true [0]).removes (runHist true demoHist) = [] := by decide

/-- **`getlog_agrees`, full** (the tree after the `fix:` commit "status shown by `doit info` is the decision `doit run`
    takes"): `info`'s status computation `get_status(get_log=True)` gives the status of `run`'s
    `get_status(get_log=False)` in every situation -- every task definition, record, file system, saved results.
    Hypothesis: no saved state of the wrong shape (`MD5Checker` meeting a float: the unhandled `TypeError` of
    findings/pending/C03-md5-on-timestamp-state.md; `get_log=True` always reaches the file loop, `get_log=False` may
    leave before it). -/
theorem C20_getlog_agrees_full (c : Checker) (d : TaskDef) (r : Rcd) (fs : FS) (resOf : Name → Option Res)
    (hnc : d.deps.any (depIs .crash c r fs) = false) :
    logStatus c d r fs resOf = statusOf true c d r fs resOf :=
  getlog_agrees c d r fs resOf hnc

/-- … in particular, without any hypothesis, after every prefix of every history that does not switch the checker -/
theorem C20_getlog_agrees_history (h : List Op) (hn : NoSwitch h = true) (k : Nat) (t : Name) :
    logStatusAt (runHist true (h.take k)) t = (runHist true (h.take k)).status true t := by
  have h5 := noSwitch_md5 true _ (all_take hn k)
  refine getlog_agrees _ _ _ _ _ ?_
  rw [h5.ck]; exact any_depIs_crash_false (h5.shape t) _ _

/-- and on "up-to-date" whatever is saved -/
theorem C20_getlog_agrees_on_upToDate (s : St) (t : Name) :
    logStatusAt s t = .upToDate ↔ s.status true t = .upToDate :=
  logStatus_upToDate_iff _ _ _ _ _

/-! ### the tree before that commit (`logStatusPinned`: the last reason found decided) — F-C20 (a), (b) -/

/-- the two computations agreed *exactly* outside `logDisagree` -- a file dependency is missing and either another
    one is listed as changed (no early exit, checker unchanged): `error` was overwritten by `run`; or the
    `get_log=False` call leaves early with `run` and no dependency is listed: `get_log=True` said `error` -/
theorem C20_pinned_getlog_agrees_iff (c : Checker) (d : TaskDef) (r : Rcd) (fs : FS) (resOf : Name → Option Res)
    (hnc : d.deps.any (depIs .crash c r fs) = false) :
    logStatusPinned c d r fs resOf = statusOf true c d r fs resOf ↔ logDisagree c d r fs resOf = false :=
  pinned_getlog_agrees_iff c d r fs resOf hnc

/-- F-C20 (a): run, edit one dependency, delete the other: `run` / `list -s` say `error`, `info` said `run` -/
def overwrittenHist : List Op :=
  [.edit 0 4 1, .edit 1 4 2, .redefine 0 ⟨[0, 1], [], []⟩, .run 0 true false [] none, .edit 0 4 3, .delete 1]

theorem C20_pinned_getlog_error_overwritten_counterexample :
    (runHist true overwrittenHist).status true 0 = .error ∧
    logStatusPinnedAt (runHist true overwrittenHist) 0 = .run := by
  decide

/-- F-C20 (b): a false `uptodate` item and a missing dependency: `run` executes the task, `info` said `error` -/
def hiddenHist : List Op :=
  [.edit 0 4 1, .redefine 0 ⟨[0], [], [.const false]⟩, .run 0 true false [] none, .delete 0]

theorem C20_pinned_getlog_error_hidden_counterexample :
    (runHist true hiddenHist).status true 0 = .run ∧ logStatusPinnedAt (runHist true hiddenHist) 0 = .error := by
  decide

theorem C20_pinned_getlog_counterexample :
    ¬ ∀ (c : Checker) (d : TaskDef) (r : Rcd) (fs : FS) (resOf : Name → Option Res),
      d.deps.any (depIs .crash c r fs) = false → logStatusPinned c d r fs resOf = statusOf true c d r fs resOf := by
  intro h
  have h1 := h (runHist true overwrittenHist).checker ((runHist true overwrittenHist).defs 0)
    ((runHist true overwrittenHist).rcd 0) (runHist true overwrittenHist).fs (runHist true overwrittenHist).resOf
    (by decide)
  have h2 := C20_pinned_getlog_error_overwritten_counterexample
  simp only [St.status, logStatusPinnedAt] at h2
  rw [h1, h2.1] at h2
  exact absurd h2.2 (by decide)

/-- the same histories on the repaired tree -/
example : logStatusAt (runHist true overwrittenHist) 0 = .error ∧ logStatusAt (runHist true hiddenHist) 0 = .run := by
  decide

/-- **`list --status`.**  The letter shown for a task is the decision `select_task` takes for it in that state … -/
theorem C20_list_status_agrees (s : St) (t : Name) : listShown s t = decision s t := rfl

/-- … and that decision is what the runner then does with the task (`Status.runTask`, the model tied to real runs by
    C03/C04): ignored and up-to-date tasks are left alone, `error` erases the record without executing, `run`
    executes. -/
theorem C20_decision_is_what_run_does (s : St) (t : Name) (ok : Bool) (ws : List (Path × Nat × Nat))
    (res : Option Res) :
    (decision s t = .ignore → runTask true s t ok false ws res = s) ∧
    (decision s t = .upToDate → runTask true s t ok false ws res = s) ∧
    (decision s t = .error → runTask true s t ok false ws res = erase s t) ∧
    (decision s t = .run → runTask true s t ok false ws res = finish (applyWrites (peek s t) ws) t ok res) ∧
    (decision s t = .crash → runTask true s t ok false ws res = { s with crashed := true }) := by
  rw [runTask_of_decision]
  exact ⟨fun h => by rw [h], fun h => by rw [h], fun h => by rw [h], fun h => by rw [h], fun h => by rw [h]⟩

/-- all lines of one `list -s`: when no listed record names another checker (nothing is removed on the way) every line
    shows the decision of the state the command was started in, and the state is left as it was -/
theorem C20_list_lines_agree (s : St) (ts : List Name) (hc : s.crashed = false)
    (hcc : ∀ t, t ∈ ts → checkerChanged s.checker (s.rcd t) = false)
    (hst : ∀ t, t ∈ ts → s.status true t ≠ .crash) :
    listRun s ts = ts.map (decision s) ∧ (Cmd.list true ts).exec s = s := by
  induction ts with
  | nil => exact ⟨rfl, rfl⟩
  | cons a rest ih =>
    have h1 : listOne s a = s := listOne_id hc (hcc a (by simp)) (hst a (by simp))
    have ih' := ih (fun t ht => hcc t (by simp [ht])) (fun t ht => hst t (by simp [ht]))
    constructor
    · simp only [listRun, h1, hc, Bool.false_eq_true, if_false, List.map_cons, ih'.1]
      rfl
    · show List.foldl listOne (listOne s a) rest = s
      rw [h1]; exact ih'.2

/-- in general each line shows the decision of the state *in which it is printed* (records removed by earlier lines
    are gone) -/
theorem C20_list_lines_threaded (s : St) (t : Name) (rest : List Name) (hc : s.crashed = false) :
    listRun s (t :: rest) = decision s t :: listRun (listOne s t) rest := by
  simp [listRun, hc, C20_list_status_agrees]

example : listRun (runHist true overwrittenHist) [0] = [.error] := by decide

/-- **`info`, full** (tree as repaired: the ignore mark is consulted first, the first reason found decides): the status
    `doit info` shows is the decision of `run` -- ignore / up-to-date / run / error -- in every state (hypothesis as
    for `C20_getlog_agrees_full`: no saved state of the wrong shape) -/
theorem C20_info_status_agrees_full (s : St) (t : Name)
    (hnc : (s.defs t).deps.any (depIs .crash s.checker (s.rcd t) s.fs) = false) :
    infoShown s t = decision s t := by
  simp only [infoShown, decision, logStatusAt, St.status, getlog_agrees _ _ _ _ _ hnc]

/-- … and so `info` and `list -s` show the same -/
theorem C20_info_agrees_with_list (s : St) (t : Name)
    (hnc : (s.defs t).deps.any (depIs .crash s.checker (s.rcd t) s.fs) = false) :
    infoShown s t = listShown s t :=
  C20_info_status_agrees_full s t hnc

/-- an ignored task: `info` says `ignore` as `run` and `list -s` do, prints no reason, and does not touch the DB (not
    even the documented removal: `get_status` is not called) -/
theorem C20_info_ignored_agrees (s : St) (t : Name) (hign : (s.rcd t).ign = true) :
    infoShown s t = decision s t ∧ infoShown s t = listShown s t ∧ infoPrinted s t = Reasons.none ∧
    (Cmd.info t false).exec s = s ∧ (Cmd.info t false).removes s = [] := by
  simp [infoShown, decision, listShown, infoPrinted, Cmd.exec, Cmd.removes, infoOne, hign]

theorem C20_info_upToDate_iff (s : St) (t : Name) :
    infoShown s t = .upToDate ↔ decision s t = .upToDate := by
  unfold infoShown decision
  cases (s.rcd t).ign
  · rw [if_neg Bool.false_ne_true, if_neg Bool.false_ne_true, ofStatus_upToDate, ofStatus_upToDate]
    exact logStatus_upToDate_iff _ _ _ _ _
  · exact Iff.rfl

/-- F-C20 (c), the pinned tree (`Info._execute` never consulted `ignore:`; repaired by the `fix:` commit "`doit info`
    shows status "ignore" for an ignored task"): `info` on an ignored task showed what `get_status` says while `run`
    skips the task as ignored -/
def ignoredHist : List Op := [.edit 0 4 1, .redefine 0 ⟨[0], [], []⟩, .ignore 0]

theorem C20_pinned_info_ignored_counterexample :
    decision (runHist true ignoredHist) 0 = .ignore ∧ infoShownPinned (runHist true ignoredHist) 0 = .run ∧
    listShown (runHist true ignoredHist) 0 = .ignore := by decide

/-- the same history on the repaired tree -/
example : infoShown (runHist true ignoredHist) 0 = .ignore := by decide

/-- F-C20 (a) on the tree before the `fix:` commit e6acbba: `info` showed `run` where `run` reports the error -/
theorem C20_pinned_info_counterexample :
    ((runHist true overwrittenHist).rcd 0).ign = false ∧
    ofStatus (logStatusPinnedAt (runHist true overwrittenHist) 0) = .run ∧
    decision (runHist true overwrittenHist) 0 = .error ∧ infoShown (runHist true overwrittenHist) 0 = .error := by
  decide

/-- **every printed reason holds**: each entry of the reasons `info` prints is true of the task definition, the file
    system and the saved state at that moment (`logRcd`: the saved state after the invalidation on a checker change) -/
theorem C20_reasons_true (c : Checker) (d : TaskDef) (r : Rcd) (fs : FS) (resOf : Name → Option Res) :
    let x := reasonsOf c d r fs resOf
    (x.noDeps = true ↔ d.deps = [] ∧ ∀ u, u ∈ d.uptodate → evalUtd r.getValues resOf u = none) ∧
    (∀ u, u ∈ x.utdFalse ↔ u ∈ d.uptodate ∧ evalUtd r.getValues resOf u = some false) ∧
    (∀ a b, x.checkerChanged = some (a, b) ↔ r.checker = some a ∧ a ≠ c ∧ b = c) ∧
    (∀ p, p ∈ x.missingTarget ↔ p ∈ d.targets ∧ fs p = none) ∧
    (∀ p, p ∈ x.missingDep ↔ p ∈ d.deps ∧ fs p = none) ∧
    (∀ p, p ∈ x.changed ↔ p ∈ d.deps ∧ ∃ cur, fs p = some cur ∧
        ((logRcd c r).fstate p = none ∨ notInPrev (logRcd c r) p = true ∨
         ∃ st, (logRcd c r).fstate p = some st ∧ checkModified c st cur = .modified)) ∧
    (∀ p, p ∈ x.removed → p ∈ prevDeps (logRcd c r) ∧ p ∉ d.deps) ∧
    (∀ p, p ∈ x.added → p ∈ d.deps ∧ p ∉ prevDeps (logRcd c r)) := by
  intro x
  refine ⟨?_, ?_, ?_, ?_, ?_, ?_, ?_, ?_⟩
  · exact Bool.and_eq_true_iff.trans
      (and_congr List.isEmpty_iff ((Bool.not_eq_true' _).to_iff.trans utdEvaluated_false))
  · exact fun u => List.mem_filter.trans (and_congr_right fun _ => beq_iff_eq)
  · exact fun a b => ckReason_eq_some
  · exact fun p => List.mem_filter.trans (and_congr_right fun _ => Option.isNone_iff_eq_none)
  · exact fun p => List.mem_filter.trans (and_congr_right fun _ => Option.isNone_iff_eq_none)
  · exact fun p => List.mem_filter.trans (and_congr_right fun _ => depListed_iff)
  · intro p hp
    obtain ⟨_, hp⟩ := List.mem_ite_nil_right.1 hp
    exact ⟨(List.mem_filter.1 hp).1, of_decide_eq_true (List.mem_filter.1 hp).2⟩
  · intro p hp
    obtain ⟨_, hp⟩ := List.mem_ite_nil_right.1 hp
    exact ⟨(List.mem_filter.1 hp).1, of_decide_eq_true (List.mem_filter.1 hp).2⟩

/-- … and the list is complete: `info` prints no reason at all exactly when it reports `up-to-date` -/
theorem C20_reasons_complete (c : Checker) (d : TaskDef) (r : Rcd) (fs : FS) (resOf : Name → Option Res)
    (hnc : d.deps.any (depRaises c (logRcd c r) fs) = false) :
    (reasonsOf c d r fs resOf).isEmpty = true ↔ logStatus c d r fs resOf = .upToDate := by
  rw [depRaises_eq] at hnc
  rw [logStatus_upToDate_iff, statusOf_upToDate_iff]
  simp only [Reasons.isEmpty, reasonsOf, Bool.and_eq_true, Bool.not_eq_true', filter_isEmpty, isNone_ckReason,
    depListed_eq, earlyRun, utdFalse, Bool.or_eq_false_iff]
  constructor
  · rintro ⟨⟨⟨⟨⟨⟨⟨hNoDeps, hUtd⟩, hCk⟩, hTarget⟩, hChanged⟩, hMissing⟩, hRemoved⟩, hAdded⟩
    rw [logRcd_same hCk] at hChanged hRemoved hAdded hnc
    refine ⟨⟨⟨hUtd, hNoDeps⟩, hTarget⟩, hCk, hMissing, hnc, hChanged, ?_⟩
    cases hdc : depsChanged true r d.deps with
    | false => rfl
    | true =>
      rw [hdc, if_pos rfl] at hRemoved hAdded
      have := depsChanged_lists r d.deps hdc
      rw [hRemoved, hAdded] at this; cases this
  · rintro ⟨⟨⟨hUtd, hNoDeps⟩, hTarget⟩, hCk, hMissing, _, hChanged, hDeps⟩
    rw [logRcd_same hCk, hDeps]
    exact ⟨⟨⟨⟨⟨⟨⟨hNoDeps, hUtd⟩, hCk⟩, hTarget⟩, hChanged⟩, hMissing⟩, rfl⟩, rfl⟩

/-- the `changed_file_dep` reason against the *ghost* state (never a record), at full strength: after every prefix of
    every history within the checker's premise, `info` lists a file dependency as changed **exactly** when the file
    exists and the last recorded successful execution did not see it as it is now: there is no such execution, or it
    used another checker, or it did not have this dependency (the `fix:` commit "a file_dep added back to a task is
    reported as changed"), or the file is modified -- by the configured checker's rule -- relative to what it saw. -/
theorem C20_reasons_changed_is_true (h : List Op) (hf : Faithful h = true) (k : Nat) (t : Name) (p : Path) :
    let s := runHist true (h.take k)
    p ∈ (infoReasons s t).changed ↔
      p ∈ (s.defs t).deps ∧ (s.fs p).isSome = true ∧
        match s.shadow t with
        | none => True
        | some e => e.checker ≠ s.checker ∨ p ∉ e.deps ∨ depUnmod s.checker e s.fs p = false := by
  intro s
  have hinv : Inv s := hist_inv _ (all_take hf k)
  exact List.mem_filter.trans (and_congr_right fun _ => listed_logRcd_iff p (hinv.agree t))

/-- a dependency added back to the task (its stale state is still in the record) is listed, whatever its content -/
def readdedHist : List Op :=
  [.edit 0 4 1, .edit 1 4 2, .redefine 0 ⟨[0, 1], [], []⟩, .run 0 true false [] none,
   .redefine 0 ⟨[0], [], []⟩, .run 0 true false [] none, .redefine 0 ⟨[0, 1], [], []⟩]

example : (infoReasons (runHist true readdedHist) 0).changed = [1] ∧ (infoReasons (runHist true readdedHist) 0).added = [1]
    ∧ depIsPinned .modified .md5 ((runHist true readdedHist).rcd 0) (runHist true readdedHist).fs 1 = false
    ∧ depIs .modified .md5 ((runHist true readdedHist).rcd 0) (runHist true readdedHist).fs 1 = true := by decide

/-- non-vacuity of the hypotheses: after `overwrittenHist` the last execution of task 0 is recorded with both
    dependencies and the configured checker, and dependency 0 is listed as changed -/
example : ∃ e, (runHist true overwrittenHist).shadow 0 = some e ∧ e.checker = (runHist true overwrittenHist).checker ∧
    0 ∈ e.deps ∧ depUnmod .md5 e (runHist true overwrittenHist).fs 0 = false ∧
    0 ∈ (infoReasons (runHist true overwrittenHist) 0).changed :=
  ⟨_, rfl, by decide, by decide, by decide, by decide⟩

/-- non-vacuity: a reachable state with several reasons at once -/
example : infoReasons (runHist true overwrittenHist) 0 =
    { Reasons.none with changed := [0], missingDep := [1] } := by decide

example : infoReasons (runHist true (demoHist ++ [.redefine 0 ⟨[1], [2], [.const false]⟩])) 0 =
    { Reasons.none with utdFalse := [.const false], checkerChanged := some (.md5, .ts), missingTarget := [2],
                        missingDep := [1] } := by decide

end DoitModel.C20
