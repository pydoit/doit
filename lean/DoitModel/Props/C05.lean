import DoitModel.Proofs.C05Mon
import DoitModel.Proofs.C05Halt
/-! # C05 — failures are contained and never recorded as success

Property theorems only (model: `Model/Run.lean` + `Model/RunFail.lean`; invariants: `Proofs/Run*.lean`,
`Proofs/C05*.lean`).  Quantification as for C01/C02: every task table (any graph), every selection, every oracle
(status / ignore / outcome incl. "cannot be saved" / calc results / getargs errors), with and without `--continue`,
every iteration order of the `set`s the dispatcher iterates, every interleaving of any number of workers, every
reachable state — hence every prefix of every run.  `s.events` is newest first.

`DepPlus inp t d`: `t` depends on `d` through one or more edges of any kind — task_dep (incl. target→file_dep and
result_dep after the M8 expansion), calc_dep, what calc_deps deliver, setup (incl. getargs after expansion; a setup edge of
a task that is up-to-date does not count: its setup-tasks are never looked at, DESIGN §5 "closure").

Deliveries of FAILED calc tasks: doit also delivers the values a calc task returned before its execution failed (M1
`deliverF`, oracle `calcResFail`; the waiting task is reported unmet, what was delivered is still created and
processed).  Every theorem below holds for all inputs, those included (there is no `NoFailDeliver` hypothesis).  The
"normal report" theorems keep their narrow relations (`DepOnE`, `DepObs`: what executed / up-to-date calc_deps
delivered): the node invariant behind them (`Proofs/C05Unmet.lean`, `NDp`) is stated over the wider observed relation
`DepObsF` (… or what a calc_dep that was started and then reported failed delivered), and a dependency seen only the wide
way always comes with the failed calc_dep that delivered it, itself observed the narrow way (`DepObsF.reduce`) — so an
`unmet` / `skip_ignore` report is still justified by a failed / ignored dependency of the narrow kind.  The monitor
`monC05ContinueComplete` looks at the narrow relations too (its `closureOf` / `edgesOf` count finished calc_deps only; what failed calc tasks
delivered is extra work the run did, reported once all the same by C02's `closureOfF` monitors). -/
namespace DoitModel.C05
open DoitModel.Run

/-- (a) for one transition system (`DepPlusE`: the dependency relation as the run determines it — it contains the static
    `DepPlus`, see `C05_no_start_after_failure`; it differs only in counting the setup-tasks of every task the run did
    not report up-to-date, whatever the oracle says): once `d` has a failure report (failed / error / unmet dependency / dependency error),
    a task `t` that depends on `d` in any way is never chosen by `select_task`, its actions never start — neither
    after the report (what the property asks) nor before it — and it is reported neither successful nor up-to-date -/
def NoDependentRuns (inp : RunInput) (reach : Sys → Prop) : Prop :=
  ∀ s, reach s → ∀ (d t : Name) (k : FailKind), Ev.failure d k ∈ s.events → DepPlusE inp s.events t d →
    (∀ deps, Ev.go t deps ∉ s.events) ∧ (∀ w, Ev.start t w ∉ s.events) ∧ Ev.success t ∉ s.events ∧
      Ev.skipUtd t ∉ s.events

/-- C05 (a), serial runner, with or without `--continue` -/
theorem C05_no_dependent_runs_serial (inp : RunInput) : NoDependentRuns inp (Reach inp) :=
  fun _ hr _ _ _ hf hd => failed_dep_never_started (reach_inv2 hr) (reach_invG hr) (reach_invF hr) hf hd

/-- C05 (a), `MRunner` / `MThreadRunner`: every interleaving, every `numProcess`, with or without `--continue` -/
theorem C05_no_dependent_runs_parallel (inp : RunInput) : NoDependentRuns inp (PReach inp) :=
  fun _ hr _ _ _ hf hd => failed_dep_never_started (preach_inv hr).1 (preach_invG hr) (preach_invF hr) hf hd

/-- (a) in the positional form of the property text: no `start t` at a position after the failure report of `d` -/
theorem C05_no_start_after_failure (inp : RunInput) (s : Sys) (hr : PReach inp s ∨ Reach inp s) (pre post : List Ev)
    (d t : Name) (k : FailKind) (he : s.events = post ++ Ev.failure d k :: pre) (hd : DepPlus inp t d) :
    ∀ w, Ev.start t w ∉ post := by
  have hF : InvF inp s := by rcases hr with hr | hr; exact preach_invF hr; exact reach_invF hr
  have hd := depPlus_depPlusE hF hd
  intro w hw
  have hf : Ev.failure d k ∈ s.events := by rw [he]; simp
  have hs : Ev.start t w ∈ s.events := by rw [he]; simp [hw]
  rcases hr with hr | hr
  · exact (C05_no_dependent_runs_parallel inp s hr d t k hf hd).2.1 w hs
  · exact (C05_no_dependent_runs_serial inp s hr d t k hf hd).2.1 w hs

/-- a failure report always goes with `run_status = 'failure'`, which is final: the task is never reported again and
    what depends on it sees it in `bad_deps` (the invariant behind (a)) -/
theorem C05_failure_is_final (inp : RunInput) (s : Sys) (hr : PReach inp s ∨ Reach inp s) (d : Name) (k : FailKind)
    (hf : Ev.failure d k ∈ s.events) : stOf s d = .fail ∧ Ev.success d ∉ s.events ∧ Ev.skipUtd d ∉ s.events := by
  have hF : InvF inp s := by rcases hr with hr | hr; exact preach_invF hr; exact reach_invF hr
  have h := hF.fl d k hf
  refine ⟨h, fun a => ?_, fun a => ?_⟩
  · have := (hF.ok d a).1; rw [h] at this; cases this
  · have := hF.ut d a; rw [h] at this; cases this

/-- (b), the M1 part: `_handle_task_error` calls `remove_success` for every kind of failure report — the action failed
    or raised, a dependency failed (unmet), `get_status` answered `error` (missing file_dep before execution),
    `_get_task_args` raised, or `save_success` raised FileNotFoundError (missing file_dep after execution, outcome
    `saveErr`) — and no later `save_success` follows, so whatever record the task had before the run (`r0`), it has
    none after it.  (That a task without record is not up-to-date on the next run unless it is stateless is `Cmds.statusOf_empty`
    over the M2 model `Model/Status.lean`; the harness also observes it on the real code with a second run on each
    backend.) -/
theorem C05_not_recorded_serial (inp : RunInput) (s : Sys) (hr : Reach inp s) (r0 : Name → Bool) (n : Name)
    (k : FailKind) (hf : Ev.failure n k ∈ s.events) : recAfter r0 n s.events = false :=
  recAfter_failed r0 n s.events ((reach_inv3 hr).t2 n) ⟨k, hf⟩

theorem C05_not_recorded_parallel (inp : RunInput) (s : Sys) (hr : PReach inp s) (r0 : Name → Bool) (n : Name)
    (k : FailKind) (hf : Ev.failure n k ∈ s.events) : recAfter r0 n s.events = false :=
  recAfter_failed r0 n s.events ((preach_inv hr).2.t2 n) ⟨k, hf⟩

/-- with `--continue` a failure never sets `_stop_running` (all runners) -/
theorem C05_continue_never_stops (inp : RunInput) (hc : inp.continue_ = true) (s : Sys)
    (hr : PReach inp s ∨ Reach inp s) : s.stop = false := by
  rcases hr with hr | hr
  · exact (preach_invF hr).st hc
  · exact (reach_invF hr).st hc

/-- a task is reported `unmet` only if one of its direct dependencies (as the run determines them: `DepOnE`) has a
    failure report — so, by induction, only below a task that failed on its own account (all runners) -/
theorem C05_unmet_has_failed_dep (inp : RunInput) (s : Sys) (hr : PReach inp s ∨ Reach inp s) (t : Name)
    (h : Ev.failure t .unmet ∈ s.events) : ∃ d k, DepOnE inp s.events t d ∧ Ev.failure d k ∈ s.events := by
  rcases hr with hr | hr
  · exact unmet_has_failed_dep (preach_invU hr) (preach_invF hr) h
  · exact unmet_has_failed_dep (reach_invU hr) (reach_invF hr) h

/-- (c), serial runner, full strength: with `--continue`, when the run ends without an internal error, every task in
    the closure of the selection has exactly one terminal report (executed, up-to-date, ignored, or failed/unmet) — no
    failure cuts the run short — and the report is `unmet` only for tasks that depend on a task with a failure report;
    every other closure member gets its normal report -/
theorem C05_continue_complete_serial (inp : RunInput) (hc : inp.continue_ = true) (s : Sys) (hr : Reach inp s)
    (hend : s.rpc = .halted) (hhalt : s.halt = .none) :
    (∀ t, RunCl inp s t → s.events.countP (Ev.isTerminalOf t) = 1) ∧
    (∀ t, Ev.failure t .unmet ∈ s.events → ∃ d k, DepOnE inp s.events t d ∧ Ev.failure d k ∈ s.events) :=
  ⟨fun t ht => all_processed_serial hr hend hhalt ((reach_invF hr).st hc) t ht,
   fun _ h => unmet_has_failed_dep (reach_invU hr) (reach_invF hr) h⟩

/-- (c), `MRunner` / `MThreadRunner`, full strength — every interleaving of any number of workers: with `--continue`,
    when the main loop ends (`proc_count = 0`) without an internal error, every task in the closure of the selection has
    exactly one terminal report — its normal one (executed / up-to-date / ignored / failed on its own account) unless it
    depends on a task with a failure report, the only case in which it is reported `unmet`.  No hypothesis on `stop`:
    with `--continue` a failure never sets `_stop_running` (`C05_continue_never_stops`), so `get_next_job` never
    answers "nothing left" because of a failure; that the loop then leaves no closure member unprocessed is the
    `free_proc` / `proc_count` accounting invariant of `Proofs/RunAcct.lean` (`C02_all_processed_parallel`). -/
theorem C05_continue_complete_parallel (inp : RunInput) (hc : inp.continue_ = true) (s : Sys) (hr : PReach inp s)
    (hend : s.rpc = .halted) (hhalt : s.halt = .none) :
    (∀ t, RunCl inp s t → s.events.countP (Ev.isTerminalOf t) = 1) ∧
    (∀ t, Ev.failure t .unmet ∈ s.events → ∃ d k, DepOnE inp s.events t d ∧ Ev.failure d k ∈ s.events) :=
  ⟨fun t ht => all_processed_parallel hr hend hhalt ((preach_invF hr).st hc) t ht,
   fun _ h => unmet_has_failed_dep (preach_invU hr) (preach_invF hr) h⟩

/-- (c) for every runner -/
theorem C05_continue_complete (inp : RunInput) (hc : inp.continue_ = true) (s : Sys)
    (hr : PReach inp s ∨ Reach inp s) (hend : s.rpc = .halted) (hhalt : s.halt = .none) :
    (∀ t, RunCl inp s t → s.events.countP (Ev.isTerminalOf t) = 1) ∧
    (∀ t, Ev.failure t .unmet ∈ s.events → ∃ d k, DepOnE inp s.events t d ∧ Ev.failure d k ∈ s.events) := by
  rcases hr with hr | hr
  · exact C05_continue_complete_parallel inp hc s hr hend hhalt
  · exact C05_continue_complete_serial inp hc s hr hend hhalt

/-- (d) serial runner without `--continue`: no action starts after the first failure report (of any kind) -/
theorem C05_serial_stops (inp : RunInput) (hc : inp.continue_ = false) (s : Sys) (hr : Reach inp s)
    (pre post : List Ev) (d : Name) (k : FailKind) (he : s.events = post ++ Ev.failure d k :: pre) :
    ∀ e ∈ post, e.isStart = false :=
  NSA_split (reach_invS hc hr).ns he

/-- and the run is over: the runner goes straight to `finish()` -/
theorem C05_serial_stops_state (inp : RunInput) (hc : inp.continue_ = false) (s : Sys) (hr : Reach inp s)
    (d : Name) (k : FailKind) (hf : Ev.failure d k ∈ s.events) :
    s.stop = true ∧ s.rpc ≠ .sWait ∧ ∀ m, s.rpc ≠ .sExec m :=
  (reach_invS hc hr).sd ⟨d, k, hf⟩

/-! ### the monitors: the decidable statements the driver evaluates on every IMPLEMENTATION trace hold on every
    observable trace of the model (so an implementation trace on which one is false is no trace of the model) -/

/-- (a): `monC05NoDependentRuns` — after a failure report of `d`, no `start t` with `d` in the dependency closure of `t`
    computed from the trace (task_dep, setup unless reported up-to-date, calc_dep, everything delivered by finished
    calc_deps; transitively) — for every bound `nTasks` of the fixed-point iterations -/
theorem C05_monitor_no_dependent_runs_serial (inp : RunInput) (s : Sys) (hr : Reach inp s) (nTasks : Nat) :
    monC05NoDependentRuns inp nTasks (trace inp s) = true :=
  monC05NoDependentRuns_of_inv (reach_inv2 hr) (reach_invG hr) (reach_invF hr) nTasks

theorem C05_monitor_no_dependent_runs_parallel (inp : RunInput) (s : Sys) (hr : PReach inp s) (nTasks : Nat) :
    monC05NoDependentRuns inp nTasks (trace inp s) = true :=
  monC05NoDependentRuns_of_inv (preach_inv hr).1 (preach_invG hr) (preach_invF hr) nTasks

/-- (b): `monC05NotRecorded` with the DB content the model predicts (`recAfter`), whatever was recorded before -/
theorem C05_monitor_not_recorded_serial (inp : RunInput) (s : Sys) (hr : Reach inp s) (nTasks : Nat) (r0 : Name → Bool) :
    monC05NotRecorded nTasks (trace inp s) (fun n => recAfter r0 n s.events) = true :=
  monC05NotRecorded_of_inv (reach_inv3 hr) nTasks r0

theorem C05_monitor_not_recorded_parallel (inp : RunInput) (s : Sys) (hr : PReach inp s) (nTasks : Nat)
    (r0 : Name → Bool) : monC05NotRecorded nTasks (trace inp s) (fun n => recAfter r0 n s.events) = true :=
  monC05NotRecorded_of_inv (preach_inv hr).2 nTasks r0

/-- (d): `monC05SerialStops` -/
theorem C05_monitor_serial_stops (inp : RunInput) (s : Sys) (hr : Reach inp s) :
    monC05SerialStops inp (trace inp s) = true :=
  monC05SerialStops_of_inv (fun hc => reach_invS hc hr)

/-- (c): `monC05ContinueComplete` — the monitor the driver evaluates on every implementation trace — holds on the
    observable trace of EVERY reachable state of the model, for every runner, with any exit code that is `≤ 2` only if
    no internal error ended the run (as `exitCode` is), for every bound `nTasks` that exceeds all task names
    (`namesBelow`, decidable; the driver's `n`).  On a trace that does not end in `complete` the monitor's guard is
    false (`C05_complete_means_halted`: a trace ending in `complete` is the trace of a halted state); at a normal end
    every member of the closure the monitor computes FROM THE TRACE (`closureOf`: selection, task_dep, calc_dep, what calc_deps with a finish report delivered, setup-tasks of every task whose first-stage dependencies all
    finished and which is neither ignored nor up-to-date nor in error — a superset of `RunCl`: it also contains the
    setup-tasks of a task reported `unmet` / ignored in the second `select_task` pass) has exactly one terminal report
    in the trace, and a task reported `unmet` has a failed task among the direct dependencies the trace determines
    (`edgesOf`).  The fixed-point iterations of the monitor need no more than `nTasks` rounds (`Proofs/C05Fuel.lean`). -/
theorem C05_monitor_continue_complete_serial (inp : RunInput) (s : Sys) (hr : Reach inp s) (nTasks : Nat)
    (hb : namesBelow inp nTasks = true) (exit : Nat) (hx : exit ≤ 2 → s.halt = .none) :
    monC05ContinueComplete inp nTasks (trace inp s) exit = true :=
  monC05ContinueComplete_of_inv (allInv_serial hr) (reach_invC hr) (endFacts_serial hr) (below_of hb) exit hx

theorem C05_monitor_continue_complete_parallel (inp : RunInput) (s : Sys) (hr : PReach inp s) (nTasks : Nat)
    (hb : namesBelow inp nTasks = true) (exit : Nat) (hx : exit ≤ 2 → s.halt = .none) :
    monC05ContinueComplete inp nTasks (trace inp s) exit = true :=
  monC05ContinueComplete_of_inv (allInv_parallel hr) (preach_invC hr) (endFacts_parallel hr) (below_of hb) exit hx

/-- … in particular with the exit code of the model (`exitCode`: 3 after an internal error) -/
theorem C05_monitor_continue_complete_exit (inp : RunInput) (s : Sys) (hr : PReach inp s ∨ Reach inp s) (nTasks : Nat)
    (hb : namesBelow inp nTasks = true) : monC05ContinueComplete inp nTasks (trace inp s) (exitCode s) = true := by
  rcases hr with hr | hr
  · exact C05_monitor_continue_complete_parallel inp s hr nTasks hb _ exit_le_two
  · exact C05_monitor_continue_complete_serial inp s hr nTasks hb _ exit_le_two

/-- `complete_run` is reported only by `Runner.finish()`: a trace that contains `complete` belongs to a halted state
    (why the guard of the monitor singles out the ends of runs) -/
theorem C05_complete_means_halted (inp : RunInput) (s : Sys) (hr : PReach inp s ∨ Reach inp s)
    (h : Ev.complete ∈ s.events) : s.rpc = .halted := by
  rcases hr with hr | hr
  · exact preach_invC hr h
  · exact reach_invC hr h

/-- the sharper form of `C05_unmet_has_failed_dep` behind the monitor: the failed dependency is one the run has OBSERVED
    (`DepObs`: task_dep, calc_dep, what calc_deps with a finish report in the event list delivered) or a setup-task -/
theorem C05_unmet_has_observed_failed_dep (inp : RunInput) (s : Sys) (hr : PReach inp s ∨ Reach inp s) (t : Name)
    (h : Ev.failure t .unmet ∈ s.events) :
    ∃ d k, (DepObs inp s.events t d ∨ d ∈ inp.setup t) ∧ Ev.failure d k ∈ s.events := by
  rcases hr with hr | hr
  · exact (preach_invU hr).um t h
  · exact (reach_invU hr).um t h

/-- why a task got a failure or `skip_ignore` report (all runners, every reachable state): all its setup-tasks had been
    processed (second `select_task` pass), or it is ignored itself / its status is `error`, or one of its observed
    first-stage dependencies has a failure / `skip_ignore` report, or `select_task` had chosen it for execution -/
theorem C05_abnormal_report_justified (inp : RunInput) (s : Sys) (hr : PReach inp s ∨ Reach inp s) (u : Name)
    (h : (∃ k, Ev.failure u k ∈ s.events) ∨ Ev.skipIgn u ∈ s.events) :
    (∀ d ∈ inp.setup u, (stOf s d).finished = true) ∨ inp.ignored u = true ∨ inp.statusOf u = .error ∨
    (∃ p, DepObs inp s.events u p ∧ ((∃ k, Ev.failure p k ∈ s.events) ∨ Ev.skipIgn p ∈ s.events)) ∨
    (∃ deps, Ev.go u deps ∈ s.events) := by
  rcases hr with hr | hr
  · exact (preach_invE hr).just u h
  · exact (reach_invE hr).just u h

/-! ### the pinned behaviour -/

/-- node of a task whose first `select_task` pass said "run, setup-tasks first" and whose setup-task `1` then failed -/
def exSecondPass : Node :=
  { pc := .afterSelf2, pendTask := [], pendCalc := [], status := .run, bad := [1], anc := [0], dynTask := [], dynCalc := [] }

def exSetup : RunInput :=
  { taskDep := fun _ => [], calcDep := fun _ => [], setup := fun n => if n = 0 then [1] else [],
    sel := [0], continue_ := true, outcome := fun n => if n = 1 then .failed else .ok }

/-- on the pinned tree (second `select_task` pass without a look at `bad_deps`) the task whose setup-task failed was
    executed; the repaired code reports it `unmet` (finding F-C05, regression seed `seeded/revert-F-C05`) -/
theorem pinned_setup_counterexample :
    selDecisionPinned exSetup 0 exSecondPass = .go ∧ selDecision exSetup 0 exSecondPass = .unmet := by
  decide

/-! ### non-vacuity -/

/-- `0` fails; `1` has it as task_dep, `2` has `1` as setup-task, `4` gets `0` delivered by its calc_dep `3`;
    `5` is independent; `--continue` -/
def exFail : RunInput :=
  { taskDep := fun n => if n = 1 then [0] else []
    calcDep := fun n => if n = 4 then [3] else []
    setup := fun n => if n = 2 then [1] else []
    calcRes := fun n => if n = 3 then { tasks := [0] } else {}
    sel := [2, 4, 5], continue_ := true
    outcome := fun n => if n = 0 then .failed else .ok }

example : DepPlus exFail 2 0 :=
  .more (m := 1) (.setup (by decide) (by decide)) (.one (.ns (.task (by decide))))
example : DepPlus exFail 4 0 := .one (.ns (.resTask (c := 3) (.base (by decide)) (by decide)))

/-- the run really reports the failure, the three dependents `unmet`, executes the independent task and completes:
    the hypotheses of (a), (b), (c) are met by a real run -/
example : ∃ s, Reach exFail s ∧ s.rpc = .halted ∧ s.halt = .none ∧
    s.events.contains (Ev.failure 0 .failed) = true ∧ s.events.contains (Ev.failure 1 .unmet) = true ∧
    s.events.contains (Ev.failure 2 .unmet) = true ∧ s.events.contains (Ev.failure 4 .unmet) = true ∧
    s.events.contains (Ev.success 5) = true ∧ s.events.contains (Ev.success 3) = true :=
  ⟨_, autoRun_reach (by decide) false false 600 _ Reach.init, by decide +kernel⟩

/-- the same under two worker threads: the hypotheses of `C05_continue_complete_parallel` are met by a real run -/
example : ∃ s, PReach { exFail with runner := .thread, numProc := 2 } s ∧ s.rpc = .halted ∧ s.halt = .none ∧
    s.events.contains (Ev.failure 0 .failed) = true ∧ s.events.contains (Ev.failure 4 .unmet) = true ∧
    s.events.contains (Ev.failure 1 .unmet) = true ∧ s.events.contains (Ev.failure 2 .unmet) = true ∧
    s.events.contains (Ev.success 5) = true :=
  ⟨_, autoRun_preach (by decide) false true 900 _ PReach.init, by decide +kernel⟩

/-- the hypothesis of the monitor theorem: all names of `exFail` are below 6 -/
example : namesBelow exFail 6 = true := by decide

/-- … and the closure the monitor computes from the trace of the two-thread run is the whole table; it contains the
    setup-task `1` of task `2`, which `select_task` never chose for execution (no `go 2`: `2` is reported `unmet` in the
    second pass) — the case in which `closureOf` exceeds `RunCl` -/
example : ∃ s, PReach { exFail with runner := .thread, numProc := 2 } s ∧ s.rpc = .halted ∧ s.halt = .none ∧
    (closureOf { exFail with runner := .thread, numProc := 2 } 6
      (trace { exFail with runner := .thread, numProc := 2 } s)).length = 6 ∧
    s.events.all (fun e => match e with | .go 2 _ => false | _ => true) = true :=
  ⟨_, autoRun_preach (by decide) false true 900 _ PReach.init, by decide +kernel⟩

/-- without `--continue` the serial run stops after the failure: the independent task `5` is never started -/
example : ∃ s, Reach { exFail with continue_ := false } s ∧ s.rpc = .halted ∧
    s.events.contains (Ev.failure 0 .failed) = true ∧ s.events.any (Ev.isStartOf 5) = false :=
  ⟨_, autoRun_reach (by decide) false false 600 _ Reach.init, by decide +kernel⟩

/-- a calc_dep (`0`) that fails AFTER its first action has returned values (`calcResFail 0` names `2`): the values are
    delivered all the same — `2` is created and executed — and the task that waited for them (`1`) is reported unmet,
    justified by its failed calc_dep `0` (`C05_unmet_has_failed_dep` with no hypothesis on `calcResFail`) -/
def exFailDeliver : RunInput :=
  { taskDep := fun _ => [], calcDep := fun n => if n = 1 then [0] else [], setup := fun _ => [],
    calcResFail := fun n => if n = 0 then { tasks := [2] } else {},
    sel := [1], continue_ := true, outcome := fun n => if n = 0 then .failed else .ok }

example : ∃ s, Reach exFailDeliver s ∧ s.rpc = .halted ∧ s.halt = .none ∧
    s.events.contains (Ev.failure 0 .failed) = true ∧ s.events.contains (Ev.success 2) = true ∧
    s.events.contains (Ev.failure 1 .unmet) = true :=
  ⟨_, autoRun_reach (by decide) false false 600 _ Reach.init, by decide +kernel⟩

end DoitModel.C05
