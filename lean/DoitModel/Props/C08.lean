import DoitModel.Proofs.C08Data
import DoitModel.Proofs.C08Confluence
import DoitModel.Proofs.C08DynConfluence
import DoitModel.Proofs.C08DynExec
import DoitModel.Proofs.C08DynStatic
/-! # C08 — parallel runs are outcome-equivalent to the serial run

Property theorems only.  Models: `Model/Run.lean` (M1, transition systems of the three runners), `Model/RunData.lean`
(denotation of a complete run, static `denF` and with dynamic calc_dep edges `denTab`; data path worker → main).
Helper lemmas: `Proofs/C08Dyn*.lean` (the confluence argument, for any graph), `Proofs/C08Den*.lean`, `C08Inv`, `C08Closure` (the
denotation of graphs without calc_dep and the invariants stated with it), `C08Exit`, `C08Confluence` (exit code, traces), `Proofs/Run*.lean`.
The confluence half is proved in full: `C08_confluence` (no `NoCalc`, no `Acyclic`); `C08_confluence_partial` is kept.

Failed calc tasks: doit also delivers the values a calc task returned before its execution FAILED
(`_process_calc_dep_results` does not look at `run_status`; M1 `deliverF`, oracle `calcResFail`).  The denotation with
dynamic edges (`Dyn.DenOf`, `denTab`) accounts for it: what a calc task `c` delivers under the outcome `d` is
`delivOf inp c d` — `calcRes c` when `c` was executed successfully or is up-to-date, `calcResFail c` when it failed
DURING its execution (`startedFail`: the actions failed or `save_success` did; decided by the outcome and the oracle,
a `get_status` / `getargs` error or an unmet dependency is found before any action runs and delivers nothing).  The
theorems of the second group (`…_dyn`, `C08_confluence`) hold for every input; `Dyn.InvDen.started_iff` is the
operational link (a failed task has a start event iff its derived outcome is a failure during execution).  The
theorems of the first group (`NoCalc`) are corollaries of the second (`Proofs/C08DynStatic.lean`: on graphs without
calc_dep the two denotations and the two closures coincide); no theorem of this file has a hypothesis on `calcResFail`. -/
namespace DoitModel.C08
open DoitModel.Run

/-! ## `data_intact`: what a worker process produced reaches the main process -/

/-- After `MRunner._process_result(node, task, result)` with the result dict the worker built after executing the task
    (`workerResult`), for ANY main-side task object, ANY worker-side copy and any action outputs:
    * every attribute `pickle_safe_dict` ships — `values`, `result`, `executed`, `options`, `task_dep`, the name and all
      other plain data — has the worker's value on the main side;
    * the seven attributes it does not ship (actions, action instances, clean actions, teardown, title, value savers,
      uptodate) are the main side's own, untouched;
    * `process_task_result` is called with exactly the worker's failure object (or none);
    * the main side keeps its number of action instances; action `i` has the worker's `out` / `err` whenever the worker
      had an action `i`, and keeps its own otherwise. -/
theorem C08_data_intact (m : MainSide) (w : WorkerSide) :
    (∀ a, a.notShipped = false → (processResultData m (workerResult w)).task a = w.task a) ∧
    (∀ a, a.notShipped = true → (processResultData m (workerResult w)).task a = m.task a) ∧
    (processResultData m (workerResult w)).baseFail = w.failure ∧
    (processResultData m (workerResult w)).acts.length = m.acts.length ∧
    (∀ (i : Nat) (a : ActOut), m.acts[i]? = some a → (processResultData m (workerResult w)).acts[i]? =
      some (ActOut.mk (((w.acts.map (·.out))[i]?).getD a.out) (((w.acts.map (·.err))[i]?).getD a.err))) := by
  refine ⟨?_, ?_, rfl, ?_, ?_⟩
  · intro a ha; simp [processResultData, workerResult, updateFromPickle, pickleSafe, ha]
  · intro a ha; simp [processResultData, workerResult, updateFromPickle, pickleSafe, ha]
  · simp [processResultData, zipErr_length, zipOut_length]
  · intro i a h
    have h1 := zipOut_get m.acts (w.acts.map (·.out)) i a h
    have h2 := zipErr_get _ (w.acts.map (·.err)) i _ h1
    simpa [processResultData, workerResult] using h2

/-- the case doit is in (both sides instantiate the same action list): values, result, the executed flag and the
    per-action captured output arrive exactly -/
theorem C08_data_intact_same_actions (m : MainSide) (w : WorkerSide) (h : m.acts.length = w.acts.length) :
    (processResultData m (workerResult w)).task .values = w.task .values ∧
    (processResultData m (workerResult w)).task .result = w.task .result ∧
    (processResultData m (workerResult w)).task .executed = w.task .executed ∧
    (processResultData m (workerResult w)).acts = w.acts ∧
    (processResultData m (workerResult w)).baseFail = w.failure := by
  refine ⟨?_, ?_, ?_, ?_, rfl⟩
  · simp [processResultData, workerResult, updateFromPickle, pickleSafe, Attr.notShipped]
  · simp [processResultData, workerResult, updateFromPickle, pickleSafe, Attr.notShipped]
  · simp [processResultData, workerResult, updateFromPickle, pickleSafe, Attr.notShipped]
  · simp only [processResultData, workerResult]; exact zip_all m.acts w.acts h

/-- the other direction (`JobTaskPickle` received by a worker process): the worker's copy takes every shipped
    attribute from the main side (run-time state such as `options`, `values` of getargs sources) and keeps its own
    actions -/
theorem C08_job_pickle_intact (workerCopy mainTask : TaskRec) :
    (∀ a, a.notShipped = false → workerReceivesPickle workerCopy mainTask a = mainTask a) ∧
    (∀ a, a.notShipped = true → workerReceivesPickle workerCopy mainTask a = workerCopy a) := by
  constructor <;> intro a ha <;> simp [workerReceivesPickle, updateFromPickle, pickleSafe, ha]

/-- round trip: a worker that changes nothing hands the main task back unchanged (nothing is lost by shipping a task
    out and merging it back) -/
theorem C08_roundtrip_identity (m : MainSide) (workerCopy : TaskRec) :
    (processResultData m (workerResult
      { task := workerReceivesPickle workerCopy m.task, acts := m.acts, failure := none })).task = m.task ∧
    (processResultData m (workerResult
      { task := workerReceivesPickle workerCopy m.task, acts := m.acts, failure := none })).acts = m.acts := by
  constructor
  · funext a
    cases h : a.notShipped <;>
      simp [processResultData, workerResult, workerReceivesPickle, updateFromPickle, pickleSafe, h]
  · simp only [processResultData, workerResult]; exact zip_all m.acts m.acts rfl

/-- non-vacuity: a worker that executed a two-action task (values 7, result 8, outputs 1/2 and 3/4) against a main
    side that still has the pre-run state; the unshipped `teardown` stays the main side's -/
example :
    let m : MainSide := { task := fun a => if a = .teardown then 99 else 0, acts := [⟨0, 0⟩, ⟨0, 0⟩], baseFail := none }
    let w : WorkerSide := { task := fun a => match a with | .values => 7 | .result => 8 | .executed => 1 | _ => 0,
                            acts := [⟨1, 2⟩, ⟨3, 4⟩], failure := some 5 }
    let m' := processResultData m (workerResult w)
    m'.task .values = 7 ∧ m'.task .result = 8 ∧ m'.task .executed = 1 ∧ m'.task .teardown = 99 ∧
    m'.acts = [⟨1, 2⟩, ⟨3, 4⟩] ∧ m'.baseFail = some 5 := by decide

/-- what `data_intact` does NOT promise, and why the correspondence probes list lengths: with fewer action instances
    on the main side than outputs in the result, the surplus outputs are dropped by `zip` -/
theorem C08_zip_truncates :
    (processResultData { task := fun _ => 0, acts := [⟨0, 0⟩], baseFail := none }
      (workerResult { task := fun _ => 0, acts := [⟨1, 2⟩, ⟨3, 4⟩], failure := none })).acts = [⟨1, 2⟩] := by decide

/-! ## `confluence`: every schedule of every runner computes the same outcomes

`DenOf inp t d` (`Proofs/C08Den.lean`) is the denotational outcome: `d` is obtained from the outcomes of the task_deps
of `t` (and, when the first `select_task` pass says `run`, of its setup-tasks) by `combine` — no dispatcher, no queue,
no schedule.  It is functional (`DenOf.functional`) without any acyclicity hypothesis, and on acyclic graphs it is what
the executable `denF` computes (`C08_den_computable`).  Hypothesis `NoCalc` of this first group: no `calc_dep` edges;
the second group below (`C08_confluence`, `Dyn.DenOf`) covers every graph, dynamic edges included.  The oracle of
`RunInput` (`statusOf`, `outcome`, `ignored`, `argsOk`, `calcRes`) is a function of the task alone, which is the
reading of "deterministic tasks". -/

/-- (I10) In EVERY reachable state of the serial system and of the parallel system (thread or process runner, any
    `numProcess`, any interleaving of main and workers, any iteration order of the dispatcher's sets), a finished
    `run_status` is the denotation of the task, and so is every terminal report (`add_success`, `skip_uptodate`,
    `skip_ignore`, `add_failure` with its kind) in the event list. -/
theorem C08_status_is_den (inp : RunInput) (hnc : NoCalc inp) (s : Sys) (hr : Reach inp s ∨ PReach inp s) (t : Name) :
    ((stOf s t).finished = true → ∃ d, DenOf inp t d ∧ d.rs = stOf s t) ∧
    (∀ d, (∃ e ∈ s.events, Ev.den? t e = some d) → DenOf inp t d) :=
  ⟨DynS.status_is_den hnc hr t, fun d h => DynS.report_is_den hnc hr t d h⟩

/-- the denotation is a function of the task table and the oracle only: it does not depend on runner kind, worker count,
    `--continue`, the selection or teardown/group marks -/
theorem C08_den_schedule_independent (inp1 inp2 : RunInput) (h : SameTasks inp1 inp2) (t : Name) (d1 d2 : Den)
    (h1 : DenOf inp1 t d1) (h2 : DenOf inp2 t d2) : d1 = d2 :=
  DenOf.functional ((DenOf_congr h t d1).mp h1) h2

/-- on acyclic graphs (`rank` decreasing along task_dep and setup edges) the executable `denF` with fuel above the rank
    IS the denotation: it is never `bot` and any `DenOf` derivation gives the same value (fuel suffices) -/
theorem C08_den_computable (inp : RunInput) (rank : Name → Nat) (hac : Acyclic inp rank) (t : Name) (f : Nat)
    (hf : rank t < f) : DenOf inp t (denF inp f t) ∧ denF inp f t ≠ .bot ∧ ∀ d, DenOf inp t d → denF inp f t = d :=
  ⟨denF_is_den hac f t hf, denF_complete hac f t hf, fun _ h => denF_unique hac h f hf⟩

/-- confluence, state-wise: any two reachable states of any two of the transition systems over the same task table
    (`SameTasks`: they may differ in runner, `numProcess`, selection, `--continue`) agree on every task that is finished
    in both, and on every task reported in both -/
theorem C08_confluence_status (inp1 inp2 : RunInput) (hsame : SameTasks inp1 inp2) (hnc : NoCalc inp1) (s1 s2 : Sys)
    (h1 : Reach inp1 s1 ∨ PReach inp1 s1) (h2 : Reach inp2 s2 ∨ PReach inp2 s2) (t : Name) :
    ((stOf s1 t).finished = true → (stOf s2 t).finished = true → stOf s1 t = stOf s2 t) ∧
    (∀ d1 d2, (∃ e ∈ s1.events, Ev.den? t e = some d1) → (∃ e ∈ s2.events, Ev.den? t e = some d2) → d1 = d2) :=
  ⟨DynS.confluent_status hsame hnc h1 h2 t, fun d1 d2 r1 r2 => DynS.confluent_report hsame hnc h1 h2 t d1 d2 r1 r2⟩

/-- the exit code of a run that was not ended by an internal error is `final_result` folded over its failure reports,
    and that fold only reads the SET of failure kinds (ERROR sticky, FAILURE only over SUCCESS): no `NoCalc` needed -/
theorem C08_exit_of_reports (inp : RunInput) (s : Sys) (hr : Reach inp s ∨ PReach inp s) (hh : s.halt = .none)
    (tr' : List Ev) (h : ∀ k, (∃ n, Ev.failure n k ∈ trace inp s) ↔ (∃ n, Ev.failure n k ∈ tr')) :
    exitCode s = exitOfTrace tr' := by
  rw [exit_of_trace hr hh]; exact exitOfTrace_set h

/-- a complete run (normal end, not stopped: no failure, or `--continue`) reports exactly the denotational closure of
    the selection (`DenCl`: the selection, closed under task_dep and under the setup-tasks of members whose first
    pass says `run`) — each member once (`C02_at_most_once`) -/
theorem C08_complete_reports_closure (inp : RunInput) (hnc : NoCalc inp) (s : Sys) (hr : Reach inp s ∨ PReach inp s)
    (hend : s.rpc = .halted) (hhalt : s.halt = .none) (hstop : s.stop = false) (t : Name) :
    Reported s t ↔ DenCl inp t :=
  DynS.reported_iff_closure hnc hr hend hhalt hstop t

/-- C08, confluence half, for graphs without calc_dep: two complete runs of the same task table and selection — the
    serial run and a run with any number of worker threads or processes under any interleaving, or any two such runs —
    report the same set of tasks, give every task the same terminal report (executed successfully / up-to-date /
    ignored / failed with the same kind; hence the same `save_success` / `remove_success` DB effects, which are
    attached to exactly these reports), leave the same `run_status` on every task both have finished, and return the
    same exit code. -/
theorem C08_confluence_partial (inp1 inp2 : RunInput) (hsame : SameTasks inp1 inp2)
    (hsel : ∀ t, t ∈ inp1.sel ↔ t ∈ inp2.sel) (hnc : NoCalc inp1) (s1 s2 : Sys)
    (h1 : Reach inp1 s1 ∨ PReach inp1 s1) (h2 : Reach inp2 s2 ∨ PReach inp2 s2)
    (e1 : s1.rpc = .halted ∧ s1.halt = .none ∧ s1.stop = false)
    (e2 : s2.rpc = .halted ∧ s2.halt = .none ∧ s2.stop = false) :
    (∀ t, Reported s1 t ↔ Reported s2 t) ∧
    (∀ t, reportOf (trace inp1 s1) t = reportOf (trace inp2 s2) t) ∧
    (∀ t, (stOf s1 t).finished = true → (stOf s2 t).finished = true → stOf s1 t = stOf s2 t) ∧
    exitCode s1 = exitCode s2 :=
  ⟨DynS.complete_runs_same_reported hsame hsel hnc h1 h2 e1 e2, DynS.complete_runs_same_reportOf hsame hsel hnc h1 h2 e1 e2,
   fun t => DynS.confluent_status hsame hnc h1 h2 t, DynS.complete_runs_same_exit hsame hsel hnc h1 h2 e1 e2⟩

/-! ## `confluence` for every task graph, dynamic `calc_dep` edges included

`Dyn.DenOf inp t d` (`Proofs/C08DynDen.lean`): the dependency set of `t` is computed, not read off the task table: its
calc_deps are the least set that contains `calcDep t` and is closed under the `values['calc_dep']` its members deliver
(`Dyn.CalcOf`; `delivOf`: executed / up-to-date members deliver `calcRes`, members that failed during their execution
deliver `calcResFail`), its task_deps are `taskDep t` plus the `values['task_dep']` and the owners of the
`values['file_dep']` those members deliver (`Dyn.DepOf`); whether a member is executed / up-to-date / failed during
execution is its own derived outcome.  The oracles `calcRes` / `calcResFail` (what a calc task delivers) are functions
of the task, like `outcome`.  `Dyn.DenOf` is
functional with no acyclicity hypothesis; a run that ends without exception has derived every outcome it reports, so
none of the theorems below needs `Acyclic`.  The model side is the node invariant `Dyn.NodeS`: every entry of
`task.task_dep` / `task.calc_dep` (`dynTask` / `dynCalc`) is static or was delivered by a finished good calc_dep or by
one that failed during its execution (soundness), and `AllDC` / `AllDCF` (C01_order_delivered: everything a processed
good / failed-during-execution calc_dep delivers is in them, completeness). -/

/-- (I10, any graph) In EVERY reachable state of the serial and of the parallel system — any runner, any `numProcess`,
    any interleaving, any iteration order of the dispatcher's sets, any order in which calc results arrive — a finished
    `run_status` is the denotation of the task, and so is every terminal report in the event list. -/
theorem C08_status_is_den_dyn (inp : RunInput) (s : Sys) (hr : Reach inp s ∨ PReach inp s) (t : Name) :
    ((stOf s t).finished = true → ∃ d, Dyn.DenOf inp t d ∧ d.rs = stOf s t) ∧
    (∀ d, (∃ e ∈ s.events, Ev.den? t e = some d) → Dyn.DenOf inp t d) :=
  ⟨Dyn.status_is_den hr t, fun d h => Dyn.report_is_den hr t d h⟩

/-- the operational link behind the failed-delivery clause of the denotation: in every reachable state, a task whose
    `run_status` is `fail` has a start event (`Run.started`, the flag `deliverF` reads: `Task.execute` ran, so
    `task.values` may hold what the actions returned before the failing one) iff its derived outcome is a failure
    DURING its execution (`startedFail`: the actions failed or `save_success` did — not an unmet dependency, a
    `get_status` error or a `getargs` error, which `select_task` finds before any action runs) -/
theorem C08_failed_started_iff (inp : RunInput) (s : Sys) (hr : Reach inp s ∨ PReach inp s) (c : Name)
    (hf : stOf s c = .fail) :
    started s c = true ↔ ∃ d, Dyn.DenOf inp c d ∧ startedFail inp c d = true :=
  (Dyn.reachable_invDen hr).started_iff (by rcases hr with a | a; exact reach_inv3 a; exact (preach_inv a).2) c hf

/-- the dynamic denotation is a function of the task table and the oracle (including `calcRes`, `calcResFail`) only -/
theorem C08_den_schedule_independent_dyn (inp1 inp2 : RunInput) (h : SameTasks inp1 inp2)
    (hc : ∀ t, inp1.calcRes t = inp2.calcRes t) (hcf : ∀ t, inp1.calcResFail t = inp2.calcResFail t) (t : Name)
    (d1 d2 : Den) (h1 : Dyn.DenOf inp1 t d1) (h2 : Dyn.DenOf inp2 t d2) : d1 = d2 :=
  Dyn.DenOf.functional ((Dyn.DenOf_congr ⟨h, funext hc, funext hcf⟩ t d1).mp h1) h2

/-- on graphs without calc_dep the dynamic denotation is the static one: the `NoCalc` theorems above are the special
    case, and `denF` computes `Dyn.DenOf` there -/
theorem C08_den_dyn_noCalc (inp : RunInput) (hnc : NoCalc inp) (t : Name) (d : Den) :
    Dyn.DenOf inp t d ↔ DenOf inp t d :=
  Dyn.DenOf_noCalc hnc t d

/-- the dynamic denotation is total on finite acyclic graphs — `Dyn.Ranked` is a copy of C09's hypothesis `Ranked`: the rank decreases along
    task_dep, setup, static and deliverable calc_dep edges and along everything a calc_dep can deliver — so with
    `DenOf.functional` every task has exactly one outcome there.  (Confluence itself does not need this: a run that
    ends without exception has derived what it reports.) -/
theorem C08_den_total_dyn (inp : RunInput) (rank : Name → Nat) (hr : Dyn.Ranked inp rank) (N : Nat)
    (hN : ∀ n d, Dyn.Dep inp n d → d < N) (t : Name) :
    ∃ d, Dyn.DenOf inp t d ∧ d ≠ .bot ∧ ∀ d', Dyn.DenOf inp t d' → d' = d := by
  obtain ⟨d, hd⟩ := Dyn.DenOf_total hr N hN t
  exact ⟨d, hd, hd.ne_bot, fun d' h' => h'.functional hd⟩

/-- non-vacuity: the example with dynamic edges below (`Dyn.exC08calc`) meets the hypotheses of `C08_den_total_dyn` -/
example : Dyn.Ranked Dyn.exC08calc (fun n => if n = 1 ∨ n = 3 then 1 else 0) ∧
    ∀ n d, Dyn.Dep Dyn.exC08calc n d → d < 6 :=
  Dyn.exC08calc_ranked

/-- a complete run (normal end, not stopped) of ANY graph reports exactly the denotational closure of the selection
    (`Dyn.DenCl`: closed under task_dep, static and delivered calc_dep, what executed / up-to-date calc_deps and
    calc_deps that failed during their execution deliver, and the setup-tasks of members whose first pass says `run`) -/
theorem C08_complete_reports_closure_dyn (inp : RunInput) (s : Sys) (hr : Reach inp s ∨ PReach inp s)
    (hend : s.rpc = .halted) (hhalt : s.halt = .none) (hstop : s.stop = false) (t : Name) :
    Reported s t ↔ Dyn.DenCl inp t :=
  Dyn.reported_iff_closure hr hend hhalt hstop t

/-- C08, confluence half, FULL statement (dynamic `calc_dep` edges included, no `NoCalc`, no `Acyclic`): two complete
    runs of the same task table, the same `calcRes` / `calcResFail` oracles and the same selection — the serial run and a run with any
    number of worker threads or processes under any interleaving, or any two such runs — report the same set of tasks,
    give every task the same terminal report in the observable trace (executed successfully / up-to-date / ignored /
    failed with the same kind; hence the same `save_success` / `remove_success` DB effects), leave the same
    `run_status` on every task both have finished, and return the same exit code. -/
theorem C08_confluence (inp1 inp2 : RunInput) (hsame : SameTasks inp1 inp2)
    (hcalc : ∀ t, inp1.calcRes t = inp2.calcRes t) (hcalcF : ∀ t, inp1.calcResFail t = inp2.calcResFail t)
    (hsel : ∀ t, t ∈ inp1.sel ↔ t ∈ inp2.sel) (s1 s2 : Sys)
    (h1 : Reach inp1 s1 ∨ PReach inp1 s1) (h2 : Reach inp2 s2 ∨ PReach inp2 s2)
    (e1 : s1.rpc = .halted ∧ s1.halt = .none ∧ s1.stop = false)
    (e2 : s2.rpc = .halted ∧ s2.halt = .none ∧ s2.stop = false) :
    (∀ t, Reported s1 t ↔ Reported s2 t) ∧
    (∀ t, reportOf (trace inp1 s1) t = reportOf (trace inp2 s2) t) ∧
    (∀ t, (stOf s1 t).finished = true → (stOf s2 t).finished = true → stOf s1 t = stOf s2 t) ∧
    exitCode s1 = exitCode s2 :=
  have hs : Dyn.SameTasksC inp1 inp2 := ⟨hsame, funext hcalc, funext hcalcF⟩
  ⟨Dyn.complete_runs_same_reported hs hsel h1 h2 e1 e2, Dyn.complete_runs_same_reportOf hs hsel h1 h2 e1 e2,
   fun t => Dyn.confluent_status hs h1 h2 t, Dyn.complete_runs_same_exit hs hsel h1 h2 e1 e2⟩

/-- the pair monitor (P) the driver evaluates on a serial and a parallel real run (`monC08Pair`: same report per task,
    same exit code) holds of any two complete runs of the model on ANY graph -/
theorem C08_pair_monitor_holds (inp1 inp2 : RunInput) (hsame : SameTasks inp1 inp2)
    (hcalc : ∀ t, inp1.calcRes t = inp2.calcRes t) (hcalcF : ∀ t, inp1.calcResFail t = inp2.calcResFail t)
    (hsel : ∀ t, t ∈ inp1.sel ↔ t ∈ inp2.sel) (s1 s2 : Sys)
    (h1 : Reach inp1 s1 ∨ PReach inp1 s1) (h2 : Reach inp2 s2 ∨ PReach inp2 s2)
    (e1 : s1.rpc = .halted ∧ s1.halt = .none ∧ s1.stop = false)
    (e2 : s2.rpc = .halted ∧ s2.halt = .none ∧ s2.stop = false) (nTasks : Nat) :
    monC08Pair nTasks (trace inp1 s1) (trace inp2 s2) (exitCode s1) (exitCode s2) = true := by
  obtain ⟨_, hrep, _, hexit⟩ := C08_confluence inp1 inp2 hsame hcalc hcalcF hsel s1 s2 h1 h2 e1 e2
  unfold monC08Pair
  simp only [Bool.and_eq_true, List.all_eq_true, List.mem_range, beq_iff_eq]
  exact ⟨fun t _ => hrep t, hexit⟩

/-- confluence, state-wise, any graph: any two reachable states (complete or not) of any two of the transition systems
    over the same task table agree on every task finished in both and on every task reported in both -/
theorem C08_confluence_status_dyn (inp1 inp2 : RunInput) (hsame : SameTasks inp1 inp2)
    (hcalc : ∀ t, inp1.calcRes t = inp2.calcRes t) (hcalcF : ∀ t, inp1.calcResFail t = inp2.calcResFail t)
    (s1 s2 : Sys)
    (h1 : Reach inp1 s1 ∨ PReach inp1 s1) (h2 : Reach inp2 s2 ∨ PReach inp2 s2) (t : Name) :
    ((stOf s1 t).finished = true → (stOf s2 t).finished = true → stOf s1 t = stOf s2 t) ∧
    (∀ d1 d2, (∃ e ∈ s1.events, Ev.den? t e = some d1) → (∃ e ∈ s2.events, Ev.den? t e = some d2) → d1 = d2) :=
  ⟨Dyn.confluent_status ⟨hsame, funext hcalc, funext hcalcF⟩ h1 h2 t,
   fun d1 d2 r1 r2 => Dyn.confluent_report ⟨hsame, funext hcalc, funext hcalcF⟩ h1 h2 t d1 d2 r1 r2⟩

/-- the exit code of a complete run of any graph is `exitOfDens` over the derived outcomes of the closure, however the
    closure is enumerated and the outcomes are computed -/
theorem C08_complete_exit_dyn (inp : RunInput) (s : Sys) (hr : Reach inp s ∨ PReach inp s)
    (hend : s.rpc = .halted) (hhalt : s.halt = .none) (hstop : s.stop = false)
    (L : List Name) (hL : ∀ t, t ∈ L ↔ Dyn.DenCl inp t) (den : Name → Den)
    (hden : ∀ t ∈ L, Dyn.DenOf inp t (den t)) : exitCode s = exitOfDens (L.map den) :=
  Dyn.complete_exit_is_den hr hend hhalt hstop L hL den hden

/-- the executable denotation with dynamic edges (`denFC`: bottom-up table over the tasks `< nTasks`, calc_dep sets closed
    by iteration) is sound: a determined answer IS the denotation — it is derived, and every derivation gives it.  (No
    acyclicity hypothesis; on a graph where the rounds do not suffice the answer is `bot`.) -/
theorem C08_den_computable_dyn (inp : RunInput) (nTasks : Nat) (t : Name) (h : denFC inp nTasks t ≠ .bot) :
    Dyn.DenOf inp t (denFC inp nTasks t) ∧ ∀ d, Dyn.DenOf inp t d → denFC inp nTasks t = d :=
  ⟨Dyn.denFC_sound inp nTasks t h, fun _ hd => (Dyn.denFC_sound inp nTasks t h).functional hd⟩

/-- under the decidable side condition `determinedC` (every member of the computed closure is determined and has a
    closed dependency list, the closure is closed) the computed closure is the denotational closure, and the monitor
    `monC08DenC` the driver evaluates on implementation traces of graphs WITH calc_dep (reports = `denFC`, reported set
    = `denClosureC`, exit = `denExitC`) holds of every reachable state of the model, serial or parallel -/
theorem C08_monitors_hold_dyn (inp : RunInput) (s : Sys) (hr : Reach inp s ∨ PReach inp s) (nTasks : Nat)
    (hdet : determinedC inp nTasks = true) (complete : Bool)
    (hc : complete = true → s.rpc = .halted ∧ s.halt = .none ∧ s.stop = false) :
    (∀ t, t ∈ denClosureC inp nTasks ↔ Dyn.DenCl inp t) ∧
    monC08DenC inp nTasks (trace inp s) (exitCode s) complete = true :=
  ⟨Dyn.denClosureC_spec hdet, Dyn.monitor_denC hr nTasks hdet complete hc⟩

/-- non-vacuity: `Dyn.exC08calc` (twice-delivered dependencies) is determined, its closure is all six tasks, task `1`
    is `unmet` because the delivered task_dep `2` fails, the exit code is ERROR — and the monitor theorem applies to
    its complete run with two worker threads -/
example : determinedC Dyn.exC08calc 6 = true ∧ denClosureC Dyn.exC08calc 6 = [1, 3, 0, 4, 2, 5] ∧
    denFC Dyn.exC08calc 6 1 = .fail .unmet ∧ denFC Dyn.exC08calc 6 5 = .ok ∧ denExitC Dyn.exC08calc 6 = 2 ∧
    ∃ s, PReach Dyn.exC08calc s ∧ monC08DenC Dyn.exC08calc 6 (trace Dyn.exC08calc s) (exitCode s) true = true :=
  ⟨by decide +kernel, by decide +kernel, by decide +kernel, by decide +kernel, by decide +kernel,
   _, autoRun_preach (by decide) false true 800 _ PReach.init,
   (C08_monitors_hold_dyn _ _ (Or.inr (autoRun_preach (by decide) false true 800 _ PReach.init)) 6 (by decide +kernel)
     true (fun _ => by decide +kernel)).2⟩

/-- non-vacuity of the failed-delivery clause (`delivOf`, `calcResFail`): in `Dyn.exC08fail` the calc task `0` fails
    during its execution after having returned `task_dep: [2]`, `calc_dep: [3]`.  The denotation lets it deliver them
    (closure `[1, 0, 3, 2]`, `2` and `3` executed, `1` unmet), the complete run with two worker threads does report
    `2` and `3` as executed, and the monitor theorem applies to it. -/
example : determinedC Dyn.exC08fail 4 = true ∧ denClosureC Dyn.exC08fail 4 = [1, 0, 3, 2] ∧
    denFC Dyn.exC08fail 4 0 = .fail .failed ∧ denFC Dyn.exC08fail 4 1 = .fail .unmet ∧
    denFC Dyn.exC08fail 4 2 = .ok ∧ denFC Dyn.exC08fail 4 3 = .ok ∧
    ∃ s, PReach Dyn.exC08fail s ∧ (s.rpc = .halted ∧ s.halt = .none ∧ s.stop = false) ∧
      Ev.success 2 ∈ s.events ∧ Ev.success 3 ∈ s.events ∧ Ev.failure 1 .unmet ∈ s.events ∧
      monC08DenC Dyn.exC08fail 4 (trace Dyn.exC08fail s) (exitCode s) true = true :=
  ⟨by decide +kernel, by decide +kernel, by decide +kernel, by decide +kernel, by decide +kernel, by decide +kernel,
   _, autoRun_preach (by decide) false true 800 _ PReach.init,
   -- the four facts read off the end state, regrouped so that the run is evaluated once for all of them
   and_assoc.mp (and_assoc.mp (and_assoc.mp ⟨by decide +kernel,
     (C08_monitors_hold_dyn _ _ (Or.inr (autoRun_preach (by decide) false true 800 _ PReach.init)) 4 (by decide +kernel)
       true (fun _ => by decide +kernel)).2⟩))⟩

/-- non-vacuity of `C08_confluence` on the failed-delivery clause: `Dyn.exC08fail` has a complete serial run and a
    complete run with two worker threads; both execute the tasks `2` and `3` the failed calc task `0` returned before
    failing, both report `0` as failed and `1` as unmet -/
example : ∃ s1 s2, Reach { Dyn.exC08fail with runner := .serial, numProc := 0 } s1 ∧ PReach Dyn.exC08fail s2 ∧
    (s1.rpc = .halted ∧ s1.halt = .none ∧ s1.stop = false) ∧ (s2.rpc = .halted ∧ s2.halt = .none ∧ s2.stop = false) ∧
    Ev.success 2 ∈ s1.events ∧ Ev.success 3 ∈ s1.events ∧ Ev.failure 0 .failed ∈ s1.events ∧
    Ev.failure 1 .unmet ∈ s1.events ∧ Ev.success 2 ∈ s2.events ∧ exitCode s1 = exitCode s2 :=
  ⟨_, _, autoRun_reach (by decide) false false 800 _ Reach.init, autoRun_preach (by decide) false true 800 _ PReach.init,
   by decide +kernel⟩

/-- non-vacuity of `C08_confluence` on dynamic edges: `Dyn.exC08calc` has a complete run with two worker threads and a
    complete serial run; in the parallel run the twice-delivered `5` is executed, `1` is reported `unmet` because the
    delivered task_dep `2` failed, and the exit code is ERROR -/
example : ∃ s1 s2, Reach { Dyn.exC08calc with runner := .serial, numProc := 0 } s1 ∧ PReach Dyn.exC08calc s2 ∧
    (s1.rpc = .halted ∧ s1.halt = .none ∧ s1.stop = false) ∧ (s2.rpc = .halted ∧ s2.halt = .none ∧ s2.stop = false) ∧
    Ev.success 5 ∈ s2.events ∧ Ev.failure 1 .unmet ∈ s2.events ∧ Ev.failure 1 .unmet ∈ s1.events ∧ exitCode s2 = 2 :=
  ⟨_, _, autoRun_reach (by decide) false false 800 _ Reach.init, autoRun_preach (by decide) false true 800 _ PReach.init,
   by decide +kernel⟩

/-- the monitors the driver evaluates on implementation traces hold of the model's own traces: `monC08Den` (reports =
    `denF`, reported set = `denClosure`, exit = `denExit`) for every reachable state of an acyclic calc-free input
    (`monC08Pair`: `C08_pair_monitor_holds`) -/
theorem C08_monitors_hold (inp : RunInput) (rank : Name → Nat) (hnc : NoCalc inp) (hac : Acyclic inp rank) (s : Sys)
    (hr : Reach inp s ∨ PReach inp s) (nTasks : Nat) (hb : ∀ t, rank t ≤ nTasks) (hlt : ∀ t, DenCl inp t → t < nTasks)
    (complete : Bool) (hc : complete = true → s.rpc = .halted ∧ s.halt = .none ∧ s.stop = false) :
    monC08Den inp nTasks (trace inp s) (exitCode s) complete = true :=
  DynS.monitor_den' hnc hac hr nTasks hb hlt complete hc

/-- non-vacuity: `exC08` (task 1 has the failing setup-task 2 and is reported `unmet` at its second pass; `--continue`)
    has a complete run with two worker threads and a complete serial run, so the hypotheses of
    `C08_confluence_partial` are met by a real pair of runs, and their common exit code is ERROR -/
example : ∃ s1 s2, Reach { exC08 with runner := .serial, numProc := 0 } s1 ∧ PReach exC08 s2 ∧
    (s1.rpc = .halted ∧ s1.halt = .none ∧ s1.stop = false) ∧ (s2.rpc = .halted ∧ s2.halt = .none ∧ s2.stop = false) ∧
    exitCode s2 = 2 :=
  ⟨_, _, autoRun_reach (by decide) false false 600 _ Reach.init, autoRun_preach (by decide) false true 600 _ PReach.init,
   by decide +kernel⟩

end DoitModel.C08
