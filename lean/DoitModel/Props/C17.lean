import DoitModel.Proofs.ActFrame
import DoitModel.Proofs.ActTask
import DoitModel.Proofs.ActFwd
import DoitModel.Proofs.ActMode
import DoitModel.Proofs.ActModeBuf
/-! # C17 — action outcomes are classified exactly and output is captured intact

Property theorems only (model: `Model/Act.lean`; helpers: `Proofs/ActTask.lean` for outcomes and `Task.execute`,
`Proofs/Act.lean` and `Proofs/ActFrame.lean` for the base stream machine, `Proofs/ActMode.lean`, `Proofs/ActModeBuf.lean`
and `Proofs/ActFwd.lean` for the machines with capture modes and the live copy).  Quantification: every return
category / exception, every return code (all of `Int`), every list of actions, every well-nested interleaving of
python-action executions of any depth and length, with capture on or off per execution and with or without the live
copy of a `Writer`. -/
namespace DoitModel.C17
open DoitModel.Act

/-- A python-action succeeds iff it returns True/None/str/dict, fails iff it returns False or a `TaskFailed`
    instance, is an error iff it raises an `Exception`, returns a `TaskError` instance (returned as it is) or
    anything else.  What the statement does not say and the code does: a `BaseException` that is not an
    `Exception` (KeyboardInterrupt, SystemExit) is **not** classified — it leaves `execute()` (`raised`);
    the streams are restored all the same (`restore_exec`). -/
theorem classify_py (r : PyRet) :
    (classifyPy r = .ok ↔ (r = .rTrue ∨ r = .rNone ∨ (∃ s, r = .rStr s) ∨ (∃ d, r = .rDict d))) ∧
    (classifyPy r = .failed ↔ (r = .rFalse ∨ r = .rTaskFailed)) ∧
    (classifyPy r = .error ↔ (r = .raisesExc ∨ r = .rTaskError ∨ r = .rOther)) ∧
    (classifyPy r = .raised ↔ r = .raisesBase) := by
  cases r <;> simp [classifyPy]

/-- what `PythonAction.execute` leaves behind: the outcome is the classification; `values` is the returned dict
    and nothing else; `result` is the returned str/dict and `None` otherwise; when `_prepare_kwargs` raises
    the exception propagates and nothing is set -/
theorem py_exec (r : PyRet) :
    (pyExec false r).outcome = classifyPy r ∧
    (∀ d, r = .rDict d → (pyExec false r).values = d ∧ (pyExec false r).result = .dict d) ∧
    (∀ s, r = .rStr s → (pyExec false r).values = [] ∧ (pyExec false r).result = .str s) ∧
    ((∀ d, r ≠ .rDict d) → (∀ s, r ≠ .rStr s) → (pyExec false r).values = [] ∧ (pyExec false r).result = .none) ∧
    pyExec true r = ⟨.raised, .none, []⟩ := by
  refine ⟨by cases r <;> rfl, fun d h => h ▸ ⟨rfl, rfl⟩, fun s h => h ▸ ⟨rfl, rfl⟩, fun hd hs => ?_, rfl⟩
  cases r with
  | rDict d => exact absurd rfl (hd d)
  | rStr s => exact absurd rfl (hs s)
  | _ => exact ⟨rfl, rfl⟩

/-- The classification of a python-action and the text its body produces do not depend on the verbosity (on
    whether a live stream is handed over): the tee `Writer` has the same interface with and without a live stream.
    The one operation whose result the code makes depend on the live stream is `fileno()` (answered by the live
    stream; `UnsupportedOperation` without one) -- hence the hypothesis. -/
theorem classification_verbosity_independent (capture l1 l2 : Bool) (ops : List StreamOp) (ret : PyRet)
    (h : StreamOp.fileno ∉ ops) :
    bodyRun capture l1 ops = bodyRun capture l2 ops ∧
    pyExec false (pyBody capture l1 ops ret) = pyExec false (pyBody capture l2 ops ret) := by
  have hb : bodyRun capture l1 ops = bodyRun capture l2 ops :=
    bodyRun_congr fun op hop => by cases op <;> first | rfl | exact absurd hop h
  exact ⟨hb, by simp only [pyBody, hb]⟩

/-- with capture on, a body using `writelines`, `.buffer.write` or any other attribute the `Writer` lacks is an
    error at every verbosity, and the operations after it never run -/
theorem writer_interface (l : Bool) (pre post : List StreamOp) (op : StreamOp) (ret : PyRet)
    (hpre : ∀ o ∈ pre, opEffect true l o ≠ .raises)
    (hop : op = .writelines ∨ op = .bufferWrite ∨ op = .attr) :
    classifyPy (pyBody true l (pre ++ op :: post) ret) = .error ∧
    (bodyRun true l (pre ++ op :: post)).1.length = pre.length := by
  have key := bodyRun_raise (post := post) hpre (show opEffect true l op = .raises by
    rcases hop with e | e | e <;> subst e <;> rfl)
  exact ⟨by simp only [pyBody, key.1, if_true, classifyPy], key.2⟩

/-- A cmd-action succeeds iff the return code is 0, is an error iff it is above 125, fails for every other
    return code — which includes the negative return codes of a process killed by a signal (the statement is
    silent about those; this is what the code does). -/
theorem classify_cmd (rc : Int) :
    (classifyCmd rc = .ok ↔ rc = 0) ∧
    (classifyCmd rc = .failed ↔ (rc ≠ 0 ∧ rc ≤ 125)) ∧
    (classifyCmd rc = .error ↔ rc > 125) ∧
    classifyCmd rc ≠ .raised := by
  by_cases h1 : rc > 125
  · rw [classifyCmd, if_pos h1]
    exact ⟨⟨nofun, fun h => by omega⟩, ⟨nofun, fun h => by omega⟩, ⟨fun _ => h1, fun _ => rfl⟩, nofun⟩
  · by_cases h2 : rc = 0
    · subst h2; decide
    · rw [classifyCmd, if_neg h1, if_pos h2]
      exact ⟨⟨nofun, fun h => absurd h h2⟩, ⟨fun _ => ⟨h2, by omega⟩, fun _ => rfl⟩,
        ⟨nofun, fun h => absurd h h1⟩, nofun⟩

/-- exit statuses 0..255: 0 ok, 1..125 failed, 126..255 error -/
theorem classify_cmd_status (n : Nat) (h : n ≤ 255) :
    classifyCmd n = (if n = 0 then .ok else if n ≤ 125 then .failed else .error) := by
  unfold classifyCmd
  by_cases h0 : n = 0
  · simp [h0]
  · by_cases h1 : n ≤ 125
    · have : ¬ ((n : Int) > 125) := by omega
      have h0' : (n : Int) ≠ 0 := by omega
      simp [h0, h1, this]
    · have : (n : Int) > 125 := by omega
      simp [h0, h1, this]

/-- killed by signal `sig` (`returncode = -sig`): failed -/
theorem classify_cmd_signal (sig : Nat) (h : 0 < sig) : classifyCmd (-(sig : Int)) = .failed := by
  unfold classifyCmd
  have h1 : ¬ (-(sig : Int) > 125) := by omega
  have h2 : -(sig : Int) ≠ 0 := by omega
  simp [h1, h2]

/-- `CmdAction.execute`: the outcome is the return-code class (error when the command string cannot be
    built); with capture `result = out + err`; `save_out` stores `out` only when the action succeeded -/
theorem cmd_exec (cap : Cap) (saveOut : Option Nat) (rc : Int) (out err : List Char) :
    (cmdExec false cap saveOut rc out err).outcome = classifyCmd rc ∧
    (cmdExec true cap saveOut rc out err) = ⟨.error, .none, []⟩ ∧
    (cap = .yes → (cmdExec false cap saveOut rc out err).result = .str (out ++ err)) ∧
    (cap ≠ .yes → (cmdExec false cap saveOut rc out err).result = .none) ∧
    (∀ k, saveOut = some k → rc = 0 → cap = .yes →
        (cmdExec false cap saveOut rc out err).values = [(k, .text out)]) ∧
    (rc ≠ 0 → (cmdExec false cap saveOut rc out err).values = []) ∧
    (saveOut = none → (cmdExec false cap saveOut rc out err).values = []) := by
  rw [cmdExec_eq]
  refine ⟨rfl, rfl, fun h => if_pos h, fun h => if_neg h, ?_, fun h0 => if_neg fun e => h0 ((classify_cmd rc).1.mp e), ?_⟩
  · intro k hk h0 hy
    subst hk h0 hy
    rfl
  · intro hn
    subst hn
    exact ite_self _

/-- F-C17c (fixed in /repo, c208dcd): the captured text does not depend on the `buffering` value; the pinned
    code decoded each read on its own and turned `a é b` (61 C3 A9 62) read two bytes at a time into
    `a U+FFFD U+FFFD b` -/
theorem pinned_buffering_counterexample :
    (∀ n m bytes, cmdDecode n bytes = cmdDecode m bytes) ∧
    cmdDecode 2 [0x61, 0xC3, 0xA9, 0x62] = [0x61, 0xE9, 0x62] ∧
    cmdDecodePinned 2 [0x61, 0xC3, 0xA9, 0x62] = [0x61, 65533, 65533, 0x62] ∧
    cmdDecodePinned 4 [0x61, 0xC3, 0xA9, 0x62] = [0x61, 0xE9, 0x62] := by
  refine ⟨fun _ _ _ => rfl, ?_, ?_, ?_⟩ <;> decide

/-- The `doit.tools` action classes, as documented and as coded.  `LongRunning`: always successful whatever the
    return code and whether or not it was interrupted (unless the command cannot be built).  `Interactive`:
    successful iff the return code is 0, otherwise *failed* -- never an error, also above 125.
    `PythonInteractiveAction`: an error iff the callable raises an `Exception`; every returned value, `False` and
    `TaskFailed`/`TaskError` instances included, is a success (the statement's "fails iff it returns False" is about
    `PythonAction`; this class documents "successful unless an exception is raised"). -/
theorem tools_actions (rc : Int) (i : Bool) (r : PyRet) :
    (longRunningExec false i rc).outcome = .ok ∧
    ((interactiveExec false false rc).outcome = .ok ↔ rc = 0) ∧
    (interactiveExec false false rc).outcome ≠ .error ∧
    (interactiveExec false true rc).outcome = .raised ∧
    ((pyInteractiveExec false r).outcome = .error ↔ r = .raisesExc) ∧
    ((pyInteractiveExec false r).outcome = .raised ↔ r = .raisesBase) ∧
    (pyInteractiveExec false r).outcome ≠ .failed ∧
    (∀ d, r = .rDict d → (pyInteractiveExec false r).values = d) := by
  refine ⟨rfl, ?_, ?_, rfl, ?_, ?_, ?_, ?_⟩
  · by_cases h : rc = 0 <;> simp [interactiveExec, h]
  · by_cases h : rc = 0 <;> simp [interactiveExec, h]
  · exact ⟨fun h => (by cases r <;> first | rfl | cases h), fun h => h ▸ rfl⟩
  · exact ⟨fun h => (by cases r <;> first | rfl | cases h), fun h => h ▸ rfl⟩
  · exact fun h => by cases r <;> cases h
  · exact fun d hd => hd ▸ rfl

/-- A task stops at its first unsuccessful action (`ran` counts the `execute` calls: the successful prefix plus
    the unsuccessful action), returns that action's failure, and its `values` / `result` come from the
    successful actions that ran: `values` = their `values` merged in order (`dict.update`), `result` = the
    `result` attribute of the last of them (`None` when that action returned True/None; the unsuccessful
    action contributes nothing). -/
theorem task_execute (as : List ARes) :
    (taskExecute as).values = (okPrefix as).foldl (fun v a => Vals.update v a.values) [] ∧
    (taskExecute as).result = (((okPrefix as).getLast?).map (·.result)).getD .none ∧
    (taskExecute as).outcome = ((as[(okPrefix as).length]?).map (·.outcome)).getD .ok ∧
    (taskExecute as).ran = (okPrefix as).length + (if (okPrefix as).length < as.length then 1 else 0) ∧
    (∀ a ∈ okPrefix as, a.outcome = .ok) ∧
    (∀ a, as[(okPrefix as).length]? = some a → a.outcome ≠ .ok) := by
  have h := taskRun_spec as .none [] 0
  refine ⟨h.1, ?_, h.2.2.1, ?_, ?_, ?_⟩
  · rw [taskExecute, h.2.1, foldl_last]
  · rw [taskExecute, h.2.2.2]; omega
  · exact okPrefix_all_ok as
  · exact okPrefix_next_bad as

/-- `Task.execute_teardown` stops at the first unsuccessful teardown action exactly as `Task.execute` does -/
theorem teardown_execute (as : List ARes) :
    teardownRun 0 as = ((taskExecute as).outcome, (taskExecute as).ran) :=
  teardownRun_spec as .none [] 0

/-- the merged values as a dictionary: the last successful action binding `k` wins -/
theorem task_values_lookup (as : List ARes) (k : Nat) :
    Vals.get (taskExecute as).values k = (okPrefix as).reverse.findSome? (fun a => Vals.get a.values k) := by
  rw [(task_execute as).1, foldl_update_get]
  simp [Vals.get, alookup]

/-- **Nested or disjoint executions** (serial runner, each worker process; any depth, any length): from the
    initial state (cell = the original stream), after the whole list — hence after the last `restore` of every
    top-level execution, the statement holding for every well-nested list — the cell holds the original
    stream again, no `restore` found its saved stream missing, every write of every action `a` is in `a.out`
    in order and nothing else is, and nothing leaked to the original stream. -/
theorem restore_nested (evs : List Ev) (h : WN none evs) (hn : (started evs).Nodup) :
    (run St.init evs).cell = .orig ∧
    (run St.init evs).unbound = false ∧
    (∀ a, a ∈ started evs → (run St.init evs).out a = some (writesOf a evs)) ∧
    (run St.init evs).origLog = [] := by
  have F := wn_frame h St.init hn (by intro b _; rfl) (by intro a ha; cases ha)
  exact ⟨F.cell, F.unbound, F.outs, F.orig⟩

/-- the same from **any** state (whatever object `sys.stdout` is bound to when the run starts): the cell is
    left as found -/
theorem restore_nested_any (evs : List Ev) (h : WN none evs) (hn : (started evs).Nodup) (s : St)
    (hfresh : ∀ b, b ∈ started evs → s.buf b = []) :
    (run s evs).cell = s.cell ∧ (run s evs).origLog = s.origLog ∧
    (∀ a, a ∈ started evs → (run s evs).out a = some (writesOf a evs)) := by
  have F := wn_frame h s hn hfresh (by intro a ha; cases ha)
  exact ⟨F.cell, F.orig, F.outs⟩

/-- one python-action execution in the order of the repaired code, whatever its callable returns or raises
    (`try/finally`: same steps), with any nested scenario `body` inside its callable and whether or not
    `_prepare_kwargs` raises: cell restored, own writes captured -/
theorem restore_exec (kwargsRaise : Bool) (a : Act) (body : Forest)
    (hn : (started (execSteps kwargsRaise a (flatten (some a) body))).Nodup) :
    (run St.init (execSteps kwargsRaise a (flatten (some a) body))).cell = .orig ∧
    (kwargsRaise = false →
      (run St.init (execSteps kwargsRaise a (flatten (some a) body))).out a
        = some (writesOf a (flatten (some a) body))) := by
  cases kwargsRaise with
  | true => simp [execSteps, run, St.init]
  | false =>
    have hw : WN none (execSteps false a (flatten (some a) body)) := by
      have := WN.exec none a _ [] (flatten_wn body (some a)) (WN.nil none)
      simpa [execSteps] using this
    have R := restore_nested _ hw hn
    refine ⟨R.1, fun _ => ?_⟩
    rw [R.2.2.1 a (by simp [execSteps, started])]
    simp [execSteps, writesOf_append, writesOf]

/-- every scenario the harness generates as a forest satisfies the hypothesis of `restore_nested` -/
theorem forest_well_nested (f : Forest) : WN none (flatten none f) := flatten_wn f none

/-- and every well-nested list comes from a forest: `WN none` and "is the step list of a forest" are the same
    hypothesis -/
theorem well_nested_iff_forest (evs : List Ev) : WN none evs ↔ ∃ f : Forest, flatten none f = evs :=
  ⟨wn_is_forest, fun ⟨f, hf⟩ => hf ▸ flatten_wn f none⟩

/-- `restore_nested` with decidable hypotheses only: for every scenario forest whose action ids are distinct -/
theorem restore_forest (f : Forest) (hn : (started (flatten none f)).Nodup) :
    (run St.init (flatten none f)).cell = .orig ∧
    (run St.init (flatten none f)).unbound = false ∧
    (∀ a, a ∈ started (flatten none f) →
      (run St.init (flatten none f)).out a = some (writesOf a (flatten none f))) ∧
    (run St.init (flatten none f)).origLog = [] :=
  restore_nested _ (flatten_wn f none) hn

/-- The same **with the live copy of `Writer`** (the machine `Fwd`: a writer forwards every write to the live
    stream it was handed, which in a nested execution is the enclosing action's writer): for every well-nested
    list of any depth, whatever the verbosity of each execution, the cell is restored, every buffer's own
    tokens are exactly the action's writes in order (forwarded text of nested executions may be interleaved
    with them, never lost or reordered), and when no execution is handed a live stream nothing reaches the
    original stream. -/
theorem restore_nested_live (evs : List Fwd.Ev) (h : Fwd.WN none evs) (hn : (Fwd.started evs).Nodup) :
    (Fwd.run Fwd.St.init evs).cell = .orig ∧
    (Fwd.run Fwd.St.init evs).unbound = false ∧
    (∀ a, a ∈ Fwd.started evs →
      ∃ l, (Fwd.run Fwd.St.init evs).out a = some l ∧ Fwd.own a l = Fwd.writesOf a evs) ∧
    (Fwd.allOff evs = true → (Fwd.run Fwd.St.init evs).origLog = []) := by
  have F := Fwd.wn_frame h Fwd.St.init hn (by intro b _; exact ⟨rfl, by simp [Fwd.St.init, Fwd.bufsOf]⟩)
    (by intro a ha; cases ha)
  exact ⟨F.cell, F.unbound, F.outs, fun hoff => F.quiet hoff (by intro a ha; cases ha)⟩

theorem forest_well_nested_live (f : Fwd.Forest) : Fwd.WN none (Fwd.flatten none f) := Fwd.flatten_wn f none

theorem well_nested_iff_forest_live (evs : List Fwd.Ev) :
    Fwd.WN none evs ↔ ∃ f : Fwd.Forest, Fwd.flatten none f = evs :=
  ⟨Fwd.wn_is_forest, fun ⟨f, hf⟩ => hf ▸ Fwd.flatten_wn f none⟩

/-- `restore_nested_live` with decidable hypotheses only -/
theorem restore_forest_live (f : Fwd.Forest) (hn : (Fwd.started (Fwd.flatten none f)).Nodup) :
    (Fwd.run Fwd.St.init (Fwd.flatten none f)).cell = .orig ∧
    (Fwd.run Fwd.St.init (Fwd.flatten none f)).unbound = false ∧
    (∀ a, a ∈ Fwd.started (Fwd.flatten none f) →
      ∃ l, (Fwd.run Fwd.St.init (Fwd.flatten none f)).out a = some l ∧
        Fwd.own a l = Fwd.writesOf a (Fwd.flatten none f)) ∧
    (Fwd.allOff (Fwd.flatten none f) = true → (Fwd.run Fwd.St.init (Fwd.flatten none f)).origLog = []) :=
  restore_nested_live _ (Fwd.flatten_wn f none) hn

/-- **Overlapping executions** (two threads of one process, F-C17a, open): a legal interleaving of two
    python-actions (each thread follows its program order) after which the cell holds the stale writer of
    action 0, action 0 lost its write, action 1 captured it, and action 1's write leaked to the original
    stream. -/
theorem overlap_counterexample :
    let evs : List Ev := [.save 0, .set 0, .save 1, .set 1, .write 0 7, .restore 0, .read 0,
                          .write 1 8, .restore 1, .read 1]
    progOrder (fun _ => 0) evs = true ∧ (started evs).Nodup ∧
    (run St.init evs).cell = .writer 0 ∧
    (run St.init evs).out 0 = some [] ∧ writesOf 0 evs = [(0, 7)] ∧
    (run St.init evs).out 1 = some [(0, 7)] ∧ writesOf 1 evs = [(1, 8)] ∧
    (run St.init evs).origLog = [(1, 8)] := by
  decide

/-- the shortest overlap (the order of `findings/demos/F-C17a.py`): no write needed to lose the original -/
theorem overlap_counterexample_min :
    progOrder (fun _ => 0) [.save 0, .set 0, .save 1, .set 1, .restore 0, .read 0, .restore 1, .read 1] = true ∧
    (run St.init [.save 0, .set 0, .save 1, .set 1, .restore 0, .read 0, .restore 1, .read 1]).cell
      = .writer 0 := by
  decide

/-- F-C17b (fixed in /repo): in the pinned order `_prepare_kwargs` ran after the swap and outside the `try`;
    when it raised, the cell kept the action's writer -/
theorem pinned_kwargs_counterexample :
    (run St.init (execStepsPinned true 0 [])).cell = .writer 0 ∧
    (run St.init (execSteps true 0 [])).cell = .orig := by
  decide

/-- verbosity 0: nothing live; 1: stderr only; 2: both.  With capture on, text is captured
    whatever the verbosity and copied to the live stream exactly when one was handed over. -/
theorem live_rule (v : Nat) (hv : v ≤ 2) :
    getOutErr (some v) = (decide (v = 2), decide (1 ≤ v)) ∧
    (∀ live, (pyRoute true live).captured = true ∧ (pyRoute true live).shown = live) ∧
    (∀ live, (cmdRoute .yes live).captured = true ∧ (cmdRoute .yes live).shown = live ∧
             (cmdRoute .yes live).inherited = false) := by
  refine ⟨?_, by intro l; simp [pyRoute], by intro l; simp [cmdRoute]⟩
  match v, hv with
  | 0, _ => rfl
  | 1, _ => rfl
  | 2, _ => rfl


/-- **Both swap disciplines, mixed and nested to any depth, from any state**: after a scenario of executions
    with capture on (`save; set; …; restore; read`) and capture off (`if out: swap … finally: if out: restore`)
    the process-wide cell holds the object it held before and no `restore` found its saved stream missing. -/
theorem restore_forest_mode (f : Mode.Forest) (o : Option Act) (s : Fwd.St)
    (hn : (Mode.started (Mode.flatten o f)).Nodup) :
    (Mode.run s (Mode.flatten o f)).cell = s.cell ∧ (Mode.run s (Mode.flatten o f)).unbound = s.unbound :=
  ⟨(Mode.frame f o s hn).cell, (Mode.frame f o s hn).unbound⟩

/-- **capture off**: one execution of `PythonAction.execute` with `io.capture` false, at any verbosity (`on`),
    whose callable runs any scenario `body` (own writes, nested executions of either mode) and ends in any way
    (normal return, failure, `Exception`, `BaseException`: `try/finally`, same steps), started in any state: the
    process-wide stream is the one before the call, no saved stream was missing, and `action.out` is what it was
    (`None` for a fresh action: nothing is captured). -/
theorem restore_exec_nocapture (a : Act) (on : Bool) (body : Mode.Forest) (s : Fwd.St)
    (hn : (Mode.started (Mode.execNC a on body)).Nodup) :
    (Mode.run s (Mode.execNC a on body)).cell = s.cell ∧
    (Mode.run s (Mode.execNC a on body)).unbound = s.unbound ∧
    (Mode.run s (Mode.execNC a on body)).out a = s.out a := by
  rw [Mode.execNC, Mode.started_block] at hn
  have F := Mode.frame_exec a on false body s hn
  simp only [Mode.execNC, Mode.run_append]
  refine ⟨F.cell, F.unbound, ?_⟩
  simp only [← Mode.run_append]
  refine Mode.out_only_read _ s a fun hr => ?_
  rw [Mode.reads_block, if_neg Bool.false_ne_true, List.append_nil] at hr
  exact (List.nodup_cons.mp hn).1 (Mode.reads_sub_started body _ a hr)

/-- **capture off passes everything through**: when the stream in the cell reaches the original stream (top
    level, or inside executions that are all shown live), every token the callable of a capture-off execution
    writes itself is on the original stream afterwards, in order, exactly once -- for *every* verbosity `on`
    (with capture off the verbosity only decides whether `sys.stdout` is re-bound to the same object). -/
theorem nocapture_passthrough (a : Act) (on : Bool) (body : Mode.Forest) (s : Fwd.St)
    (hn : (Mode.started (Mode.execNC a on body)).Nodup) (hr : Fwd.reachesOrig s.cell = true) :
    Fwd.own a (Mode.run s (Mode.execNC a on body)).origLog
      = Fwd.own a s.origLog ++ Mode.writesOf a (Mode.flatten (some a) body) := by
  rw [Mode.execNC, Mode.started_block, List.nodup_cons] at hn
  have P := Mode.pre_spec s a on false
  have FB := Mode.frame body (some a) (Mode.run s (Mode.pre a on false)) hn.2
  have Q := Mode.block_post FB hn.1
  simp only [Mode.execNC, Mode.run_append]
  rw [Q.origLog, FB.pass a hn.1, P.cell, P.origLog]
  simp only [Bool.false_eq_true, if_false, hr, if_true]

/-- the capture-off execution from the initial state: the original stream holds exactly the callable's own
    writes (as far as `a`'s tokens go), whatever the verbosity -/
theorem nocapture_passthrough_init (a : Act) (on : Bool) (body : Mode.Forest)
    (hn : (Mode.started (Mode.execNC a on body)).Nodup) :
    Fwd.own a (Mode.run Fwd.St.init (Mode.execNC a on body)).origLog = Mode.writesOf a (Mode.flatten (some a) body) := by
  have := nocapture_passthrough a on body Fwd.St.init hn rfl
  simpa [Fwd.St.init, Fwd.own] using this

/-- **Captured intact in both modes at once**: for every scenario forest mixing capturing and non-capturing
    executions to any depth (distinct ids), from the initial state: the cell is the original stream again, no saved
    stream was missing, every *capturing* execution ends with `out` holding exactly its own writes in order among
    the tokens of its buffer (text forwarded by nested executions -- live copies of capturing ones, everything of
    non-capturing ones -- may be interleaved, never lost or reordered), and every *non-capturing* execution ends
    with `out = None`. -/
theorem captured_intact_mode (f : Mode.Forest) (hn : (Mode.started (Mode.flatten none f)).Nodup) :
    (Mode.run Fwd.St.init (Mode.flatten none f)).cell = .orig ∧
    (Mode.run Fwd.St.init (Mode.flatten none f)).unbound = false ∧
    (∀ b, b ∈ Mode.reads (Mode.flatten none f) →
      ∃ l, (Mode.run Fwd.St.init (Mode.flatten none f)).out b = some l ∧
        Fwd.own b l = Mode.writesOf b (Mode.flatten none f)) ∧
    (∀ b, b ∉ Mode.reads (Mode.flatten none f) → (Mode.run Fwd.St.init (Mode.flatten none f)).out b = none) := by
  have F := Mode.frame f none Fwd.St.init hn
  have B := Mode.bframe f none Fwd.St.init hn (by intro b _; exact ⟨rfl, by simp [Fwd.St.init, Fwd.bufsOf]⟩)
    (by intro a ha; cases ha)
  exact ⟨F.cell, F.unbound, B.outs, fun b hb => Mode.out_only_read _ _ b hb⟩

/-- **Overlapping executions with capture off are harmless** (the contrast to `overlap_counterexample`, F-C17a):
    steps of capture-off executions in *any* order -- any number of threads, any interleaving, not even the program
    order of a thread is needed -- leave the cell holding the original stream, put every write on the original
    stream in the order it happened, and set no `out`.  With capture off nothing but the object already in the cell
    is ever stored into it. -/
theorem nocapture_overlap_harmless (evs : List Mode.Ev) (h : Mode.ncOnly evs = true) :
    (Mode.run Fwd.St.init evs).cell = .orig ∧
    (Mode.run Fwd.St.init evs).origLog = Mode.allWrites evs ∧
    (∀ a, (Mode.run Fwd.St.init evs).out a = none) := by
  have I := Mode.nc_only_inv evs Fwd.St.init h ⟨rfl, fun _ => Or.inr rfl, fun _ => Or.inl rfl⟩
  refine ⟨I.1, by simpa [Fwd.St.init] using I.2.1, fun a => by rw [I.2.2]; rfl⟩

/-- the machine with the live copy (`restore_nested_live`) is the all-capture fragment of `Mode` -/
theorem mode_extends_fwd (f : Fwd.Forest) (o : Option Act) (s : Fwd.St) :
    Mode.run s (Mode.flatten o (Mode.ofFwdForest f)) = Fwd.run s (Fwd.flatten o f) := by
  rw [Mode.flatten_ofFwd, Mode.run_ofFwd]

/-- **The outcome class does not depend on the capture mode**: for a python-action whose body uses the stream
    operations every stream supports (`write`, `print`, `flush`, `isatty`) the whole `ARes` (outcome, result,
    values) is the same with capture on and off; for a cmd-action the outcome is the same for every `io.capture`
    value.  The hypothesis is needed and the code's behaviour: `writelines` (like `.buffer`, `.encoding`) exists on
    the caller's stream and not on the `Writer`, so that body is an error with capture on and fine with capture off. -/
theorem capture_mode_independent_classification :
    (∀ (l1 l2 : Bool) (ops : List StreamOp) (ret : PyRet) (kw : Bool), (∀ op ∈ ops, op.common = true) →
      pyExec kw (pyBody true l1 ops ret) = pyExec kw (pyBody false l2 ops ret)) ∧
    (∀ (c1 c2 : Cap) (e : Bool) (so : Option Nat) (rc : Int) (out err : List Char),
      (cmdExec e c1 so rc out err).outcome = (cmdExec e c2 so rc out err).outcome) ∧
    (classifyPy (pyBody true false [.writelines] .rTrue) = .error ∧
     classifyPy (pyBody false false [.writelines] .rTrue) = .ok) := by
  refine ⟨?_, ?_, by decide⟩
  · intro l1 l2 ops ret kw h
    have hb : bodyRun true l1 ops = bodyRun false l2 ops :=
      bodyRun_congr fun op hop => by
        have := h op hop
        cases op <;> first | rfl | exact absurd this Bool.false_ne_true
    simp only [pyBody, hb]
  · intro c1 c2 e so rc out err
    cases e
    · rw [cmdExec_eq, cmdExec_eq]
    · rfl

/-- what the task asked for — `save_out` stores the same value whatever `io.capture` is — is **not** what
    `CmdAction.execute` does (`self.values[self.save_out] = self.out`, and `self.out` is only set under
    `if capture_io:`): see `save_out_independent_of_capture_refuted` -/
def save_out_independent_of_capture_full : Prop :=
  ∀ (c1 c2 : Cap) (so : Option Nat) (rc : Int) (out err : List Char),
    (cmdExec false c1 so rc out err).values = (cmdExec false c2 so rc out err).values

/-- as coded: with capture off a successful `save_out` action binds its key to `None` -/
theorem save_out_independent_of_capture_refuted : ¬ save_out_independent_of_capture_full := by
  intro h
  have := h .yes .no (some 1) 0 ['a'] []
  simp [cmdExec, classifyCmd] at this

/-- what does hold for every `io.capture` value: *whether* and under *which key* `save_out` binds does not depend
    on the capture mode (bound iff the action succeeded); the bound value is the process's stdout when capturing
    and `None` otherwise; `result` is `None` without capture -/
theorem save_out_independent_of_capture_partial (c1 c2 : Cap) (so : Option Nat) (rc : Int) (out err : List Char) :
    ((cmdExec false c1 so rc out err).values.map (·.1) = (cmdExec false c2 so rc out err).values.map (·.1)) ∧
    (∀ k, so = some k → rc = 0 →
      (cmdExec false c1 so rc out err).values = [(k, if c1 = .yes then Val.text out else Val.none)]) ∧
    (c1 ≠ .yes → (cmdExec false c1 so rc out err).result = .none) := by
  rw [cmdExec_eq, cmdExec_eq]
  refine ⟨?_, ?_, fun h => if_neg h⟩
  · cases classifyCmd rc <;> cases so <;> rfl
  · intro k hk h0
    subst hk h0
    rfl

/-- **what reaches the live stream with capture off**: a python-action's text is shown at every verbosity and
    never captured (verbosity only matters when capturing); a cmd-action with `io.capture` False hands the live
    stream to the process when verbosity gives one and lets it inherit the descriptor otherwise -- shown or
    inherited, never both, never captured; with `io.capture` None (any other falsy value) everything goes to
    `os.devnull`. -/
theorem live_rule_nocapture (v : Option Nat) (live : Bool) :
    pyRoute false live = ⟨false, true, false⟩ ∧
    pyRoute false (getOutErr v).1 = pyRoute false (getOutErr none).1 ∧
    pyRoute false (getOutErr v).2 = pyRoute false (getOutErr none).2 ∧
    cmdRoute .no live = ⟨false, live, !live⟩ ∧
    cmdRoute .devnull live = ⟨false, false, false⟩ := by
  refine ⟨rfl, rfl, rfl, rfl, rfl⟩

/-- a three-deep nested scenario with writes before, between and after the nested executions satisfies the
    hypotheses and every action really captures text -/
example :
    let f : Forest := .exec 0 (.write 1 (.exec 1 (.write 2 (.exec 2 (.write 3 .nil) (.write 4 .nil))) (.write 5 .nil)))
                        (.exec 3 (.write 6 .nil) .nil)
    (started (flatten none f)).Nodup ∧
    (run St.init (flatten none f)).cell = .orig ∧
    (run St.init (flatten none f)).out 0 = some [(0, 1), (0, 5)] ∧
    (run St.init (flatten none f)).out 1 = some [(1, 2), (1, 4)] ∧
    (run St.init (flatten none f)).out 2 = some [(2, 3)] ∧
    (run St.init (flatten none f)).out 3 = some [(3, 6)] := by
  decide

/-- the live copy at work: action 0 (live) runs action 1 (live) and action 2 (quiet); 1's text is forwarded into
    0's buffer and on to the original stream, 2's is not -/
example :
    let f : Fwd.Forest := .exec 0 true (.write 1 (.exec 1 true (.write 2 .nil) (.exec 2 false (.write 3 .nil) (.write 4 .nil)))) .nil
    (Fwd.started (Fwd.flatten none f)).Nodup ∧
    (Fwd.run Fwd.St.init (Fwd.flatten none f)).cell = .orig ∧
    (Fwd.run Fwd.St.init (Fwd.flatten none f)).out 0 = some [(0, 1), (1, 2), (0, 4)] ∧
    (Fwd.run Fwd.St.init (Fwd.flatten none f)).out 1 = some [(1, 2)] ∧
    (Fwd.run Fwd.St.init (Fwd.flatten none f)).out 2 = some [(2, 3)] ∧
    (Fwd.run Fwd.St.init (Fwd.flatten none f)).origLog = [(0, 1), (1, 2), (0, 4)] := by
  decide

/-- a task whose third action fails: two actions merged, the fourth never runs -/
example :
    taskExecute [pyExec false (.rDict [(1, .nat 5)]), pyExec false (.rStr ['a']), pyExec false .rFalse,
                 pyExec false (.rDict [(2, .nat 6)])]
      = ⟨.failed, .str ['a'], [(1, .nat 5)], 3⟩ := by
  decide

/-- the `result` of a task whose last action returns True is `None`, not the earlier string -/
example : (taskExecute [pyExec false (.rStr ['a']), pyExec false .rTrue]).result = .none := by decide

example : classifyCmd 125 = .failed ∧ classifyCmd 126 = .error ∧ classifyCmd (-9) = .failed := by decide

/-- capture off at work: action 0 (capture off, quiet) writes, runs action 1 (capture on, live) and action 2
    (capture off, live) and writes again: everything of 0 and 2 and the live copy of 1 is on the original stream in
    order, only 1 has an `out`, the cell is restored -/
example :
    let body : Mode.Forest := .write 1 (.exec 1 true true (.write 2 .nil) (.exec 2 true false (.write 3 .nil) (.write 4 .nil)))
    (Mode.started (Mode.execNC 0 false body)).Nodup ∧
    (Mode.run Fwd.St.init (Mode.execNC 0 false body)).cell = .orig ∧
    (Mode.run Fwd.St.init (Mode.execNC 0 false body)).origLog = [(0, 1), (1, 2), (2, 3), (0, 4)] ∧
    (Mode.run Fwd.St.init (Mode.execNC 0 true body)).origLog = [(0, 1), (1, 2), (2, 3), (0, 4)] ∧
    (Mode.run Fwd.St.init (Mode.execNC 0 false body)).out 0 = none ∧
    (Mode.run Fwd.St.init (Mode.execNC 0 false body)).out 1 = some [(1, 2)] ∧
    (Mode.run Fwd.St.init (Mode.execNC 0 false body)).out 2 = none := by
  decide

/-- a capture-off execution inside a quiet capturing one writes into that action's buffer, not to the original -/
example :
    let f : Mode.Forest := .exec 0 false true (.write 1 (.exec 1 true false (.write 2 .nil) .nil)) .nil
    (Mode.run Fwd.St.init (Mode.flatten none f)).cell = .orig ∧
    (Mode.run Fwd.St.init (Mode.flatten none f)).out 0 = some [(0, 1), (1, 2)] ∧
    (Mode.run Fwd.St.init (Mode.flatten none f)).origLog = [] := by
  decide

example : (cmdExec false .no (some 1) 0 ['a'] []).values = [(1, .none)] ∧
    (cmdExec false .yes (some 1) 0 ['a'] []).values = [(1, .text ['a'])] := by decide

example : (cmdRoute .no false).inherited = true ∧ (cmdRoute .no true).shown = true ∧ (pyRoute false false).shown = true := by
  decide

example : pyExec false (pyBody true false [.write, .flush, .print] (.rStr ['x']))
    = pyExec false (pyBody false true [.write, .flush, .print] (.rStr ['x'])) := by decide

/-- `captured_intact_mode` is not vacuous: a capturing, live action 0 runs a non-capturing action 1 which runs a
    capturing quiet action 2 -/
example :
    let f : Mode.Forest := .exec 0 true true (.write 1 (.exec 1 false false (.write 2 (.exec 2 false true (.write 3 .nil) (.write 4 .nil))) (.write 5 .nil))) .nil
    (Mode.started (Mode.flatten none f)).Nodup ∧ Mode.reads (Mode.flatten none f) = [2, 0] ∧
    (Mode.run Fwd.St.init (Mode.flatten none f)).out 0 = some [(0, 1), (1, 2), (1, 4), (0, 5)] ∧
    (Mode.run Fwd.St.init (Mode.flatten none f)).out 1 = none ∧
    (Mode.run Fwd.St.init (Mode.flatten none f)).out 2 = some [(2, 3)] ∧
    (Mode.run Fwd.St.init (Mode.flatten none f)).origLog = [(0, 1), (1, 2), (1, 4), (0, 5)] := by
  decide

/-- the interleaving of `overlap_counterexample` with capture off (both live): harmless -/
example :
    let evs : List Mode.Ev := [.getlive 0 true, .swapNC 0, .getlive 1 true, .swapNC 1, .write 0 7, .restoreNC 0,
                               .write 1 8, .restoreNC 1]
    Mode.ncOnly evs = true ∧ (Mode.run Fwd.St.init evs).cell = .orig ∧
    (Mode.run Fwd.St.init evs).origLog = [(0, 7), (1, 8)] := by
  decide

end DoitModel.C17
