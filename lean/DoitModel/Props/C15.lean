import DoitModel.Proofs.DelayedWF
import DoitModel.Proofs.C15Obey2
import DoitModel.Proofs.C15Target
import DoitModel.Proofs.C15Clos
import DoitModel.Proofs.C15Redef
import DoitModel.Model.DelayedSel
import DoitModel.Proofs.DelayedX
/-! # C15 — delayed task creation happens once, after its trigger

Property theorems only (model: `Model/Delayed.lean`, `Model/DelayedSel.lean`, and `Model/DelayedX.lean` for the last
section; invariants: `Proofs/Delayed*.lean`, `Proofs/C15*.lean`).
Quantification: every task table (static tasks, placeholders of `create_after` creators with/without `executed`,
`creates`, `target_regex`), every creator oracle, every selection (`sel` and the placeholders `_filter_tasks` made),
every up-to-date / failure oracle, `--continue` or not, and every reachable state — i.e. every prefix of every run —
of a transition system that is exactly the serial `Runner` when `inp.serial` and otherwise over-approximates
`MRunner`/`MThreadRunner` for every `-n` (any number of tasks in flight, `generator.send(None)` at any time, any
completion order, any iteration order of `waiting_me`).

`onceOK`, `afterOK`, `obeyOK` are the decidable statements; the driver evaluates the same functions on the
implementation's trace (the monitor).  The hypotheses are decidable (`trigB`, `rxB`, `noRedefB`; `resolvesB`, `coversB`
for the pinned variant) and evaluated on every generated case.

What is proved of `created_obey` / `target` and what is left:
* `C15_created_obey` is the full `obeyOK` statement over the dependency table of the `Task` objects the nodes hold
  (`nodeDeps`), without further hypotheses.  Over `TaskControl.tasks` (`dynDeps`) it is `C15_created_obey_tasks`
  with the decidable hypothesis `noRedefB`; the gap is real in the model and in doit (`self.tasks[nt.name] = nt` has
  no guard, a creator may re-define a task that was already executed): `created_obey_needs_noRedef`.
  `C15_created_obey_table` is the bridge (state hypothesis instead of `noRedefB`).
* `C15_target` is the structural core, `C15_started_in_closure` the "exactly" half (nothing outside the closure of
  the selection is started).  "The run does start the producer" (liveness) is not a model theorem; the monitor
  `targetOK` evaluates it on exit 0. -/
namespace DoitModel.C15
open DoitModel.Delayed
open DoitModel.Run (Name)

/-- **once** (full strength): in every reachable state of the dispatcher as it is now (`evaluated_creators`, repair
    994517d) no task-creator has been evaluated twice — whatever the creators yield, however many loader objects
    (`creates=[a,b,…]`: one copy per name) and placeholders share a creator, under every schedule and runner. -/
theorem C15_once (inp : Input) (hp : inp.pinnedOnce = false) (s : Sys) (hr : Reach inp s) :
    onceOK s.events = true :=
  (eval_reach hp hr).o

/-- the same as a count: at most one `creator c` event per creator and run -/
theorem C15_once_count (inp : Input) (hp : inp.pinnedOnce = false) (s : Sys) (hr : Reach inp s) (c : CId) :
    s.events.count (Ev.creator c) ≤ 1 :=
  onceOK_count c _ (C15_once inp hp s hr)

/-- the pinned dispatcher (and the repaired one) without relying on `evaluated_creators`: "once" holds when
    `resolvesB` (`self.tasks[to_load]` of a placeholder carries the placeholder's own loader object) and `coversB`
    (a creator with several loader objects yields a task for every name it declares).  Without `coversB` it was false
    of the pinned code: `once_needs_covers` below (finding F-C15b, fixed). -/
theorem C15_once_pinned (inp : Input) (h1 : resolvesB inp = true) (h2 : coversB inp = true) (s : Sys)
    (hr : Reach inp s) : onceOK s.events = true :=
  (once_reach (onceWF_of_bool h1 h2) hr).once

/-- **after its trigger**: whenever a creator is evaluated, every task named in `executed` of (a loader object of)
    that creator already has its terminal report (`add_success`, `add_failure`, `skip_uptodate`) in the trace.
    `trigB`: a task that carries a loader object has the creator's triggers among its task_deps
    (`Task.__init__`: `self.task_dep.append(loader.task_dep)`). -/
theorem C15_after_trigger (inp : Input) (h : trigB inp = true) (s : Sys) (hr : Reach inp s) :
    afterOK (trigOf inp) s.events = true :=
  (after_reach (trigWF_of_bool h) hr).aft

/-- a task the dispatcher hands to execution has every task_dep of the `Task` object its node holds finished
    (the bookkeeping half of `created_obey`: it holds for created tasks because the node is reset to the created
    task and re-processes all its dependencies) -/
theorem C15_loader_after_deps (inp : Input) (h : trigB inp = true) (s : Sys) (hr : Reach inp s) (n : Name) (nd : Node)
    (hn : s.nodes n = some nd) (hpc : nd.pc = .loaderPc) :
    ∀ d ∈ nd.task.deps, s.events.any (Ev.reports d) = true := by
  intro d hd
  have hi := after_reach (trigWF_of_bool h) hr
  obtain ⟨hb, _⟩ := hi.node n nd hn
  obtain ⟨hp, hw⟩ := hb.2 hpc
  rcases hb.1 d hd with h3 | h3 | h3 | h3
  · rw [hp] at h3; cases h3
  · rw [hpc] at h3; obtain ⟨⟨_, e⟩, _⟩ := h3; cases e
  · rw [hw] at h3; cases h3
  · exact hi.rep d h3

/-- **created_obey**, once-only half: every task — statically defined or registered by a creator at run time, under
    every schedule and runner — is handed to execution at most once and gets at most one terminal report; a re-set
    node (`"reset generator"`) does not make its task run again.  (`trigB`: the counting clauses `CountOK` are a field of `AfterInv`, whose other
    clauses need it.) -/
theorem C15_created_at_most_once (inp : Input) (h : trigB inp = true) (s : Sys) (hr : Reach inp s) (t : Name) :
    s.events.count (Ev.start t) ≤ 1 ∧ s.events.countP (Ev.reports t) ≤ 1 :=
  ⟨(after_reach (trigWF_of_bool h) hr).cnt.cntS t, (after_reach (trigWF_of_bool h) hr).cnt.cntR t⟩

/-- … and nothing is reported about a task before it was selected: a terminal report of `t` in the trace means the
    status of `t` is finished (in particular a created task is not reported through its placeholder) -/
theorem C15_report_means_finished (inp : Input) (h : trigB inp = true) (s : Sys) (hr : Reach inp s) (t : Name)
    (e : Ev) (he : e ∈ s.events) (hrep : e.reports t = true) : (stOf s t).finished = true := by
  cases hf : (stOf s t).finished with
  | true => rfl
  | false =>
    have := (after_reach (trigWF_of_bool h) hr).cnt.noRep t hf e he
    rw [this] at hrep; cases hrep

/-- the dynamic dependency table of a state: task_deps of the `Task` object currently registered under a name -/
def dynDeps (s : Sys) (t : Name) : List Name :=
  match s.tasks t with
  | some td => td.deps
  | none => []

/-- **created_obey**, ordering half and once-only half together, over the *dynamic* dependency table
    `nodeDeps s` = task_deps of the `Task` object the node of a task holds (for a task a creator registered: the
    object the creator yielded, implicit deps through targets included; for a placeholder nobody re-defined: the
    mutated placeholder): in every reachable state, under every schedule and runner, every `start t` in the trace is
    preceded by a good report (`success` / `skipUtd`) of every dependency — static or created — of the object that is
    executed, there is no second start and no second terminal report, `success`/`failure` only after the start,
    `unmet`/`skipUtd` only without one.  This is the statement the monitor evaluates (`obeyOK`).
    Proof: `Proofs/C15Obey*.lean` (`NodeG`: while a node is not marked `bad` every dependency of its task is pending,
    in the snapshot, awaited or good; a reset node re-processes all dependencies of its new task). -/
theorem C15_created_obey (inp : Input) (h : trigB inp = true) (s : Sys) (hr : Reach inp s) :
    obeyOK (nodeDeps s) inp.noAct s.events = true :=
  (obey_reach (trigWF_of_bool h) hr).core.obey

/-- the ordering half spelled out: wherever `start t` occurs in the trace, every task_dep of the object the node of
    `t` holds (it does not change after the start) has its good report *earlier* in the trace -/
theorem C15_created_start_after_deps (inp : Input) (h : trigB inp = true) (s : Sys) (hr : Reach inp s)
    (t : Name) (post pre : List Ev) (hev : s.events = post ++ Ev.start t :: pre) :
    ∀ d ∈ nodeDeps s t, Ev.success d ∈ pre ∨ Ev.skipUtd d ∈ pre :=
  obeyOK_start_split _ _ t pre post (hev ▸ C15_created_obey inp h s hr)

/-- **created_obey**, up-to-date rule (the model's `get_status` is the oracle `inp.utd`): a task — static or
    created — that is up-to-date is never handed to execution, and only up-to-date tasks are skipped -/
theorem C15_created_utd (inp : Input) (h : trigB inp = true) (s : Sys) (hr : Reach inp s) :
    utdOK inp.utd s.events = true :=
  (obey_reach (trigWF_of_bool h) hr).core.utd

/-- … and over the task table itself (`dynDeps s` = task_deps of `TaskControl.tasks[t]` in state `s`), in every
    state in which the table entry of every started task is still the object its node holds.  The two differ only
    when a creator re-defines the name of a task that was already handed to execution (`self.tasks[nt.name] = nt`
    has no guard); the old object ran with *its* dependencies (`C15_created_obey`), the new one is never executed
    (`C15_created_at_most_once`).  `C15_created_obey_tasks` below discharges the hypothesis from `noRedefB`. -/
theorem C15_created_obey_table (inp : Input) (h : trigB inp = true) (s : Sys) (hr : Reach inp s)
    (hsame : ∀ t, Ev.start t ∈ s.events → nodeDeps s t = dynDeps s t) :
    obeyOK (dynDeps s) inp.noAct s.events = true := by
  rw [← obeyOK_congr (nodeDeps s) (dynDeps s) inp.noAct s.events hsame]
  exact C15_created_obey inp h s hr

/-- no re-definition: under `noRedefB` (a yielded name is new or a placeholder of the same creator, yields of
    different creators are disjoint, `to_load` names a placeholder of the same creator, the dispatcher keeps
    `evaluated_creators`) a node whose `Task` object carries no loader — every task that was handed to execution —
    holds exactly `TaskControl.tasks[name]` -/
theorem C15_node_holds_table (inp : Input) (h : noRedefB inp = true) (s : Sys) (hr : Reach inp s) (n : Name)
    (nd : Node) (hn : s.nodes n = some nd) (hl : nd.task.loader = none) : s.tasks n = some nd.task :=
  (redef_reach (redefWF_of_bool h) hr).t n nd hn hl

/-- **created_obey** over the task table `TaskControl.tasks` as it is in the state (`dynDeps`), with the
    decidable hypothesis `noRedefB`.  Without it the
    statement is false of the model and of doit (`created_obey_needs_noRedef` below). -/
theorem C15_created_obey_tasks (inp : Input) (h : trigB inp = true) (h2 : noRedefB inp = true) (s : Sys)
    (hr : Reach inp s) : obeyOK (dynDeps s) inp.noAct s.events = true := by
  apply C15_created_obey_table inp h s hr
  intro t ht
  obtain ⟨nd, hn, hl⟩ :=
    started_loaded (count_reach hr) (obey_reach (trigWF_of_bool h) hr) t ht
  have := (redef_reach (redefWF_of_bool h2) hr).t t nd hn hl
  simp [nodeDeps, dynDeps, hn, this]

/-- **target**, structural core.  `rxB`: a task of the initial table that belongs to a regex group (a
    `_regex_target…` placeholder, or the creator's own task selected through its `target_regex`) carries a loader and
    has the command-line word among its file_deps — what `_filter_tasks` builds.  Regex matching is the oracle that
    decided which groups exist.  In every reachable state, under every schedule and runner:
    * `notFound x` is raised only while nobody has registered `x` as a target **and** the group of `x` is exhausted
      (no remaining loader could still produce it);
    * in a state that did not raise, a regex placeholder of word `x` that was reset (its loader is `DelayedLoaded`)
      has the task that owns target `x` among its task_deps — so by `C15_created_obey` the producer (and, through the
      producer's own node, its dependencies) is processed before it — or other loaders of its group are still to be
      tried.
    "Exactly" (nothing outside the closure of the selection is started) is `C15_started_in_closure` below.
    Not proved: liveness (the run does reach the producer's `start`; monitor `targetOK`). -/
theorem C15_target (inp : Input) (h : rxB inp = true) (s : Sys) (hr : Reach inp s) :
    (∀ x, s.susp = .err (.notFound x) → s.targets x = none ∧ ∃ g, inp.gtarget g = x ∧ s.gtasks g = []) ∧
    ((∀ e, s.susp ≠ .err e) → ∀ n nd g, s.nodes n = some nd → nd.task.rx = some g → nd.task.loader = none →
      (∃ o, s.targets (inp.gtarget g) = some o ∧ o ∈ nd.task.deps) ∨ s.gtasks g ≠ []) := by
  have hi := tgt_reach (rxWF_of_bool h) hr
  exact ⟨hi.nf, fun hne n nd g hn hg hl => ((hi.ok hne).node n nd g hn hg).2 hl⟩

/-- target + created_obey: when a loaded regex placeholder of word `x` is handed to execution, the task that owns
    target `x` has its good report earlier in the trace (or the group still had other loaders to try) -/
theorem C15_target_producer_first (inp : Input) (h1 : trigB inp = true) (h2 : rxB inp = true) (s : Sys)
    (hr : Reach inp s) (hne : ∀ e, s.susp ≠ .err e) (n : Name) (nd : Node) (g : GId) (hn : s.nodes n = some nd)
    (hg : nd.task.rx = some g) (hl : nd.task.loader = none) (post pre : List Ev)
    (hev : s.events = post ++ Ev.start n :: pre) :
    (∃ o, s.targets (inp.gtarget g) = some o ∧ (Ev.success o ∈ pre ∨ Ev.skipUtd o ∈ pre)) ∨ s.gtasks g ≠ [] := by
  rcases (C15_target inp h2 s hr).2 hne n nd g hn hg hl with ⟨o, ho, hod⟩ | h
  · exact Or.inl ⟨o, ho, C15_created_start_after_deps inp h1 s hr n post pre hev o (by simpa [nodeDeps, hn] using hod)⟩
  · exact Or.inr h

/-- **target**, "exactly": every task the dispatcher makes a node for — in particular every task that is handed to
    execution — is in the closure of the selection: reachable from a selected task through task_dep edges of the
    `Task` objects the nodes hold (`nodeDeps`: created tasks with their implicit deps, the reset regex placeholder
    with the producer of its word) or of the initial table (`origDeps`: a placeholder's `executed` trigger).  For a
    selection by target this is "the producer, what it depends on, and the creator's trigger — nothing else". -/
theorem C15_nodes_in_closure (inp : Input) (s : Sys) (hr : Reach inp s) (n : Name) (nd : Node)
    (hn : s.nodes n = some nd) : InClos inp s n :=
  ((clos_reach hr).node n nd hn).1

theorem C15_started_in_closure (inp : Input) (h : trigB inp = true) (s : Sys) (hr : Reach inp s) (t : Name)
    (ht : Ev.start t ∈ s.events) : InClos inp s t :=
  started_in_closure (after_reach (trigWF_of_bool h) hr).cnt (clos_reach hr) t ht

/-! ### non-vacuity: a static trigger `0`; one creator with `creates=[1, 2]` (two loader objects, `executed = 0`) that
    yields task 1 and task 2 (which depends on 1); a static task 3 depending on both placeholders, selected.  The
    nodes of BOTH placeholders exist before the creator is evaluated. -/

def exInput (covers : Bool) (pinned : Bool := false) : Input :=
  { tasks0 := [(0, { act := true, oid := 0 }), (1, { deps := [0], loader := some 0, oid := 1 }),
               (2, { deps := [0], loader := some 1, oid := 2 }), (3, { deps := [1, 2], act := true, oid := 3 })]
    targets0 := []
    creatorOf := fun _ => 0
    execOf := fun _ => some 0
    baseOf := fun _ => none
    gtarget := fun _ => 0
    gtasks0 := fun _ => []
    make := fun _ _ => if covers then [{ name := 1 }, { name := 2, deps := [1] }] else [{ name := 1 }]
    sel := [3]
    pinnedOnce := pinned }

/-- the hypotheses of the theorems hold for the example, its run ends regularly, the creator was evaluated (exactly
    once), after the trigger, and the created tasks and the selected task were executed -/
example :
    resolvesB (exInput true) = true ∧ coversB (exInput true) = true ∧ trigB (exInput true) = true ∧
    (autoRun (exInput true) 200 (init (exInput true))).susp = .stopIter ∧
    (autoRun (exInput true) 200 (init (exInput true))).events.reverse =
      [.start 0, .success 0, .creator 0, .start 1, .success 1, .start 2, .success 2, .start 3, .success 3] := by
  decide +kernel

example : Reach (exInput true) (autoRun (exInput true) 200 (init (exInput true))) :=
  autoRun_reach 200 _ Reach.init

/-- the pinned dispatcher needed `coversB`: when the creator does not yield the second name it declares, the second
    loader object (its own `created` flag) evaluated it again (finding F-C15b; `seeded/revert-F-C15b`) -/
theorem once_needs_covers :
    resolvesB (exInput false true) = true ∧ coversB (exInput false true) = false ∧
    Reach (exInput false true) (autoRun (exInput false true) 200 (init (exInput false true))) ∧
    onceOK (autoRun (exInput false true) 200 (init (exInput false true))).events = false :=
  ⟨by decide +kernel, by decide +kernel, autoRun_reach 200 _ Reach.init, by decide +kernel⟩

/-- … and the repaired one evaluates it once on the same input; the placeholder nobody re-defined runs as an empty task -/
example :
    (autoRun (exInput false) 200 (init (exInput false))).susp = .stopIter ∧
    (autoRun (exInput false) 200 (init (exInput false))).events.reverse =
      [.start 0, .success 0, .creator 0, .start 1, .success 1, .start 2, .success 2, .start 3, .success 3] := by
  decide +kernel
/-- the hypotheses of the `created_obey` theorems hold for the example above -/
example : noRedefB (exInput true) = true ∧ trigB (exInput true) = true := by decide +kernel

/-! ### `noRedefB` is needed: static tasks 3 and 4, selection `[3, 1]`; task 3 runs first, then the creator of
    placeholder 1 (trigger 0) yields a task named 3 that depends on 4.  `tasks[3]` is re-defined after task 3 was
    executed; over the task table the ordering statement is false, over the node-held objects it holds.
    Replayed on doit (dodo: static t0, t3, t4; `@create_after(executed='t0') task_t1` yielding basenames `t1` and
    `t3` with `task_dep=['t4']`; `doit run t3 t1`): the static t3 runs, then t0, the creator, t1; the re-defined t3
    and t4 never run, exit 0 — the model's trace. -/

def exRedef : Input :=
  { tasks0 := [(0, { act := true, oid := 0 }), (1, { deps := [0], loader := some 0, oid := 1 }),
               (3, { act := true, oid := 3 }), (4, { act := true, oid := 4 })]
    targets0 := []
    creatorOf := fun _ => 0
    execOf := fun _ => some 0
    baseOf := fun _ => none
    gtarget := fun _ => 0
    gtasks0 := fun _ => []
    make := fun _ _ => [{ name := 1 }, { name := 3, deps := [4] }]
    sel := [3, 1] }

theorem created_obey_needs_noRedef :
    trigB exRedef = true ∧ noRedefB exRedef = false ∧
    Reach exRedef (autoRun exRedef 200 (init exRedef)) ∧
    (autoRun exRedef 200 (init exRedef)).events.reverse =
      [.start 3, .success 3, .start 0, .success 0, .creator 0, .start 1, .success 1] ∧
    obeyOK (dynDeps (autoRun exRedef 200 (init exRedef))) exRedef.noAct (autoRun exRedef 200 (init exRedef)).events = false ∧
    obeyOK (nodeDeps (autoRun exRedef 200 (init exRedef))) exRedef.noAct (autoRun exRedef 200 (init exRedef)).events = true :=
  ⟨by decide +kernel, by decide +kernel, autoRun_reach 200 _ Reach.init, by decide +kernel, by decide +kernel, by decide +kernel⟩

/-! ### non-vacuity of the target rule: trigger `0`; task 1 = the creator's own placeholder; task 5 = the
    `_regex_target…` placeholder of word 7 (loader copy 1 with basename 1, group 0 = {1}); selection `[5]`. -/

def exRx (produce : Bool) : Input :=
  { tasks0 := [(0, { act := true, oid := 0 }), (1, { deps := [0], loader := some 0, oid := 1 }),
               (5, { deps := [0], loader := some 1, fileDep := [7], rx := some 0, isRx := true, oid := 5 }),
               (9, { act := true, oid := 9 })]
    targets0 := []
    creatorOf := fun _ => 0
    execOf := fun _ => some 0
    baseOf := fun l => if l = 1 then some 1 else none
    gtarget := fun _ => 7
    gtasks0 := fun _ => [1]
    make := fun _ _ => if produce then [{ name := 1, targets := [7] }] else [{ name := 1 }]
    sel := [5] }

/-- the creator yields the producer of word 7: the placeholder is reset with the producer among its task_deps and
    runs after it; the unselected static task 9 is not touched -/
example :
    rxB (exRx true) = true ∧ trigB (exRx true) = true ∧ noRedefB (exRx true) = true ∧
    (autoRun (exRx true) 200 (init (exRx true))).susp = .stopIter ∧
    (autoRun (exRx true) 200 (init (exRx true))).events.reverse =
      [.start 0, .success 0, .creator 0, .start 1, .success 1, .start 5, .success 5] ∧
    (((autoRun (exRx true) 200 (init (exRx true))).nodes 5).map fun nd => (nd.task.deps, nd.task.loader, nd.task.rx)) =
      some ([0, 1], none, some 0) := by
  decide +kernel

/-- nobody produces word 7 and the group is exhausted: `notFound 7` -/
example :
    rxB (exRx false) = true ∧
    (autoRun (exRx false) 200 (init (exRx false))).susp = .err (.notFound 7) ∧
    (autoRun (exRx false) 200 (init (exRx false))).events.reverse = [.start 0, .success 0, .creator 0] := by
  decide +kernel

/-! ### `_filter_tasks`: task 0 = trigger, task 1 = placeholder of a creator with a target_regex that matches word 3;
    word 2 = the sub-task name `1:x` (base 1).  Selection `1:x out_y`. -/

def exPre (skip : Bool) : Pre :=
  { tasks := [(0, { act := true, oid := 0 }), (1, { deps := [0], loader := some 0, oid := 1 })]
    targets := []
    creatorOf := fun _ => 0
    execOf := fun _ => some 0
    hasRegex := fun _ => true
    rxMatch := fun _ w => w == 3
    rxName := fun _ t => 10 + t
    skipSub := skip }

def selectedAndBase (pre : Pre) (ws : List Word) : List Name × Option Name :=
  match process pre (some ws) with
  | .inr st => (st.selected, st.baseOf 0)
  | .inl _ => ([], none)

/-- repaired (46c8565): one regex placeholder, for the creator's own task; `loader.basename` stays the creator's task -/
example : selectedAndBase (exPre true) [⟨2, 1⟩, ⟨3, 3⟩] = ([2, 11], some 1) := by decide +kernel

/-- pinned (finding F-C15a; `seeded/revert-F-C15a`): the sub-task placeholder was matched as well and
    `loader.basename` ended up naming it, so the creator's tasks were created as `1:x:<sub>` -/
theorem pinned_filter_matches_subtask_placeholder :
    selectedAndBase (exPre false) [⟨2, 1⟩, ⟨3, 3⟩] = ([2, 11, 12], some 2) := by decide +kernel

/-! ### wave 5 — created tasks with `setup` / `calc_dep` / `getargs` edges: the extended system `Model/DelayedX.lean`

`DelayedX` is the transition system above plus the calc_dep section (`node.calc_dep`, `wait_run_calc`,
`_process_calc_dep_results`: delivered task_deps are appended to the `Task` object and to `node.task_dep`), the setup
section (`yield this_task` twice, `select_task` twice, `wait_select`) and getargs (= a setup edge).  K runs through it
for every case in which a created task has one of these edges.  The theorems above are about the `task_dep`-only
system; about `DelayedX` the following is proved / stated. -/

/-- **created task starts only after task_dep AND calc_dep AND setup** (statement; NOT proved): in every reachable
    state of the extended system every `start t` in the trace is preceded by a good report of every task_dep
    (what calc_deps delivered included) and every setup-task (getargs sources included) of the object the node of `t`
    holds, and by a terminal report of every calc_dep.  The driver evaluates exactly this predicate on the model run
    that accepts each implementation trace (evidence counter `X:startAfterOK-false-on-accepted-model-run`, must stay
    absent); the monitor `obeyOK` evaluates the stronger "good report of all of them" on the implementation's trace.
    Missing for a proof: the `NodeG`-style invariant of `Proofs/C15Obey*.lean` redone over `DelayedX.Node`
    (`waitCalc` next to `waitRun`, the second waiting phase between the two selections). -/
def C15X_created_start_after_all_full : Prop :=
  ∀ (inp : Input) (s : DelayedX.Sys), DelayedX.Reach inp s →
    DelayedX.startAfterOK (fun t => DelayedX.nodeDeps s t ++ DelayedX.nodeSetup s t) (DelayedX.nodeCalc s) s.events = true

/-- proved part, every runner and schedule: a step that writes `start n` is a `select_task(n)` on a node that is not
    marked `bad` (no failed / ignored task_dep, calc_dep or setup-task was seen by `parent_status`), and for a task with
    setup-tasks — a created one as well — it is the SECOND selection (`run_status == 'run'`): the first selection hands
    the node back so that `_add_task` schedules the setup-tasks (`DelayedX.selectStep`), it never starts the task. -/
theorem C15X_created_start_after_all_partial (inp : Input) (s s' : DelayedX.Sys) (c : Choice)
    (h : DelayedX.step inp s c = some s') (n : Name) (hev : s'.events = Ev.start n :: s.events) :
    s.susp = .yielded n ∧ ∃ nd, s.nodes n = some nd ∧ nd.bad = false ∧
      ((nd.task.setup = [] ∧ nd.status = .none ∧ inp.utd n = false) ∨
       (nd.task.setup ≠ [] ∧ nd.status = .run ∧ n ∉ s.running)) :=
  DelayedX.step_start_guard h n hev

/-- the dispatcher half of the extended system (`_add_task` with its calc_dep, loader and setup sections,
    `_get_next_node`, `_check_deadlock`) writes no event except a creator evaluation: setup-tasks and calc_deps are
    scheduled, never started, by it -/
theorem C15X_dispatcher_writes_only_creator (inp : Input) (s : DelayedX.Sys) :
    (DelayedX.dtick inp s).events = s.events ∨ ∃ c, (DelayedX.dtick inp s).events = Ev.creator c :: s.events :=
  DelayedX.dtick_quiet inp s

/-- non-vacuity, all three edge kinds on ONE created task: trigger 0; placeholder 1 (creator 0, `executed = 0`); the
    creator yields task 3 and task 1 with `task_dep=[7]`, `setup=[4]` + `getargs` from 3 (`setup_tasks = [4, 3]`),
    `calc_dep=[5]`; calc task 5 delivers `task_dep=[6]`. -/
def exAll : Input :=
  { tasks0 := [(0, { act := true, oid := 0 }), (1, { deps := [0], loader := some 0, oid := 1 }),
               (4, { act := true, oid := 4 }), (5, { act := true, oid := 5 }), (6, { act := true, oid := 6 }),
               (7, { act := true, oid := 7 })]
    targets0 := []
    creatorOf := fun _ => 0
    execOf := fun _ => some 0
    baseOf := fun _ => none
    gtarget := fun _ => 0
    gtasks0 := fun _ => []
    make := fun _ _ => [{ name := 3 }, { name := 1, deps := [7], setup := [4, 3], calcDep := [5] }]
    delivers := fun n => if n = 5 then [6] else []
    sel := [1] }

/-- the created task 1 starts last: after its calc_dep 5, its task_dep 7, the delivered task_dep 6 and — scheduled only
    after its first selection — its setup-tasks 4 and 3; the statement `C15X_created_start_after_all_full` holds of
    the run, over the edges the node holds at the end (`[7, 6]`, `[4, 3]`, `[5]`) -/
example :
    (DelayedX.autoRun exAll 400 (DelayedX.init exAll)).susp = .stopIter ∧
    (DelayedX.autoRun exAll 400 (DelayedX.init exAll)).events.reverse =
      [.start 0, .success 0, .creator 0, .start 5, .success 5, .start 7, .success 7, .start 6, .success 6,
       .start 4, .success 4, .start 3, .success 3, .start 1, .success 1] ∧
    (DelayedX.nodeDeps (DelayedX.autoRun exAll 400 (DelayedX.init exAll)) 1,
     DelayedX.nodeSetup (DelayedX.autoRun exAll 400 (DelayedX.init exAll)) 1,
     DelayedX.nodeCalc (DelayedX.autoRun exAll 400 (DelayedX.init exAll)) 1) = ([7, 6], [4, 3], [5]) ∧
    DelayedX.startAfterOK
      (fun t => DelayedX.nodeDeps (DelayedX.autoRun exAll 400 (DelayedX.init exAll)) t ++
                DelayedX.nodeSetup (DelayedX.autoRun exAll 400 (DelayedX.init exAll)) t)
      (DelayedX.nodeCalc (DelayedX.autoRun exAll 400 (DelayedX.init exAll)))
      (DelayedX.autoRun exAll 400 (DelayedX.init exAll)).events = true := by
  decide +kernel

example : DelayedX.Reach exAll (DelayedX.autoRun exAll 400 (DelayedX.init exAll)) :=
  DelayedX.autoRun_reach 400 _ DelayedX.Reach.init

/-- the guard theorem is not vacuous: the step that starts the created task 1 of `exAll` exists (state after 107
    default steps is `yielded 1` with `run_status = run`, i.e. its second selection) -/
example :
    ∃ k, (DelayedX.autoRun exAll k (DelayedX.init exAll)).susp = .yielded 1 ∧
      (((DelayedX.autoRun exAll k (DelayedX.init exAll)).nodes 1).map fun nd => (nd.status, nd.task.setup)) =
        some (.run, [4, 3]) := by
  refine ⟨107, ?_⟩
  decide +kernel

/-! ### repair of finding C05 `delayed-group-subtasks-run` (`TaskDispatcher.inherited_status`) in both systems

When a creator is evaluated through a placeholder node that has bad_deps (its `executed` task failed / is unmet), every
task name of the batch is remembered (`Sys.inherited`) and the node `_gen_node` makes later for such a name starts
with the mark (`mkNodeI`).  All theorems above are about the systems with this mark. -/

/-- the trigger 0 of `exInput` fails (`--continue`); the creator is still evaluated and yields 1, 2 (depends on 7) and
    a NEW task 7 without any dependency -/
def exInherit : Input :=
  { exInput true with
    fails := fun n => n = 0
    continue_ := true
    make := fun _ _ => [{ name := 1 }, { name := 2, deps := [7] }, { name := 7 }] }

/-- the created task 7 — whose node is made after the creator ran and which depends on nothing — is reported `unmet`,
    not started: it inherited the placeholder's bad_deps (doit without `inherited_status` ran it: finding C05) -/
theorem inherited_unmet_not_started :
    Reach exInherit (autoRun exInherit 300 (init exInherit)) ∧
    (autoRun exInherit 300 (init exInherit)).susp = .stopIter ∧
    (autoRun exInherit 300 (init exInherit)).events.reverse =
      [.start 0, .failure 0, .creator 0, .unmet 1, .unmet 7, .unmet 2, .unmet 3] ∧
    (autoRun exInherit 300 (init exInherit)).inherited 7 = true :=
  ⟨autoRun_reach 300 _ Reach.init, by decide +kernel, by decide +kernel, by decide +kernel⟩

end DoitModel.C15
