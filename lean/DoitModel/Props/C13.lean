import DoitModel.Proofs.C13Forget
import DoitModel.Proofs.C13Fuel
import DoitModel.Proofs.C13Ignore
import DoitModel.Proofs.C13Reset
import DoitModel.Proofs.C13Spec
/-! # C13 — forget, ignore and reset-dep have exactly their documented effect

Model: `Model/Cmds.lean` (task graph, target lists of the three commands, a run that honours ignore marks) on the
M2 state of `Model/Status.lean`.  Only property theorems, their non-vacuity examples and the counterexample
theorems of the three pinned defects (F-C13a, b, c) live here; lemmas are in `Proofs/C13*.lean`. -/
namespace DoitModel.C13
open DoitModel.Status DoitModel.Cmds

/-- **forget (effect on the DB).**  For every well-formed task set (every declared `task_dep` / `setup` names a task:
    enforced by the loader, C18; decidable, evaluated by the driver on every case), DB state, argument form and
    `default_tasks` setting: unless an argument names no task (then nothing changes, `C13_forget_unknown_name`), after
    `forget` the record of every task of the documented selection `ForgetSel` is empty, every other record is what it
    was, and files, task definitions and checker are untouched. -/
theorem C13_forget (g : Graph) (hwf : g.WF = true) (a : ForgetArgs) (dflt : Option (List Name)) (s : St)
    (hknown : ∀ n, forgetTarget true g a dflt ≠ .notATask n) :
    (∀ x, ForgetSel g a dflt x → (forgetCmd true g a dflt s).rcd x = Rcd.empty) ∧
    (∀ x, ¬ForgetSel g a dflt x → (forgetCmd true g a dflt s).rcd x = s.rcd x) ∧
    (forgetCmd true g a dflt s).fs = s.fs ∧ (forgetCmd true g a dflt s).defs = s.defs := by
  have hfuel := forgetTarget_ne_fuel true g hwf a dflt
  have hspec := forgetTarget_spec g a dflt
  unfold forgetCmd
  cases ht : forgetTarget true g a dflt with
  | tasks l =>
    rw [ht] at hspec
    have hsh := taskFold_shape erase_shape l s
    exact ⟨fun x hx => (eraseList_rcd l s x).trans (if_pos ((hspec x).2 hx)),
      fun x hx => hsh.1 x fun h => hx ((hspec x).1 h), hsh.2.1, hsh.2.2.1⟩
  | everything =>
    simp only
    rw [ht] at hspec
    exact ⟨fun x _ => rfl, fun x hx => absurd (hspec x) hx, rfl, rfl⟩
  | nothing =>
    rw [ht] at hspec
    exact ⟨fun x hx => absurd hx (hspec x), fun x _ => rfl, rfl, rfl⟩
  | notATask n => exact absurd ht (hknown n)
  | crash => rw [ht] at hspec; exact hspec.elim
  | fuel => exact absurd ht hfuel

/-- the closure iteration of the model (`tasks_and_deps_iter`) always ends within its fuel -/
theorem C13_forget_fuel_suffices (fixed : Bool) (g : Graph) (hwf : g.WF = true) (a : ForgetArgs)
    (dflt : Option (List Name)) : forgetTarget fixed g a dflt ≠ .fuel := forgetTarget_ne_fuel fixed g hwf a dflt

/-- **forget ignores `calc_dep`.**  Neither the target list nor the effect of `forget` (any argument form, also
    `--follow-sub`) depends on the `calc_dep` edges of the task set: a task that only *provides* calculated
    dependencies to a forgotten task keeps its saved state and its ignore mark (it is in `ForgetSel` only if it is
    named or reached over declared `task_dep` / `setup` edges, `C13_forget`). -/
theorem C13_forget_ignores_calc_dep (fixed : Bool) (g : Graph) (c : Name → List Name) (a : ForgetArgs)
    (dflt : Option (List Name)) (s : St) :
    forgetTarget fixed { g with calcDep := c } a dflt = forgetTarget fixed g a dflt ∧
    forgetCmd fixed { g with calcDep := c } a dflt s = forgetCmd fixed g a dflt s := by
  refine ⟨forgetTarget_calcDep fixed g c a dflt, ?_⟩
  unfold forgetCmd
  rw [forgetTarget_calcDep]

/-- an argument (or a configured default task) that names no task: the command is rejected, nothing is forgotten -/
theorem C13_forget_unknown_name (g : Graph) (a : ForgetArgs) (dflt : Option (List Name)) (s : St) (n : Name)
    (h : forgetTarget true g a dflt = .notATask n) :
    forgetCmd true g a dflt s = s ∧ n ∉ g.names ∧ n ∈ (selTasks a.names dflt).getD [] := by
  have hspec := forgetTarget_spec g a dflt
  rw [h] at hspec
  exact ⟨by simp [forgetCmd, h], hspec.2.2, hspec.2.1⟩

/-- `--follow-sub` follows *setup* edges and the sub-tasks of a group: `b: setup=[a]`, group `2` with sub-task `3`
    that has `task_dep=[b]`; `forget -s 2` clears 2, 3, b and a, and nothing else (task 4) -/
def gEx : Graph :=
  { names := [0, 1, 2, 3, 4]
    taskDep := fun t => if t = 2 then [3] else if t = 3 then [1] else []
    setup := fun t => if t = 1 then [0] else []
    subOf := fun t => if t = 3 then some 2 else none }

example : gEx.WF = true := by decide

/-- non-vacuity: task 4 gets `calc_dep = [0]`; `forget -s 4` still clears only task 4, while the run hands `0` over
    before `4` (`hardDeps`) -/
example : forgetTarget true { gEx with calcDep := fun t => if t = 4 then [0] else [] } ⟨[4], true, false, false⟩ none
      = .tasks [4] ∧
    hardDeps { gEx with calcDep := fun t => if t = 4 then [0] else [] } (fun _ => TaskDef.empty) 4 = [0] := by decide

example : forgetTarget true gEx ⟨[2], true, false, false⟩ none = .tasks [2, 3, 1, 0] := by decide
example : forgetTarget true gEx ⟨[2], false, false, false⟩ none = .tasks [2, 3] := by decide
example : forgetTarget true gEx ⟨[], false, false, false⟩ (some [4]) = .tasks [4] := by decide
example : forgetTarget true gEx ⟨[], false, false, false⟩ none = .tasks [0, 1, 2, 3, 3, 4] := by decide
example : forgetTarget true gEx ⟨[7], false, false, false⟩ none = .notATask 7 := by decide

/-- F-C13a, the pinned tree: `doit forget` with no argument and no `default_tasks` iterates over `None`
    (`TypeError`), nothing is forgotten; the repaired code forgets every task -/
theorem C13_pinned_forget_counterexample :
    forgetTarget false gEx ⟨[], false, false, false⟩ none = .crash ∧
    forgetTarget false gEx ⟨[], true, false, false⟩ none = .crash ∧
    forgetTarget true gEx ⟨[], false, false, false⟩ none = .tasks [0, 1, 2, 3, 3, 4] := by decide

/-- **forget (next run).**  A forgotten task -- its record is empty, `C13_forget` -- whose up-to-date decision consults
    saved state (it has a file dependency) is not skipped as up-to-date in the next run, whatever the selection, the
    hand-over order and the other tasks do (`statusOf_empty`: the status is `run`, or `error` when a
    dependency is missing).  Tasks whose only criteria are constant `uptodate` items are documented to be up-to-date
    without saved state (DESIGN §5, readings). -/
theorem C13_forgotten_not_skipped (g : Graph) (s : St) (order : List Name) (always : Bool) (plan : Name → Plan)
    (hnd : order.Nodup) (t : Name) (ht : t ∈ order) (hr : s.rcd t = Rcd.empty) (hd : (s.defs t).deps ≠ []) :
    ∃ o, outOf (runAll true always g plan s order) t = some o ∧ o ≠ .upToDate := by
  obtain ⟨pre, post, hsplit⟩ := List.append_of_mem ht
  subst hsplit
  have hnd' := List.nodup_append.1 hnd
  have htpre : t ∉ pre := fun h => hnd'.2.2 t h t List.mem_cons_self rfl
  have htpost : t ∉ post := (List.nodup_cons.1 hnd'.2.1).1
  unfold runAll
  rw [List.foldl_append, List.foldl_cons]
  obtain ⟨f1, f2, _⟩ := runFold_frame true always g plan pre ⟨s, [], false⟩ t htpre
  have hne := runOne_forgotten true always g plan (pre.foldl (runOne true always g plan) ⟨s, [], false⟩) t
    (f1.trans hr) (by rw [f2]; exact hd)
  obtain ⟨o, hout, _, _, _⟩ := runOne_shape true always g plan (pre.foldl (runOne true always g plan) ⟨s, [], false⟩) t
  obtain ⟨_, _, g3⟩ := runFold_frame true always g plan post
    (runOne true always g plan (pre.foldl (runOne true always g plan) ⟨s, [], false⟩) t) t htpost
  exact ⟨o, g3.trans (outOf_cons_self hout), fun ho => hne (ho ▸ hout)⟩

/-- ... and when nothing else stands in the way (no ignored / failed dependency or setup-task, every file
    dependency present) it is executed -/
theorem C13_forgotten_status (fixed : Bool) (s : St) (t : Name) (hr : s.rcd t = Rcd.empty)
    (hd : (s.defs t).deps ≠ []) (hp : (s.defs t).deps.any (depMissing s.fs) = false) : s.status fixed t = .run := by
  unfold St.status; rw [hr]
  rcases statusOf_empty fixed s.checker (s.defs t) s.fs s.resOf hd with h | h
  · exact h
  · rw [hp] at h; exact absurd h.2 (by simp)

/-- **ignore (the command).**  `doit ignore names` (all names known, at least one): exactly the named tasks and their
    sub-tasks get the mark, the rest of their records and every other record, the files and the definitions are
    untouched. -/
theorem C13_ignore_cmd (g : Graph) (names l : List Name) (s : St) (h : ignoreTarget g names = .tasks l) :
    (∀ x, x ∈ l ↔ x ∈ names ∨ ∃ t ∈ names, x ∈ subtasks g t) ∧
    (∀ x, x ∈ l → (ignoreCmd g names s).rcd x = { s.rcd x with ign := true }) ∧
    (∀ x, x ∉ l → (ignoreCmd g names s).rcd x = s.rcd x) ∧
    (ignoreCmd g names s).fs = s.fs ∧ (ignoreCmd g names s).defs = s.defs := by
  have hl : l = withSubs g names := by
    unfold ignoreTarget at h
    split at h
    · cases h
    · split at h
      · cases h
      · injection h with h; exact h.symm
  subst hl
  have hsh := taskFold_shape setIgn_shape (withSubs g names) s
  have hcmd : ignoreCmd g names s = ignList s (withSubs g names) := by rw [ignoreCmd, h]
  rw [hcmd]
  exact ⟨fun x => mem_withSubs g names x, fun x hx => (ignList_rcd _ s x).trans (if_pos hx), hsh.1, hsh.2.1, hsh.2.2.1⟩

/-- **ignore (any later run).**  In every run -- any selection, flags, action outcomes, and any hand-over order
    without repetition in which no task is handed over before a dependency it needs has its report (`bad = false`;
    that is C01's theorem about the dispatcher, evaluated by the driver on every observed run) -- every processed task
    that carries the mark or reaches a marked task over `task_dep` edges (declared or implicit through a target) is
    reported ignored, and every processed task with such a task among its setup-tasks is not executed.  (The monitor
    is stricter on the last clause: such a task must be reported ignored / up-to-date / dependency-error, or unmet
    only when one of its `task_dep`s failed -- the model satisfies that too, `runOne` checks the ignored setup-tasks
    before the failed ones; it is not part of this statement.) -/
theorem C13_ignore_run (g : Graph) (s : St) (order : List Name) (always : Bool) (plan : Name → Plan)
    (hnd : order.Nodup) (hbad : (runAll true always g plan s order).bad = false) (t : Name) (ht : t ∈ order) :
    (IgnReach g s.defs (fun k => (s.rcd k).ign) t → outOf (runAll true always g plan s order) t = some .ignored) ∧
    ((∃ d, d ∈ g.setup t ∧ IgnReach g s.defs (fun k => (s.rcd k).ign) d) →
      ∃ o, outOf (runAll true always g plan s order) t = some o ∧ o.executed = false) := by
  have h0 : RunInv g s.defs (fun k => (s.rcd k).ign) [] ⟨s, [], false⟩ :=
    ⟨rfl, fun _ _ => rfl, fun _ _ => rfl, fun _ hk => absurd hk (by simp)⟩
  have h02 : SetupInv g s.defs (fun k => (s.rcd k).ign) [] ⟨s, [], false⟩ := fun _ hk => absurd hk (by simp)
  obtain ⟨i1, i2⟩ := runFold_done
    (P := fun done rs => RunInv g s.defs (fun k => (s.rcd k).ign) done rs ∧ SetupInv g s.defs (fun k => (s.rcd k).ign) done rs)
    true always g plan (fun done rs t ht hb h => ⟨runOne_inv true always g plan _ _ done rs t ht h.1 hb,
      runOne_setupInv always g plan _ _ done rs t ht hb h.1 h.2⟩)
    order [] ⟨s, [], false⟩ hnd (fun _ _ => by simp) ⟨h0, h02⟩ hbad
  have hmem : t ∈ order.reverse ++ [] := by simp [ht]
  exact ⟨fun hr => i1.ignored t hmem hr, fun hex => i2 t hmem hex⟩

/-- the operations after which a mark on `T` is still there: everything except a `forget` whose documented selection
    contains `T` (file edits, runs, `reset-dep`, further `ignore`s, changes of `--check_file_uptodate`, `forget`s of
    other tasks) -/
def keeps (g : Graph) (T : Name) : COp → Prop
  | .forget a dflt => ¬ForgetSel g a dflt T
  | _ => True

/-- **ignore (until forgotten).**  From any DB state the mark survives every history that does not forget the task:
    file edits, runs (whatever they execute, fail or skip), `reset-dep`s, changes of the configured checker, further
    `ignore`s and `forget`s of other tasks.  (Before 017f29e `reset-dep` after a checker change dropped the mark:
    `C13_pinned_resetdep_counterexample`.) -/
theorem C13_ignore_persists (g : Graph) (T : Name) (h : List COp) (s : St) (hs : (s.rcd T).ign = true)
    (hk : ∀ op ∈ h, keeps g T op) : ((runC true g s h).rcd T).ign = true := by
  induction h generalizing s with
  | nil => exact hs
  | cons op ops ih =>
    simp only [runC, List.foldl_cons]
    apply ih
    · cases op with
      | edit p sz c => rw [(stepC_file_rcd g s p sz c).1]; exact hs
      | touch p => rw [(stepC_file_rcd g s p 0 0).2.1]; exact hs
      | delete p => rw [(stepC_file_rcd g s p 0 0).2.2]; exact hs
      | checker c => exact hs
      | forget a dflt => exact (forgetCmd_keeps g a dflt s T (hk _ List.mem_cons_self)).symm ▸ hs
      | ignore names => exact ignoreCmd_keeps_ign g names s T hs
      | reset names => exact resetCmd_keeps_ign g names s T hs
      | run order always plan => exact runAll_keeps_ign true always g plan order _ T hs
      | firstPass ts => exact firstPass_keeps_ign ts s T hs
    · intro o ho; exact hk o (List.mem_cons_of_mem _ ho)

def gOne : Graph := { names := [0], taskDep := fun _ => [], setup := fun _ => [], subOf := fun _ => none }

/-- task 0 (`file_dep=[f0]`) has run once under md5 and is then ignored -/
def sMarked : St :=
  let s0 := initC (fun t => if t = 0 then ⟨[0], [], []⟩ else TaskDef.empty) .md5
  setIgn (runTask true (step true s0 (.edit 0 4 1)) 0 true false [] none) 0

/-- F-C13c, the tree before 017f29e: `0` is ignored, the checker changes, `reset-dep 0`: `get_status` drops the whole
    record and the mark is gone although nothing was forgotten; the repaired command re-applies it (and keeps values
    and result as before) -/
theorem C13_pinned_resetdep_counterexample :
    ((runC false gOne sMarked [.checker .ts, .reset [0]]).rcd 0).ign = false ∧
    ((runC true gOne sMarked [.checker .ts, .reset [0]]).rcd 0).ign = true ∧
    ((runC true gOne sMarked [.checker .ts, .reset [0]]).rcd 0).checker = some .ts := by decide

/-- **ignore, as stated.**  After an accepted `ignore names`, through any such history, in any later run: the named
    tasks, their sub-tasks and everything reaching them over `task_dep` edges is reported ignored; tasks having one of
    them as setup-task are not executed. -/
theorem C13_ignore (g : Graph) (names l : List Name) (s0 : St) (h : List COp) (T : Name)
    (hacc : ignoreTarget g names = .tasks l) (hT : T ∈ l) (hk : ∀ op ∈ h, keeps g T op)
    (order : List Name) (always : Bool) (plan : Name → Plan) (hnd : order.Nodup)
    (hbad : (runAll true always g plan (runC true g (ignoreCmd g names s0) h) order).bad = false)
    (t : Name) (ht : t ∈ order) :
    (IgnReach g (runC true g (ignoreCmd g names s0) h).defs (fun k => k = T) t →
      outOf (runAll true always g plan (runC true g (ignoreCmd g names s0) h) order) t = some .ignored) ∧
    ((∃ d, d ∈ g.setup t ∧ IgnReach g (runC true g (ignoreCmd g names s0) h).defs (fun k => k = T) d) →
      ∃ o, outOf (runAll true always g plan (runC true g (ignoreCmd g names s0) h) order) t = some o ∧ o.executed = false) := by
  have hmark : ((ignoreCmd g names s0).rcd T).ign = true := by
    rw [(C13_ignore_cmd g names l s0 hacc).2.1 T hT]
  have hlater := C13_ignore_persists g T h _ hmark hk
  have mono : ∀ x, IgnReach g (runC true g (ignoreCmd g names s0) h).defs (fun k => k = T) x →
      IgnReach g (runC true g (ignoreCmd g names s0) h).defs
        (fun k => ((runC true g (ignoreCmd g names s0) h).rcd k).ign) x := by
    intro x hx
    induction hx with
    | mark hm => exact IgnReach.mark (by simp at hm; subst hm; exact hlater)
    | dep hd _ ih => exact IgnReach.dep hd ih
  have := C13_ignore_run g _ order always plan hnd hbad t ht
  exact ⟨fun hr => this.1 (mono t hr), fun ⟨d, hd, hr⟩ => this.2 ⟨d, hd, mono d hr⟩⟩

/-- non-vacuity of `C13_ignore_run`: `1` has `task_dep=[0]`, `2` has `setup=[0]` and would run, `3` is unrelated;
    `0` is ignored: `0` and `1` are reported ignored, `2` is not executed, `3` executes; the order flag is clean -/
def gIgn : Graph :=
  { names := [0, 1, 2, 3]
    taskDep := fun t => if t = 1 then [0] else []
    setup := fun t => if t = 2 then [0] else []
    subOf := fun _ => none }

def sIgn : St := setIgn (initC (fun _ => TaskDef.empty) .md5) 0
def noPlan : Name → Plan := fun _ => ⟨true, [], none⟩

example : (runAll true false gIgn noPlan sIgn [0, 1, 2, 3]).out.reverse =
    [(0, .ignored), (1, .ignored), (2, .ignored), (3, .ok)] ∧
    (runAll true false gIgn noPlan sIgn [0, 1, 2, 3]).bad = false := by decide

/-- F-C05 / F-C13b, the pinned tree: the second `select_task` pass does not look at the setup-tasks' reports: task `2`
    (setup-task `0` ignored) is executed; the repaired code reports it ignored -/
theorem C13_pinned_setup_counterexample :
    outOf (runAll false false gIgn noPlan sIgn [0, 1, 2, 3]) 2 = some .ok ∧
    outOf (runAll true false gIgn noPlan sIgn [0, 1, 2, 3]) 2 = some .ignored := by decide

/-- **reset-dep.**  `doit reset-dep names` (all names known; none = every task), no `TypeError` of a checker on a
    state of the other checker's shape (`crashed`, M2's explicit error state): the command acts on the named tasks
    and their sub-tasks; no other record changes; for a selected task with a missing file dependency nothing is
    recorded; for every other selected task the record afterwards judges each file dependency unmodified against the
    present file, values and result are the saved ones, and its status is up-to-date unless an early exit of
    `get_status` fires: a false `uptodate` item, a missing target, or no dependency at all. -/
theorem C13_resetdep (g : Graph) (names l : List Name) (s : St) (h : resetTarget g names = .tasks l)
    (hc : (resetCmd g names s).crashed = false) :
    (∀ x, x ∈ l ↔ (names = [] ∧ x ∈ g.names) ∨ x ∈ names ∨ ∃ t ∈ names, x ∈ subtasks g t) ∧
    (∀ t, t ∉ l → (resetCmd g names s).rcd t = s.rcd t) ∧
    (∀ t, (s.defs t).deps.any (depMissing s.fs) = true → (resetCmd g names s).rcd t = s.rcd t) ∧
    (∀ t, t ∈ l → (s.defs t).deps.any (depMissing s.fs) = false →
      resetRecOk s.checker (s.defs t) (s.rcd t) ((resetCmd g names s).rcd t) s.fs = true ∧
      (resetCmd g names s).status true t =
        if earlyRun (s.defs t) ((resetCmd g names s).rcd t).getValues (resetCmd g names s).resOf s.fs then .run
        else .upToDate) ∧
    (resetCmd g names s).fs = s.fs ∧ (resetCmd g names s).defs = s.defs := by
  have hcmd : resetCmd g names s = resetList s l := by simp [resetCmd, h]
  rw [hcmd] at hc ⊢
  obtain ⟨fr, ffs, fdefs, fck⟩ := resetList_frame l s
  refine ⟨?_, fr, fun t hm => resetList_missing l s t hm, ?_, ffs, fdefs⟩
  · intro x
    unfold resetTarget at h
    cases names with
    | nil => obtain rfl := Target.tasks.inj h; simp
    | cons n ns =>
      rw [List.isEmpty_cons, if_neg Bool.false_ne_true] at h
      cases hu : firstUnknown g (n :: ns) with
      | some u => rw [hu] at h; cases h
      | none =>
        rw [hu] at h
        obtain rfl := Target.tasks.inj h
        rw [mem_withSubs]; simp
  · intro t ht hm
    obtain ⟨h1, h2⟩ := resetList_present l s hc t ht hm
    refine ⟨h1, ?_⟩
    unfold St.status
    rw [fck, fdefs, ffs]
    exact statusOf_of_lateOk _ _ _ _ _ h2

/-- non-vacuity: task 0 (`file_dep=[f0]`, target `f1`, both files present, saved state of another content) is not
    up-to-date; after `reset-dep` it is, its values and result are the saved ones, and the record changed -/
def sReset : St :=
  let d : TaskDef := ⟨[0], [1], []⟩
  let s0 := initC (fun t => if t = 0 then d else TaskDef.empty) .md5
  let s1 := step true (step true s0 (.edit 0 4 1)) (.edit 1 4 2)
  let s2 := runTask true s1 0 true false [] (some 7)
  step true s2 (.edit 0 5 3)

example : sReset.status true 0 = .run ∧ (resetCmd gOne [] sReset).status true 0 = .upToDate ∧
    ((resetCmd gOne [] sReset).rcd 0).result = some 7 ∧ (resetCmd gOne [] sReset).crashed = false ∧
    ((resetCmd gOne [] sReset).rcd 0).fstate 0 = some (.md5 3 5 3) ∧ (sReset.rcd 0).fstate 0 = some (.md5 1 4 1) := by
  decide

/-! ## the monitor's specification sets

The monitor (P) compares the implementation's DB dumps and reports with sets computed by the driver through the
executable functions `forgetSpec` and `ignClosure` (saturation, independent of the model of the code).  They are the
declarative sets of the theorems above whenever their fixpoint flags hold; the driver evaluates the flags on every
case (`closed`), the harness treats a false flag as a broken check. -/

theorem C13_monitor_forget_spec (g : Graph) (a : ForgetArgs) (dflt : Option (List Name))
    (hc : forgetSpecClosed g a dflt = true) (x : Name) :
    (match forgetSpec g a dflt with
     | none => True
     | some L => x ∈ L) ↔ ForgetSel g a dflt x := by
  unfold forgetSpec
  by_cases hall : a.all = true
  · rw [if_pos hall]; exact ⟨fun _ => Or.inl hall, fun _ => trivial⟩
  by_cases hn : (a.names.isEmpty && a.disableDefault) = true
  · rw [if_neg hall, if_pos hn]; exact ⟨nofun, fun h => absurd h (not_forgetSel hall hn)⟩
  rw [if_neg hall, if_neg hn, forgetSel_iff hall hn]
  by_cases hs : a.followSub = true
  · unfold forgetSpecClosed closureOf at hc
    rw [hs] at hc
    rw [if_pos hs, if_pos hs]
    exact saturate_iff_reach g _ _ hc x
  · rw [if_neg hs, if_neg hs]
    exact mem_withSubs g _ x

theorem C13_monitor_ignore_spec (g : Graph) (defs : Name → TaskDef) (marks : List Name) (hwf : g.WF = true)
    (hc : ignClosedB g defs (ignClosure g defs marks) = true) (x : Name) (hx : x ∈ g.names) :
    x ∈ ignClosure g defs marks ↔ IgnReach g defs (fun k => decide (k ∈ marks)) x := by
  unfold ignClosure at hc ⊢
  constructor
  · apply ignIter_sound
    intro y hy
    exact IgnReach.mark (by simpa using hy)
  · intro hr
    -- reachability only passes through hard dependencies; members of the task set are caught by closedness
    have key : ∀ y, IgnReach g defs (fun k => decide (k ∈ marks)) y → y ∈ g.names →
        y ∈ ignIter g defs g.names.length marks := by
      intro y hy
      induction hy with
      | mark hm => intro _; exact ignIter_mono g defs _ marks _ (by simpa using hm)
      | dep hd hrd ih =>
        rename_i t d
        intro ht
        unfold ignClosedB at hc
        have := List.all_eq_true.1 hc t ht
        simp only [Bool.or_eq_true, List.contains_eq_mem, decide_eq_true_eq, Bool.not_eq_true', List.any_eq_false] at this
        rcases this with h1 | h1
        · exact h1
        · -- d is a hard dependency of t, hence in the task set (WF / implicit deps are tasks): ih puts it in S
          have hdn : d ∈ g.names := by
            rcases List.mem_append.1 hd with h2 | h2
            · refine wf_mem hwf ht ?_
              rcases List.mem_append.1 h2 with h3 | h3
              · exact List.mem_append_left _ (List.mem_append_left _ h3)
              · exact List.mem_append_right _ h3
            · exact (List.mem_filter.1 h2).1
          exact absurd (ih hdn) (h1 d hd)
    exact key x hr hx

example : forgetSpec gEx ⟨[2], true, false, false⟩ none = some [2, 3, 1, 0] ∧
    forgetSpecClosed gEx ⟨[2], true, false, false⟩ none = true := by decide

end DoitModel.C13
