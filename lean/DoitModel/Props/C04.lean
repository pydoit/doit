import DoitModel.Proofs.StatusDecision
import DoitModel.Props.C03
import DoitModel.Proofs.UtdTools
/-! # C04 — an unchanged task is never re-executed (minimal rebuild)

Property theorems only.  Same model, histories and invariant as C03 (`Props/C03.lean`); this is the converse
direction plus the two corollaries named in the property text.  Serial and parallel runners compute the status in
the main process from the same `Dependency` object, so the runner kind does not enter the model (it is exercised by
the correspondence harness). -/
namespace DoitModel.C04
open DoitModel.Status

/-- **C04.**  After every prefix of every history: if none of the not-up-to-date conditions holds for a task —
    the specification, which never looks at the DB, is true — then `get_status` answers `up-to-date`, so the runner
    does not execute it (absent `--always-execute`). -/
theorem C04_minimal (h : List Op) (hf : Faithful h = true) (k : Nat) (t : Name) :
    (runHist true (h.take k)).spec t = true → (runHist true (h.take k)).status true t = .upToDate :=
  (decision_eq_spec (hist_inv _ (C03.faithful_take h k hf)) t).mpr

/-- the runner really leaves an unchanged task alone: no execution, no change of record, files or ghost state -/
theorem C04_not_executed (h : List Op) (hf : Faithful h = true) (t : Name) (ok : Bool)
    (ws : List (Path × Nat × Nat)) (res : Option Res) :
    let σ := runHist true h
    σ.spec t = true → runTask true σ t ok false ws res = σ := by
  intro σ hs
  have hst := (decision_eq_spec (hist_inv _ hf) t).mpr hs
  unfold runTask
  by_cases hi : (σ.rcd t).ign = true
  · rw [if_pos hi]
  · rw [if_neg hi, hst]; rfl

/-- the status right after `process_task_result` recorded a success -/
theorem status_after_commit {s : St} (hinv : Inv s) (t : Name) (res : Option Res) (r : Rcd)
    (hs : saveSuccess s.checker (s.defs t).deps (s.rcd t) s.fs (newValues (s.defs t) s.resOf) res = .ok r) :
    (finish s t true res).status true t = .upToDate ∨
    earlyRun (s.defs t) (newValues (s.defs t) s.resOf) (finish s t true res).resOf s.fs = true := by
  have hfin : finish s t true res
      = commit s t r ⟨(s.defs t).deps, s.fs, newValues (s.defs t) s.resOf, r.result, s.checker⟩ := by
    unfold finish; rw [if_pos rfl, hs]
  have hinv' : Inv (finish s t true res) := (finish_steps (fixed := true) s t true res).preserves (fun _ _ => Prim.inv) hinv
  rw [decision_eq_spec hinv' t, resOf_eq_specRes hinv', hfin]
  unfold St.spec
  rw [show (commit s t r _).shadow t = some _ from if_pos rfl, specUpToDate_some]
  by_cases hE : earlyRun (s.defs t) (newValues (s.defs t) s.resOf)
      (commit s t r ⟨(s.defs t).deps, s.fs, newValues (s.defs t) s.resOf, r.result, s.checker⟩).specRes s.fs = true
  · exact Or.inr hE
  · refine Or.inl ⟨Bool.eq_false_iff.mpr hE, rfl, sameSet_refl _, fun p hp => ?_⟩
    -- the ghost saw the present files
    obtain ⟨cur, hcur⟩ := exists_of_not_missing (saveSuccess_ok hs).1 hp
    show (match s.fs p, s.fs p with
      | some now, some saw => unmodBy s.checker saw now
      | _, _ => false) = true
    rw [hcur]
    exact unmodBy_self _ cur

/-- **C04, repeated run.**  In any reachable state, when the runner records the success of a task, an immediately
    repeated run finds it up-to-date — unless it can never be up-to-date by definition: an uptodate item that
    evaluates false, or no file dependency and no evaluated uptodate item, or (the action's own doing) a declared
    target that does not exist. -/
theorem C04_rerun (h : List Op) (hf : Faithful h = true) (t : Name) (res : Option Res) (r : Rcd) :
    let σ := runHist true h
    saveSuccess σ.checker (σ.defs t).deps (σ.rcd t) σ.fs (newValues (σ.defs t) σ.resOf) res = .ok r →
    (finish σ t true res).status true t = .upToDate
    ∨ utdFalse (newValues (σ.defs t) σ.resOf) (finish σ t true res).resOf (σ.defs t).uptodate = true
    ∨ ((σ.defs t).deps.isEmpty = true
        ∧ utdEvaluated (newValues (σ.defs t) σ.resOf) (finish σ t true res).resOf (σ.defs t).uptodate = false)
    ∨ (σ.defs t).targets.any (depMissing σ.fs) = true := by
  intro σ hs
  cases status_after_commit (hist_inv _ hf) t res r hs with
  | inl h1 => exact Or.inl h1
  | inr h2 =>
    right
    simp only [earlyRun, Bool.or_eq_true, Bool.and_eq_true, Bool.not_eq_true'] at h2
    cases h2 with
    | inl h3 =>
      cases h3 with
      | inl h4 => exact Or.inl h4
      | inr h4 => exact Or.inr (Or.inl h4)
    | inr h3 => exact Or.inr (Or.inr h3)

/-- **C04, touch / rewrite under md5.**  Giving a file a new mtime without changing its content — `touch`, or
    rewriting it with the same content — changes the status of no task when the md5 checker is configured. -/
theorem C04_touch_md5 (h : List Op) (hf : Faithful h = true) (p : Path) (t : Name) :
    let σ := runHist true h
    σ.checker = .md5 → σ.crashed = false →
    (step true σ (.touch p)).status true t = σ.status true t
    ∧ ∀ cur, σ.fs p = some cur → (step true σ (.edit p cur.size cur.cid)).status true t = σ.status true t := by
  intro σ hc hnc
  have hinv : Inv σ := hist_inv _ hf
  constructor
  · simp only [step, hnc, Bool.false_eq_true, if_false, St.status, hc]
    cases hcur : σ.fs p with
    | none =>
      have : (fun q => if q = p then touchMeta σ.clock none else σ.fs q) = σ.fs := by
        funext q
        by_cases hq : q = p
        · simp [hq, touchMeta, hcur]
        · simp [hq]
      rw [this]
      rfl
    | some cur =>
      exact statusOf_fresh_md5 (hinv.st t) _ _ _ p cur _ hcur rfl rfl (Nat.lt_succ_self _)
  · intro cur hcur
    simp only [step, hnc, Bool.false_eq_true, if_false, St.status, hc, writeFile]
    exact statusOf_fresh_md5 (hinv.st t) _ _ _ p cur _ hcur rfl rfl (Nat.lt_succ_self _)

/-- a history after which the specification holds for a task with two file dependencies, a target, run_once and
    config_changed — so `C04_minimal` forbids its execution — and a successful save is possible (`C04_rerun`) -/
example :
    let h : List Op := [.edit 0 4 1, .edit 1 5 2, .redefine 0 ⟨[0, 1], [2], [.runOnce, .configChanged 3]⟩,
      .run 0 true false [(2, 4, 7)] none, .touch 0, .edit 1 5 2]
    Faithful h = true ∧ (runHist true h).spec 0 = true ∧ (runHist true h).checker = .md5 ∧
    (runHist true h).crashed = false ∧
    (saveSuccess (runHist true h).checker ((runHist true h).defs 0).deps ((runHist true h).rcd 0) (runHist true h).fs
      (newValues ((runHist true h).defs 0) (runHist true h).resOf) none matches .ok _) = true := by decide +kernel

/-- under the timestamp checker the same touch does make the task stale: the md5 hypothesis of `C04_touch_md5`
    is needed -/
example :
    let h : List Op := [.switchChecker .ts, .edit 0 4 1, .redefine 0 ⟨[0], [], []⟩, .run 0 true false [] none]
    (runHist true h).status true 0 = .upToDate ∧ (step true (runHist true h) (.touch 0)).status true 0 = .run := by
  decide +kernel

end DoitModel.C04

-- a namespace of its own: `UtdTools` has its own `St`, `Op`, `step`, `lookup`, which would clash with those of `Status`
namespace DoitModel.C04.Helpers
open DoitModel.UtdTools

/-! ## the uptodate helpers of doit/tools.py and `result_dep` (model `Model/UtdTools.lean`)

What each helper answers, for all inputs, as a function of (what the last successful execution saved, the present
world); `md5` is any function (injective where said so), `tps` any tick rate. -/

/-- **run_once** is up-to-date iff a (truthy) `run-once` value is saved. -/
theorem run_once_true_iff (saved : Saved) :
    (runOnce saved).ans = .yes ↔ ∃ v, lookup saved kRunOnce = some v ∧ v.truthy = true :=
  runOnce_yes_iff saved

example : (runOnce [(kRunOnce, .tt)]).ans = .yes ∧ (runOnce []).ans = .no := by decide +kernel

/-- **config_changed** is up-to-date iff a value was saved and it equals the digest of the present config (str: the
    string itself; dict: md5 of the canonical JSON); a config that is neither raises. -/
theorem config_changed_true_iff (md5 : Str → Str) (saved : Saved) (w : World) :
    (configChanged md5 saved w).ans = .yes ↔
      ∃ d, digest md5 w.cfg = .ok d ∧ lookup saved kConfig = some (.str d) :=
  config_yes_iff md5 saved w

/-- dict form, md5 taken as injective: up-to-date iff the canonical JSON texts are the same -/
theorem config_changed_dict_iff (md5 : Str → Str) (hinj : ∀ a b, md5 a = md5 b → a = b) (c0 c : Str) (w : World)
    (hw : w.cfg = .dict c) :
    (configChanged md5 [(kConfig, .str (md5 c0))] w).ans = .yes ↔ c0 = c := by
  rw [config_yes_iff, hw]
  simp only [digest, lookup_single]
  constructor
  · rintro ⟨d, hd, hs⟩
    cases hd
    simp only [Option.some.injEq, Val.str.injEq] at hs
    exact hinj _ _ hs
  · rintro rfl
    exact ⟨_, rfl, rfl⟩

/-- the saver registered by `configure_task` writes the digest computed at the check, whatever the world is when it
    runs (a dict mutated by the task's own action is recorded as it was *before* the action) -/
theorem config_saver_writes_checked_digest (md5 : Str → Str) (saved : Saved) (w w' : World) (d : Str)
    (hd : digest md5 w.cfg = .ok d) :
    (configChanged md5 saved w).saver w' = .ok [(kConfig, .str d)] := by
  simp [configChanged, hd]

example : (configChanged id [(kConfig, .str "x".toList)] { World.init with cfg := .dict "x".toList }).ans = .yes ∧
    (configChanged id [(kConfig, .str "x".toList)] { World.init with cfg := .dict "y".toList }).ans = .no ∧
    (configChanged id [] { World.init with cfg := .bad }).ans = .raised .badConfig := by decide +kernel

/-- **timeout** is up-to-date iff a success time is saved and the time elapsed since is strictly below the limit. -/
theorem timeout_true_iff (tps : Nat) (lim : Limit) (saved : Saved) (w : World) :
    (timeout tps lim saved w).ans = .yes ↔
      ∃ last, lookup saved kSuccessTime = some (.num last) ∧ w.clock - last < limitSec lim * tps :=
  timeout_yes_iff tps lim saved w

/-- once expired, a timeout stays expired while the clock moves on and no new success is recorded -/
theorem timeout_expiry_monotone (tps : Nat) (lim : Limit) (saved : Saved) (w w' : World)
    (hclk : w.clock ≤ w'.clock) (h : (timeout tps lim saved w).ans ≠ .yes) :
    (timeout tps lim saved w').ans ≠ .yes := by
  rw [Ne, timeout_yes_iff] at *
  rintro ⟨last, hl, hlt⟩
  exact h ⟨last, hl, by omega⟩

/-- after a success recorded at clock `c` the task is up-to-date exactly while less than the limit has elapsed;
    `timedelta` limits count whole seconds only (`days*86400 + seconds`, microseconds dropped) -/
theorem timeout_after_success_iff (tps : Nat) (lim : Limit) (saved : Saved) (w w' : World) (kv : Saved)
    (hs : (timeout tps lim saved w).saver w = .ok kv) :
    (timeout tps lim kv w').ans = .yes ↔ w'.clock - w.clock < limitSec lim * tps := by
  simp only [timeout] at hs
  cases hs
  rw [timeout_yes_iff]
  simp [lookup_single]

example : limitSec (.delta 1 2 999999) = 86402 ∧
    (timeout 4 (.int 2) [(kSuccessTime, .num 0)] { World.init with clock := 7 }).ans = .yes ∧
    (timeout 4 (.int 2) [(kSuccessTime, .num 0)] { World.init with clock := 8 }).ans = .no := by decide +kernel

/-- **check_timestamp_unchanged** is up-to-date iff a time is saved under `<file>.<st_attr>`, the file can be
    stat-ed and `cmp_op(saved, current)` holds. -/
theorem timestamp_unchanged_iff (f : Str) (a : Attr) (c : Cmp) (saved : Saved) (w : World) :
    (stamp f a c saved w).ans = .yes ↔
      ∃ prev st, lookup saved (stampKey f a) = some (.num prev) ∧ w.files f = some st ∧
        c.app prev (st.get a) = true :=
  stamp_yes_iff f a c saved w

/-- a missing file is an error once a time is saved (and only then: the first check does not stat) -/
theorem timestamp_missing_file (f : Str) (a : Attr) (c : Cmp) (saved : Saved) (w : World) (hf : w.files f = none) :
    (stamp f a c saved w).ans = (match lookup saved (stampKey f a) with
      | some (.num _) => .raised .osError
      | _ => .no) ∧ (stamp f a c saved w).saver w = .error .osError := by
  constructor
  · simp only [stamp, getTime, hf]
    cases lookup saved (stampKey f a) with
    | none => rfl
    | some v => cases v <;> rfl
  · simp [stamp, stampSaver, getTime, hf]

/-- the saved key tells the three timestamps of one file apart -/
theorem stampKey_attr_injective (f : Str) (a b : Attr) (h : stampKey f a = stampKey f b) : a = b := by
  simp only [stampKey, List.append_cancel_left_eq, List.cons.injEq, true_and] at h
  exact attrName_inj h

example : (stamp "f".toList .atime .eq [(stampKey "f".toList .atime, .num 3)]
      { World.init with files := fun _ => some ⟨3, 5, 9⟩ }).ans = .yes ∧
    (stamp "f".toList .mtime .eq [(stampKey "f".toList .atime, .num 3)]
      { World.init with files := fun _ => some ⟨3, 5, 9⟩ }).ans = .no := by decide +kernel

/-- **result_dep** is up-to-date iff a (non-null) result is saved under `_result:<name>` and it equals the present
    result of the task — for a group, the dict of the results of its sub-tasks (`<name>:…` entries of its task_dep). -/
theorem result_dep_true_iff (d : Str) (saved : Saved) (w : World) :
    (resultDep d saved w).ans = .yes ↔
      ∃ v, lookup saved (kResult d) = some v ∧ v ≠ .null ∧ valEq v (depResult w d) = true :=
  resultDep_yes_iff d saved w

example : (resultDep "d".toList [(kResult "d".toList, .dict [("d:b".toList, none), ("d:a".toList, some ['r'])])]
      { World.init with group := fun _ => some ["d:a".toList, "dx".toList, "d:b".toList],
                        resultOf := fun s => if s = "d:a".toList then .str ['r'] else .null }).ans = .yes := by decide +kernel

/-- **C03 flavour.**  No helper answers up-to-date when no successful execution recorded its key — in particular on
    an empty record (first run, after `forget`, after a failed execution, which removes the record). -/
theorem helper_never_yes_unrecorded (md5 : Str → Str) (tps : Nat) (it : Item) (saved : Saved) (w : World)
    (h : lookup saved it.key = none) : (it.call md5 tps saved w).ans ≠ .yes :=
  call_not_yes_of_unrecorded md5 tps it saved w h

/-- … hence a run in such a state never skips the task, and a failed execution leaves such a state -/
theorem helper_run_unrecorded (md5 : Str → Str) (tps : Nat) (it : Item) (s : St) (ok : Bool) (during : List Change)
    (h : lookup s.saved it.key = none) :
    (step md5 tps it s (.run ok during)).2 ≠ .skipped ∧ (step md5 tps it s .query).2 ≠ .answered .yes ∧
    (ok = false → (∀ e, (it.call md5 tps s.saved s.world).ans ≠ .raised e) →
      (step md5 tps it s (.run ok during)).1.saved = []) := by
  have hn := call_not_yes_of_unrecorded md5 tps it s.saved s.world h
  have hfin : ∀ o : Out, (finishRun s o ok during).2 ≠ .skipped := by
    intro o
    cases ok with
    | false => simp [finishRun]
    | true =>
      simp only [finishRun, if_true]
      cases o.saver (s.world.applyAll during) <;> simp
  refine ⟨?_, ?_, ?_⟩
  · simp only [step]
    cases ha : (it.call md5 tps s.saved s.world).ans with
    | yes => exact absurd ha hn
    | no | ignored => exact hfin _
    | raised e => simp
  · simp only [step]
    intro hq
    injection hq with hq
    exact hn hq
  · intro hok hr
    subst hok
    simp only [step]
    cases ha : (it.call md5 tps s.saved s.world).ans with
    | yes => exact absurd ha hn
    | no | ignored => simp [finishRun]
    | raised e => exact absurd ha (hr e)

/-- **C03 flavour, over histories.**  Starting from an empty record, whatever the world does and however often the
    task is checked or its execution fails: as long as no execution succeeded, no check answers up-to-date and no run
    skips the task (any helper, any sequence of world changes / status queries / failing runs). -/
theorem helper_history_never_yes_without_success (md5 : Str → Str) (tps : Nat) (it : Item) (ops : List Op)
    (w : World) (h : ops.all Op.noSuccess = true) :
    ∀ ob ∈ (runOps md5 tps it ⟨[], w⟩ ops).2, ob ≠ .skipped ∧ ob ≠ .answered .yes :=
  (runOps_noSuccess md5 tps it ops ⟨[], w⟩ rfl h).2

example : (runOps id 4 (.stampOf ['f'] .mtime (.const true)) St.init
    [.change (.setFile ['f'] (some ⟨1, 1, 1⟩)), .query, .run false [], .query]).2 =
    [.changed, .answered .no, .executedFailed .no, .answered .no] := by decide +kernel

/-- **C04 flavour.**  Right after a successful execution, in the world that execution left, every helper that can
    be up-to-date at all (`canRepeat`: timeout limit positive, `cmp_op` reflexive, the other task has a result, the
    config has a digest) answers up-to-date. -/
theorem helper_yes_after_success (md5 : Str → Str) (tps : Nat) (it : Item) (saved kv : Saved) (w : World)
    (hs : (it.call md5 tps saved w).saver w = .ok kv) (hc : it.canRepeat tps w = true) :
    (it.call md5 tps kv w).ans = .yes :=
  call_yes_after_save md5 tps it saved kv w hs hc

/-- the same on the machine: a run that executed and saved (nothing changing during the execution) is followed by
    `up-to-date` on a status query and by a skip on the next run -/
theorem helper_rerun_skips (md5 : Str → Str) (tps : Nat) (it : Item) (s s' : St) (a : Ans) (kv : Saved)
    (hrun : step md5 tps it s (.run true []) = (s', .executedSaved a kv)) (hc : it.canRepeat tps s.world = true)
    (ok : Bool) (during : List Change) :
    (step md5 tps it s' .query).2 = .answered .yes ∧ step md5 tps it s' (.run ok during) = (s', .skipped) := by
  have key : s' = ⟨kv, s.world⟩ ∧ (it.call md5 tps s.saved s.world).saver s.world = .ok kv := by
    simp only [step] at hrun
    cases ha : (it.call md5 tps s.saved s.world).ans with
    | yes => simp [ha] at hrun
    | raised e => simp [ha] at hrun
    | no | ignored =>
      simp only [ha, finishRun, World.applyAll, List.foldl_nil, if_true] at hrun
      cases hsv : (it.call md5 tps s.saved s.world).saver s.world with
      | error e => simp [hsv] at hrun
      | ok kv' => simp only [hsv, Prod.mk.injEq, Obs.executedSaved.injEq] at hrun; exact ⟨by rw [← hrun.1, hrun.2.2], by rw [hrun.2.2]⟩
  obtain ⟨rfl, hsv⟩ := key
  have hy := call_yes_after_save md5 tps it s.saved kv s.world hsv hc
  simp only [step, hy, and_self]

example : Item.canRepeat 4 World.init (.tmo (.int 1)) = true ∧
    Item.canRepeat 4 World.init (.stampOf [] .ctime .ge) = true ∧ Item.canRepeat 4 World.init (.resDep []) = false ∧
    (step id 4 (.tmo (.int 1)) St.init (.run true [])).2 = .executedSaved .no [(kSuccessTime, .num 0)] ∧
    (step id 4 (.tmo (.int 1)) ⟨[(kSuccessTime, .num 0)], World.init⟩ .query).2 = .answered .yes := by decide +kernel

end DoitModel.C04.Helpers
