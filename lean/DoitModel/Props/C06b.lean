import DoitModel.Proofs.StatusMix
/-! # C06 (M2 half) — after a kill, the next invocation skips only tasks that really completed successfully with the
present state of their dependencies

`Props/C06.lean` (M9) proves that after any kill every readable per-task record is *legitimate*: the record present
before the run or one a successful execution of this run saved — i.e. for every task, independently, the pair
`(record, ghost)` of SOME earlier point of the same history, or the record is absent.  This file is the other half:
whatever mixture of such old / new / absent records the next invocation finds, on the *present* file system, task
definitions and configured checker, `get_status` still decides exactly the specification relative to the (real,
successful, possibly old) execution each recovered record stems from.

Quantification: every `Faithful` history `h` (`Props/C03.lean`), every choice function `pick` with
`Recovered h t (pick t)` for all tasks `t` (absent, or the pair of an arbitrary prefix `h.take k`; prefixes may differ
from task to task; `k ≥ h.length` gives the present pair).  `result_dep` items are covered: they read the recovered
record of the other task, and the specification reads the ghost recovered with it. -/
namespace DoitModel.C06b
open DoitModel.Status

def mix_sound_full : Prop :=
  ∀ (h : List Op), Faithful h = true → ∀ (pick : Name → Rcd × Option Exec), (∀ t, Recovered h t (pick t)) →
    ∀ t, (mixState (runHist true h) pick).status true t = .upToDate → (mixState (runHist true h) pick).spec t = true

/-- **C06, status half.**  A task that the next invocation finds up-to-date (the only status on which it is skipped)
    satisfies the specification relative to the successful execution its recovered record was saved by: same set of
    file dependencies, every dependency present and unmodified w.r.t. what *that* execution saw, same checker, targets
    present, uptodate items true.  With an absent record: only tasks that are up-to-date without any saved state. -/
theorem mix_sound : mix_sound_full := by
  intro h hf pick hp t
  exact (decision_eq_spec (mix_inv h hf pick hp) t).mp

/-- the converse (nothing is re-executed needlessly on account of the kill: a task whose recovered execution still
    matches the present state is skipped) -/
theorem mix_minimal (h : List Op) (hf : Faithful h = true) (pick : Name → Rcd × Option Exec)
    (hp : ∀ t, Recovered h t (pick t)) (t : Name) :
    (mixState (runHist true h) pick).spec t = true → (mixState (runHist true h) pick).status true t = .upToDate :=
  (decision_eq_spec (mix_inv h hf pick hp) t).mpr

/-- a task whose record did not survive (absent) and that has a file dependency is never skipped -/
theorem mix_absent_runs (h : List Op) (hf : Faithful h = true) (pick : Name → Rcd × Option Exec)
    (hp : ∀ t, Recovered h t (pick t)) (t : Name) (ht : pick t = (Rcd.empty, none))
    (hd : ((runHist true h).defs t).deps ≠ []) :
    (mixState (runHist true h) pick).status true t ≠ .upToDate := by
  intro hst
  have hs := mix_sound h hf pick hp t hst
  unfold St.spec at hs
  rw [show (mixState (runHist true h) pick).shadow t = none from congrArg Prod.snd ht, specUpToDate_none] at hs
  exact hd hs.2

/-- under md5, a skipped task's dependencies have exactly the size and content that the execution which saved the
    recovered record saw -/
theorem mix_md5_content (h : List Op) (hf : Faithful h = true) (pick : Name → Rcd × Option Exec)
    (hp : ∀ t, Recovered h t (pick t)) (t : Name) :
    let σ := mixState (runHist true h) pick
    σ.checker = .md5 → σ.status true t = .upToDate →
    ∀ e, (pick t).2 = some e → ∀ p, p ∈ (σ.defs t).deps →
      ∃ now sm, σ.fs p = some now ∧ e.saw p = some sm ∧ now.size = sm.size ∧ now.cid = sm.cid := by
  intro σ hc hst e he p hpd
  exact md5_content (mix_inv h hf pick hp) hc hst he hpd

/-! ## non-vacuity

Two tasks share the dependency `f0`.  History: both run; `f0` is edited; both run again; `f0` is touched.
The kill leaves `t0` with its NEW record (prefix of length 8 = after the second round of runs) and `t1` with its OLD
record (prefix of length 5 = after the first round).  The next invocation finds `t0` up-to-date and skips it; `t1`, whose recovered execution saw the
old content, is not up-to-date and runs; and a third task whose record is absent runs. -/

def demoHist : List Op :=
  [.edit 0 4 1, .redefine 0 ⟨[0], [], []⟩, .redefine 1 ⟨[0], [], []⟩,
   .run 0 true false [] none, .run 1 true false [] none,
   .edit 0 4 2, .run 0 true false [] none, .run 1 true false [] none, .touch 0, .redefine 2 ⟨[0], [], []⟩]

def demoPick (t : Name) : Rcd × Option Exec :=
  if t = 0 then ((runHist true (demoHist.take 8)).rcd 0, (runHist true (demoHist.take 8)).shadow 0)
  else if t = 1 then ((runHist true (demoHist.take 5)).rcd 1, (runHist true (demoHist.take 5)).shadow 1)
  else (Rcd.empty, none)

theorem demoPick_recovered : ∀ t, Recovered demoHist t (demoPick t) := by
  intro t
  unfold demoPick
  by_cases h0 : t = 0
  · subst h0; exact Or.inr ⟨8, by simp⟩
  · by_cases h1 : t = 1
    · subst h1; exact Or.inr ⟨5, by simp⟩
    · simp [h0, h1, Recovered]

example : Faithful demoHist = true ∧
    (demoPick 0).2.isSome = true ∧ (demoPick 1).2.isSome = true ∧
    (mixState (runHist true demoHist) demoPick).status true 0 = .upToDate ∧
    (mixState (runHist true demoHist) demoPick).spec 0 = true ∧
    (mixState (runHist true demoHist) demoPick).status true 1 = .run ∧
    (mixState (runHist true demoHist) demoPick).spec 1 = false ∧
    (mixState (runHist true demoHist) demoPick).status true 2 = .run := by decide +kernel

/-! `Faithful` is needed for the same reason as in C03 (`C03.C03_mtime_preserving_counterexample`, which is the special
    case `pick` = the present pairs). -/

end DoitModel.C06b
