import DoitModel.Proofs.C09TermP
import DoitModel.Proofs.C09Wait
import DoitModel.Proofs.C09Pinned
/-! # C09 — every run terminates; dependency cycles are diagnosed, never hung on

Property theorems only (model: `Model/Run.lean`, `Model/RunC09.lean`; invariants: `Proofs/Run*.lean`, `Proofs/C09*.lean`).
Quantification: every task table, selection, oracle, flag, set-iteration order, worker interleaving and every reachable
state (every prefix of every run) of the serial (`Reach`) and of the parallel (`PReach`) transition system.

`Acyclic inp` : some rank function decreases along every dependency edge `Dep inp n d` — task_dep (after the M8 expansion:
implicit target->file_dep, result_dep, getargs), calc_dep, setup, and everything a (possibly delivered) calc_dep can
deliver.  The harness decides it per case by a graph search; the monitor `monC09` works on the closure graph of the run. -/
namespace DoitModel.C09
open DoitModel.Run

/-- the state in which `_dispatcher_generator` calls `_check_deadlock` and finds nobody out at the runner -/
def DeadlockShape (s : Sys) : Prop :=
  s.cur = none ∧ s.ready = [] ∧ s.toRun = [] ∧ s.waiting ≠ [] ∧ s.dispatched = []

/-- C09 (no false cycle, the `ancestors` test), serial runner: on an acyclic graph the test
    `task_name in parent.ancestors` of `_gen_node` never fires — whenever a step of the dispatcher raises the
    cyclic-dependency error it is `_check_deadlock` in the state `DeadlockShape`.  Proof: `ExecNode.ancestors` is a
    dependency path ending in the node (`NDep.anc`), every name handed to `_gen_node` is a dependency of the node. -/
theorem C09_no_false_cycle_ancestors_serial (inp : RunInput) (hac : Acyclic inp) (s : Sys) (hr : Reach inp s)
    (hsu : s.susp = none) (perm : List Name) (s' : Sys) (hs : dtick inp s perm = some s') (d : Name)
    (hc : s'.susp = some (.cyclic d)) : DeadlockShape s := by
  obtain ⟨rank, hrk⟩ := hac
  exact dtick_cyclic_shape hrk (reach_allN hrk hr) hsu hs d hc

/-- the same for the parallel runners (every worker interleaving, every `numProcess`) -/
theorem C09_no_false_cycle_ancestors_parallel (inp : RunInput) (hac : Acyclic inp) (s : Sys) (hr : PReach inp s)
    (hsu : s.susp = none) (perm : List Name) (s' : Sys) (hs : dtick inp s perm = some s') (d : Name)
    (hc : s'.susp = some (.cyclic d)) : DeadlockShape s := by
  obtain ⟨rank, hrk⟩ := hac
  exact dtick_cyclic_shape hrk (preach_allN hrk hr) hsu hs d hc

/-- C09 (no false cycle, `_check_deadlock`), the graph argument: on an acyclic graph, in every reachable state in
    which some node is parked in `waiting`, some parked node awaits only tasks that are NOT parked (rank descent along
    `wait_run` / `wait_run_calc`, which hold dependencies only).  So the path that `_check_deadlock` follows from a
    parked node through awaited parked nodes cannot close. -/
theorem C09_some_parked_node_awaits_unparked (inp : RunInput) (hac : Acyclic inp) (s : Sys)
    (hr : Reach inp s ∨ PReach inp s) (hw : s.waiting ≠ []) :
    ∃ w ∈ s.waiting, ∀ nd, s.nodes w = some nd → ∀ d, (d ∈ nd.waitRun ∨ d ∈ nd.waitRunCalc) → d ∉ s.waiting := by
  obtain ⟨rank, hrk⟩ := hac
  have hall : AllN inp rank s := by
    rcases hr with a | a
    · exact reach_allN hrk a
    · exact preach_allN hrk a
  apply Classical.byContradiction
  intro hne
  apply hw
  apply waiting_descent hrk hall
  intro w hwm
  have h1 : ¬ ∀ nd, s.nodes w = some nd → ∀ d, (d ∈ nd.waitRun ∨ d ∈ nd.waitRunCalc) → d ∉ s.waiting :=
    fun hx => hne ⟨w, hwm, hx⟩
  have h2 := Classical.not_forall.mp h1
  obtain ⟨nd, h3⟩ := h2
  have h4 := Classical.not_imp.mp h3
  obtain ⟨hn, h5⟩ := h4
  obtain ⟨d, h6⟩ := Classical.not_forall.mp h5
  obtain ⟨hd, h7⟩ := Classical.not_imp.mp h6
  exact ⟨nd, hn, d, hd, Classical.not_not.mp h7⟩

/-- C09 (no false cycle), serial runner, FULL: on an acyclic graph — every task table with all edge kinds and calc
    results, every selection, oracle, flag and set-iteration order — no reachable state has the dispatcher ended by the
    cyclic-dependency error, neither from the `ancestors` test nor from `_check_deadlock`, and the run never ends with
    that error.  Proof (`Proofs/C09Wait.lean`): in the state in which `_check_deadlock` would raise, every parked node
    awaits something (`InvE9.w`), what it awaits exists, is registered in `waiting_me` and unfinished (`InvE9.e`, with
    `dispatched = []`), hence itself parked (`InvD.a2`, `InvL.a4/a5`); rank descent (`waiting_descent`) empties
    `waiting`. -/
theorem C09_no_false_cycle_serial (inp : RunInput) (hser : inp.runner = .serial) (hac : Acyclic inp) (s : Sys)
    (hr : Reach inp s) : (∀ d, s.susp ≠ some (.cyclic d)) ∧ s.halt ≠ .cyclic := by
  obtain ⟨rank, hrk⟩ := hac
  exact serial_no_cyclic hser hrk hr

/-- C09 (no false cycle), parallel runners (`MRunner` / `MThreadRunner`), FULL: the same for every worker interleaving
    and every `numProcess`.  Additionally uses the flight accounting `InvF` (a task whose job is queued, held, executed
    or whose result is queued is in `dispatched`), so that in the `_check_deadlock` state nothing is in flight. -/
theorem C09_no_false_cycle_parallel (inp : RunInput) (hac : Acyclic inp) (s : Sys) (hr : PReach inp s) :
    (∀ d, s.susp ≠ some (.cyclic d)) ∧ s.halt ≠ .cyclic := by
  obtain ⟨rank, hrk⟩ := hac
  exact parallel_no_cyclic hrk hr

/-- C09, "if the closure contains no cycle, no cycle error is raised", all three runners: in no reachable state of an
    acyclic input has `run_tasks` been left by the cyclic-dependency error, so the exit code is never 3 on its account -/
theorem C09_no_false_cycle (inp : RunInput) (hac : Acyclic inp) (s : Sys)
    (hr : (inp.runner = .serial ∧ Reach inp s) ∨ PReach inp s) : s.halt ≠ .cyclic := by
  rcases hr with ⟨a, b⟩ | b
  · exact (C09_no_false_cycle_serial inp a hac s b).2
  · exact (C09_no_false_cycle_parallel inp hac s b).2

/-- C09 (no deadlock, dispatcher side; the repair of F-C09a): the dispatcher answers `"hold on"` only while a node it
    handed to the runner has not been given back (`dispatched ≠ []`); when every remaining node waits and nothing is
    out, it raises the cyclic error instead.  Holds in every state (no hypothesis). -/
theorem C09_holdOn_needs_dispatched (inp : RunInput) (s s' : Sys) (perm : List Name) (hsu : s.susp = none)
    (hs : dtick inp s perm = some s') (hh : s'.susp = some .holdOn) : s.dispatched ≠ [] ∧ s'.dispatched = s.dispatched :=
  dtick_holdOn hsu hs hh

/-- C09 (no deadlock), parallel runners, every graph (no acyclicity hypothesis is needed after the repair), every worker
    interleaving and `numProcess`: in every reachable state in which the run goes on (no failure stopped it, no
    exception ended it) and the dispatcher's last answer was `"hold on"`, some node handed to the runner is still out —
    its job is queued or held by `get_next_job`, a worker executes it, its result waits in the result queue
    (`InFlight`), or it is just being fed back to the dispatcher.  So the run never waits with nothing executing.
    Proof: `InvC` — `dispatched` holds exactly the nodes that are at the runner (`Proofs/C09Disp.lean`). -/
theorem C09_no_deadlock_parallel (inp : RunInput) (s : Sys) (hr : PReach inp s) (hst : s.stop = false)
    (hh : s.halt = .none) (hho : s.susp = some .holdOn) :
    ∃ n, n ∈ s.dispatched ∧ (InFlight s n ∨ sentBack s = some n) :=
  parallel_holdOn_in_flight hr hst hh hho

/-- C09 (no deadlock), serial runner, every graph: the dispatcher never answers `"hold on"` at all (the runner gives
    every node back before it resumes the generator, so `dispatched` is empty whenever everything waits and
    `_check_deadlock` raises instead) — the internal `AttributeError` of `select_task("hold on")` is unreachable -/
theorem C09_no_deadlock_serial (inp : RunInput) (hser : inp.runner = .serial) (s : Sys) (hr : Reach inp s) :
    s.susp ≠ some .holdOn :=
  serial_no_holdOn hser hr

/-- accounting of `TaskDispatcher.dispatched` (both systems): a node yielded to the runner is in `dispatched`, and
    while the run goes on every member of `dispatched` is at the runner -/
theorem C09_dispatched_accounting (inp : RunInput) (s : Sys) (hr : Reach inp s ∨ PReach inp s) :
    (∀ n, s.susp = some (.node n) → n ∈ s.dispatched) ∧
    (s.stop = false → s.halt = .none → s.susp ≠ some .crash → ∀ n ∈ s.dispatched, AtRunner s n) := by
  have h : InvC s := by
    rcases hr with a | a
    · exact reach_invC a
    · exact preach_invC a
  exact ⟨h.ds, h.dc⟩

/-- serial runner: once the dispatcher has raised the cyclic error, the next step of the runner leaves `run_tasks`
    with that exception (`run_all` still calls `finish()`), and the exit code of the command is 3 from then on -/
theorem C09_cyclic_ends_run_serial (inp : RunInput) (s : Sys) (d : Name) (perm : List Name)
    (h1 : s.rpc = .sWait) (h2 : s.susp = some (.cyclic d)) :
    serialStep inp s perm = some (raise s .cyclic) ∧ exitCode (raise s .cyclic) = 3 ∧
    exitCode (finishRun (raise s .cyclic)) = 3 ∧ (finishRun (raise s .cyclic)).rpc = .halted := by
  refine ⟨by simp [serialStep, h1, h2], rfl, rfl, rfl⟩

/-- parallel runners: the same inside `get_next_job`, also while the workers are being started (`ret = startLoop k`:
    the exception leaves `_run_start_processes`, which terminates the workers already started; commit 74b6e8a) -/
theorem C09_cyclic_ends_run_parallel (inp : RunInput) (s : Sys) (d : Name) (perm : List Name) (ret : Ret)
    (h1 : s.rpc = .gWait ret) (h2 : s.susp = some (.cyclic d)) :
    mainStep inp s perm = some (raise s .cyclic) ∧ exitCode (raise s .cyclic) = 3 ∧
    exitCode (finishRun (raise s .cyclic)) = 3 ∧ (finishRun (raise s .cyclic)).rpc = .halted := by
  refine ⟨by simp [mainStep, h1, h2], rfl, rfl, rfl⟩

/-! ### termination

`FiniteTable inp N` (Proofs/C09Term1.lean): every task name the table mentions — selection, task_dep, calc_dep, setup,
calc results — is an index below `N`.  Without it the statement is false in the model (a `RunInput` is a family of
functions on `Nat`: `taskDep n = [n + 1]` creates nodes for ever). -/

/-- C09 (terminates), dispatcher + serial runner, FULL: on a finite task table — any graph (cyclic ones included), any
    selection, oracle, flags — there is no infinite run, whatever order the `set`s are iterated in.  Proof
    (`Proofs/C09Term1-3.lean`): every transition strictly decreases the lexicographic measure
    (`L1` names without a node, `L2` Σ calc_deps still to be delivered, `lin` a weighted sum of list lengths of the
    `ExecNode`s, a rank of the generator position with a gap at each `yield this_task`, the dispatcher queues and a rank
    of the runner's program counter); `generator.send` (`_update_waiting`) never increases the dispatcher part. -/
theorem C09_terminates_serial (inp : RunInput) (hser : inp.runner = .serial) (N : Nat) (hF : FiniteTable inp N) :
    ¬ ∃ (f : Nat → Sys) (c : Nat → Choice), f 0 = init inp ∧ ∀ i, stepOf inp (f i) (c i) = some (f (i + 1)) :=
  serial_terminates hser hF

/-- the step form -/
theorem C09_serial_step_decreases (inp : RunInput) (N : Nat) (hF : FiniteTable inp N) (s s' : Sys) (hr : Reach inp s)
    (c : Choice) (hs : step inp s c = some s') : MLt inp N s' s :=
  step_mlt hF hr hs

/-- C09 (terminates), parallel runners (`MRunner` / `MThreadRunner`), FULL: on a finite task table there is no infinite
    run, for every worker interleaving at queue-operation granularity, every `numProcess`, graph, oracle and flags.
    The measure of the serial system is extended (`Proofs/C09TermP.lean`) by `U2` — tasks without a final status, which
    pays for the `free_proc + 1` calls of `get_next_job` after each processed result —, by the job / result queues and
    the executing workers, and by the loop counters of `_run_start_processes` and of the feed loop.  A `JobHold` taken
    by a worker shortens the job queue; the main thread blocked in `result_q.get()` is simply not enabled, so "no
    infinite run" also says that the workers cannot spin for ever while it waits. -/
theorem C09_terminates_parallel (inp : RunInput) (hpar : inp.runner ≠ .serial) (N : Nat) (hF : FiniteTable inp N) :
    ¬ ∃ (f : Nat → Sys) (c : Nat → Choice), f 0 = init inp ∧ ∀ i, stepOf inp (f i) (c i) = some (f (i + 1)) :=
  parallel_terminates hpar hF

/-- the step form for the parallel system -/
theorem C09_parallel_step_decreases (inp : RunInput) (N : Nat) (hF : FiniteTable inp N) (s s' : Sys)
    (hr : PReach inp s) (c : Choice) (hs : pstep inp s c = some s') : MLtP inp N s' s :=
  pstep_mltP hF hr hs

/-- C09 (terminates), all three runners: every run of the model on a finite task table is finite — there is no
    infinite sequence of enabled choices (the hypothesis `FiniteTable` is needed, see the section header) -/
theorem C09_terminates (inp : RunInput) (N : Nat) (hF : FiniteTable inp N) :
    ¬ ∃ (f : Nat → Sys) (c : Nat → Choice), f 0 = init inp ∧ ∀ i, stepOf inp (f i) (c i) = some (f (i + 1)) := by
  by_cases h : inp.runner = .serial
  · exact C09_terminates_serial inp h N hF
  · exact C09_terminates_parallel inp h N hF

/-! ### a cycle in the closure of the selection is diagnosed (FULL)

`cycleTasks inp nTasks tr` (Model/RunC09.lean) is what the monitor computes from a trace: the members of the closure of
the selection (`closureC09`) that lie on a cycle of the closure graph `edgesAt` — task_dep, calc_dep (listed and
delivered), what calc_deps delivered that were executed, found up-to-date, or started and then reported failed, and the
setup-tasks of the tasks whose first `select_task` pass chose them for execution (`ranFirst`).  `BoundedCalc inp nTasks`:
every calc_dep name is a task index below `nTasks`, so that the `nTasks` rounds of `calcsAt` inside `ranFirst` reach the
fixed point (`calcsSat_of_bounded`); with fewer, `ranFirst` overlooks an unfinished dependency and adds setup edges the
run never had (`C09_cycle_diagnosed_fuel_counterexample`; see `edge_older`).

Proof (`Proofs/C09Ord*.lean`, `Proofs/C09Cycle.lean`): the invariant `InvT` — in every reachable state the terminal
report (`add_success` / `add_failure` / `skip_uptodate` / `skip_ignore`) of a task is younger than the terminal report
of every dependency the run has determined for it (`g1`: task_dep, calc_dep, delivered; `g2`: setup-tasks when the
first pass chose it) — makes the age of the first terminal report a rank that decreases along `edgesAt`, so a reported
task lies on no cycle.  A started task has all its `edgesAt`-successors reported (C01, `start_after_depsAt`); at a
normal end every selected task is reported (C02, `all_processed_*`).

Scope: every input, also those whose calc tasks return dependency values before their execution FAILS (`calcResFail`,
which doit delivers as well: `_process_calc_dep_results` reads `task.values` whatever the `run_status`; M1 `deliverF`).
The closure graph `edgesAt` counts those deliveries too (`resAt`: the values of a calc
task that has a start event and a `failure` report), so a cycle that exists ONLY through what a failed calc task
delivered is covered (`C09_cycle_only_through_failed_delivery`, `exFailCycle`).  Proof: `InvTF` (Proofs/C09OrdF.lean)
extends the order of the terminal reports to `StageH` = `StageG` + the deliveries of failed calc_deps that were started;
at `select_task` time everything such a calc_dep returned is in the node's dynamic lists (the completeness invariant
`AllDCF` of C08, `Dyn.InvDen`) and finished, so also an `unmet` report of the receiver is younger than the reports of
what the failed calc_dep delivered. -/

/-- C09 (cycle diagnosed), serial runner, FULL: (1) a run that ends normally — `run_tasks` returned, no exception, not
    stopped by a failure — has no cycle in the closure graph of its selection; (2) in every reachable state (every
    prefix of every run) no task on a cycle of the closure graph has been started -/
theorem C09_cycle_diagnosed_serial (inp : RunInput) (s : Sys) (hr : Reach inp s) (nTasks : Nat)
    (hb : BoundedCalc inp nTasks) :
    (s.rpc = .halted → s.halt = .none → s.stop = false → cycleTasks inp nTasks (trace inp s) = []) ∧
    (∀ t ∈ cycleTasks inp nTasks (trace inp s), s.events.countP (Ev.isStartOf t) = 0) :=
  cycle_diagnosed_serial hr nTasks (calcsSat_of_bounded hb _)

/-- the same for the parallel runners: every worker interleaving, every `numProcess` -/
theorem C09_cycle_diagnosed_parallel (inp : RunInput) (s : Sys) (hr : PReach inp s) (nTasks : Nat)
    (hb : BoundedCalc inp nTasks) :
    (s.rpc = .halted → s.halt = .none → s.stop = false → cycleTasks inp nTasks (trace inp s) = []) ∧
    (∀ t ∈ cycleTasks inp nTasks (trace inp s), s.events.countP (Ev.isStartOf t) = 0) :=
  cycle_diagnosed_parallel hr nTasks (calcsSat_of_bounded hb _)

/-- C09 (cycle diagnosed), all three runners -/
theorem C09_cycle_diagnosed (inp : RunInput) (s : Sys) (hr : Reach inp s ∨ PReach inp s) (nTasks : Nat)
    (hb : BoundedCalc inp nTasks) :
    (s.rpc = .halted → s.halt = .none → s.stop = false → cycleTasks inp nTasks (trace inp s) = []) ∧
    (∀ t ∈ cycleTasks inp nTasks (trace inp s), s.events.countP (Ev.isStartOf t) = 0) := by
  rcases hr with a | a
  · exact C09_cycle_diagnosed_serial inp s a nTasks hb
  · exact C09_cycle_diagnosed_parallel inp s a nTasks hb

/-- consequently: if the closure of the selection has a cycle and the run was not cut short by a failure, then — unless
    doit died of an internal error (`halt = crash`: an `assert` of the dispatcher / of `MRunner`; excluded for the
    `"hold on"` paths by `C09_no_deadlock_*`) — the run ended with the cyclic-dependency error and exit code 3 -/
theorem C09_cycle_exit3 (inp : RunInput) (s : Sys) (hr : Reach inp s ∨ PReach inp s) (nTasks : Nat)
    (hb : BoundedCalc inp nTasks) (hcyc : cycleTasks inp nTasks (trace inp s) ≠ []) (hend : s.rpc = .halted)
    (hstop : s.stop = false) (hnc : s.halt ≠ .crash) : s.halt = .cyclic ∧ exitCode s = 3 := by
  have h := (C09_cycle_diagnosed inp s hr nTasks hb).1 hend
  cases hh : s.halt with
  | none => exact absurd (h hh hstop) hcyc
  | cyclic => exact ⟨rfl, by simp [exitCode, hh]⟩
  | crash => exact absurd hh hnc

/-- stronger than "never started": a task on a cycle of the closure graph is never reported at all — not executed, not
    skipped as up-to-date or ignored, not reported failed/unmet (a terminal report would rank it below itself) -/
theorem C09_cycle_task_never_reported (inp : RunInput) (s : Sys) (hr : Reach inp s ∨ PReach inp s) (nTasks : Nat)
    (hb : BoundedCalc inp nTasks) (t : Name) (hc : onCycle inp nTasks (trace inp s) t = true) :
    s.events.countP (Ev.isTerminalOf t) = 0 := by
  cases hf : fstTerm s.events t with
  | some a => rw [reported_not_onCycle (ctxC_of hr) (calcsSat_of_bounded hb _) hf] at hc; cases hc
  | none =>
    apply List.countP_eq_zero.mpr
    intro e he
    simp [fstTerm_none_iff.mp hf e he]

/-- the order invariant behind it, all three runners, every graph: in every reachable state, every edge `t → d` of the
    closure graph out of a task that has a terminal report leads to a task whose terminal report is older -/
theorem C09_report_after_dependencies (inp : RunInput) (s : Sys) (hr : Reach inp s ∨ PReach inp s) (nTasks : Nat)
    (hb : BoundedCalc inp nTasks) (t : Name) (a : Nat) (ha : fstTerm s.events t = some a) :
    ∀ d ∈ edgesAt inp nTasks (trace inp s) t, ∃ b, fstTerm s.events d = some b ∧ b < a :=
  edge_older (ctxC_of hr) (calcsSat_of_bounded hb _) ha

/-- `halted` is final for the main thread of both systems (and a raised cyclic error reaches it in two steps,
    `C09_cyclic_ends_run_*`) -/
theorem C09_halted_final (inp : RunInput) (s : Sys) (perm : List Name) (h : s.rpc = .halted) :
    serialStep inp s perm = none ∧ mainStep inp s perm = none := by
  simp [serialStep, mainStep, h]

/-- `a -> {b, c}`, `b -> c`, `c -> b` (tasks 0, 1, 2): the cycle is first reached from the common parent `a`, so
    neither member is an ancestor of the other (finding F-C09a) -/
def exCommonParent : RunInput :=
  { taskDep := fun n => if n = 0 then [1, 2] else if n = 1 then [2] else if n = 2 then [1] else []
    calcDep := fun _ => [], setup := fun _ => [], sel := [0] }

/-- the repaired dispatcher diagnoses it (serial runner): the run ends with the cyclic-dependency error, exit code 3,
    and nothing was executed; the monitor accepts the model's own observables -/
theorem C09_common_parent_diagnosed :
    ∃ s, Reach exCommonParent s ∧ s.rpc = .halted ∧ s.halt = .cyclic ∧ exitCode s = 3 ∧
      s.events.all (fun e => match e with | .start _ _ => false | _ => true) = true ∧
      monC09 exCommonParent 3 (trace exCommonParent s) { exit := 3, errCyclic := true, errWait := false, hung := false } = true :=
  ⟨_, autoRun_reach (by decide) false false 200 _ Reach.init, by decide +kernel⟩

/-- … and with two worker threads -/
theorem C09_common_parent_diagnosed_parallel :
    ∃ s, PReach { exCommonParent with runner := .thread, numProc := 2 } s ∧ s.rpc = .halted ∧ s.halt = .cyclic ∧
      exitCode s = 3 :=
  ⟨_, autoRun_preach (by decide) false false 200 _ PReach.init, by decide +kernel⟩

/-- non-vacuity of `C09_cycle_diagnosed_*`: the common-parent graph satisfies `BoundedCalc`, its run reaches the end
    with a non-empty `cycleTasks` (tasks 1 and 2), the cyclic error and exit code 3 — serial and with two workers -/
theorem C09_cycle_diagnosed_nonvacuous :
    BoundedCalc exCommonParent 3 ∧
    (∃ s, Reach exCommonParent s ∧ s.rpc = .halted ∧ s.halt = .cyclic ∧ exitCode s = 3 ∧
      cycleTasks exCommonParent 3 (trace exCommonParent s) = [1, 2]) ∧
    (∃ s, PReach { exCommonParent with runner := .thread, numProc := 2 } s ∧ s.rpc = .halted ∧ s.halt = .cyclic ∧
      exitCode s = 3) := by
  refine ⟨fun t => ⟨by simp [exCommonParent], by simp [exCommonParent]⟩, ?_, C09_common_parent_diagnosed_parallel⟩
  exact ⟨_, autoRun_reach (by decide) false false 200 _ Reach.init, by decide +kernel⟩

/-- the hypothesis `BoundedCalc` is needed (the statement quantified over every `nTasks` is false): task 0 has the calc_dep 1, which delivers the calc_dep 2, which delivers the calc_dep
    3, which fails; 0 is reported `unmet`, its setup-task 4 (which depends on 0) is never created and the run ends
    normally under `--continue`.  With the fuel `nTasks = 1` the monitor's `calcsAt` stops at `[1, 2]`, takes 0 for
    chosen by the first pass and sees the cycle 0 → 4 → 0. -/
def exFuel : RunInput :=
  { taskDep := fun n => if n = 4 then [0] else []
    calcDep := fun n => if n = 0 then [1] else []
    setup := fun n => if n = 0 then [4] else []
    calcRes := fun n => if n = 1 then { calcs := [2] } else if n = 2 then { calcs := [3] } else {}
    outcome := fun n => if n = 3 then .failed else .ok
    continue_ := true
    sel := [0] }

theorem C09_cycle_diagnosed_fuel_counterexample :
    ∃ s, Reach exFuel s ∧ s.rpc = .halted ∧ s.halt = .none ∧ s.stop = false ∧
      cycleTasks exFuel 1 (trace exFuel s) ≠ [] ∧ cycleTasks exFuel 5 (trace exFuel s) = [] :=
  ⟨_, autoRun_reach (by decide) false false 400 _ Reach.init, by decide +kernel⟩

/-- the pinned dispatcher (no `_check_deadlock`), serial runner: the same input ends in an internal error
    (`select_task("hold on")`: AttributeError) instead of the diagnosis, and the monitor rejects that run -/
theorem C09_pinned_serial_counterexample :
    ∃ cs s, runPinned exCommonParent (init exCommonParent) cs = some s ∧ s.rpc = .halted ∧ s.halt = .crash ∧
      monC09 exCommonParent 3 (trace exCommonParent s) { exit := 3, errCyclic := false, errWait := true, hung := false } = false :=
  ⟨_, _, runPinned_auto exCommonParent 200 (init exCommonParent), by decide +kernel⟩

/-- the pinned dispatcher, two workers: the run reaches a state in which the main thread blocks in `result_q.get()`
    for ever — nothing queued, nothing executing, both workers parked on a `JobHold` -/
theorem C09_pinned_parallel_counterexample :
    ∃ cs s, runPinned { exCommonParent with runner := .thread, numProc := 2 }
        (init { exCommonParent with runner := .thread, numProc := 2 }) cs = some s ∧
      hungState s 2 = true ∧ mainStep { exCommonParent with runner := .thread, numProc := 2 } s [] = none :=
  ⟨_, _, runPinned_auto _ 200 _, by decide +kernel⟩

/-- an acyclic input with every edge kind: `3 -> 1, 2` (task_dep), `1 -> 0` (task_dep), `2 -> 0` (calc_dep),
    `3 -> 4` (setup) -/
def exAcyclic : RunInput :=
  { taskDep := fun n => if n = 3 then [1, 2] else if n = 1 then [0] else []
    calcDep := fun n => if n = 2 then [0] else []
    setup := fun n => if n = 3 then [4] else []
    sel := [3] }

theorem exAcyclic_calcOf : ∀ n c, CalcOf exAcyclic n c → n = 2 ∧ c = 0 := by
  intro n c h
  induction h with
  | base h =>
    simp only [exAcyclic] at h
    split at h
    · rename_i hn; simp at h; exact ⟨hn, h⟩
    · simp at h
  | res _ h _ => simp [exAcyclic] at h
  | resFail _ h _ => simp [exAcyclic] at h

/-- the hypothesis `Acyclic` is satisfiable by a graph with all edge kinds … -/
theorem C09_exAcyclic_acyclic : Acyclic exAcyclic := by
  refine ⟨fun n => if n = 4 then 0 else n + 1, ?_⟩
  intro n d h
  cases h with
  | task h =>
    simp only [exAcyclic] at h
    by_cases h3 : n = 3
    · subst h3; rw [if_pos rfl] at h
      rcases List.mem_cons.mp h with rfl | h
      · show 2 < 4; decide
      · rw [List.mem_singleton.mp h]; show 3 < 4; decide
    · rw [if_neg h3] at h
      by_cases h1 : n = 1
      · subst h1; rw [if_pos rfl] at h; rw [List.mem_singleton.mp h]; show 1 < 2; decide
      · rw [if_neg h1] at h; cases h
  | ofCalc h => obtain ⟨rfl, rfl⟩ := exAcyclic_calcOf _ _ h; show 1 < 3; decide
  | setup h =>
    simp only [exAcyclic] at h
    by_cases h3 : n = 3
    · subst h3; rw [if_pos rfl] at h; rw [List.mem_singleton.mp h]; show 0 < 4; decide
    · rw [if_neg h3] at h; cases h
  | resT _ h => simp [exAcyclic] at h
  | resF _ h => simp [exAcyclic] at h
  | resTFail _ h => simp [exAcyclic] at h
  | resFFail _ h => simp [exAcyclic] at h

/-- … and is a finite task table with 5 tasks, and satisfies the fuel hypothesis of `C09_cycle_diagnosed_*`: the
    hypotheses of `C09_terminates_serial` and `C09_cycle_diagnosed_*` hold of a graph with every edge kind -/
theorem C09_exAcyclic_finite : FiniteTable exAcyclic 5 ∧ BoundedCalc exAcyclic 5 := by
  -- every list in the table is one of `[1, 2]`, `[0]`, `[4]`, `[3]`, `[]`
  have task : ∀ n, ∀ d ∈ exAcyclic.taskDep n, d < 5 := by
    intro n d h
    simp only [exAcyclic] at h
    by_cases h3 : n = 3
    · rw [if_pos h3] at h; rcases List.mem_cons.mp h with rfl | h
      · decide
      · rw [List.mem_singleton.mp h]; decide
    · rw [if_neg h3] at h
      by_cases h1 : n = 1
      · rw [if_pos h1] at h; rw [List.mem_singleton.mp h]; decide
      · rw [if_neg h1] at h; cases h
  have cd : ∀ n, ∀ d ∈ exAcyclic.calcDep n, d < 5 := by
    intro n d h
    simp only [exAcyclic] at h
    by_cases h2 : n = 2
    · rw [if_pos h2] at h; rw [List.mem_singleton.mp h]; decide
    · rw [if_neg h2] at h; cases h
  have setup : ∀ n, ∀ d ∈ exAcyclic.setup n, d < 5 := by
    intro n d h
    simp only [exAcyclic] at h
    by_cases h3 : n = 3
    · rw [if_pos h3] at h; rw [List.mem_singleton.mp h]; decide
    · rw [if_neg h3] at h; cases h
  have none : ∀ {d : Name}, d ∈ ([] : List Name) → d < 5 := fun h => nomatch h
  exact ⟨⟨fun t h => by rw [List.mem_singleton.mp h]; decide, task, cd, setup, fun _ _ => none, fun _ _ => none,
    fun _ _ => none, fun _ _ => none, fun _ _ => none, fun _ _ => none⟩, fun t => ⟨cd t, fun _ => none⟩⟩
/-- … on which the run ends normally after executing all five tasks (so the theorems above are about runs that do
    pass through `waiting` and `"hold on"` states: three workers, two of them idle most of the time) -/
example : ∃ s, PReach { exAcyclic with runner := .thread, numProc := 3 } s ∧ s.rpc = .halted ∧ s.halt = .none ∧
    ((List.range 5).all fun t => s.events.countP (Ev.isStartOf t) == 1) = true :=
  ⟨_, autoRun_preach (by decide) false true 800 _ PReach.init, by decide +kernel⟩

/-- a reachable state of that run in which the dispatcher did answer `"hold on"` (with a task in flight) -/
example : ∃ s, PReach { exAcyclic with runner := .thread, numProc := 3 } s ∧ s.susp = some .holdOn ∧
    s.dispatched ≠ [] :=
  ⟨_, autoRun_preach (by decide) false true 40 _ PReach.init, by decide +kernel⟩


/-- an input on which a FAILED calc task delivers: `2` has calc_dep `0`; `0` is executed, returns `task_dep: [1]` and then
    fails (`calcResFail`); `--continue` -/
def exFailDeliver : RunInput :=
  { taskDep := fun _ => [], calcDep := fun n => if n = 2 then [0] else [], setup := fun _ => [], sel := [2],
    continue_ := true, outcome := fun n => if n = 0 then .failed else .ok,
    calcResFail := fun n => if n = 0 then { tasks := [1] } else {} }

/-- the theorems of this section are not vacuous on such inputs: the run ends, the delivered task `1` is created,
    executed and reported, `2` is reported (unmet) — and the order statement applies to all three -/
example : ∃ s, Reach exFailDeliver s ∧ s.rpc = .halted ∧ s.events.countP (Ev.isTerminalOf 1) = 1 ∧
    s.events.countP (Ev.isStartOf 1) = 1 ∧ s.events.countP (Ev.isTerminalOf 2) = 1 ∧
    s.events.countP (Ev.isStartOf 2) = 0 :=
  ⟨_, autoRun_reach (by decide) false false 400 _ Reach.init, by decide +kernel⟩

/-- `1` has the calc_dep `0`; `0` is executed, returns `task_dep: [1]` and then fails (`calcResFail`); `--continue`.  The
    only cycle `1 → 1` of the closure graph is the delivered edge; the graph without failed deliveries is acyclic. -/
def exFailCycle : RunInput :=
  { taskDep := fun _ => [], calcDep := fun n => if n = 1 then [0] else [], setup := fun _ => [], sel := [1],
    continue_ := true, outcome := fun n => if n = 0 then .failed else .ok,
    calcResFail := fun n => if n = 0 then { tasks := [1] } else {} }

/-- … and through one more task: `0` delivers `task_dep: [2]`, `2` has the task_dep `1` -/
def exFailCycle2 : RunInput :=
  { exFailCycle with taskDep := fun n => if n = 2 then [1] else [],
                     calcResFail := fun n => if n = 0 then { tasks := [2] } else {} }

/-- C09 (cycle diagnosed) for a cycle that exists only through a failed delivery, every run, all three runners: if the
    closure graph WITH the deliveries of failed calc tasks has a cycle although the graph without them
    (`cycleTasksGood`) has none, and the run was not cut short by the failure
    (`--continue`: `stop = false`) and did not die of an internal error, then it ended with the cyclic-dependency
    error and exit code 3, and no task on that cycle was started or reported.  (`_honly` only names the case: the
    conclusion holds of every cycle of `edgesAt`.) -/
theorem C09_failed_delivery_cycle_diagnosed (inp : RunInput) (s : Sys) (hr : Reach inp s ∨ PReach inp s) (nTasks : Nat)
    (hb : BoundedCalc inp nTasks) (_honly : cycleTasksGood inp nTasks (trace inp s) = [])
    (hcyc : cycleTasks inp nTasks (trace inp s) ≠ []) (hend : s.rpc = .halted) (hstop : s.stop = false)
    (hnc : s.halt ≠ .crash) :
    s.halt = .cyclic ∧ exitCode s = 3 ∧
    ∀ t ∈ cycleTasks inp nTasks (trace inp s),
      s.events.countP (Ev.isStartOf t) = 0 ∧ s.events.countP (Ev.isTerminalOf t) = 0 := by
  obtain ⟨h1, h2⟩ := C09_cycle_exit3 inp s hr nTasks hb hcyc hend hstop hnc
  refine ⟨h1, h2, fun t ht => ⟨(C09_cycle_diagnosed inp s hr nTasks hb).2 t ht, ?_⟩⟩
  exact C09_cycle_task_never_reported inp s hr nTasks hb t (by unfold cycleTasks at ht; exact (List.mem_filter.mp ht).2)

/-- non-vacuity: on `exFailCycle` (serial runner, `--continue`)
    the failed calc task `0` is executed and reported, the run ends with the cyclic error and exit code 3, `1` is never
    started; the graph with failed deliveries has the cycle `[1]`, the graph without them has none; the monitor accepts
    the model's observables and rejects a run that ended normally -/
theorem C09_cycle_only_through_failed_delivery :
    BoundedCalc exFailCycle 2 ∧
    ∃ s, Reach exFailCycle s ∧ s.rpc = .halted ∧ s.stop = false ∧ s.halt = .cyclic ∧ exitCode s = 3 ∧
      s.events.countP (Ev.isStartOf 0) = 1 ∧ s.events.countP (Ev.isStartOf 1) = 0 ∧
      cycleTasks exFailCycle 2 (trace exFailCycle s) = [1] ∧ cycleTasksGood exFailCycle 2 (trace exFailCycle s) = [] ∧
      monC09 exFailCycle 2 (trace exFailCycle s) { exit := 3, errCyclic := true, errWait := false, hung := false } = true ∧
      monC09 exFailCycle 2 (trace exFailCycle s) { exit := 1, errCyclic := false, errWait := false, hung := false } = false := by
  refine ⟨fun t => ⟨by simp [exFailCycle], by simp [exFailCycle]⟩, ?_⟩
  exact ⟨_, autoRun_reach (by decide) false false 400 _ Reach.init, by decide +kernel⟩

/-- the same through one more task (`1 → 2 → 1`, the edge `1 → 2` delivered by the failed `0`), with two worker
    threads: every hypothesis of `C09_failed_delivery_cycle_diagnosed` holds of a reachable state -/
example : ∃ s, PReach { exFailCycle2 with runner := .thread, numProc := 2 } s ∧ s.rpc = .halted ∧ s.stop = false ∧
    s.halt = .cyclic ∧
    cycleTasks { exFailCycle2 with runner := .thread, numProc := 2 } 3
      (trace { exFailCycle2 with runner := .thread, numProc := 2 } s) ≠ [] ∧
    cycleTasksGood { exFailCycle2 with runner := .thread, numProc := 2 } 3
      (trace { exFailCycle2 with runner := .thread, numProc := 2 } s) = [] :=
  ⟨_, autoRun_preach (by decide) false false 600 _ PReach.init, by decide +kernel⟩

end DoitModel.C09
