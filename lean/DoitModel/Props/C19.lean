import DoitModel.Proofs.C19Final
import DoitModel.Proofs.C19Trace
import DoitModel.Proofs.C19FwdWalk
import DoitModel.Proofs.C19Text
/-! # C19 — what is reported is what happened (reports and exit code)

Property theorems only (models: `Model/Run.lean` + `Model/Report.lean`; invariants: `Proofs/Run*.lean`,
`Proofs/C19*.lean`).  Quantification: every task table, selection, oracle (status / ignore / outcome / getargs errors /
calc results), `--continue` or not, every iteration order of the dispatcher's sets, every worker interleaving and
`numProcess`, every reachable state — hence every prefix of every run.  `s.events` is newest first. -/
namespace DoitModel.C19
open DoitModel.Run DoitModel.Report

/-- `exit_code` (specification): 0 iff nothing failed, 1 iff something failed and every failure is a `TaskFailed`,
    2 iff some failure is an error (`TaskError`, `UnmetDependency`, `DependencyError`); never anything else -/
theorem C19_exit_spec (ks : List FailKind) :
    (exitSpec ks = 0 ↔ ks = []) ∧ (exitSpec ks = 1 ↔ ks ≠ [] ∧ ∀ k ∈ ks, k = .failed) ∧
    (exitSpec ks = 2 ↔ ∃ k ∈ ks, k ≠ .failed) ∧ exitSpec ks ≤ 2 :=
  ⟨exitSpec_eq_zero, exitSpec_eq_one, exitSpec_eq_two, exitSpec_le_two ks⟩

/-- the exit code does not depend on the order in which failures are reported (parallel arrival orders, `--continue`):
    it is a function of the multiset — indeed of the set — of failure kinds -/
theorem C19_exit_order_independent (ks ks' : List FailKind) (h : ks.Perm ks') : exitSpec ks = exitSpec ks' :=
  exitSpec_perm h

/-- `_handle_task_error`'s incremental rule (FAILURE only overrides SUCCESS, ERROR is sticky) computes the
    specification, whatever the order of the reports -/
theorem C19_final_fold (evs : List Ev) : finalEv evs = exitSpec (failKinds evs) := finalEv_eq_spec evs

/-- `exit_code`, serial runner: in every reachable state `Runner.final_result` is `exitSpec` of the failure kinds
    reported so far, and the command's exit code is 3 exactly when an exception left `run_all` (cyclic dependency
    found by the dispatcher, internal error), else that value -/
theorem C19_exit_code_serial (inp : RunInput) (s : Sys) (hr : Reach inp s) :
    s.final = exitSpec (failKinds s.events) ∧ exitCode s = exitOf s.halt (failKinds s.events) := by
  have h := (reach_inv19 hr).fin
  rw [finalEv_eq_spec] at h
  refine ⟨h, ?_⟩
  unfold exitCode exitOf; cases s.halt <;> simp [h]

/-- `exit_code`, parallel runners (every worker interleaving, every result arrival order) -/
theorem C19_exit_code_parallel (inp : RunInput) (s : Sys) (hr : PReach inp s) :
    s.final = exitSpec (failKinds s.events) ∧ exitCode s = exitOf s.halt (failKinds s.events) := by
  have h := (preach_inv19 hr).fin
  rw [finalEv_eq_spec] at h
  refine ⟨h, ?_⟩
  unfold exitCode exitOf; cases s.halt <;> simp [h]

/-- the rule of the mutant "FAILURE overrides ERROR" (`final_result = FAILURE` for every `TaskFailed`) is order
    dependent and disagrees with the specification: error then failure gives 1 -/
theorem C19_sticky_error_needed :
    let bad := fun (fin : Nat) (k : FailKind) => if k = .failed then 1 else 2
    [FailKind.error, .failed].foldl bad 0 = 1 ∧ [FailKind.failed, .error].foldl bad 0 = 2 ∧
    exitSpec [.error, .failed] = 2 := by decide

/-- `one_final_report`: a task that is not finished (unprocessed, selected, running) has no final report; a finished
    one has exactly one — `add_success` iff `successful`, `skip_uptodate` iff `up-to-date`, `skip_ignore` iff `ignore`,
    `add_failure` iff `failure` -/
def OneFinalReport (reach : Sys → Prop) : Prop :=
  ∀ s, reach s → ∀ n : Name,
    ((stOf s n).finished = false → s.events.filter (Ev.isTerminalOf n) = []) ∧
    ((stOf s n).finished = true → ∃ e, s.events.filter (Ev.isTerminalOf n) = [e] ∧ reportFor n (stOf s n) e)

theorem C19_one_final_report_serial (inp : RunInput) : OneFinalReport (Reach inp) :=
  fun _ hr n => one_final_report (reach_inv19 hr) (reach_inv2 hr) (reach_inv3 hr) n

theorem C19_one_final_report_parallel (inp : RunInput) : OneFinalReport (PReach inp) :=
  fun _ hr n => one_final_report (preach_inv19 hr) (preach_inv hr).1 (preach_inv hr).2 n

/-- the discipline of the callback stream — the decidable predicate `repOrd` that the driver evaluates on every
    implementation trace — holds in every reachable state: `get_status n` is the first thing reported about `n`;
    `execute_task n` comes after it, at most once, before any final report of `n`, and (when reports are not
    forwarded) before the action's start mark; `add_success` / `add_failure(TaskFailed | TaskError)` only after
    the end mark of the action and after `execute_task n`; `skip_*` and `add_failure(UnmetDependency)` only for
    tasks with neither an `execute_task` report nor a start mark; every final report is the first one of its task -/
theorem C19_report_order_serial (inp : RunInput) (s : Sys) (hr : Reach inp s) :
    repOrd (exOf inp) false (fun _ => false) s.events = true := (reach_inv19 hr).ord

theorem C19_report_order_parallel (inp : RunInput) (s : Sys) (hr : PReach inp s) :
    repOrd (exOf inp) false (fun _ => false) s.events = true := (preach_inv19 hr).ord

/-- the same for the OBSERVABLE trace (`Run.trace`: what the harness records for the implementation), with exactly the
    parameters the driver's monitor `C19_report_order` uses for the serial and the thread runner -/
theorem C19_report_monitor (inp : RunInput) (s : Sys) (hr : Reach inp s ∨ PReach inp s) :
    repOrd (exOf inp) false inp.noAct (trace inp s).reverse = true := by
  have h : Inv19 inp s := hr.elim reach_inv19 preach_inv19
  rw [trace_reverse]; exact repOrd_filter inp _ _ _ h.ord

/-- `execute_task t` is present iff the actions of `t` were started (serial and thread runner: the report is made by
    the thread that executes), as many times (at most once, `C02_at_most_once_serial` / `_parallel`) -/
theorem C19_execute_iff_started (inp : RunInput) (hp : inp.runner ≠ .process) (s : Sys)
    (hr : Reach inp s ∨ PReach inp s) (n : Name) :
    s.events.countP (Ev.isExecOf n) = s.events.countP (Ev.isStartOf n) := by
  have h : Inv19 inp s := hr.elim reach_inv19 preach_inv19
  have := h.ex n
  simpa [cExec, cStart, hp] using this

/-- … and it precedes the final report: the events older than an `execute_task n` contain `get_status n` and no final
    report of `n`; the events older than `add_success n` contain `execute_task n` and the end of the action -/
theorem C19_execute_precedes_report (inp : RunInput) (hp : inp.runner ≠ .process) (s : Sys)
    (hr : Reach inp s ∨ PReach inp s) (pre post : List Ev) (n : Name) :
    (s.events = pre ++ Ev.execute n :: post →
      post.any (Ev.isGetStatusOf n) = true ∧ post.any (Ev.isTerminalOf n) = false) ∧
    (s.events = pre ++ Ev.success n :: post →
      post.any (Ev.isExecOf n) = true ∧ post.any (Ev.isFinOf n) = true ∧ post.any (Ev.isTerminalOf n) = false) := by
  have h : Inv19 inp s := hr.elim reach_inv19 preach_inv19
  have ho := h.ord
  rw [exOf_true hp] at ho
  constructor
  · intro he; rw [he] at ho
    have := repOrd_at ho
    simp only [repOK, firstFinal, Bool.and_eq_true, Bool.not_eq_true'] at this
    exact ⟨this.1.1, this.1.2⟩
  · intro he; rw [he] at ho
    have := repOrd_at ho
    simp only [repOK, firstFinal, Bool.and_eq_true, Bool.not_eq_true', Bool.false_or, Bool.not_true] at this
    exact ⟨this.2, this.1.2, this.1.1.2⟩

/-- reports crossing the process boundary (`MReporter`): each worker puts, per task, the forwarded `execute_task`
    report and then the result on the result queue; whatever interleaving of the producers a FIFO queue delivers
    (`Merge`), the main process sees `execute_task n` before the result of `n` — hence before the final report that
    `process_task_result` makes from it -/
theorem C19_forwarded_execute_before_result (tasksOf : Nat → List Name) (q : List Msg)
    (hm : Merge (fun w => workerMsgs (tasksOf w)) q) (pre post : List Msg) (n : Name)
    (hq : q = pre ++ Msg.res n :: post) : Msg.rep n ∈ pre := by
  have := merge_rep_before_res hm [] (fun w => Or.inl ⟨tasksOf w, rfl⟩) pre post n hq
  simpa using this

/-! ### the process runner: reports crossing the process boundary (`MReporter`) as part of the run

`FReach`: `MRunner` + `MReporter` as one transition system (`Model/Report.lean`): the run model plus the real result
queue carrying the workers' forwarded `execute_task` reports and their results in FIFO order; the main process can
only take the head of the queue. -/

/-- `one_final_report` through `MReporter`: in every reachable state of the process runner with forwarded reports
    * the callback stream satisfies the report discipline with `execute_task` reports included — exactly the
      instance of `repOrd` the driver evaluates on real process-mode traces: every `execute_task n` is delivered after
      `get_status n`, at most once and before any final report of `n`; `add_success` / `add_failure(TaskFailed |
      TaskError)` of `n` only after `execute_task n` was delivered and the action ended (FIFO: the forwarded report is
      ahead of the result on the queue);
    * `execute_task n` reports delivered + still on the queue = starts of `n`'s actions: none is lost or duplicated, so
      once the queue is drained `execute_task n` is present iff the actions of `n` were started;
    * each task has no final report while unfinished and exactly the matching one when finished;
    * `final_result` is `exitSpec` of the failure kinds reported. -/
theorem C19_process_runner_reports (inp : RunInput) (hp : inp.runner = .process) (f : FSys) (hr : FReach inp f) :
    repOrd true true (fun _ => false) f.base.events = true ∧
    repOrd true true inp.noAct (trace inp f.base).reverse = true ∧
    (∀ n, f.base.events.countP (Ev.isExecOf n) + f.fq.count (.rep n) = f.base.events.countP (Ev.isStartOf n)) ∧
    (f.fq = [] → ∀ n, f.base.events.countP (Ev.isExecOf n) = f.base.events.countP (Ev.isStartOf n)) ∧
    (∀ n, ((stOf f.base n).finished = false → f.base.events.filter (Ev.isTerminalOf n) = []) ∧
      ((stOf f.base n).finished = true →
        ∃ e, f.base.events.filter (Ev.isTerminalOf n) = [e] ∧ reportFor n (stOf f.base n) e)) ∧
    f.base.final = exitSpec (failKinds f.base.events) ∧
    exitCode f.base = exitOf f.base.halt (failKinds f.base.events) := by
  have h := freach_inv hp hr
  have hfin := h.fb.fin
  rw [finalEv_eq_spec] at hfin
  refine ⟨h.fb.rep.ord, ?_, fun n => (h.fb.rep.task n).ex, ?_,
    fun n => one_final_report_core (fun n => (h.fb.rep.task n).fl) (fun n => (h.fb.rep.task n).ig) h.b2 h.b3 n, hfin, ?_⟩
  · rw [trace_reverse]; exact repOrd_filter inp _ _ _ h.fb.rep.ord
  · intro hq n
    have := (h.fb.rep.task n).ex
    rw [hq] at this
    exact this
  · unfold exitCode exitOf; cases f.base.halt <;> simp [hfin]

/-- the queue discipline itself: the results on the real queue are the model's `resQ`; a forwarded report is never
    behind the result of its task; a task whose report is still on the queue is still `run` (not yet reported) -/
theorem C19_forward_queue (inp : RunInput) (hp : inp.runner = .process) (f : FSys) (hr : FReach inp f) :
    f.fq.filterMap Msg.resName = f.base.resQ ∧
    (∀ pre post n, f.fq = pre ++ Msg.res n :: post → Msg.rep n ∉ post) ∧
    (∀ n, Msg.rep n ∈ f.fq → stOf f.base n = .run) :=
  let h := freach_inv hp hr
  ⟨h.q3, h.q1, h.q2⟩

/-- the final report is the true one, as far as the oracle of the case decides it (`truthLite`, the dependency-free
    part of the driver's monitor `C19_truth`): `add_success n` only if the action of `n` succeeded; `add_failure` with
    `TaskFailed` / `TaskError` only if the action failed / raised; `DependencyError` after the start only if saving
    failed, before it only if `get_status` answered `error` or the getargs values could not be fetched;
    `skip_uptodate n` only if `n` is up-to-date (and not `--always-execute`) and not ignored -/
theorem C19_report_true_to_oracle (inp : RunInput) (s : Sys) (hr : Reach inp s ∨ PReach inp s) :
    truthLiteOrd inp s.events = true :=
  (hr.elim reach_inv19 preach_inv19).tl

theorem C19_report_true_to_oracle_process (inp : RunInput) (hp : inp.runner = .process) (f : FSys)
    (hr : FReach inp f) : truthLiteOrd inp f.base.events = true :=
  (freach_inv hp hr).fb.rep.tl

/-- `json`: whenever no task is left selected / executing (in particular at the end of a run) the `JsonReporter`
    bookkeeping (`t_results`, `TaskResult.start` / `set_result` / `to_dict`, `complete_run`), fed with the callbacks of
    the run, produces a document — no `KeyError` — whose task list has no duplicate names, lists exactly the tasks that
    were looked at, each with the result string of its final report (`null` if it has none: a task that was only
    selected) and with timing iff `execute_task` was reported.  (Validity of `json.dump` is trusted.)  Serial and thread
    runner; the document is the same whether computed from the observable trace or from the raw event list.
    The hypothesis `hrun` is owed to the model: `Report.jToDict` mirrors `TaskResult.to_dict` as it was before commit
    28cc2d9, where a started, unfinished task raised `TypeError`; the code now guards `elapsed` with
    `_finished_on is not None` and produces a document in that case too, which the model does not show. -/
theorem C19_json (inp : RunInput) (hp : inp.runner ≠ .process) (s : Sys) (hr : Reach inp s ∨ PReach inp s)
    (hrun : ∀ n, stOf s n ≠ .run) :
    ∃ doc, jsonOf (trace inp s) = some doc ∧ (doc.map (·.name)).Nodup ∧
      (∀ n, (∃ o ∈ doc, o.name = n) ↔ s.events.any (Ev.isGetStatusOf n) = true) ∧
      (∀ o ∈ doc, o.result = (s.events.find? (Ev.isTerminalOf o.name)).bind resOf ∧
                  o.timed = s.events.any (Ev.isExecOf o.name)) := by
  have h : Inv19 inp s := hr.elim reach_inv19 preach_inv19
  rw [jsonOf_trace]
  exact json_ok s.events h.ord (all_reported h hp hrun)

/-- … in particular each processed task is listed exactly once, with its true result: for every final report `e` of
    a task `n` in the trace, exactly one entry of the document is named `n`, and its result is the result string of
    `e` (`success` / `fail` / `up-to-date` / `ignore`) -/
theorem C19_json_lists_each_processed_task_once (inp : RunInput) (hp : inp.runner ≠ .process) (s : Sys)
    (hr : Reach inp s ∨ PReach inp s) (hrun : ∀ n, stOf s n ≠ .run) (pre post : List Ev) (e : Ev) (n : Name)
    (hsplit : s.events = pre ++ e :: post) (ht : Ev.isTerminalOf n e = true) :
    ∃ doc, jsonOf (trace inp s) = some doc ∧ (doc.filter fun o => o.name == n).length = 1 ∧
      ∀ o ∈ doc, o.name = n → o.result = resOf e := by
  have h : Inv19 inp s := hr.elim reach_inv19 preach_inv19
  rw [jsonOf_trace]
  exact json_lists_final_report s.events h.ord (all_reported h hp hrun) pre post e n hsplit ht

/-- `1`, `2` independent; `3` depends on both; `1` fails, `2` errors; `--continue`; two worker threads -/
def exMixed : RunInput :=
  { taskDep := fun n => if n = 3 then [1, 2] else []
    calcDep := fun _ => [], setup := fun _ => []
    outcome := fun n => if n = 1 then .failed else if n = 2 then .error else .ok
    sel := [3, 0], continue_ := true, runner := .thread, numProc := 2 }

/-- a run in which a `TaskFailed`, a `TaskError` and an `UnmetDependency` are all reported, one task succeeds, and the
    exit code is 2 -/
example : ∃ s, PReach exMixed s ∧ s.events.contains Ev.complete = true ∧
    s.events.contains (Ev.failure 1 .failed) = true ∧ s.events.contains (Ev.failure 2 .error) = true ∧
    s.events.contains (Ev.failure 3 .unmet) = true ∧ s.events.contains (Ev.success 0) = true ∧ exitCode s = 2 :=
  ⟨_, autoRun_preach (by decide) false true 400 _ PReach.init, by decide +kernel⟩

/-- the same graph, serial, only the `TaskFailed`: exit code 1 -/
example : ∃ s, Reach { exMixed with runner := .serial, numProc := 0, sel := [1, 0] } s ∧
    s.events.contains Ev.complete = true ∧ exitCode s = 1 :=
  ⟨_, autoRun_reach (by decide) false false 400 _ Reach.init, by decide +kernel⟩

/-- the hypothesis of `C19_json` holds at the end of that run, and the document lists the four tasks with their
    results (task `3` failed before being started: no timing) -/
example : ∃ s, PReach exMixed s ∧ (∀ n, n < 6 → stOf s n ≠ .run) ∧
    jsonOf (trace exMixed s) = some [⟨1, some .fail, true⟩, ⟨2, some .fail, true⟩, ⟨0, some .success, true⟩,
      ⟨3, some .fail, false⟩] :=
  ⟨_, autoRun_preach (by decide) false true 400 _ PReach.init, by decide +kernel⟩

/-- the process runner with forwarded reports on the same graph: the run completes, the queue is drained, all three
    executed tasks had their `execute_task` reported, and the report of task `2` was delivered while task `1` was still running -/
example : ∃ f, FReach { exMixed with runner := .process } f ∧ f.base.events.contains Ev.complete = true ∧ f.fq = [] ∧
    ((List.range 4).all fun n => f.base.events.countP (Ev.isExecOf n) == f.base.events.countP (Ev.isStartOf n)) = true ∧
    f.base.events.countP (Ev.isExecOf 1) = 1 ∧ exitCode f.base = 2 :=
  ⟨_, fauto_reach 500 _ FReach.init, by decide +kernel⟩

/-- a real interleaving of two producers: the queue hypothesis of `C19_forwarded_execute_before_result` is satisfiable
    with the second worker's messages between the first one's -/
example : Merge (fun w => workerMsgs (if w = 0 then [5] else if w = 1 then [7] else []))
    [.rep 5, .rep 7, .res 7, .res 5] := by
  refine Merge.cons 0 [.res 5] (by simp [workerMsgs]) ?_
  refine Merge.cons 1 [.res 7] (by simp [workerMsgs]) ?_
  refine Merge.cons 1 [] (by simp) ?_
  refine Merge.cons 0 [] (by simp) ?_
  refine Merge.nil ?_
  intro w; by_cases h0 : w = 0 <;> by_cases h1 : w = 1 <;> simp [h0, h1, workerMsgs]

/-! ### the text reporters (`Model/ReportText.lean`): every reporter-call sequence, every task table -/
section Text
open DoitModel.ReportText

/-- `console_decode`: from the progress lines (`.  t` / `-- t` / `!! t`) of everything `ConsoleReporter` wrote one
    recovers exactly the sequence of (task, executed | up-to-date | ignored) of the visible tasks, in order — nothing
    else is printed with these prefixes, nothing visible is missing, whatever other calls (failures, runtime errors,
    `complete_run` anywhere) are interleaved.  Visible: `execute_task` of a task with actions whose full name does not
    start with `_`; `skip_uptodate` of a task whose name does not start with `_`; every `skip_ignore` -/
theorem C19_console_decode (fv : Nat) (tk : Nat → TaskI) (cs : List RCall) :
    decodeProgress (ReportText.run .console fv tk cs).out = cs.filterMap (RCall.happened tk) := by
  have := run_progress fv tk cs {}
  simpa [ReportText.run, decodeProgress] using this

/-- `summary_lists_each_failure_once` (ConsoleReporter and ExecutedOnlyReporter): `self.failures` is exactly the
    failures handed over with `report=True`, in order of occurrence (two failures of the same task are two entries);
    each got exactly one header line when it was reported; and a `complete_run` at the end of any call sequence
    writes one block per such failure whose task was executed and for which `show_err or show_out` holds, in that
    order, each once -/
theorem C19_summary_lists_each_failure_once (c : Cls) (hc : isCon c = true) (fv : Nat) (tk : Nat → TaskI)
    (cs : List RCall) :
    (ReportText.run c fv tk cs).failures = cs.filterMap RCall.reported ∧
    (ReportText.run c fv tk cs).out.filterMap Line.hdr = cs.filterMap RCall.reported ∧
    decodeBlocks (summary fv tk (ReportText.run c fv tk cs)) =
      ((cs.filterMap RCall.reported).filter (shown fv tk)).map (·.1) := by
  have h := run_failures c hc fv tk cs {}
  simp only [List.nil_append, List.filterMap_nil] at h
  refine ⟨h.1, h.2, ?_⟩
  rw [decodeBlocks_summary]; unfold ReportText.run; rw [h.1]

/-- with the defaults (every failed task executed, task verbosity 0) the summary names every reported failure -/
theorem C19_summary_default (c : Cls) (hc : isCon c = true) (fv : Nat) (tk : Nat → TaskI) (cs : List RCall)
    (hd : ∀ t, (tk t).executed = true ∧ (tk t).verb = 0) :
    decodeBlocks (summary fv tk (ReportText.run c fv tk cs)) = (cs.filterMap RCall.reported).map (·.1) := by
  rw [(C19_summary_lists_each_failure_once c hc fv tk cs).2.2]
  congr 1
  apply List.filter_eq_self.mpr
  intro p _
  simp [shown, showErr, showOut, hd p.1]

/-- `executed_only_is_filter`: for every call sequence `ExecutedOnlyReporter` writes what `ConsoleReporter` writes
    minus the skip lines (`-- t`, `!! t`), keeps the same failure list and runtime errors, and sends the same text
    to stderr — a custom title, a failure, a summary change nothing about that -/
theorem C19_executed_only_is_filter (fv : Nat) (tk : Nat → TaskI) (cs : List RCall) :
    (ReportText.run .executedOnly fv tk cs).out = (ReportText.run .console fv tk cs).out.filter (fun l => !l.isSkip) ∧
    (ReportText.run .executedOnly fv tk cs).failures = (ReportText.run .console fv tk cs).failures ∧
    (ReportText.run .executedOnly fv tk cs).err = (ReportText.run .console fv tk cs).err := by
  have h := run_eo fv tk cs {} {} ⟨rfl, rfl, rfl, rfl⟩
  exact ⟨h.out, h.failures, h.err⟩

/-- `zero_is_errors_only`: `ZeroReporter` writes nothing to `outstream`, whatever is reported; the runtime errors and
    cleanup errors go to stderr, in order.  `ErrorOnlyReporter` writes exactly one header + message per failure with
    `report=True`, in order, and nothing else -/
theorem C19_zero_is_errors_only (fv : Nat) (tk : Nat → TaskI) (cs : List RCall) :
    (ReportText.run .zero fv tk cs).out = [] ∧
    (ReportText.run .zero fv tk cs).err = cs.filterMap (RCall.stderrMsg .zero) ∧
    (ReportText.run .errorOnly fv tk cs).out =
      (cs.filterMap RCall.reported).flatMap (fun p => [Line.eoHdr p.1 p.2, Line.failMsg p.2]) ∧
    (ReportText.run .errorOnly fv tk cs).err = cs.filterMap (RCall.stderrMsg .errorOnly) := by
  have hz := run_zero .zero rfl fv tk cs {}
  have he := run_zero .errorOnly rfl fv tk cs {}
  simp only [List.nil_append] at hz he
  refine ⟨?_, hz.1, ?_, he.1⟩
  · simpa [ReportText.run] using hz.2
  · simpa [ReportText.run] using he.2

/-- non-vacuity: a hidden task, a task without actions, an ignored hidden task, two failures of the same task (one
    not reported), a runtime error; exact text of the console reporter -/
def exTk : Nat → TaskI := fun t =>
  if t = 0 then { name := "a", title := "a => custom" } else if t = 1 then { name := "_h", title := "_h" }
  else if t = 2 then { name := "g", title := "g", hasActions := false } else { name := "g:_x", title := "g:_x" }
def exCalls : List RCall :=
  [.getStatus 0, .execute 0, .addFailure 0 ⟨"TaskFailed", "m1", true⟩, .execute 1, .addSuccess 1, .execute 2,
   .skipIgn 1, .skipUtd 1, .skipUtd 3, .addFailure 0 ⟨"TaskError", "m2", true⟩, .addFailure 3 ⟨"X", "m3", false⟩,
   .runtimeError "boom", .complete]

example : decodeProgress (ReportText.run .console 0 exTk exCalls).out =
      [(0, .executed), (1, .ignored), (3, .upToDate)] ∧
    decodeBlocks (summary 0 exTk (ReportText.run .console 0 exTk exCalls)) = [0, 0] ∧
    (ReportText.run .executedOnly 0 exTk exCalls).out.length + 2 = (ReportText.run .console 0 exTk exCalls).out.length ∧
    (ReportText.run .errorOnly 0 exTk exCalls).out.length = 4 ∧
    (ReportText.run .zero 0 exTk exCalls).err = ["boom"] := by decide

end Text

end DoitModel.C19
