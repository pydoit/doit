import DoitModel.Proofs.Crash
/-! # C06 — interrupted or killed runs leave a dependency DB that never lies

Property theorems over M9 (`Model/Crash.lean`).  Quantification: every old DB content, every effect list of a run,
every iteration order of the dirty set, every kill point (before any primitive, or inside one), every outcome the
storage-layer assumptions A1–A3 leave open; every plan of task outcomes with an interruption anywhere.

The part of the property that speaks about *skipping* ("skips only tasks that really completed successfully with the
current state of their dependencies") is the composition of these theorems (every readable record is one that a
successful execution wrote, or the untouched old one) with the per-record soundness of `get_status` (C03); that
composition is proved in `Props/C06b.lean`.  The assumptions A1–A3 themselves are validated by the kill-point
enumeration of the harness, not proved. -/
namespace DoitModel.C06
open DoitModel.Crash

/-- JsonDB: whatever the kill point, the file is unreadable (error exit), or holds exactly the old content, or
    exactly the content after the run -/
theorem json_kill_all_or_nothing (old : Store) (existed : Bool) (effs : List Eff) (m k : Nat) :
    jsonCrash old existed effs m k = .unreadable ∨
    jsonCrash old existed effs m k = jRecover (jDiskOf old existed) ∨
    jsonCrash old existed effs m k = .store (fun t => slotOf (finalStore old effs t)) := by
  unfold jsonCrash
  have hp : ∀ p ∈ (jsonProtocol old effs m).take k,
      p = JPrim.trunc ∨ p = JPrim.chunk ∨ p = JPrim.last (finalStore old effs) := by
    intro p hp
    have := List.mem_of_mem_take hp
    simp only [jsonProtocol, List.mem_cons, List.mem_append, List.mem_replicate, List.not_mem_nil,
      or_false] at this
    rcases this with h | ⟨_, h⟩ | h
    · exact Or.inl h
    · exact Or.inr (Or.inl h)
    · exact Or.inr (Or.inr h)
  rcases json_fold_cases (jDiskOf old existed) _ (finalStore old effs) hp with h | h | h
  · right; left; rw [h]
  · left; rw [h]; rfl
  · right; right; rw [h]; rfl

/-- JsonDB: every readable record after a kill is legitimate -/
theorem json_kill_sound (old : Store) (existed : Bool) (effs : List Eff) (m k : Nat) :
    match jsonCrash old existed effs m k with
    | .unreadable => True
    | .store f => ∀ t, SlotLegit old effs t (f t) := by
  rcases json_kill_all_or_nothing old existed effs m k with h | h | h <;> rw [h]
  · trivial
  · cases existed
    · exact fun _ => True.intro
    · exact (legitStore_old old effs).slot
  · exact (finalStore_legit old effs).slot

/-- SqliteDB (A2): a kill before `commit` returns leaves exactly the old content; nothing in between is visible -/
theorem sqlite_kill_atomic (old : Store) (effs : List Eff) (dirty : List (T × R)) (k : Nat)
    (hk : k < (sqliteProtocol effs dirty).length) :
    sqliteCrash old effs dirty k = .store (fun t => slotOf (old t)) := by
  unfold sqliteCrash qRecover
  rw [qFold_committed _ _ (commit_not_mem_take effs dirty k hk)]

/-- SqliteDB: every readable record after a kill at any point is legitimate -/
theorem sqlite_kill_sound (old : Store) (effs : List Eff) (dirty : List (T × R)) (k : Nat)
    (hd : ∀ p ∈ dirty, Eff.save p.1 p.2 ∈ effs) :
    match sqliteCrash old effs dirty k with
    | .unreadable => True
    | .store f => ∀ t, SlotLegit old effs t (f t) := by
  exact (qFold_legit _ _ (fun t r h => sqliteProtocol_upserts effs dirty hd t r (List.mem_of_mem_take h))
    (legitStore_old old effs) (legitStore_old old effs)).1.slot

/-- DbmDB on dbm.dumb (A3): whatever the kill point (before a primitive or inside one), whatever an uncommitted
    write reads back as, whatever part of the index survives a torn commit: the DB is unreadable, or every record
    that can be read is legitimate -/
theorem dbm_kill_sound (old : Store) (effs : List Eff) (dirty : List (T × R)) (seens : Nat → SetSeen) (k : Nat)
    (inside : Option (SetSeen × Bool × (T → Bool)))
    (hd : ∀ p ∈ dirty, Eff.save p.1 p.2 ∈ effs) :
    match dbmCrash old effs dirty seens k inside with
    | .unreadable => True
    | .store f => ∀ t, SlotLegit old effs t (f t) := by
  have hok := dbmProtocol_ok effs dirty hd
  have hinv : DInv old effs (dbmRun seens 0 (dInit old) ((dbmProtocol effs dirty).take k)) :=
    dbmRun_inv seens _ (fun p hp => hok p (List.mem_of_mem_take hp)) 0 _ (dInit_inv old effs)
  unfold dbmCrash
  simp only
  cases inside with
  | none => exact dRecover_legit hinv
  | some c =>
    obtain ⟨seen, torn, keep⟩ := c
    cases hp : (dbmProtocol effs dirty)[k]? with
    | none => exact dRecover_legit hinv
    | some p => exact dRecover_legit (dCrashIn_inv seen torn keep _ p (hok p (List.mem_of_getElem? hp)) hinv)

/-- the dirty set doit writes at dump time satisfies the hypothesis of the two theorems above -/
theorem dirty_records_were_saved (effs : List Eff) : ∀ p ∈ dirtyOf effs, Eff.save p.1 p.2 ∈ effs :=
  dirtyOf_saved effs

/-! ## interruption (KeyboardInterrupt / SystemExit inside an action; `finish()` runs in a `finally`) -/

/-- every task reported successful before the run ended is remembered with the record it saved,
    provided no task is processed twice (C02) -/
theorem interrupt_remembers (old : Store) (c : Bool) (plan : List (T × Outcome))
    (hnd : (plan.map (·.1)).Nodup) (t : T) (r : R) (h : (t, r) ∈ reportedOk c plan) :
    afterRun old c plan t = some r := by
  unfold afterRun finalStore
  induction plan generalizing old with
  | nil => simp [reportedOk] at h
  | cons p ps ih =>
    obtain ⟨t', o⟩ := p
    simp only [List.map_cons, List.nodup_cons] at hnd
    cases o with
    | ok r' =>
      simp only [reportedOk, List.mem_cons, Prod.mk.injEq] at h
      simp only [runEffects, List.foldl_cons]
      rcases h with ⟨rfl, rfl⟩ | h
      · exact (runEffects_untouched c t ps _ hnd.1).trans (if_pos rfl)
      · exact ih _ hnd.2 h
    | fail =>
      simp only [reportedOk] at h
      cases c
      · simp at h
      · simp only [if_true] at h
        simp only [runEffects, if_true, List.foldl_cons]
        exact ih _ hnd.2 h
    | interrupt => simp [reportedOk] at h

/-- the interrupted task and the tasks not started yet are not recorded: their entry is what it was before the run -/
theorem interrupt_not_recorded (old : Store) (c : Bool) (pre post : List (T × Outcome)) (ti : T) (t : T)
    (_ht : t = ti ∨ t ∈ post.map (·.1)) (hfresh : t ∉ pre.map (·.1)) :
    afterRun old c (pre ++ (ti, Outcome.interrupt) :: post) t = old t := by
  rw [afterRun, runEffects_interrupt]
  exact runEffects_untouched c t pre old hfresh

/-- a failed task is not left recorded as successful by the flush (C05 shares this clause) -/
theorem failed_not_recorded (old : Store) (c : Bool) (pre post : List (T × Outcome)) (t : T)
    (hpost : t ∉ post.map (·.1)) :
    afterRun old c (pre ++ (t, Outcome.fail) :: post) t = none ∨
    (∃ ti, (ti, Outcome.interrupt) ∈ pre) ∨ (c = false ∧ ∃ u, (u, Outcome.fail) ∈ pre) := by
  unfold afterRun finalStore
  induction pre generalizing old with
  | nil =>
    left
    simp only [List.nil_append, runEffects, List.foldl_cons]
    cases c
    · simp [applyEff]
    · exact (runEffects_untouched true t post _ hpost).trans (if_pos rfl)
  | cons p ps ih =>
    obtain ⟨u, o⟩ := p
    cases o with
    | ok r =>
      simp only [List.cons_append, runEffects, List.foldl_cons]
      rcases ih (applyEff old (Eff.save u r)) with h | ⟨ti, h⟩ | ⟨hc, v, h⟩
      · left; exact h
      · right; left; exact ⟨ti, List.mem_cons_of_mem _ h⟩
      · right; right; exact ⟨hc, v, List.mem_cons_of_mem _ h⟩
    | fail =>
      cases c
      · right; right; exact ⟨rfl, u, List.mem_cons_self ..⟩
      · simp only [List.cons_append, runEffects, if_true, List.foldl_cons]
        rcases ih (applyEff old (Eff.remove u)) with h | ⟨ti, h⟩ | ⟨hc, _⟩
        · left; exact h
        · right; left; exact ⟨ti, List.mem_cons_of_mem _ h⟩
        · cases hc
    | interrupt => right; left; exact ⟨u, List.mem_cons_self ..⟩

/-- an interruption raised inside any teardown action comes after the flush: nothing the run recorded is lost -/
theorem teardown_interrupt_keeps_flush (old mem : Store) (tdList : List T) (k : Nat) (hk : 1 ≤ k) :
    persistedAfterFinish old mem tdList k = mem := by
  unfold persistedAfterFinish finishSteps
  cases k with
  | zero => omega
  | succ n => simp [List.take_succ_cons]

/-- a run that re-saves task 0, removes task 1 and is killed inside the final commit of dbm.dumb can lose part of
    the index (task 0 looks never-run) — allowed, and still legitimate -/
example :
    (dbmCrash (fun t => if t ≤ 1 then some 7 else none) [.save 0 8, .remove 1] [(0, 8)] (fun _ => .garbage) 2
        (some (.new, false, fun _ => false))).slot? 0 = some .absent ∧
    (dbmCrash (fun t => if t ≤ 1 then some 7 else none) [.save 0 8, .remove 1] [(0, 8)] (fun _ => .garbage) 2
        none).slot? 0 = some .corrupt := by decide

/-- a JSON dump killed after the truncate is unreadable; killed before it, the old content is intact -/
example : (jsonCrash (fun _ => some 1) true [.save 0 2] 3 1).slot? 0 = none ∧
          (jsonCrash (fun _ => some 1) true [.save 0 2] 3 0).slot? 0 = some (.rcd 1) ∧
          (jsonCrash (fun _ => some 1) true [.save 0 2] 3 5).slot? 0 = some (.rcd 2) := by decide

example : afterRun (fun _ => some 1) true [(0, .ok 5), (1, .fail), (2, .interrupt), (3, .ok 9)] 0 = some 5 ∧
          afterRun (fun _ => some 1) true [(0, .ok 5), (1, .fail), (2, .interrupt), (3, .ok 9)] 1 = none ∧
          afterRun (fun _ => some 1) true [(0, .ok 5), (1, .fail), (2, .interrupt), (3, .ok 9)] 3 = some 1 := by decide

end DoitModel.C06
