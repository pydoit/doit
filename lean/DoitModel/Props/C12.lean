import DoitModel.Proofs.Sel
import DoitModel.Proofs.SelSingle
import DoitModel.Proofs.SelClosure
import DoitModel.Proofs.C12Order
import DoitModel.Proofs.C12Examples
/-! # C12 — task selection yields exactly the requested closure

Property theorems only (model: `Model/Sel.lean`; lemmas: `Proofs/Sel.lean`, `Proofs/SelSingle.lean`,
`Proofs/SelClosure.lean`; the order clause on the run model M1: `Proofs/C12*.lean`).  Quantification: every task set, every argument list, with / without `default_tasks`,
with / without `--single`.  Strings are `List Char`; patterns are the whole of `fnmatch` (`*`, `?`, bracket classes, literals). -/
namespace DoitModel.C12
open DoitModel.Sel

/-! ## patterns -/

/-- **glob_spec_full**: the model of `fnmatch` decides the declarative matching relation `Matches` — `*`, `?`, bracket
    classes as CPython 3.12's `fnmatch.translate` delimits (`splitClass`) and reads (`inClass`) them, an unclosed `[` and
    all other characters literal — for every pattern and every string -/
theorem glob_spec_full (p s : Tok) : glob p s = true ↔ Matches p s := glob_iff_matches p s

example : glob "[!a-c]x[]]*".toList "dx]yz".toList = true ∧ glob "[!a-c]x".toList "bx".toList = false := by decide +kernel

/-- for a pattern without `[` the relation is the smaller `GlobMatch`: `*` any string, `?` any one character,
    everything else itself -/
theorem glob_spec (p s : Tok) (h : '[' ∉ p) : glob p s = true ↔ GlobMatch p s :=
  (glob_iff_matches p s).trans (matches_iff_globMatch p s h)

example : glob "a*?".toList "abc".toList = true ∧ GlobMatch "a*?".toList "abc".toList := by
  refine ⟨by decide +kernel, (glob_spec _ _ (by decide)).1 (by decide +kernel)⟩

/-- consecutive `*` mean what one `*` means (`fnmatch.translate` compresses them before it builds the expression) -/
theorem star_star (p s : Tok) : glob ('*' :: '*' :: p) s = glob ('*' :: p) s := by
  rw [Bool.eq_iff_iff, glob_iff_matches, glob_iff_matches]
  constructor
  · intro h
    cases h with
    | star _ pre1 _ _ he1 h1 =>
      cases h1 with
      | star _ pre2 s2 _ he2 h2 => exact .star p (pre1 ++ pre2) s2 _ (by rw [he1, he2, List.append_assoc]) h2
      | lit _ _ _ hne => exact absurd rfl hne
    | lit _ _ _ hne => exact absurd rfl hne
  · exact Matches.star _ [] s _ rfl

example : glob "a**b".toList "axyb".toList = true := by decide +kernel

/-- a `[` with no `]` after it (other than one right behind it or behind `[!`) is an ordinary character, and the
    characters after it are read as pattern characters again -/
theorem unclosed_bracket_literal (p s : Tok) (h : splitClass p = none) :
    Matches ('[' :: p) s ↔ ∃ s', s = '[' :: s' ∧ Matches p s' := by
  constructor
  · intro hm
    cases hm with
    | cls _ _ _ _ _ hs => rw [h] at hs; cases hs
    | openLit _ s' _ hm => exact ⟨s', rfl, hm⟩
    | lit _ _ _ _ _ hne => exact absurd rfl hne
  · rintro ⟨s', rfl, hm⟩; exact Matches.openLit p s' h hm

example : splitClass "]a*".toList = none ∧ splitClass "!]".toList = none ∧ glob "[]a*".toList "[]abc".toList = true := by
  decide +kernel

/-- a class without hyphen and without leading `!` is the set of its characters (backslash included: nothing escapes) -/
theorem class_plain (body : Tok) (d : Char) (h1 : '-' ∉ body) (h2 : body.head? ≠ some '!') :
    inClass body d = true ↔ d ∈ body := by
  unfold inClass
  have : body.contains '-' = false := by simpa using h1
  simp only [this, Bool.false_eq_true, if_false]
  split
  · simp at h2
  · simp

example : inClass "]a\\".toList '\\' = true ∧ inClass "]a".toList ']' = true ∧ inClass "]a".toList 'b' = false := by decide +kernel

/-- `[!seq]` without hyphen: every character not in `seq` -/
theorem class_negated (m : Tok) (d : Char) (h1 : '-' ∉ m) : inClass ('!' :: m) d = true ↔ d ∉ m := by
  unfold inClass
  have : ('!' :: m).contains '-' = false := by simpa using h1
  simp only [this, Bool.false_eq_true, if_false]
  simp

example : inClass "!]".toList 'x' = true ∧ inClass "!]".toList ']' = false := by decide +kernel

/-- `[a-b]` is the range from `a` to `b` in code-point order, and nothing when `a > b` (an "empty range" never matches) -/
theorem class_range (a b d : Char) (ha : a ≠ '!') : inClass [a, '-', b] d = true ↔ a ≤ d ∧ d ≤ b := by
  have hk : mergeR (fixLast (chunksGo (if [a,'-',b].head? = some '!' then 2 else 1) [] [a,'-',b]))
      = if a > b then [[]] else [[a],[b]] := by
    rw [if_neg (by simpa using ha)]
    rfl
  unfold inClass
  rw [hk, if_pos (by simp)]
  by_cases hab : a > b
  · rw [if_pos hab]
    exact ⟨fun h => (nomatch h), fun h => absurd (Char.le_trans h.1 h.2) (Char.not_le.2 hab)⟩
  · rw [if_neg hab]
    have hab' : a ≤ b := Char.not_lt.1 hab
    split
    · rename_i h; cases h
    · rename_i h; cases h; exact absurd rfl ha
    · simp only [inChunks, inRanges, List.any_cons, List.any_nil, List.contains_cons, List.contains_nil, Bool.or_false,
        List.getLast?_singleton, List.head?_cons, Bool.or_eq_true, Bool.and_eq_true, decide_eq_true_eq, beq_iff_eq]
      constructor
      · rintro ((rfl | rfl) | h)
        · exact ⟨Char.le_refl _, hab'⟩
        · exact ⟨hab', Char.le_refl _⟩
        · exact h
      · exact Or.inr

example : inClass ['a', '-', 'c'] 'b' = true ∧ ∀ d, inClass ['c', '-', 'a'] d = false := by
  refine ⟨by decide, fun d => ?_⟩
  cases h : inClass ['c', '-', 'a'] d with
  | false => rfl
  | true =>
    have := (class_range 'c' 'a' d (by decide)).1 h
    exact absurd (Char.le_trans this.1 this.2) (by decide)

/-- corner cases of `fnmatch.translate`, evaluated: an empty range never matches, also inside a pattern; a negated empty
    range matches every character; the `!` test is made on what is left after the removal of the empty ranges (`[b-a!]`
    matches every character, `[b-a!x]` is `[!x]`, `[b-a!-z]` is "not `-`, not `z`"); a hyphen first, last or after a
    range is a literal; `[a-c-e]` is `a`..`c`, `-`, `e` -/
theorem class_corner_cases :
    (∀ d ∈ "ab-]![".toList, inClass "b-a".toList d = false) ∧ glob "x[b-a]".toList "xa".toList = false
    ∧ (∀ d ∈ "ab-]![".toList, inClass "!b-a".toList d = true ∧ inClass "b-a!".toList d = true)
    ∧ inClass "b-a!x".toList 'x' = false ∧ inClass "b-a!x".toList '!' = true
    ∧ inClass "b-a!-z".toList '-' = false ∧ inClass "b-a!-z".toList 'z' = false ∧ inClass "b-a!-z".toList 'm' = true
    ∧ inClass "-a".toList '-' = true ∧ inClass "a-".toList '-' = true ∧ inClass "a-c-e".toList '-' = true
    ∧ inClass "a-c-e".toList 'd' = false ∧ inClass "a-c-e".toList 'b' = true := by decide +kernel

/-- a pattern stands for all matching task names, in definition order -/
theorem wild_spec (ts : List Task) (p : Tok) :
    (∀ x, x ∈ wild ts p ↔ x ∈ names ts ∧ Matches p x) ∧ List.Sublist (wild ts p) (names ts) := by
  refine ⟨fun x => ?_, List.filter_sublist⟩
  simp [wild, List.mem_filter, glob_iff_matches]

example : wild [{ name := "a1".toList }, { name := "b1".toList }, { name := "a[1]".toList }] "[ab]1*".toList
    = ["a1".toList, "b1".toList] := by decide +kernel

/-- only `*` makes a task_dep entry a pattern: an entry without `*` — also one containing `?`, `[` or `]`, which are
    legal in task names — is a literal task name and is kept as it is (no matching is done for it) -/
theorem literal_dep_kept (ts : List Task) (t : Task) (h : ∀ d ∈ t.taskDep, hasStar d = false) :
    expandWild ts t = t.taskDep := by
  unfold expandWild
  have h1 : t.taskDep.filter (fun d => !hasStar d) = t.taskDep :=
    List.filter_eq_self.2 (by intro d hd; simp [h d hd])
  have h2 : t.taskDep.filter hasStar = [] := List.filter_eq_nil_iff.2 (by intro d hd; simp [h d hd])
  rw [h1, h2]; simp

/-- a dependency on the task literally named `a[1]` reaches `a[1]`, not `a1`; one on `a?` reaches `a?` only -/
example : closureOf (prepare [{ name := ['u'], taskDep := [['a', '[', '1', ']'], ['a', '?']] }, { name := ['a', '1'] },
    { name := ['a', '[', '1', ']'] }, { name := ['a', '?'] }]) [['u']] = [['u'], ['a', '[', '1', ']'], ['a', '?']] := by
  decide +kernel

/-! ## `filter_spec` -/

/-- **filter_spec**: `TaskControl._filter_tasks` (as of /repo dcfe778, see `reinit_counterexample`) selects exactly what
    the arguments denote — name → itself; target → producer; pattern with `*` → all matching names in definition order;
    options after the first naming of a task consumed by that task's parser; a task with `pos_arg` takes all the rest;
    a task named again is selected again and parses nothing; sub-task of a delayed task → placeholder -/
theorem filter_spec (ts : List Task) (args sel : List Tok) :
    filterTasks ts args = .ok sel ↔ Resolves ts [] args sel :=
  spec_run_iff ts (args.length + 1) [] args sel (by omega)

/-- `Resolves` is functional: an argument list denotes at most one selection -/
theorem resolves_functional (ts : List Task) (args s1 s2 : List Tok) (h1 : Resolves ts [] args s1)
    (h2 : Resolves ts [] args s2) : s1 = s2 := by
  have a := (filter_spec ts args s1).2 h1
  have b := (filter_spec ts args s2).2 h2
  rw [a] at b
  cases b; rfl

/-- the selection is rejected iff the arguments denote nothing -/
theorem filter_error_iff (ts : List Task) (args : List Tok) :
    (∃ e, filterTasks ts args = .error e) ↔ ¬ ∃ sel, Resolves ts [] args sel := by
  constructor
  · rintro ⟨e, he⟩ ⟨sel, hs⟩
    rw [(filter_spec ts args sel).2 hs] at he
    cases he
  · intro hn
    cases hr : filterTasks ts args with
    | error e => exact ⟨e, rfl⟩
    | ok sel => exact absurd ⟨sel, (filter_spec ts args sel).1 hr⟩ hn

/-- a reported `not_found` names an argument that is neither a pattern, a task, a target nor a sub-task of a delayed
    task -/
theorem filter_notFound_sound (ts : List Task) (args : List Tok) (a : Tok)
    (h : filterTasks ts args = .error (.notFound a)) : a ∈ args ∧ ∀ n, ¬ Denotes ts a n := by
  rcases filterGen_error ts false [] args _ h with e | ⟨b, l, e, hp, hb, hn⟩ <;> cases e
  refine ⟨?_, fun n hd => ?_⟩
  · rcases pf_mem ts false _ _ _ _ hp a hb with h1 | h1
    · exact h1
    · rw [resolve_name ts a h1] at hn; cases hn
  · rw [(resolve_iff ts a n).2 hd] at hn; cases hn

/-- the model never runs out of fuel -/
theorem filter_fuel_suffices (ts : List Task) (pinned : Bool) (args : List Tok) :
    filterGen ts pinned [] args ≠ .error .fuel := by
  intro h
  rcases filterGen_error ts pinned [] args _ h with e | ⟨_, _, e, _⟩ <;> cases e

/-- every selected name stays selected: each argument that names a task (outside the values of a `pos_arg` task and
    option values) is in the selection — in particular `doit t1 t1 t2` selects `t2` -/
example : filterTasks [{ name := ['t', '1'] }, { name := ['t', '2'] }] [['t', '1'], ['t', '1'], ['t', '2']]
    = .ok [['t', '1'], ['t', '1'], ['t', '2']] ∧
    filterTasks [{ name := ['t', '1'] }, { name := ['t', '2'] }] [['t', '1'], ['t', '1'], ['n', 'o']]
    = .error (.notFound ['n', 'o']) := by decide +kernel

/-- F-C12b (fixed in /repo by dcfe778): before the fix the statement was **false**: the pinned `_process_filter`
    stopped at a task named again — `doit t1 t1 t2` selected `[t1, t1]` although the arguments denote `[t1, t1, t2]` -/
theorem reinit_counterexample :
    ¬ ∀ (ts : List Task) (args sel : List Tok), pinnedFilterTasks ts args = .ok sel ↔ Resolves ts [] args sel := by
  intro h
  have h1 := (h [{ name := ['t', '1'] }, { name := ['t', '2'] }] [['t', '1'], ['t', '1'], ['t', '2']]
    [['t', '1'], ['t', '1']]).1 (by decide +kernel)
  have h2 := (filter_spec [{ name := ['t', '1'] }, { name := ['t', '2'] }] [['t', '1'], ['t', '1'], ['t', '2']]
    [['t', '1'], ['t', '1'], ['t', '2']]).1 (by decide +kernel)
  have := resolves_functional _ _ _ _ h1 h2
  revert this
  decide +kernel

/-- the pinned code was wrong only there: when no task is named again after its options were initialised
    (`NoReinit`, decidable) it selected what the current code selects -/
theorem pinned_agrees_without_reinit (ts : List Task) (args : List Tok) (h : NoReinit ts args) :
    pinnedFilterTasks ts args = filterTasks ts args := by
  unfold pinnedFilterTasks filterTasks filterGen
  rw [pf_pinned_eq ts _ [] args h]

/-! ## `default` -/

/-- no positional argument ⇒ `default_tasks` when configured, else all tasks in definition order;
    with positional arguments `default_tasks` is not consulted -/
theorem default_selection (ts : List Task) (dflt : Option (List Tok)) :
    process ts (selArgs [] dflt) = (match dflt with
      | none => .ok (names ts)
      | some d => filterTasks ts d) ∧
    ∀ a rest, process ts (selArgs (a :: rest) dflt) = filterTasks ts (a :: rest) := by
  constructor
  · cases dflt <;> rfl
  · intro a rest; rfl

/-! ## command-line variables (`name=value` words) -/

/-- what reaches the selection from the command line: the words that are not `name=value` words, in their order;
    filtering again changes nothing; a command line without such words is passed on as it is -/
theorem cli_strip_spec (args : List Tok) :
    (∀ a, a ∈ stripVars args ↔ a ∈ args ∧ isVarWord a = false) ∧ List.Sublist (stripVars args) args ∧
    stripVars (stripVars args) = stripVars args ∧
    ((∀ a ∈ args, isVarWord a = false) → stripVars args = args) := by
  refine ⟨fun a => ?_, List.filter_sublist, ?_, fun h => ?_⟩
  · simp [stripVars, List.mem_filter]
  · simp [stripVars, List.filter_filter]
  · exact List.filter_eq_self.2 (by intro a ha; simp [h a ha])

/-- no word with `=` that does not start with `-` is ever looked up as a task or target: a target whose name contains
    `=` cannot be selected from the command line -/
theorem cli_var_word_never_selected (args : List Tok) (a : Tok) (h : a ∈ stripVars args) :
    a = [] ∨ a.head? = some '-' ∨ a.contains '=' = false := by
  have h2 : isVarWord a = false := ((cli_strip_spec args).1 a).1 h |>.2
  cases a with
  | nil => exact Or.inl rfl
  | cons c cs =>
    simp only [isVarWord, Bool.and_eq_false_iff, bne_eq_false_iff_eq] at h2
    rcases h2 with h2 | h2
    · exact Or.inr (Or.inl (by simp [h2]))
    · exact Or.inr (Or.inr h2)

/-- the `run` command given words on the command line: the selection is exactly what the remaining words denote
    (`filter_spec`), the set considered is its closure (`closure`, `closure_closed` apply to it unchanged); when no word
    remains the configured `default_tasks` / all tasks are taken (`default_selection`) -/
theorem cli_selection_spec (ts : List Task) (args : List Tok) (dflt : Option (List Tok)) (p : Plan)
    (h : planCli ts args dflt false = .ok p) :
    p.closure = closureOf (prepare ts) p.sel ∧ p.tasks = prepare ts ∧
    (stripVars args ≠ [] → Resolves (prepare ts) [] (stripVars args) p.sel) ∧
    (stripVars args = [] → process (prepare ts) dflt = .ok p.sel) := by
  obtain ⟨hs, ht, hc⟩ := planGen_ok h
  have ht : p.tasks = prepare ts := ht
  refine ⟨ht ▸ hc, ht, fun hne => ?_, fun he => ?_⟩
  · cases hl : stripVars args with
    | nil => exact absurd hl hne
    | cons a rest =>
      rw [hl] at hs
      exact (filter_spec (prepare ts) (a :: rest) p.sel).1 hs
  · rw [he] at hs
    cases dflt <;> exact hs

/-- an empty word is an ordinary word: not a variable, kept in place; named as a task it is rejected as not found, after
    an option that takes a value it is that value -/
example : cliArgs [['t'], [], ['=', 'x']] = [['t'], []] ∧
    processGen (prepare [{ name := ['t'] }]) false (selArgs (cliArgs [['t'], []]) none) = .error (.notFound []) ∧
    processGen (prepare [{ name := ['t'], params := [{ short := some 'v', long := [], takesVal := true }] }]) false
      (selArgs (cliArgs [['t'], ['-', 'v'], []]) none) = .ok [['t']] := by decide +kernel

/-- F-C12-empty-word-crash (fixed in /repo by 0ab6253): before the fix an empty word made `process_args` raise
    IndexError outside the `try` of `DoitMain.run` — no `ERROR` line, no exit code 3 — where the statement demands that
    the unknown name `""` be rejected -/
theorem pinned_empty_word_counterexample :
    pinnedCliArgs [['t', '1'], []] = none ∧ cliArgs [['t', '1'], []] = [['t', '1'], []] ∧
    (∀ args, ¬ args.contains [] = true → pinnedCliArgs args = some (cliArgs args)) := by
  refine ⟨by decide +kernel, by decide +kernel, fun args h => ?_⟩
  simp only [pinnedCliArgs, cliArgs, h]
  rfl

/-- the detached value of a task option is taken out as well: `t --val a=b x` selects what `t --val x` selects -/
example : stripVars [['t'], ['-', '-', 'v'], ['a', '=', 'b'], ['x'], ['k', '=', '1'], ['-', '-', 'v', '=', 'c', '=', 'd'], []]
    = [['t'], ['-', '-', 'v'], ['x'], ['-', '-', 'v', '=', 'c', '=', 'd'], []] := by decide +kernel

/-! ## `single` -/

/-- with `--single` every named task ends up without task dependencies — for a group: each of its sub-tasks does —
    and all named tasks are kept: the selection is the one computed without `--single` -/
theorem single (ts : List Task) (head : Bool) (args : List Tok) (dflt : Option (List Tok)) (p : Plan)
    (h : planGen ts head args dflt true = .ok p) :
    (∀ n ∈ p.sel, SingleOK p.tasks n) ∧
    ∃ q, planGen ts head args dflt false = .ok q ∧ q.sel = p.sel := by
  obtain ⟨hs, ht, _⟩ := planGen_ok h
  refine ⟨ht ▸ applySingle_ok _ p.sel, ?_⟩
  unfold planGen; rw [hs]
  exact ⟨_, rfl, rfl⟩

/-- F-C12 (fixed in /repo by 07d690a): the pinned `Run._execute` called `control.process` a second time under
    `--single`; `doit --single t1 t2` then kept only `t1` -/
theorem pinned_single_counterexample :
    pinnedSingleSelect [{ name := ['t', '1'] }, { name := ['t', '2'] }] (some [['t', '1'], ['t', '2']])
      = .ok [['t', '1']] ∧
    process [{ name := ['t', '1'] }, { name := ['t', '2'] }] (some [['t', '1'], ['t', '2']])
      = .ok [['t', '1'], ['t', '2']] := by decide +kernel

/-! ## `closure` -/

/-- the set computed for the dispatcher is the least set that contains the selection and is closed under the edges
    `succs` (task_dep after wild-card expansion and implicit deps, calc_dep, setup-tasks of tasks that are not declared
    up-to-date): it consists of reachable names only, contains the selection, contains everything reachable, and is
    inside every closed set that contains the selection.  Completeness needs no hypothesis (`closure_closed`): the
    decidable certificate `closedB`, which the driver evaluates on every case, always holds. -/
theorem closure (ts : List Task) (sel : List Tok) :
    (∀ m, m ∈ closureOf ts sel → Reach ts sel m) ∧
    (∀ n ∈ sel, n ∈ closureOf ts sel) ∧
    (∀ m, Reach ts sel m → m ∈ closureOf ts sel) ∧
    (∀ S : List Tok, (∀ n ∈ sel, n ∈ S) → Closed ts S → ∀ m, Reach ts sel m → m ∈ S) :=
  ⟨closure_sound ts sel, closure_has_sel ts sel, closure_complete' ts sel, reach_least ts sel⟩

/-- `ts.length` rounds of expansion reach the fixed point: the computed closure is closed under `succs`, i.e. the
    certificate `closedB` cannot fail -/
theorem closure_closed (ts : List Task) (sel : List Tok) :
    Closed ts (closureOf ts sel) ∧ closedB ts (closureOf ts sel) = true :=
  ⟨closureOf_closed ts sel, (closedB_iff ts _).2 (closureOf_closed ts sel)⟩

/-! ## `order` -/

/-- **order**, on a small abstraction of the serial dispatcher: if a start order works the selected tasks off one after
    the other (`chunkedB`: for every `j`, the part of the closure of the first `j+1` selected tasks that is started at all
    is started before anything outside it — what `_dispatcher_generator` does, taking the next selected task only when
    nothing is ready or waiting), then the order clause of C12 holds: a selected task given later starts earlier only if
    it is in the closure of a task selected before.  `chunkedB` is validated on every observed serial run (K). -/
theorem order (ts : List Task) (sel started : List Tok) (h : chunkedB ts sel started = true) :
    orderPairsBad ts sel started = [] := by
  refine orderPairsBad_nil ts sel started fun i a b hi hmem ha hb hlt => ?_
  unfold chunkedB at h
  have h1 := List.all_eq_true.1 h i (List.mem_range.2 hi)
  unfold chunkAt at h1
  have h2 := List.all_eq_true.1 (List.all_eq_true.1 h1 a ha) b hb
  rw [List.contains_iff_mem.2 (closure_has_sel ts _ a hmem)] at h2
  simp only [Bool.true_and, Bool.not_not, Bool.or_eq_true, decide_eq_true_eq] at h2
  rcases h2 with h2 | h2
  · exact List.contains_iff_mem.1 h2
  · omega

/-- **order_full** — the order clause of C12 on the dispatcher itself (run model M1, `Model/Run.lean`).

    `Represents ts sel nm inp`: `inp` is a serial run of the task table `ts` with selection `sel` (`nm`, injective, names
    the run model's tasks) and every edge the dispatcher can follow is an edge of the static graph `succs`: task_dep,
    calc_dep, setup-tasks of a task that may run (not ignored, not up-to-date), whatever a calc_dep task delivers.
    Then in EVERY reachable state of the serial runner — any iteration order of the sets, any outcomes / statuses /
    `--continue`, runs cut short by a failure or by the cyclic-dependency error included — the order in which tasks
    were started satisfies the clause `Sel.monitor` evaluates: a selected task given later starts before a selected task
    `a` only if it is in the closure of the tasks selected up to `a`.

    The notion of dependency that is needed: `b` may overtake `a` iff `b ∈ closureOf ts (tasks selected up to a)`, i.e.
    `b` is reachable from SOME task selected no later than `a` (not only from `a`), transitively, over ALL edge kinds
    the dispatcher follows (task_dep incl. wild-card expansion and implicit file deps, calc_dep, calc results,
    setup-tasks of tasks that run).  Run-model form, for any task `b` (selected or not): `Run.serial_start_order`.

    Why not via `chunkedB`: the chunk abstraction is NOT an invariant of the run model (`chunk_not_invariant` below);
    `order` speaks of chunked start orders only; `order_full` does not go through chunks: while only a prefix `pre` of the
    selection has been popped from `tasks_to_run` every node is in the closure of `pre`; `tasks_to_run` is popped only
    when nothing is current or ready, and then every existing node is finished or belongs to a set of parked nodes that
    await each other, none of which is ever started. -/
theorem order_full (ts : List Task) (sel : List Tok) (nm : Run.Name → Tok) (inp : Run.RunInput) (s : Run.Sys)
    (h : Represents ts sel nm inp) (hr : Run.Reach inp s) :
    orderPairsBad ts sel ((Run.startOrder s).map nm) = [] :=
  orderPairsBad_nil ts sel _ fun i a b _ hmem ha _ hlt => closure_complete' ts _ b (order_reach h hr (i + 1) a b hmem ha hlt)

/-- the same on the run model alone: serial runner, `pre` a prefix of the selection; whatever is started before a
    member of `pre` belongs to the dependency closure of `pre` (`Run.Cl`, Proofs/RunClosure.lean) -/
theorem order_run_model (inp : Run.RunInput) (pre post : List Run.Name) (s : Run.Sys)
    (hser : inp.runner = .serial) (hsel : inp.sel = pre ++ post) (hr : Run.Reach inp s)
    (before : List Run.Name) (a : Run.Name) (after : List Run.Name)
    (hso : Run.startOrder s = before ++ a :: after) (ha : a ∈ pre) :
    ∀ b ∈ before, Run.Cl (Run.cutSel inp pre) b :=
  Run.serial_start_order hser hsel hr before a after hso ha

/-! ## non-vacuity -/

section examples
def exTasks : List Task := [
  { name := ['a'], targets := [['b']] },
  { name := ['a', 'b'], taskDep := [['a', '*']], params := [{ short := some 'f', long := ['f', 'l'], takesVal := false },
                                                            { short := some 'v', long := [], takesVal := true }] },
  { name := ['b'], fileDep := [['b']], setup := [['a', 'b']] },
  { name := ['g'], hasSubtask := true, taskDep := [['g', ':', 'x']] },
  { name := ['g', ':', 'x'], taskDep := [['b']] }]

/-- a pattern matching two names, then one of them named again (its options are initialised already: the next token
    is a name again), then a name that is also a target of another task (the name wins) -/
example : filterTasks (prepare exTasks) [['a', '*'], ['a', 'b'], ['b']]
    = .ok [['a'], ['a', 'b'], ['a', 'b'], ['b']] ∧
    pinnedFilterTasks (prepare exTasks) [['a', '*'], ['a', 'b'], ['b']] = .ok [['a'], ['a', 'b'], ['a', 'b']] ∧
    filterTasks (prepare exTasks) [['a', '*'], ['a', 'b'], ['-', 'f']] = .error (.notFound ['-', 'f']) ∧
    ¬ NoReinit (prepare exTasks) [['a', '*'], ['a', 'b'], ['b']] := by decide +kernel

/-- the interesting branches of `filter_spec` are reached on a non-trivial input -/
example : NoReinit (prepare exTasks) [['a', 'b'], ['-', 'v'], ['-', 'f'], ['-', '-'], ['g', ':', '*'], ['a']] ∧
    filterTasks (prepare exTasks) [['a', 'b'], ['-', 'v'], ['-', 'f'], ['-', '-'], ['g', ':', '*'], ['a']]
      = .ok [['a', 'b'], ['g', ':', 'x'], ['a']] ∧
    filterTasks (prepare exTasks) [['a'], ['n', 'o']] = .error (.notFound ['n', 'o']) ∧
    filterTasks (prepare exTasks) [['a', 'b'], ['-', 'z']] = .error .optErr := by decide +kernel

/-- wild-card and implicit dependencies, closure through setup, `--single` on a group -/
example : (prepare exTasks).map (·.taskDep) = [[], [['a'], ['a', 'b']], [['a']], [['g', ':', 'x']], [['b']]] ∧
    closureOf (prepare exTasks) [['g']] = [['g'], ['g', ':', 'x'], ['b'], ['a'], ['a', 'b']] ∧
    closedB (prepare exTasks) (closureOf (prepare exTasks) [['g']]) = true ∧
    closureOf (applySingle (prepare exTasks) [['g']]) [['g']] = [['g'], ['g', ':', 'x']] := by decide +kernel

/-- a chunked start order in which a later selected task (`a`) legitimately starts before an earlier one (`b`) -/
example : chunkedB (prepare exTasks) [['b'], ['a'], ['g']] [['a'], ['a', 'b'], ['b'], ['g', ':', 'x'], ['g']] = true ∧
    chunkedB (prepare exTasks) [['g', ':', 'x'], ['a']] [['a'], ['a', 'b'], ['b'], ['g', ':', 'x']] = true ∧
    chunkedB (prepare exTasks) [['a'], ['g']] [['g'], ['a']] = false := by decide +kernel
end examples

section run_examples
/-! the task tables `exOrdTasks` / `exChunkTasks`, their run inputs and the proofs that these represent them are in
    `Proofs/C12Examples.lean`; run-model task `n` is called `exNm n` = `x` repeated `n+1` times -/

/-- the hypotheses of `order_full` are satisfiable and the interesting situation is reached: `doit xx x xxxx` runs to
    completion, and the later-selected `x` (a dependency of `xx`) and the unselected setup-task `xxx` start before `xx` -/
example : ∃ s, Represents exOrdTasks [exNm 1, exNm 0, exNm 3] exNm exOrdInp ∧ Run.Reach exOrdInp s ∧
    (Run.startOrder s).map exNm = [exNm 0, exNm 2, exNm 1, exNm 3] ∧ s.events.contains Run.Ev.complete = true :=
  ⟨_, exOrd_represents, Run.autoRun_reach (by decide) false false 400 _ Run.Reach.init, by decide +kernel⟩

/-- the chunk abstraction `chunkedB` is NOT an invariant of the run model: under `--continue`, `x` fails with an unmet
    dependency (`xx` failed), so its setup-task `xxx` — a member of the closure of `x` — is not created in the tree of
    `x`; it is created and started later, in the tree of `xxxx`, after `xxxxx` which is outside the closure of `x`.  The
    order clause itself holds (`order_full`): `x` is never started. -/
theorem chunk_not_invariant : ∃ s, Represents exChunkTasks [exNm 0, exNm 3] exNm exChunkInp ∧
    Run.Reach exChunkInp s ∧
    (Run.startOrder s).map exNm = [exNm 1, exNm 4, exNm 2, exNm 3] ∧
    chunkedB exChunkTasks [exNm 0, exNm 3] ((Run.startOrder s).map exNm) = false ∧
    orderPairsBad exChunkTasks [exNm 0, exNm 3] ((Run.startOrder s).map exNm) = [] :=
  ⟨_, exChunk_represents, Run.autoRun_reach (by decide) false false 400 _ Run.Reach.init,
    and_assoc.1 ⟨by decide +kernel,
      order_full _ _ _ _ _ exChunk_represents (Run.autoRun_reach (by decide) false false 400 _ Run.Reach.init)⟩⟩
end run_examples

end DoitModel.C12
