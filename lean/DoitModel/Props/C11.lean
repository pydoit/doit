import DoitModel.Proofs.C11Final
import DoitModel.Proofs.C11LazyMon
/-! # C11 — setup-tasks are lazy; teardowns run once, in reverse order

Property theorems only.  Base model: `Model/Run.lean` (dispatcher + the three runners); teardown bookkeeping of every
executing entity: `Model/RunTeardown.lean` (`TSys`, `tstep`, `TReach`; `Variant` `{}` = /repo HEAD, the switches select the pinned behaviours).  Helper lemmas:
`Proofs/C11*.lean`, `Proofs/Run*.lean`.  Quantification: every task table, selection, oracle (status / ignore / outcome /
failing teardowns), flag, set-iteration order, worker interleaving, every reachable state (every prefix of every run).
`events` / `log` are newest first; `.reverse` is chronological. -/
namespace DoitModel.C11
open DoitModel.Run

/-! ## laziness -/

/-- The dispatcher is inside the setup stage of a task `n` — scheduling its setup-tasks one by one
    (`setupIter`: the only place where a node is created through a setup edge, `genStep` at `yield self._gen_node(node,
    setup_task)`), having registered them (`afterSetup`), about to re-send `n` (`self2`) — only while `run_status n`
    is `'run'`: never for a task found up-to-date (`utd`), ignored (`ign`), unmet / failed (`fail`) or not yet
    selected (`none`).  Serial runner. -/
theorem C11_lazy_serial (inp : RunInput) (s : Sys) (hr : Reach inp s) (n : Name) (nd : Node)
    (hn : s.nodes n = some nd) (hpc : (∃ ds, nd.pc = .setupIter ds) ∨ nd.pc = .afterSetup ∨ nd.pc = .self2) :
    nd.status = .run := by
  refine reach_lazy hr n nd hn ?_
  rcases hpc with ⟨ds, e⟩ | e | e <;> (rw [e]; rfl)

/-- the same for the thread / process runners, every worker interleaving -/
theorem C11_lazy_parallel (inp : RunInput) (s : Sys) (hr : PReach inp s) (n : Name) (nd : Node)
    (hn : s.nodes n = some nd) (hpc : (∃ ds, nd.pc = .setupIter ds) ∨ nd.pc = .afterSetup ∨ nd.pc = .self2) :
    nd.status = .run := by
  refine preach_lazy hr n nd hn ?_
  rcases hpc with ⟨ds, e⟩ | e | e <;> (rw [e]; rfl)

/-- in particular at the moment a node is created through a setup edge: the dispatcher's current node `n` is at
    `for setup_task in this_task.setup_tasks: yield self._gen_node(node, setup_task)` with `d` next — then `n` is
    `'run'`, so `d` is not scheduled on behalf of an up-to-date, ignored or unmet task -/
theorem C11_lazy_creation (inp : RunInput) (s : Sys) (hr : Reach inp s ∨ PReach inp s) (n d : Name) (ds : List Name)
    (nd : Node) (_hc : s.cur = some n) (hn : s.nodes n = some nd) (hpc : nd.pc = .setupIter (d :: ds)) :
    nd.status = .run ∧ nd.status ≠ .utd ∧ nd.status ≠ .ign ∧ nd.status ≠ .fail ∧ nd.status ≠ .none := by
  have : nd.status = .run := by
    rcases hr with hr | hr
    · exact C11_lazy_serial inp s hr n nd hn (Or.inl ⟨_, hpc⟩)
    · exact C11_lazy_parallel inp s hr n nd hn (Or.inl ⟨_, hpc⟩)
  rw [this]; simp

/-- a setup-task completes before the task that requires it starts: whatever precedes `start t` in the trace contains
    `add_success d` or `skip_uptodate d` for every `d ∈ setup t` (serial runner) -/
theorem C11_setup_before_parent_serial (inp : RunInput) (s : Sys) (hr : Reach inp s) (pre post : List Ev) (t w : Nat)
    (he : s.events = pre ++ Ev.start t w :: post) :
    ∀ d ∈ inp.setup t, Ev.success d ∈ post ∨ Ev.skipUtd d ∈ post :=
  fun d hd => start_after_deps (reach_inv2 hr) he d (by simp [staticDeps, hd])

/-- the same for the thread / process runners, every worker interleaving -/
theorem C11_setup_before_parent_parallel (inp : RunInput) (s : Sys) (hr : PReach inp s) (pre post : List Ev) (t w : Nat)
    (he : s.events = pre ++ Ev.start t w :: post) :
    ∀ d ∈ inp.setup t, Ev.success d ∈ post ∨ Ev.skipUtd d ∈ post :=
  fun d hd => start_after_deps (preach_inv hr).1 he d (by simp [staticDeps, hd])

/-- The trace form of laziness exactly as the driver evaluates it on every implementation trace (`monLazy`: every
    task that is touched is selected, a task_dep / calc_dep / delivered dep of a justified task, or a setup-task of a
    justified task that was chosen for execution and still pending when the setup-task was first touched), for EVERY
    value of the fuel / range parameter `nTasks`.  FALSE as written: `nTasks` is also the fuel of the two closure
    iterations of the monitor, and a fuel smaller than the number of tasks does not reach the end of a long dependency
    chain (`C11_lazy_monitor_full_counterexample`) — an artefact of the monitor's parameter, not of doit: the harness
    always passes the number of tasks, and the real doit gives the same verdicts on that input
    (corpus/C11/chain-4-monitor-fuel.json: `n = 4` true, `n = 1` false on the trace of the real run). -/
def C11_lazy_monitor_full : Prop :=
  ∀ (inp : RunInput) (s : Sys), (Reach inp s ∨ PReach inp s) → ∀ nTasks, monLazy inp nTasks (trace inp s) = true

/-- a chain `3 → 2 → 1 → 0` of task_deps, `3` selected -/
def exChain : RunInput :=
  { taskDep := fun n => if n = 0 ∨ n > 3 then [] else [n - 1], calcDep := fun _ => [], setup := fun _ => [], sel := [3] }

/-- with `nTasks = 1` the monitor looks at task `0` only and gives the closure 2 rounds: `[3] → [3,2] → [3,2,1]`;
    task `0`, which is executed, is not reached -/
theorem C11_lazy_monitor_full_counterexample : ¬ C11_lazy_monitor_full := by
  intro h
  have hr : Reach exChain (autoRun exChain false false 400 (init exChain)).1 :=
    autoRun_reach (by decide) false false 400 _ Reach.init
  have h1 := h exChain _ (Or.inl hr) 1
  have h2 : monLazy exChain 1 (trace exChain (autoRun exChain false false 400 (init exChain)).1) = false := by
    decide +kernel
  rw [h2] at h1; cases h1

/-- C11 (laziness) in the form of the monitor, at full strength for every parameter the monitor is ever used with:
    when every task name of the input is below `nTasks` (`Bounded`, decidable; the harness passes the number of
    tasks; it also asks that a task without actions — whose start is not observable — delivers nothing "after a
    failed execution"), `monLazy` holds on the observable trace of every reachable state of the serial and of the parallel
    systems — every graph (cyclic ones included), every oracle, every set-iteration order and interleaving.  So no
    task is touched unless it is selected, a (static or delivered) task_dep / calc_dep of a justified task, or a
    setup-task of a justified task that had been chosen for execution (`get_status` reported, no terminal report,
    not ignored, status `run`, all first-stage dependencies finished) when the setup-task was first touched. -/
theorem C11_lazy_monitor (inp : RunInput) (s : Sys) (hr : Reach inp s ∨ PReach inp s) (nTasks : Nat)
    (hb : Bounded inp nTasks) : monLazy inp nTasks (trace inp s) = true := by
  by_cases hser : inp.runner = .serial
  · rcases hr with hr | hr
    · exact monLazy_of_lm hb.p (reach_ctx hser hr) (reach_lm hb.p hser hr)
    · rw [preach_mismatch hser hr]; exact monLazy_init inp nTasks
  · rcases hr with hr | hr
    · rw [reach_mismatch hser hr]; exact monLazy_init inp nTasks
    · exact monLazy_of_lm hb.p (preach_ctx hser hr) (preach_lm hb.p hser hr)

/-- the hypothesis is met by the chain with the right parameter, and there the monitor says yes on the same run -/
example : Bounded exChain 4 ∧
    monLazy exChain 4 (trace exChain (autoRun exChain false false 400 (init exChain)).1) = true :=
  ⟨by decide, C11_lazy_monitor exChain _ (Or.inl (autoRun_reach (by decide) false false 400 _ Reach.init)) 4 (by decide)⟩

/-- `1` has the calc_dep `0`, whose execution fails after it returned `task_dep: [2]`; `--continue` -/
def exFailDeliver : RunInput :=
  { taskDep := fun _ => [], calcDep := fun n => if n = 1 then [0] else [], setup := fun _ => [], sel := [1]
    continue_ := true, outcome := fun n => if n = 0 then .failed else .ok
    calcResFail := fun n => if n = 0 then { tasks := [2] } else {} }

/-- deliveries of a failed calc task are covered: `2` is delivered by the failed `0`, it is touched (and executed), and
    the monitor — whose closure follows `RunMon.resAt` — accepts the run; the hypothesis `Bounded` holds -/
example : Bounded exFailDeliver 3 ∧
    (trace exFailDeliver (autoRun exFailDeliver false false 400 (init exFailDeliver)).1).contains (Ev.success 2) = true ∧
    monLazy exFailDeliver 3 (trace exFailDeliver (autoRun exFailDeliver false false 400 (init exFailDeliver)).1) = true :=
  ⟨by decide, by decide +kernel,
    C11_lazy_monitor exFailDeliver _ (Or.inl (autoRun_reach (by decide) false false 400 _ Reach.init)) 3 (by decide)⟩

/-- task `1` is up-to-date and has the setup-task `0` -/
def exUtdParent : RunInput :=
  { taskDep := fun _ => [], calcDep := fun _ => []
    setup := fun n => if n = 1 then [0] else []
    sel := [1], statusOf := fun _ => .utd }

/-- the monitor is not trivially true: a trace that touches the setup-task `0` of an up-to-date task `1` is rejected -/
example : monLazy exUtdParent 2 [Ev.getStatus 1, Ev.skipUtd 1, Ev.getStatus 0] = false := by
  decide

/-! ## teardown: the shared list (serial runner, thread runner) -/

/-- At the end of every run that reaches `finish()` — normally or stopped by a task failure; for the thread runner:
    without an internal error of the dispatcher — the teardown executions are, in chronological order, exactly
    `Runner.teardown` over the tasks with teardown in the order their actions started: reverse start order, every such
    task exactly once, and a failing teardown (followed by its `cleanup_error` report) does not remove the later ones. -/
theorem C11_teardown_shared (inp : RunInput) (tdFail : Name → Bool) (ts : TSys) (hr : TReach inp tdFail {} ts)
    (hnp : inp.runner ≠ .process) (hend : ts.base.rpc = .halted) (hok : inp.runner = .serial ∨ ts.base.halt = .none) :
    ts.log.reverse = teardownRun tdFail none (startOrder inp ts.base.events) := by
  have h := treach_tdS hnp rfl hr
  rw [h.post hend hok, List.reverse_reverse, h.b.shared hnp]

/-- nothing is torn down before the end of the run: while the runner has not finished, no teardown was executed -/
theorem C11_teardown_not_before_end (inp : RunInput) (tdFail : Name → Bool) (ts : TSys) (hr : TReach inp tdFail {} ts)
    (hnp : inp.runner ≠ .process) (hrun : ts.base.rpc ≠ .halted) : ts.log = [] :=
  (treach_tdS hnp rfl hr).pre hrun

/-- and nothing happens after it: a run that ended (without an internal error under the thread runner) has no
    further step — all worker threads have left, no action starts after the teardowns -/
theorem C11_teardown_end_is_final (inp : RunInput) (tdFail : Name → Bool) (ts : TSys) (hr : TReach inp tdFail {} ts)
    (hend : ts.base.rpc = .halted) (hok : inp.runner = .serial ∨ ts.base.halt = .none) (c : Choice) :
    tstep inp tdFail {} ts c = none := by
  cases hs : tstep inp tdFail {} ts c with
  | none => rfl
  | some ts' =>
    exfalso
    obtain ⟨b', hb, _⟩ := tstep_spec hs
    rcases stepOf_spec hb with ⟨par, perm, _, _, m⟩ | ⟨hpar, w, m⟩
    · rcases m.fin_or with ⟨a, _⟩ | ⟨_, a, _⟩
      · rw [hend] at a; cases a
      · exact a hend
    · have hB : TdB inp ts.base := preach_tdB hpar ((treach_base hr).2 hpar)
      exact hB.busy m.alive.1 m.alive.2 (Or.inr hend) (hok.resolve_left hpar)

/-- each exactly once: the number of teardown executions of task `n` is the number of starts of its actions if it has
    teardown actions (0 otherwise) — which is at most one (`C02_at_most_once_serial` / `_parallel`) -/
theorem C11_teardown_once_shared (inp : RunInput) (tdFail : Name → Bool) (ts : TSys) (hr : TReach inp tdFail {} ts)
    (hnp : inp.runner ≠ .process) (hend : ts.base.rpc = .halted) (hok : inp.runner = .serial ∨ ts.base.halt = .none)
    (n : Name) :
    ts.log.count (TdEv.run n none) = (if inp.hasTeardown n then ts.base.events.countP (Ev.isStartOf n) else 0) ∧
    ts.log.count (TdEv.run n none) ≤ 1 := by
  have e := C11_teardown_shared inp tdFail ts hr hnp hend hok
  have c1 : ts.log.count (TdEv.run n none) = (startOrder inp ts.base.events).count n := by
    rw [← List.count_reverse, e, count_run_teardownRun]
  have c2 := count_startOrder inp n ts.base.events
  have c3 : ts.base.events.countP (Ev.isStartOf n) ≤ 1 := by
    by_cases hser : inp.runner = .serial
    · have h3 := reach_inv3 ((treach_base hr).1 hser)
      have := h3.j n; have := (h3.p0 n).1; unfold cStart at *; omega
    · have h3 := (preach_inv ((treach_base hr).2 hser)).2
      have := h3.j n; have := (h3.p0 n).1; unfold cStart at *; omega
  refine ⟨c1.trans c2, ?_⟩
  rw [c1, c2]; split <;> omega

/-- the monitor the driver evaluates on the implementation's observations holds of the model's own observations -/
theorem C11_teardown_monitor_shared (inp : RunInput) (tdFail : Name → Bool) (ts : TSys) (hr : TReach inp tdFail {} ts)
    (hnp : inp.runner ≠ .process) (hend : ts.base.rpc = .halted) (hok : inp.runner = .serial ∨ ts.base.halt = .none)
    (k : Nat) : monTdExact inp tdFail k ts.base.events.reverse ts.log.reverse = true := by
  have e := C11_teardown_shared inp tdFail ts hr hnp hend hok
  unfold monTdExact
  rw [if_neg hnp, List.reverse_reverse, e]
  rw [map_anon (entity_teardownRun tdFail none _)]
  exact beq_self_eq_true _

/-! ## teardown: the process runner (`-n k`, one teardown list per worker process) -/

/-- What the code does, for every variant: when worker process `w` has exited, its teardown executions are exactly
    `self.teardown()` of that worker (`workerTeardown`) over the tasks with teardown whose actions started **on `w`**,
    in start order; a worker that has not exited has executed no teardown, and the main process executes none. -/
theorem C11_teardown_process_exact (inp : RunInput) (tdFail : Name → Bool) (v : Variant) (ts : TSys)
    (hr : TReach inp tdFail v ts) (hp : inp.runner = .process) (w : Nat) :
    (ts.base.workers w = .exited →
      (logOf (some w) ts.log).reverse = workerTeardown v tdFail w (startOrderOf inp w ts.base.events)) ∧
    (ts.base.workers w ≠ .exited → logOf (some w) ts.log = []) ∧ logOf none ts.log = [] := by
  have h := treach_tdP hp hr
  refine ⟨fun x => ?_, fun x => ?_, h.logM⟩
  · rw [h.logW w, if_pos x, List.reverse_reverse, h.own w]
  · rw [h.logW w, if_neg x]

/-- a run that ends without an internal error has let every started worker process exit (so the statements about
    exited workers speak about all of them); only on the pinned tree does the main process die of a teardown, exactly
    when some worker's loop hit a failing one -/
theorem C11_teardown_process_all_exited (inp : RunInput) (tdFail : Name → Bool) (v : Variant) (ts : TSys)
    (hr : TReach inp tdFail v ts) (hp : inp.runner = .process) (hend : ts.base.rpc = .halted)
    (hok : ts.base.halt = .none) (w : Nat) :
    (ts.base.workers w = .exited ∨ (ts.base.workers w = .notStarted ∧ startOrderOf inp w ts.base.events = [])) ∧
    (ts.crashed = true ↔ (v.pinnedProcess = true ∧
      ∃ k, ts.base.workers k = .exited ∧ (startOrderOf inp k ts.base.events).any tdFail = true)) := by
  have h := treach_tdP hp hr
  constructor
  · rcases h.b.quiet (Or.inr hend) hok w with a | a
    · exact Or.inl a
    · exact Or.inr ⟨a, by rw [← h.own w]; exact h.ns w a⟩
  · rw [h.crash]
    constructor
    · rintro ⟨a, k, b, c⟩; exact ⟨a, k, b, by rw [← h.own k]; exact c⟩
    · rintro ⟨a, k, b, c⟩; exact ⟨a, k, b, by rw [h.own k]; exact c⟩

/-- C11 (teardown) for the process runner at full strength, stated for a variant of the code -/
def TeardownProcessHolds (v : Variant) : Prop :=
  ∀ (inp : RunInput) (tdFail : Name → Bool) (ts : TSys), TReach inp tdFail v ts → inp.runner = .process →
    ∀ w, ts.base.workers w = .exited →
      (logOf (some w) ts.log).reverse = teardownRun tdFail (some w) (startOrderOf inp w ts.base.events)

/-- C11 (teardown) for the process runner, /repo HEAD: when worker process `w` has exited, its teardown executions
    are, in chronological order, exactly `Runner.teardown` over the tasks with teardown whose actions started on `w`:
    reverse start order, each exactly once, a failing teardown is followed by its error report and does not remove the
    later ones; and the run does not die of it.  (The pinned tree, where a failing teardown in a sub-process
    crashed the run, does not have this: `pinned_process_teardown_counterexample`.) -/
theorem C11_teardown_process (inp : RunInput) (tdFail : Name → Bool) (ts : TSys) (hr : TReach inp tdFail {} ts)
    (hp : inp.runner = .process) (w : Nat) (hx : ts.base.workers w = .exited) :
    (logOf (some w) ts.log).reverse = teardownRun tdFail (some w) (startOrderOf inp w ts.base.events) ∧
    ts.crashed = false := by
  refine ⟨?_, ?_⟩
  · rw [(C11_teardown_process_exact inp tdFail {} ts hr hp w).1 hx]; simp [workerTeardown]
  · have h := (treach_tdP hp hr).crash
    cases hc : ts.crashed with
    | false => rfl
    | true => have := (h.mp hc).1; cases this

theorem C11_teardown_process_holds : TeardownProcessHolds {} :=
  fun inp tdFail ts hr hp w hx => (C11_teardown_process inp tdFail ts hr hp w hx).1

/-- each exactly once, per worker: the number of teardown executions of task `n` by worker `w` is the number of
    starts of `n` on `w` if `n` has teardown actions (0 otherwise) — at most one by `C02_at_most_once_parallel` -/
theorem C11_teardown_once_process (inp : RunInput) (tdFail : Name → Bool) (ts : TSys) (hr : TReach inp tdFail {} ts)
    (hp : inp.runner = .process) (w : Nat) (hx : ts.base.workers w = .exited) (n : Name) :
    (logOf (some w) ts.log).count (TdEv.run n (some w)) = (startOrderOf inp w ts.base.events).count n := by
  rw [← List.count_reverse, (C11_teardown_process inp tdFail ts hr hp w hx).1, count_run_teardownRun]

/-- the per-worker conjunct of the monitor `monTdExact` (what the driver evaluates on the implementation's observations)
    holds of the model's own observations at the end of a run without internal error, for every `w`: a worker that was
    never started has an empty log and an empty start order -/
theorem C11_teardown_monitor_process (inp : RunInput) (tdFail : Name → Bool) (ts : TSys) (hr : TReach inp tdFail {} ts)
    (hp : inp.runner = .process) (hend : ts.base.rpc = .halted) (hok : ts.base.halt = .none) (w : Nat) :
    logOf (some w) ts.log.reverse = teardownRun tdFail (some w) (startOrderOf inp w ts.base.events.reverse.reverse) := by
  rw [List.reverse_reverse, ← logOf_reverse]
  rcases (C11_teardown_process_all_exited inp tdFail {} ts hr hp hend hok w).1 with hx | ⟨hn, he⟩
  · exact (C11_teardown_process inp tdFail ts hr hp w hx).1
  · have hnx : ts.base.workers w ≠ .exited := by rw [hn]; simp
    rw [(C11_teardown_process_exact inp tdFail {} ts hr hp w).2.1 hnx, he]; rfl

/-! ### counterexamples: the two pinned behaviours (replayed on the implementation: corpus/C11/, seeded/revert-F-C11*) -/

/-- three independent tasks with teardown, the teardown of task `1` fails; one worker process -/
def exProc : RunInput :=
  { taskDep := fun _ => [], calcDep := fun _ => [], setup := fun _ => [], sel := [0, 1, 2],
    runner := .process, numProc := 1, hasTeardown := fun _ => true }
def exFail : Name → Bool := fun n => n == 1

/-- the tree before "fix: teardown failure on a sub-process is reported instead of crashing the run" (found by this
    check): worker 0 executes 0, 1, 2, then tears down 2 and 1 — 1 fails — and never 0; the main process dies.
    Replayed on the implementation by corpus/C11/process-teardown-failure.json (seeded/revert-F-C11b). -/
theorem pinned_process_teardown_counterexample : ¬ TeardownProcessHolds { pinnedProcess := true } := by
  intro hfull
  obtain ⟨ts, hr, hp⟩ := tCheck_reach (inp := exProc) (tdFail := exFail) (v := { pinnedProcess := true })
    (cs := defaultChoices exProc false false 400)
    (p := fun ts => decide (ts.base.workers 0 = .exited) && ts.crashed &&
      ((logOf (some 0) ts.log).reverse == [TdEv.run 2 (some 0), TdEv.run 1 (some 0)]) &&
      (teardownRun exFail (some 0) (startOrderOf exProc 0 ts.base.events) ==
        [TdEv.run 2 (some 0), TdEv.run 1 (some 0), TdEv.err 1 (some 0), TdEv.run 0 (some 0)]))
    (by decide +kernel)
  simp only [Bool.and_eq_true, decide_eq_true_eq, beq_iff_eq] at hp
  obtain ⟨⟨⟨hx, _⟩, h1⟩, h2⟩ := hp
  have := hfull exProc exFail ts hr rfl 0 hx
  rw [h1, h2] at this
  cases this

/-- the same input at HEAD: all three teardowns, the error report, and the run goes on -/
example : ∃ ts, TReach exProc exFail {} ts ∧ ts.base.workers 0 = .exited ∧ ts.crashed = false ∧
    (logOf (some 0) ts.log).reverse =
      [TdEv.run 2 (some 0), TdEv.run 1 (some 0), TdEv.err 1 (some 0), TdEv.run 0 (some 0)] := by
  obtain ⟨ts, hr, hp⟩ := tCheck_reach (inp := exProc) (tdFail := exFail) (v := {})
    (cs := defaultChoices exProc false false 400)
    (p := fun ts => decide (ts.base.workers 0 = .exited) && !ts.crashed &&
      ((logOf (some 0) ts.log).reverse ==
        [TdEv.run 2 (some 0), TdEv.run 1 (some 0), TdEv.err 1 (some 0), TdEv.run 0 (some 0)]))
    (by decide +kernel)
  simp only [Bool.and_eq_true, decide_eq_true_eq, beq_iff_eq, Bool.not_eq_true'] at hp
  exact ⟨ts, hr, hp.1.1, hp.1.2, hp.2⟩

/-- two tasks with teardown, two worker threads -/
def exThread : RunInput :=
  { taskDep := fun _ => [], calcDep := fun _ => [], setup := fun _ => [], sel := [0, 1],
    runner := .thread, numProc := 2, hasTeardown := fun _ => true }

/-- the pinned tree (before "fix: thread runner executes each teardown only once"): with `k = 2` worker threads every
    teardown is executed `k + 1 = 3` times (each exiting worker and then `finish()` run the whole shared list) -/
theorem pinned_thread_counterexample :
    ∃ ts, TReach exThread (fun _ => false) { pinnedThread := true } ts ∧ ts.base.rpc = .halted ∧
      ts.base.halt = .none ∧ ts.log.count (TdEv.run 0 none) + ts.log.count (TdEv.run 0 (some 0)) +
        ts.log.count (TdEv.run 0 (some 1)) = 3 := by
  obtain ⟨ts, hr, hp⟩ := tCheck_reach (inp := exThread) (tdFail := fun _ => false) (v := { pinnedThread := true })
    (cs := defaultChoices exThread false false 400)
    (p := fun ts => decide (ts.base.rpc = .halted) && decide (ts.base.halt = .none) &&
      decide (ts.log.count (TdEv.run 0 none) + ts.log.count (TdEv.run 0 (some 0)) +
        ts.log.count (TdEv.run 0 (some 1)) = 3))
    (by decide +kernel)
  simp only [Bool.and_eq_true, decide_eq_true_eq] at hp
  exact ⟨ts, hr, hp.1.1, hp.1.2, hp.2⟩

/-! ### non-vacuity -/

/-- `2` needs the setup-task `0` (with teardown) and is selected after `1`; all three have teardowns, the one of `1`
    fails; serial runner -/
def exSerial : RunInput :=
  { taskDep := fun _ => [], calcDep := fun _ => [], setup := fun n => if n = 2 then [0] else [], sel := [1, 2],
    hasTeardown := fun _ => true }

/-- the hypotheses of `C11_teardown_shared` are met by a run that really tears down: start order 1, 0, 2, so the
    teardowns are 2, 0, 1 (with the error report of 1) -/
example : ∃ ts, TReach exSerial exFail {} ts ∧ ts.base.rpc = .halted ∧
    ts.log.reverse = [TdEv.run 2 none, TdEv.run 0 none, TdEv.run 1 none, TdEv.err 1 none] := by
  obtain ⟨ts, hr, hp⟩ := tCheck_reach (inp := exSerial) (tdFail := exFail) (v := {})
    (cs := defaultChoices exSerial false false 400)
    (p := fun ts => decide (ts.base.rpc = .halted) &&
      (ts.log.reverse == [TdEv.run 2 none, TdEv.run 0 none, TdEv.run 1 none, TdEv.err 1 none]))
    (by decide +kernel)
  simp only [Bool.and_eq_true, decide_eq_true_eq, beq_iff_eq] at hp
  exact ⟨ts, hr, hp.1, hp.2⟩

/-- the setup stage is really entered: a reachable state of the same input in which the dispatcher is about to
    create the node of the setup-task `0` on behalf of `2` -/

example : ∃ s, Reach exSerial s ∧ s.cur = some 2 ∧
    (match s.nodes 2 with | some nd => nd.pc == .setupIter [0] | none => false) = true :=
  ⟨_, autoRun_reach (by decide) false false 22 _ Reach.init, by decide +kernel⟩

/-- process runner, two workers, no failing teardown: both workers exit and each tore down its own task -/
example : ∃ ts, TReach { exThread with runner := .process } (fun _ => false) {} ts ∧
    ts.base.workers 0 = .exited ∧ ts.base.workers 1 = .exited ∧ ts.crashed = false ∧
    (logOf (some 0) ts.log).length = 1 ∧ (logOf (some 1) ts.log).length = 1 := by
  obtain ⟨ts, hr, hp⟩ := tCheck_reach (inp := { exThread with runner := .process }) (tdFail := fun _ => false) (v := {})
    (cs := defaultChoices { exThread with runner := .process } false false 400)
    (p := fun ts => decide (ts.base.workers 0 = .exited) && decide (ts.base.workers 1 = .exited) && !ts.crashed &&
      decide ((logOf (some 0) ts.log).length = 1) && decide ((logOf (some 1) ts.log).length = 1))
    (by decide +kernel)
  simp only [Bool.and_eq_true, decide_eq_true_eq, Bool.not_eq_true'] at hp
  exact ⟨ts, hr, hp.1.1.1.1, hp.1.1.1.2, hp.1.1.2, hp.1.2, hp.2⟩

end DoitModel.C11
