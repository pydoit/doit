import DoitModel.Proofs.LoadGroups
import DoitModel.Proofs.LoadOrder
/-! # C18 — loading maps task-creators to a well-formed, validated task set

Property theorems only (model: `Model/Load.lean`; helpers: `Proofs/Load*.lean`).
Quantification: every list of command names, every namespace of creators (any number, any definition lines), each
returning a dict, a generator (arbitrarily nested) of dicts / Task objects / other values, a Task object, `None` or
something else; every task dict over the attribute vocabulary with values of any top-level type.
`load` = `loader.load_tasks` followed by `TaskControl(task_list)`. -/
namespace DoitModel.C18
open DoitModel.Load

/-- loading never ends in an exception other than InvalidTask / InvalidDodoFile, for every input.  It rests on three
    checks of the loader: type-exact `check_attr` (5a43f74), a tuple `uptodate` copied into a list (379257a), `basename`
    checked before use (5cc6c19); the `pinned_*_counterexample` theorems show the crash without each -/
theorem total (cmds : List Name) (cs : List Creator) (e : Exn) : load cmds cs ≠ .crash e :=
  (load_checked cmds cs).1 e

def actionsOnly : TDict := [(.actions, .list [[97]])]

def taskOf (nm : Name) : Task :=
  { name := nm, taskDep := [], wildDep := [], setupTasks := [], calcDep := [], targets := [], fileDep := [],
    subtaskOf := none, hasSubtask := false }

/-- the crash inputs of the three `pinned_*` counterexamples below are invalid-task rejections -/
example :
    load [] [⟨[102], 1, .dict (actionsOnly ++ [(.clean, .int 1)])⟩] = .invalidTask ∧
    load [] [⟨[102], 1, .dict (actionsOnly ++ [(.clean, .float 2)])⟩] = .invalidTask ∧
    load [] [⟨[102], 1, .gen [.leaf (.dict (actionsOnly ++ [(.basename, .list [[120]])]) [] [])]⟩] = .invalidTask := by
  decide +kernel

/-- a tuple `uptodate` with `getargs` is accepted (both types are valid) -/
example :
    load [] [⟨[120], 1, .dict actionsOnly⟩,
             ⟨[102], 2, .dict (actionsOnly ++ [(.uptodate, .tuple [[117]]), (.getargs, .dict [([107], some [120])])])⟩]
      = .tasks [{ name := [120], taskDep := [], wildDep := [], setupTasks := [], calcDep := [], targets := [],
                  fileDep := [], subtaskOf := none, hasSubtask := false },
                { name := [102], taskDep := [], wildDep := [], setupTasks := [[120]], calcDep := [], targets := [],
                  fileDep := [], subtaskOf := none, hasSubtask := false }] := by decide +kernel

/-- F-C18 crash-clean-eq-true / coerced-verbosity (fixed 5a43f74): the pinned `check_attr` (`value in valid[1]`)
    accepted `clean: 1` — on which `for a in clean` raises TypeError — and `verbosity: True` -/
theorem pinned_check_attr_counterexample :
    checkAttrPinned (.int 1) ([.list, .tuple], [.true]) = true ∧
    cleanStep (some (.int 1)) = .error (.crash .typeError) ∧
    checkAttr (.int 1) ([.list, .tuple], [.true]) = false ∧
    checkAttrPinned (.bool true) ([], [.none, .int 0, .int 1, .int 2]) = true ∧
    checkAttr (.bool true) ([], [.none, .int 0, .int 1, .int 2]) = false := by decide +kernel

/-- F-C18 crash-uptodate-tuple-getargs (fixed 379257a): pinned `uptodate.extend` on a tuple raised AttributeError -/
theorem pinned_uptodate_tuple_counterexample :
    getargsStepPinned (actionsOnly ++ [(.uptodate, .tuple [[117]]), (.getargs, .dict [([107], some [120])])])
      = .error (.crash .attributeError) ∧
    getargsStep (actionsOnly ++ [(.uptodate, .tuple [[117]]), (.getargs, .dict [([107], some [120])])])
      = .ok [[120]] := by decide +kernel

/-- F-C18 crash-unhashable-basename (fixed 5cc6c19): without the `basename` check `basename in tasks` raised TypeError -/
theorem pinned_unhashable_basename_counterexample :
    yieldDictPinned [] [102] (actionsOnly ++ [(.basename, .list [[120]])]) [] [] = .error (.crash .typeError) ∧
    yieldDict [] [102] (actionsOnly ++ [(.basename, .list [[120]])]) [] [] = .error .invalidTask := by decide +kernel

/-- F-C18 command-name-as-basename (fixed eeaaa80): the creator produces a task named `list`; only the new check in
    `_process_gen` (`cmdClash`) turns that into InvalidDodoFile -/
theorem pinned_command_name_counterexample :
    generate [102] (.dict (actionsOnly ++ [(.basename, .str [108, 105, 115, 116])])) =
      .ok [{ name := [108, 105, 115, 116], taskDep := [], wildDep := [], setupTasks := [], calcDep := [], targets := [],
             fileDep := [], subtaskOf := none, hasSubtask := false }] ∧
    load [[108, 105, 115, 116]] [⟨[102], 1, .dict (actionsOnly ++ [(.basename, .str [108, 105, 115, 116])])⟩]
      = .invalidDodo := by decide +kernel

def RefsExist (ts : List Task) : Prop :=
  ∀ t ∈ ts, (∀ n ∈ t.taskDep, n ∈ ts.map (·.name)) ∧ (∀ n ∈ t.setupTasks, n ∈ ts.map (·.name)) ∧
    (∀ n ∈ t.calcDep, n ∈ ts.map (·.name))

/-- the whole claim; false as it stands (`wellformed_handmade_counterexample`), proved in two parts:
    `wellformed_partial` for every input, `wellformed_groups` under `PlainObjs` -/
def wellformed_full : Prop :=
  ∀ (cmds : List Name) (cs : List Creator) (ts : List Task), load cmds cs = .tasks ts →
    (ts.map (·.name)).Nodup ∧ RefsExist ts ∧ (ts.flatMap (·.targets)).Nodup ∧ GroupsWF ts

/-- Proved part of `wellformed_full`, for every input: names pairwise distinct, every name in `task_dep`
    (after wild-card expansion and implicit dependencies), `setup_tasks` (which include the `getargs` tasks, see
    `references_are_checked`) and `calc_dep` is the name of a loaded task, targets pairwise distinct.
    Missing: `GroupsWF` (every sub-task attached to a group task that depends on all its sub-tasks in yield order;
    `Proofs/LoadGroups.lean`) — proved in `wellformed_groups` for every input whose Task objects are not marked as
    sub-task / group by hand; false only for such hand-marked objects, which the loader passes through unprocessed
    (`wellformed_handmade_counterexample`). -/
theorem wellformed_partial (cmds : List Name) (cs : List Creator) (ts : List Task) (h : load cmds cs = .tasks ts) :
    (ts.map (·.name)).Nodup ∧ RefsExist ts ∧ (ts.flatMap (·.targets)).Nodup := by
  obtain ⟨ts0, _, _, hc⟩ := (load_checked cmds cs).2 ts h
  obtain ⟨f, hf, rfl, hnames, htargets, hrefs⟩ := (control_checked _).of_ok hc
  rw [map_extends_names ts0 f hf, map_extends_targets ts0 f hf]
  refine ⟨hnames, ?_, htargets⟩
  intro t' ht'
  obtain ⟨t, ht, rfl⟩ := List.mem_map.mp ht'
  rw [map_extends_names ts0 f hf]
  exact ⟨fun n hn => hrefs t ht n (Or.inl hn), fun n hn => hrefs t ht n (Or.inr (Or.inl hn)),
    fun n hn => hrefs t ht n (Or.inr (Or.inr hn))⟩


/-- The group clause, for every input in which the Task *objects* handed over by creators are not marked as sub-task
    or group by hand (`PlainObjs`, decidable — the loader passes Task objects through unprocessed, the clause is about
    the sub-tasks the loader makes): every `basename:name` sub-task of an accepted load is attached to a group task
    named `basename` with `has_subtask`, and the sub-tasks of that group, in yield order, form a subsequence of the
    group's `task_dep`.  No hypothesis about the order of yields is needed: a `name: None` dict arriving after
    sub-tasks keeps them, any other yield for a defined name is rejected (dd215ad). -/
theorem wellformed_groups (cmds : List Name) (cs : List Creator) (ts : List Task) (ht : PlainObjs cs = true)
    (h : load cmds cs = .tasks ts) : GroupsWF ts := by
  obtain ⟨ts0, _, hgen, hc⟩ := (load_checked cmds cs).2 ts h
  obtain ⟨f, hf, rfl, hnames, _⟩ := (control_checked _).of_ok hc
  apply groupsWF_map_extends ts0 f hf
  apply generateAll_groupsWF cmds (sortByLine cs) ts0 _ hgen hnames
  intro c hc'
  exact List.all_eq_true.mp ht c ((mem_sortByLine cs c).mp hc')

/-- definition order: the loaded task names are the concatenation of the creators' own task lists, creators taken
    in the order of their definition lines -/
theorem definition_order (cmds : List Name) (cs : List Creator) (ts : List Task) (h : load cmds cs = .tasks ts) :
    ∃ parts, PartsOf (sortByLine cs) parts ∧ ts.map (·.name) = parts.flatten.map (·.name) := by
  obtain ⟨ts0, _, hgen, hc⟩ := (load_checked cmds cs).2 ts h
  obtain ⟨parts, hp, rfl⟩ := generateAll_parts cmds _ ts0 hgen
  obtain ⟨f, hf, rfl, _⟩ := (control_checked _).of_ok hc
  exact ⟨parts, hp, map_extends_names _ f hf⟩

/-- `sortByLine` is a stable sort by definition line: a permutation, ascending, and creators defined on the same
    line keep their namespace order -/
theorem creators_sorted_stably (cs : List Creator) :
    (sortByLine cs).Perm cs ∧ SortedByLine (sortByLine cs) ∧
    ∀ n, (sortByLine cs).filter (fun c => c.line == n) = cs.filter (fun c => c.line == n) :=
  ⟨sortByLine_perm cs, sortByLine_sorted_stable cs⟩

/-- inside one generator the tasks come in yield order, a group task standing where its first sub-task (or its
    attribute dict) was yielded: `f`, `f:b`, `f:a` for yields `b`, `a` -/
example :
    load [] [⟨[102], 1, .gen [.leaf (.dict (actionsOnly ++ [(.name, .str [98])]) [] []),
                              .leaf (.dict (actionsOnly ++ [(.name, .str [97])]) [] [])]⟩]
      = .tasks [{ name := [102], taskDep := [[102, 58, 98], [102, 58, 97]], wildDep := [], setupTasks := [],
                  calcDep := [], targets := [], fileDep := [], subtaskOf := none, hasSubtask := true },
                { name := [102, 58, 98], taskDep := [], wildDep := [], setupTasks := [], calcDep := [], targets := [],
                  fileDep := [], subtaskOf := some [102], hasSubtask := false },
                { name := [102, 58, 97], taskDep := [], wildDep := [], setupTasks := [], calcDep := [], targets := [],
                  fileDep := [], subtaskOf := some [102], hasSubtask := false }] ∧
    PlainObjs [⟨[102], 1, .gen [.leaf (.dict (actionsOnly ++ [(.name, .str [98])]) [] []),
                                .leaf (.task (taskOf [120]))]⟩] = true := by decide +kernel

/-- group attributes yielded after a sub-task keep it (dd215ad): yields `s`, `{'name': None}`, `t`; the group depends
    on `f:s`, `f:t` -/
example :
    load [] [⟨[102], 1, .gen [.leaf (.dict (actionsOnly ++ [(.name, .str [115])]) [] []),
                              .leaf (.dict [(.name, .none)] [] []),
                              .leaf (.dict (actionsOnly ++ [(.name, .str [116])]) [] [])]⟩]
      = .tasks [{ taskOf [102] with taskDep := [[102, 58, 115], [102, 58, 116]], hasSubtask := true },
                { taskOf [102, 58, 115] with subtaskOf := some [102] },
                { taskOf [102, 58, 116] with subtaskOf := some [102] }] := by decide +kernel

/-- F-C18 yield-replaces-task (fixed dd215ad): the pinned `name: None` branch replaced the group task made for the
    sub-task `f:s` (its `task_dep` became empty), and a yielded Task object replaced the task of the same name -/
theorem pinned_yield_replaces_counterexample :
    ((yieldAll [102] [] [.dict (actionsOnly ++ [(.name, .str [115])]) [] []]).bind
        (fun tk => yieldGroupAttrsPinned tk [(.name, .none)] (.str [102]))).toOption.map
      (fun tk => (lookup tk [102]).map (·.taskDep)) = some (some []) ∧
    ((yieldAll [102] [] [.dict (actionsOnly ++ [(.name, .str [115])]) [] []]).bind
        (fun tk => yieldGroupAttrs tk [(.name, .none)] (.str [102]))).toOption.map
      (fun tk => (lookup tk [102]).map (·.taskDep)) = some (some [[102, 58, 115]]) ∧
    ((yieldAll [102] [] [.dict (actionsOnly ++ [(.basename, .str [120])]) [] []]).bind
        (fun tk => yieldOnePinned [102] tk (.task (taskOf [120])))).toOption.map (·.length) = some 1 ∧
    (yieldAll [102] [] [.dict (actionsOnly ++ [(.basename, .str [120])]) [] []]).bind
        (fun tk => yieldOne [102] tk (.task (taskOf [120]))) = .error .invalidTask := by decide +kernel

/-- a Task object that a creator marked as sub-task by hand is handed through unprocessed: no group task exists for it.
    This is the only way `wellformed_full` fails (`wellformed_groups`); such objects are outside the reading of C18
    (the monitor skips them as well) -/
theorem wellformed_handmade_counterexample : ¬ wellformed_full := by
  intro h
  have := (h [] [⟨[113], 1, .task { taskOf [120, 58, 115] with subtaskOf := some [120] }⟩]
    [{ taskOf [120, 58, 115] with subtaskOf := some [120] }] (by decide +kernel)).2.2.2
  obtain ⟨g, hg, hname, _, _⟩ := this _ (List.mem_singleton.mpr rfl) [120] rfl
  simp only [List.mem_singleton] at hg
  subst hg
  revert hname; decide

/-- the task names a dict mentions in `task_dep` (no `*`), `setup`, `calc_dep` and `getargs` all end up in the fields
    that `TaskControl` checks (`RefsExist`), so a dangling reference of any of the four kinds is rejected -/
theorem references_are_checked (d : TDict) (t : Task) (h : dictToTask d = .ok t) :
    (∀ n ∈ seqItems (get d .task_dep), n.contains chStar = false → n ∈ t.taskDep) ∧
    (∀ n ∈ seqItems (get d .setup), n ∈ t.setupTasks) ∧
    (∀ n ∈ seqItems (get d .calc_dep), n ∈ t.calcDep) ∧
    (∀ e ∈ getargsEntries (get d .getargs), ∀ tk, e.2 = some tk → tk ∈ t.setupTasks) ∧
    t.targets = seqItems (get d .targets) :=
  dictToTask_refs d t h

/-- duplicate task names, a dangling `task_dep` / `setup` / `calc_dep` (hence `getargs`) name, or a target claimed
    twice: `TaskControl` refuses the task list with InvalidDodoFile / InvalidTask -/
theorem rejects_at_control (ts : List Task)
    (hdef : ¬ (ts.map (·.name)).Nodup ∨ ¬ (ts.flatMap (·.targets)).Nodup ∨
      (∃ t ∈ ts, ∃ n, (n ∈ t.taskDep ∨ n ∈ t.setupTasks ∨ n ∈ t.calcDep) ∧ n ∉ ts.map (·.name))) :
    control ts = .error .invalidDodo ∨ control ts = .error .invalidTask := by
  cases hc : control ts with
  | error e =>
    cases e with
    | invalidTask => exact Or.inr rfl
    | invalidDodo => exact Or.inl rfl
    | crash e' => exact absurd hc ((control_checked ts).no_crash e')
  | ok ts' =>
    exfalso
    obtain ⟨f, hf, _, hnames, htargets, hrefs⟩ := (control_checked _).of_ok hc
    rcases hdef with hd | hd | ⟨t, ht, n, hn, hnot⟩
    · exact hd hnames
    · exact hd htargets
    · obtain ⟨extra, he⟩ := hf t
      exact hnot (hrefs t ht n (by rw [he]; exact hn.imp_left (List.mem_append_left extra)))

/-- inside one generator: a second sub-task with the same `basename:name`, a second plain task with the same
    `basename`, and a sub-task whose `basename` is already a plain (non-group) task are rejected as duplicated
    definitions; so are (dd215ad) a yielded Task object whose name is already defined and a `name: None` dict arriving
    for a name that is defined as a plain task (`rejects_group_attrs_over_plain`).
    The third clause holds without its escape `∨ b = []`: an empty `basename` is rejected by the truthiness test. -/
theorem rejects_duplicate_in_generator (tasks : Tasks) (d0 : TDict) (b : Name) (nv : RawVal) (nf bf : Name) :
    (∀ fn t, hasKey tasks t.name = true → yieldOne fn tasks (.task t) = .error .invalidTask) ∧
    (hasKey tasks (fullName (.str b) nv nf bf) = true →
      yieldSub tasks d0 (.str b) nv nf bf = .error .invalidTask) ∧
    (hasKey tasks b = true → yieldPlain tasks d0 (.str b) = .error .invalidTask ∨ b = []) ∧
    (∀ g full sub, lookup tasks b = some g → g.hasSubtask = false →
      attachSub tasks b full sub = .error .invalidTask) := by
  refine ⟨?_, ?_, ?_, ?_⟩
  · intro fn t h; rw [yieldOne, if_pos h]
  · intro h; rw [yieldSub, if_pos h]
  · intro h
    cases b with
    | nil => exact Or.inr rfl
    | cons x xs => left; simp [yieldPlain, RawVal.truthy, RawVal.hashable, h]
  · intro g full sub hg hs
    simp [attachSub, hg, hs]

/-- a yield for a name already defined as a plain task is a duplicated definition (dd215ad; the pinned behaviour,
    silent replacement, is `pinned_yield_replaces_counterexample`): plain task `x` then
    `{'name': None, 'basename': 'x'}`, plain task `x` then a Task object `x` -/
theorem rejects_group_attrs_over_plain :
    load [] [⟨[102], 1, .gen [.leaf (.dict (actionsOnly ++ [(.basename, .str [120])]) [] []),
                              .leaf (.dict [(.name, .none), (.basename, .str [120])] [] [])]⟩] = .invalidTask ∧
    load [] [⟨[102], 1, .gen [.leaf (.dict (actionsOnly ++ [(.basename, .str [120]), (.targets, .list [[116]])]) [] []),
                              .leaf (.task (taskOf [120]))]⟩] = .invalidTask := by decide +kernel

/-- An accepted load implies, for every creator: its name is not a command name; a returned dict has no `name`,
    has `actions`, a string `basename` if any, and every other field is a known attribute whose value passes
    `Task.valid_attr`; a generator yields only dicts and Task objects, every yielded dict has `name` or `basename`,
    has `actions` (unless it carries group attributes) and only known, table-conforming fields; the result is never
    "something else".  (Contrapositive: unknown field, value rejected by the table, missing actions / name, `name`
    in a returned dict, a non-dict yield, a non-task result, a creator named like a command ⇒ not accepted.) -/
theorem accepted_results_valid (cmds : List Name) (cs : List Creator) (ts : List Task)
    (h : load cmds cs = .tasks ts) : ∀ c ∈ cs, c.name ∉ cmds ∧ ResultValid c.name c.result := by
  obtain ⟨ts0, hcmd, hgen, _⟩ := (load_checked cmds cs).2 ts h
  intro c hc
  refine ⟨hcmd c hc, ?_⟩
  obtain ⟨r, hr⟩ := generateAll_ok_mem cmds _ ts0 hgen c ((mem_sortByLine cs c).mpr hc)
  exact generate_ok c.name c.result r hr

/-- no accepted task other than a sub-task is named like a command — whether the name comes from the creator or from
    a `basename` (fix eeaaa80) -/
theorem rejects_command_names (cmds : List Name) (cs : List Creator) (ts : List Task)
    (h : load cmds cs = .tasks ts) : ∀ t ∈ ts, t.subtaskOf = none → t.name ∉ cmds := by
  obtain ⟨ts0, _, hgen, hc⟩ := (load_checked cmds cs).2 ts h
  obtain ⟨f, hf, rfl, _⟩ := (control_checked _).of_ok hc
  intro t ht hsub
  obtain ⟨t0, ht0, rfl⟩ := List.mem_map.mp ht
  rw [(hf t0).name]
  exact generateAll_no_cmd cmds _ ts0 hgen t0 ht0 ((hf t0).subtaskOf ▸ hsub)

/-- full statement about types: whatever `Task.__init__` lets through is an instance of a listed class or a listed
    literal of the literal's own type (`checkAttr`, type-exact, 5a43f74) -/
def rejects_wrong_type_full : Prop :=
  ∀ (a : Attr) (v : RawVal) (s : Spec), validAttr a = some s → checkAttr (effective a v) s = true → checkAttr v s = true

/-- Proved part: the only value that passes without being of a listed type / a listed literal is a falsy `getargs`
    (`getargs = getargs or {}` runs before the check).  Missing: exactly that (open finding coerced-getargs-falsy). -/
theorem rejects_wrong_type_partial (a : Attr) (v : RawVal) (s : Spec) (_hs : validAttr a = some s)
    (hc : checkAttr (effective a v) s = true) :
    checkAttr v s = true ∨ (a = .getargs ∧ v.truthy = false) := by
  unfold effective at hc
  by_cases ha : a = .getargs
  · by_cases ht : v.truthy = true
    · left; simpa [ha, ht] using hc
    · right; exact ⟨ha, by simpa using ht⟩
  · left; simpa [ha] using hc

/-- `getargs: False` passes -/
theorem rejects_wrong_type_counterexample : ¬ rejects_wrong_type_full := by
  intro h
  have := h .getargs (.bool false) ([.dict], []) (by decide) (by decide)
  revert this; decide

/-! ## accepted although the statement lists them as defects (open findings; replayed on the implementation) -/

/-- `getargs: False` is accepted; `verbosity: True` is not (type-exact `check_attr`, 5a43f74) -/
theorem accepts_coerced_getargs :
    load [] [⟨[102], 1, .dict (actionsOnly ++ [(.getargs, .bool false)])⟩] = .tasks [taskOf [102]] ∧
    load [] [⟨[102], 1, .dict (actionsOnly ++ [(.verbosity, .bool true)])⟩] = .invalidTask := by decide +kernel

/-- in a `name: None` dict the `actions` value is discarded unchecked -/
theorem accepts_group_actions_of_any_type :
    load [] [⟨[102], 1, .gen [.leaf (.dict [(.name, .none), (.actions, .int 5)] [] [])]⟩]
      = .tasks [{ taskOf [102] with hasSubtask := true }] := by decide +kernel

/-- a sub-task `name: 5` is formatted into `f:5` -/
theorem accepts_nonstr_subtask_name :
    load [] [⟨[102], 1, .gen [.leaf (.dict (actionsOnly ++ [(.name, .int 5)]) [53] [])]⟩]
      = .tasks [{ taskOf [102] with taskDep := [[102, 58, 53]], hasSubtask := true },
                { taskOf [102, 58, 53] with subtaskOf := some [102] }] := by decide +kernel

/-- an accepted, non-trivial load: creator `g` (line 5) yields two sub-tasks, one nested; creator `a` (line 3, defined
    later in the namespace) is loaded first; `g:s` refers to `a` through getargs, `a` to `g*` through a wild-card -/
example :
    load [[108]] [⟨[103], 5, .gen [.leaf (.dict (actionsOnly ++ [(.name, .str [115]), (.getargs, .dict [([107], some [97])])]) [] []),
                                   .nested [.leaf (.dict (actionsOnly ++ [(.name, .str [116])]) [] [])]]⟩,
                  ⟨[97], 3, .dict (actionsOnly ++ [(.targets, .tuple [[111]])])⟩]
      = .tasks [{ taskOf [97] with targets := [[111]] },
                { taskOf [103] with taskDep := [[103, 58, 115], [103, 58, 116]], hasSubtask := true },
                { taskOf [103, 58, 115] with setupTasks := [[97]], subtaskOf := some [103] },
                { taskOf [103, 58, 116] with subtaskOf := some [103] }] := by
  decide +kernel

/-- task names are opaque: a sub-task named `*.py` is a plain `task_dep` of its group, in yield order (`*.py`, `b`);
    wild-card handling applies only to declared `task_dep` values -/
example :
    load [] [⟨[103], 1, .gen [.leaf (.dict (actionsOnly ++ [(.name, .str [42, 46, 112, 121])]) [] []),
                              .leaf (.dict (actionsOnly ++ [(.name, .str [98])]) [] [])]⟩]
      = .tasks [{ taskOf [103] with taskDep := [[103, 58, 42, 46, 112, 121], [103, 58, 98]], hasSubtask := true },
                { taskOf [103, 58, 42, 46, 112, 121] with subtaskOf := some [103] },
                { taskOf [103, 58, 98] with subtaskOf := some [103] }] := by decide +kernel

/-- each rejection class is reachable -/
example : load [] [⟨[102], 1, .dict (actionsOnly ++ [(.unknown, .int 1)])⟩] = .invalidTask ∧
    load [] [⟨[102], 1, .dict (actionsOnly ++ [(.task_dep, .list [[122]])])⟩] = .invalidTask ∧
    load [] [⟨[102], 1, .dict actionsOnly⟩, ⟨[102], 2, .dict actionsOnly⟩] = .invalidDodo ∧
    load [[102]] [⟨[102], 1, .dict actionsOnly⟩] = .invalidDodo := by decide +kernel

end DoitModel.C18
