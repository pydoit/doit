import DoitModel.Proofs.CleanSpec
import DoitModel.Proofs.CleanFrame
/-! # C14 — clean acts on exactly the selected tasks, once, dependents first

Model: `Model/Clean.lean`.  Quantification: every task table, every command line (positional arguments, patterns,
default_tasks, the four flags), every world (files, directories, DB).

`plan tbl r = .ok p` : the command was accepted; `p.order` is the list of tasks handed to `Task.clean`.
`cleanList tbl r = .ok base` : `base` is `clean_list` of `Clean._execute` (named tasks / expanded patterns /
default tasks / all tasks).  `InCleanSet tbl r base` is the declarative clean set of the property statement. -/
namespace DoitModel.C14
open DoitModel.Clean

/-- `flat` / `_get_leafs` terminate on **every** node table — cyclic dependency graphs included — and emit
    each key of the table exactly once (a permutation of the keys).  (Each recursive call is preceded by a
    `pop` of the node it descends into, so a cycle cannot be followed twice.) -/
theorem flat_terminates (ns : Nodes) : (flat ns).oof = false ∧ (flat ns).out.Perm (keys ns) :=
  flat_spec ns

/-- what the code does on a cyclic graph `0 ⇄ 1` (`clean --clean-dep t0`): both are cleaned once, `1` first;
    no diagnostic, no loop -/
theorem cyclic_example :
    (match plan [⟨['a'], [1], [], none, [], .actions [⟨.plain, none⟩]⟩, ⟨['b'], [0], [], none, [], .actions [⟨.plain, none⟩]⟩]
        ⟨[['a']], none, true, false, false, false⟩ with
      | .ok p => some (p.order, p.oof)
      | .error _ => none) = some ([1, 0], false) := by decide +kernel

/-- `clean_tasks`' de-duplication never removes anything: what `flat` emits is already duplicate-free -/
theorem dedup_redundant (ns : Nodes) (h : (keys ns).Nodup) : dedup [] (flat ns).out = (flat ns).out :=
  dedup_flat ns h


/-- **build_fuel_suffices** — when every task_dep / setup names a task (`wfB`; `TaskControl._check_dep_names` enforces
    it) the recursion of `build_nodes_with_deps` never exhausts the model's fuel (number of tasks + 1), for any
    accepted command line; together with `flat_terminates` no theorem below rests on a fuel artefact -/
theorem build_fuel_suffices (tbl : Table) (r : Req) (base : List Name)
    (hwf : wfB tbl = true) (hb : cleanList tbl r = .ok base) : BuildFuelOk tbl r base :=
  buildFuelOk hwf hb

/-- **flat_perm** — the tasks handed to `Task.clean` are duplicate-free and are exactly the declarative clean
    set: the named / default / all tasks; with dependencies (`--clean-dep`, `--clean-all`, or no task named)
    everything reachable over task_dep and setup; otherwise plus the direct sub-tasks of the named tasks -/
theorem flat_perm (tbl : Table) (r : Req) (base : List Name) (p : Plan)
    (hwf : wfB tbl = true) (hb : cleanList tbl r = .ok base) (hp : plan tbl r = .ok p) :
    p.order.Nodup ∧ ∀ x, x ∈ p.order ↔ InCleanSet tbl r base x := by
  have hf := buildFuelOk hwf hb
  have hperm := (flat_spec (buildTree tbl r base).nodes).2
  rw [plan_flat hf hb hp]
  exact ⟨hperm.nodup_iff.2 (tree_nodup hf), fun x => hperm.mem_iff.trans (mem_tree_iff hf x)⟩

/-- **dependents_first** — when dependencies are included and task_dep + setup is acyclic, a task that
    depends on another emitted task is cleaned before it -/
theorem dependents_first (tbl : Table) (r : Req) (base : List Name) (p : Plan)
    (hwf : wfB tbl = true) (hb : cleanList tbl r = .ok base) (hp : plan tbl r = .ok p)
    (hdeps : withDeps r = true) (hac : acyclicB tbl = true) :
    ∀ a b, b ∈ depsOf tbl a → a ∈ p.order → b ∈ p.order → p.order.idxOf a < p.order.idxOf b := by
  have hf := buildFuelOk hwf hb
  rw [plan_flat hf hb hp]
  unfold BuildFuelOk at hf
  rw [buildTree_deps hdeps] at hf ⊢
  intro a b hab ha hb'
  obtain ⟨s1, s2, _, s4, _⟩ := buildAll_spec _ _ _ hf rfl
  have hG : NodesOK (depsOf tbl) (depth (depsOf tbl) (tbl.length + 1))
      (buildAll (depsOf tbl) (tbl.length + 1) base).nodes :=
    ⟨s1, fun b a h => (s2 b a h).2, fun b a h => (s2 b a h).1, acyclicB_sound tbl hac⟩
  exact (flat_order hG b hb' a (s4 a ((flat_spec _).2.mem_iff.1 ha) b hab).2).2

/-- **targets_order** — `clean_targets` walks `sorted(targets, reverse=True)`: the walk is a rearrangement of
    the targets, and nothing that lies below a directory `d` (has `d/` as a proper prefix) comes after `d`;
    so a file inside a target directory has been dealt with when the directory's turn comes -/
theorem targets_order (ts : List Path) :
    (∀ y, y ∈ sortDesc ts ↔ y ∈ ts) ∧
    ∀ (l1 l2 : List Path) (d p : Path), sortDesc ts = l1 ++ d :: l2 → below d p = true → p ∉ l2 :=
  ⟨mem_sortDesc ts, fun _ _ _ _ hs hb => not_mem_after hs hb⟩

/-- **files_before_dir** — the effect of `targets_order`: when `clean_targets` (no dry run) reaches a target
    directory `d` whose whole content are target files of the same task (`LinksAway`: `d` is not itself a symbolic
    link and no symbolic link lies below it), `d` is empty and is removed -/
theorem files_before_dir (t : Name) (targets : List Path) (w : World) (evs : List Ev) (d : Path)
    (hd : d ∈ targets) (hnf : d ∉ w.files) (hnl : LinksAway d w)
    (hfiles : ∀ q, q ∈ w.files → below d q = true → q ∈ targets)
    (hdirs : ∀ q, q ∈ w.dirs → below d q = false) :
    d ∉ (cleanTargets false t targets (w, evs)).1.dirs :=
  cleanTargets_rmdir t targets (w, evs) d hd hnf hnl hfiles hdirs

/-- **symlink_destination_untouched** — a target that is a symbolic link: `clean_targets` tests it through the
    link (`isfile` / `isdir` follow it) but acts on the link itself; no regular file and no directory — in
    particular not the link's destination — is removed -/
theorem symlink_destination_untouched (dry : Bool) (t : Name) (st : World × List Ev) (p : Path)
    (hl : (linkDest st.1 p).isSome = true) (hnf : p ∉ st.1.files) :
    (rmTarget dry t st p).1.files = st.1.files ∧ (rmTarget dry t st p).1.dirs = st.1.dirs :=
  (rmTarget_spec dry t st p).link_untouched hl hnf

/-- **clean_runs_to_its_end** — the model has no way to die half-way: a target that is a symbolic link to an empty
    directory is removed with `os.remove`, not handed to `os.rmdir` (/repo a5ed062), so no `crash` event is ever
    emitted, for any table, command line and world; every statement here about `res` is a statement about the
    code's complete run -/
theorem clean_runs_to_its_end (tbl : Table) (r : Req) (w : World) (res : Result)
    (h : run tbl r w = .ok res) : res.crashed = false := by
  obtain ⟨p, _, rfl⟩ := run_ok h
  refine List.any_eq_false.2 (fun e he => ?_)
  rw [(cleanTasks_events tbl r.dryrun r.forget p.order w e he).not_crash]
  exact Bool.false_ne_true

/-- the pinned behaviour (before a5ed062): a target link `l -> e` to an empty directory: announcement, then
    `os.rmdir(l)` fails — the `crash` event, link and directory still there; the current model removes the link -/
theorem pinned_symlink_to_empty_dir_crashes :
    (rmLinkPinned false 0 (⟨[], [['e']], [], [(['l'], ['e'])]⟩, []) ['l'] ['e']).2 = [Ev.rmDir 0 ['l'], Ev.crash 0 ['l']] ∧
    (rmLinkPinned false 0 (⟨[], [['e']], [], [(['l'], ['e'])]⟩, []) ['l'] ['e']).1.links.map Prod.fst = [['l']] ∧
    (rmLink false 0 (⟨[], [['e']], [], [(['l'], ['e'])]⟩, []) ['l'] ['e']).2 = [Ev.rmDir 0 ['l']] ∧
    (rmLink false 0 (⟨[], [['e']], [], [(['l'], ['e'])]⟩, []) ['l'] ['e']).1.links.map Prod.fst = [] := by decide +kernel

/-- a target `dist/latest.txt -> ../store/v1.txt`: the link goes, the file it points to (a target of no task) stays;
    a target link to an empty directory: the link goes, the directory stays -/
example :
    (match run [⟨['t'], [], [], none, [['l']], .targets⟩] ⟨[], none, false, false, false, false⟩
        ⟨[['v']], [], [], [(['l'], ['v'])]⟩ with
      | .ok res => some (res.world.files, res.world.links.map Prod.fst, res.events, res.crashed) | .error _ => none) =
    some ([['v']], [], [Ev.rmFile 0 ['l']], false) := by decide +kernel

example :
    (match run [⟨['t'], [], [], none, [['l']], .targets⟩] ⟨[], none, false, false, false, false⟩
        ⟨[], [['e']], [], [(['l'], ['e'])]⟩ with
      | .ok res => some (res.world.dirs, res.world.links.length, res.events, res.crashed) | .error _ => none) =
    some ([['e']], 0, [Ev.rmDir 0 ['l']], false) := by decide +kernel

/-- **dryrun_frame** — with `--dry-run` the command changes neither files, nor directories, nor the DB
    (whatever else is on the command line, `--forget` included) -/
theorem dryrun_frame (tbl : Table) (r : Req) (w : World) (res : Result)
    (h : run tbl r w = .ok res) (hd : r.dryrun = true) : res.world = w := by
  obtain ⟨p, _, rfl⟩ := run_ok h
  show (cleanTasks tbl r.dryrun r.forget p.order w).1 = w
  rw [hd]
  exact cleanTasks_dry tbl r.forget p.order w

/-- **dryrun_runs_only_aware_actions** — the dry-run rule of `Task.clean` is per action: on `--dry-run` no shell
    command is executed and no callable is called with `dryrun=False` (a callable without a `dryrun` parameter
    would record `false`): the only actions that run are python callables that declare `dryrun`, and they are
    told `True` — wherever they stand in the task's `clean` list -/
theorem dryrun_runs_only_aware_actions (tbl : Table) (r : Req) (w : World) (res : Result)
    (h : run tbl r w = .ok res) (hd : r.dryrun = true) :
    ∀ t k, Ev.cmd t k ∉ res.events ∧ Ev.ran t k false ∉ res.events := by
  obtain ⟨p, _, rfl⟩ := run_ok h
  intro t k
  show _ ∉ (cleanTasks tbl r.dryrun r.forget p.order w).2 ∧ _ ∉ (cleanTasks tbl r.dryrun r.forget p.order w).2
  rw [hd]
  have := cleanTasks_events tbl true r.forget p.order w
  exact ⟨fun hm => Bool.noConfusion (this _ hm), fun hm => Bool.noConfusion (this _ hm)⟩

/-- a task with `clean: [aware, cmd rm x, plain]` on a dry run: three announcements, only the aware callable runs
    (told `True`); the same list on a real clean runs all three and removes `x` -/
example :
    (match run [⟨['t'], [], [], none, [], .actions [⟨.aware, none⟩, ⟨.cmd, some (.rm ['x'])⟩, ⟨.plain, none⟩]⟩]
        ⟨[], none, false, false, true, false⟩ ⟨[['x']], [], [0], []⟩ with
      | .ok res => some (res.world.files, res.events) | .error _ => none) =
    some ([['x']], [Ev.executing 0 0, Ev.ran 0 0 true, Ev.executing 0 1, Ev.executing 0 2]) ∧
    (match run [⟨['t'], [], [], none, [], .actions [⟨.aware, none⟩, ⟨.cmd, some (.rm ['x'])⟩, ⟨.plain, none⟩]⟩]
        ⟨[], none, false, false, false, false⟩ ⟨[['x']], [], [0], []⟩ with
      | .ok res => some (res.world.files, res.events) | .error _ => none) =
    some ([], [Ev.executing 0 0, Ev.ran 0 0 false, Ev.executing 0 1, Ev.cmd 0 1, Ev.executing 0 2, Ev.ran 0 2 false]) := by
  decide +kernel

/-- **forget_exact** — saved state after the command: a task keeps its saved state unless `--forget` was given
    without `--dry-run` and the task is one of the cleaned tasks; nothing is ever added -/
theorem forget_exact (tbl : Table) (r : Req) (w : World) (res : Result) (h : run tbl r w = .ok res) :
    ∀ x, x ∈ res.world.db ↔ x ∈ w.db ∧ ¬ (r.forget = true ∧ r.dryrun = false ∧ x ∈ res.order) := by
  obtain ⟨p, _, rfl⟩ := run_ok h
  exact cleanTasks_db tbl r.dryrun r.forget p.order (w, [])

/-- **targets_frame** — (clean *actions* are user code; here they are taken not to touch the tree, `effFree`)
    files and directories after the command: nothing appears; whatever disappeared is a
    target of a cleaned `clean: True` task; and (no dry run) every target file of such a task is gone -/
theorem targets_frame (tbl : Table) (r : Req) (w : World) (res : Result) (h : run tbl r w = .ok res)
    (hfree : effFree tbl = true) :
    (∀ q, q ∈ res.world.files → q ∈ w.files) ∧
    (∀ q, q ∈ w.files → q ∈ res.world.files ∨ q ∈ cleanedTargets tbl res.order) ∧
    (∀ q, q ∈ res.world.dirs → q ∈ w.dirs) ∧
    (∀ q, q ∈ w.dirs → q ∈ res.world.dirs ∨ q ∈ cleanedTargets tbl res.order) ∧
    (r.dryrun = false → ∀ q, q ∈ cleanedTargets tbl res.order → q ∉ res.world.files) := by
  obtain ⟨p, _, rfl⟩ := run_ok h
  have hfr := cleanTasks_frame tbl hfree r.dryrun r.forget p.order w
  refine ⟨hfr.fsub, hfr.fonly, hfr.dsub, hfr.donly, fun hd q hq => ?_⟩
  obtain ⟨t, ht, hqt⟩ := List.mem_flatMap.1 hq
  show q ∉ (cleanTasks tbl r.dryrun r.forget p.order w).1.files
  rw [hd]
  exact cleanTasks_removes tbl hfree r.forget p.order w t q ht hqt

/-- **monitor_sound** — the decidable predicate the driver evaluates on the implementation's observed order
    (`monitorOrder`) is the statement of `flat_perm` + `dependents_first`, restricted to the tasks whose clean
    behaviour can be seen: if it answers `true`, the observed list is duplicate-free, is exactly the visible part
    of the declarative clean set, and (dependencies included, acyclic) puts dependents first -/
theorem monitor_sound (tbl : Table) (r : Req) (base : List Name) (w : World) (o : List Name)
    (h : monitorOrder tbl r base w o = true) :
    o.Nodup ∧ (∀ x, x ∈ o ↔ InCleanSet tbl r base x ∧ visible tbl w x = true) ∧
    (withDeps r = true → acyclicB tbl = true →
      ∀ a b, b ∈ depsOf tbl a → a ∈ o → b ∈ o → o.idxOf a < o.idxOf b) := by
  unfold monitorOrder at h
  simp only [Bool.and_eq_true, decide_eq_true_eq, subset_iff, List.mem_filter] at h
  obtain ⟨⟨⟨⟨hc, hn⟩, h1⟩, h2⟩, h3⟩ := h
  refine ⟨hn, fun x => ?_, ?_⟩
  · rw [← mem_declSet_iff tbl r base hc x]
    exact ⟨h1 x, h2 x⟩
  · intro hd ha a b hab hao hbo
    simp only [hd, ha, Bool.and_self, Bool.not_true, Bool.false_or] at h3
    exact (depFirstB_iff _ _).1 h3 a hao b hab hbo

/-! ## non-vacuity: concrete inputs that meet the hypotheses and reach the interesting states -/

/-- a diamond with a shared dependency, defined in an order unrelated to the dependencies:
    `t0 → t2, t3`; `t2 → t1`(setup); `t3 → t1`; `clean t0 --clean-dep`: accepted, fuel fine, acyclic,
    four tasks cleaned, the shared dependency `t1` last -/
def diamond : Table :=
  [⟨['t', '0'], [2, 3], [], none, [], .actions [⟨.plain, none⟩]⟩, ⟨['t', '1'], [], [], none, [], .actions [⟨.aware, none⟩]⟩,
   ⟨['t', '2'], [], [1], none, [], .actions [⟨.plain, none⟩]⟩, ⟨['t', '3'], [1], [], none, [], .targets⟩]
def diamondReq : Req := ⟨[['t', '0']], none, true, false, false, true⟩

example : (cleanList diamond diamondReq).toOption = some [0] ∧ withDeps diamondReq = true ∧ acyclicB diamond = true ∧
    wfB diamond = true ∧
    (match plan diamond diamondReq with | .ok p => some p.order | .error _ => none) = some [0, 3, 2, 1] := by
  decide +kernel

/-- a group cleaned without `--clean-dep`: its sub-tasks are cleaned, a plain task_dep is not -/
example :
    (match plan [⟨['g'], [2, 1], [], none, [], .actions [⟨.plain, none⟩]⟩, ⟨['g', ':', 'a'], [], [], some 0, [], .actions [⟨.plain, none⟩]⟩,
                 ⟨['x'], [], [], none, [], .actions [⟨.plain, none⟩]⟩]
        ⟨[['g']], none, false, false, false, false⟩ with | .ok p => some p.order | .error _ => none) = some [0, 1] := by
  decide +kernel

/-- `--forget` on a one-task table with targets `d`, `d/f`: the saved state of the cleaned task 0 goes, that of 4
    (not a task of the table) stays; the file inside the target directory goes before the directory -/
example :
    (match run [⟨['t'], [], [], none, [['d'], ['d', '/', 'f']], .targets⟩] ⟨[], none, false, false, false, true⟩
        ⟨[['d', '/', 'f']], [['d']], [0, 4], []⟩ with
      | .ok res => some (res.world.files, res.world.dirs, res.world.db, res.events)
      | .error _ => none) =
    some ([], [], [4], [Ev.rmFile 0 ['d', '/', 'f'], Ev.rmDir 0 ['d']]) := by decide +kernel

end DoitModel.C14
