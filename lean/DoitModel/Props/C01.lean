import DoitModel.Proofs.RunDeliver
/-! # C01 — dependency-ordered execution under every schedule

Property theorems only (model: `Model/Run.lean`; invariants: `Proofs/Run*.lean`).
Quantification: every task table (any graph, also cyclic ones), every selection, every oracle (status / ignore /
outcome / calc results / getargs errors), `--continue` or not, every iteration order of the `set`s the dispatcher
iterates (`Choice.main perm`), every reachable state — hence every prefix of every run.  `s.events` is newest
first; `s.events.reverse` is the chronological trace. -/
namespace DoitModel.C01
open DoitModel.Run

/-- the statement for one transition system: in every reachable state, a `start t` at position `i` of the trace is
    preceded by the finish report (`add_success` or `skip_uptodate`) of every task `t` depends on by `task_dep`
    (incl. target→file_dep, result_dep after expansion), `calc_dep` or `setup` (incl. getargs after expansion) -/
def OrderHolds (inp : RunInput) (reach : Sys → Prop) : Prop :=
  ∀ s : Sys, reach s → ∀ i t w : Nat, s.events.reverse[i]? = some (Ev.start t w) →
    ∀ d ∈ staticDeps inp t, ∃ j : Nat, j < i ∧
      (s.events.reverse[j]? = some (Ev.success d) ∨ s.events.reverse[j]? = some (Ev.skipUtd d))

/-- C01 for the serial runner -/
theorem C01_order_serial (inp : RunInput) : OrderHolds inp (Reach inp) :=
  fun _ hr i t w hi d hd => order_indices (reach_inv2 hr) i t w hi d hd

/-- every dependency known when `select_task` answered yes — this includes whatever calc_dep tasks delivered
    (`task.task_dep` / `task.calc_dep` as extended by `_process_calc_dep_results`) — is reported finished before the
    `start`; the list recorded then contains the static dependencies -/
theorem C01_order_known_deps_serial (inp : RunInput) (s : Sys) (hr : Reach inp s) (pre post : List Ev) (t w : Nat)
    (he : s.events = pre ++ Ev.start t w :: post) :
    ∃ deps, Ev.go t deps ∈ post ∧ (∀ d ∈ staticDeps inp t, d ∈ deps) ∧
      ∀ d ∈ deps, Ev.success d ∈ post ∨ Ev.skipUtd d ∈ post :=
  start_after_known_deps (reach_inv2 hr) he

/-- C01 for the parallel runners: `MRunner` / `MThreadRunner` main loop (`get_next_job`, the start loop, the result
    loop with `free_proc` hand-outs) interleaved arbitrarily with any number of workers at queue-operation granularity
    (`Choice.take w` / `Choice.done w`), every `numProc` (`num_process`) -/
theorem C01_order_parallel (inp : RunInput) : OrderHolds inp (PReach inp) :=
  fun _ hr i t w hi d hd => order_indices (preach_inv hr).1 i t w hi d hd

theorem C01_order_known_deps_parallel (inp : RunInput) (s : Sys) (hr : PReach inp s) (pre post : List Ev) (t w : Nat)
    (he : s.events = pre ++ Ev.start t w :: post) :
    ∃ deps, Ev.go t deps ∈ post ∧ (∀ d ∈ staticDeps inp t, d ∈ deps) ∧
      ∀ d ∈ deps, Ev.success d ∈ post ∨ Ev.skipUtd d ∈ post :=
  start_after_known_deps (preach_inv hr).1 he

/-- consequently two tasks related by a dependency never execute concurrently: in no reachable state are a task and
    one of its dependencies both being executed by workers -/
theorem C01_no_overlap (inp : RunInput) (s : Sys) (hr : PReach inp s) (w w' : Nat) (t d : Name)
    (ht : s.workers w = .running t) (hd : s.workers w' = .running d) : d ∉ staticDeps inp t := by
  obtain ⟨h2, h3⟩ := preach_inv hr
  intro hmem
  obtain ⟨a1, _, _⟩ := h3.w1 w t ht
  obtain ⟨_, _, b3⟩ := h3.w1 w' d hd
  have hterm : cTerm s d = 0 := h3.t d (by rw [b3]; rfl)
  -- a start event of `t` exists
  have hpos : 0 < s.events.countP (Ev.isStartOf t) := by
    have : cStart s t = 1 := a1
    unfold cStart at this; omega
  obtain ⟨e, he, hp⟩ := List.countP_pos_iff.mp hpos
  cases e with
  | start n wk =>
    have hn : n = t := by simpa [Ev.isStartOf] using hp
    subst hn
    obtain ⟨pre, post, hsplit⟩ := List.append_of_mem he
    have hfin := start_after_deps h2 hsplit d hmem
    have hin : ∃ e ∈ s.events, Ev.isTerminalOf d e = true := by
      rcases hfin with x | x
      · exact ⟨Ev.success d, by rw [hsplit]; simp [x], by simp [Ev.isTerminalOf]⟩
      · exact ⟨Ev.skipUtd d, by rw [hsplit]; simp [x], by simp [Ev.isTerminalOf]⟩
    have : 0 < s.events.countP (Ev.isTerminalOf d) := List.countP_pos_iff.mpr hin
    unfold cTerm at hterm; omega
  | _ => simp [Ev.isStartOf] at hp

/-- C01 with the dependencies a calc_dep task delivers at run time: the decidable predicate `monC01Order` — the very
    monitor the driver evaluates on every implementation trace: before each `start t`, every task in
    `depsAt inp nTasks pre t` (task_dep, setup, calc_dep, the calc_deps delivered by finished calc_deps, transitively, and the
    task_deps / target-owners of file_deps they delivered) has `add_success` or `skip_uptodate` in `pre` — holds on the
    observable trace of every reachable state, for every bound `nTasks` of the fixed-point iteration -/
theorem C01_order_monitor_serial (inp : RunInput) (s : Sys) (hr : Reach inp s) (nTasks : Nat) :
    monC01Order inp nTasks (trace inp s) = true :=
  monC01Order_of_inv (reach_inv2 hr) (reach_invG hr) nTasks

theorem C01_order_monitor_parallel (inp : RunInput) (s : Sys) (hr : PReach inp s) (nTasks : Nat) :
    monC01Order inp nTasks (trace inp s) = true :=
  monC01Order_of_inv (preach_inv hr).1 (preach_invG hr) nTasks

/-- the same on the raw event list (which also has the start marks of action-less group tasks): whatever `depsAt`
    derives for `t` from ANY observed events is reported finished before `start t` -/
theorem C01_order_delivered (inp : RunInput) (s : Sys) (hr : PReach inp s) (pre post : List Ev) (t w : Nat)
    (he : s.events = pre ++ Ev.start t w :: post) (nTasks : Nat) (obs : List Ev) :
    ∀ d ∈ depsAt inp nTasks obs t, Ev.success d ∈ post ∨ Ev.skipUtd d ∈ post :=
  start_after_depsAt (preach_inv hr).1 (preach_invG hr) he nTasks obs

/-! ### non-vacuity -/

/-- a diamond (`4 → {1, 2} → 0`) whose sink also has a calc_dep (`3`, which delivers the extra task_dep `5`) and a
    setup-task (`6`); two worker threads -/
def exDiamond : RunInput :=
  { taskDep := fun n => if n = 4 then [1, 2] else if n = 1 ∨ n = 2 then [0] else []
    calcDep := fun n => if n = 4 then [3] else []
    setup := fun n => if n = 4 then [6] else []
    calcRes := fun n => if n = 3 then { tasks := [5] } else {}
    sel := [4], runner := .thread, numProc := 2 }

/-- the sink really starts (on worker 1), after its static deps, the delivered dep `5` and the setup-task `6`, and the
    run completes -/
example : ∃ s, PReach exDiamond s ∧ s.events.contains (Ev.start 4 1) = true ∧
    s.events.contains (Ev.success 5) = true ∧ s.events.contains Ev.complete = true :=
  ⟨_, autoRun_preach (by decide) false true 400 _ PReach.init, by decide +kernel⟩

/-- a reachable state in which both workers execute (the two independent middle tasks): the hypotheses of
    `C01_no_overlap` are satisfiable.  (Fuel 101 stops the default schedule while both are busy; 400 elsewhere means to the end.) -/
example : ∃ s, PReach exDiamond s ∧ (s.workers 0 = .running 1 ∧ s.workers 1 = .running 2 ∨
    s.workers 0 = .running 2 ∧ s.workers 1 = .running 1) :=
  ⟨_, autoRun_preach (by decide) false true 101 _ PReach.init, by decide +kernel⟩

/-- the same graph under the serial runner -/
example : ∃ s, Reach { exDiamond with runner := .serial, numProc := 0 } s ∧
    s.events.contains (Ev.start 4 0) = true ∧ s.events.contains Ev.complete = true :=
  ⟨_, autoRun_reach (by decide) false false 400 _ Reach.init, by decide +kernel⟩

end DoitModel.C01
